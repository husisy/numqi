/-
C07 — Clifford tableau simulation equals unitary conjugation, for any gate history.

The property theorems; the lemmas several of them rest on are in `NumqiProofs/Clifford*.lean`.  Everything is stated about the
executable model `NumqiModel/Clifford.lean` (the constants run by `Driver/C07.lean`).

Finite tables: `basicDaggerF2_eq` evaluates the model to the literal tableaux `dagTable` (`decide +kernel`).  The
intertwining tables are the all-`n` theorem `gate_conjugation_placed` read entry by entry over ℤ[i] (`placed_table`);
the locality table `embed_local_table`, which no general theorem covers, is swept by the kernel.
-/
import NumqiProofs.CliffordLemmas
import NumqiProofs.CliffordAlgebra
import NumqiProofs.CliffordEmbed
import NumqiProofs.CliffordCircuit
import NumqiProofs.CliffordQecBridge
import NumqiProofs.CliffordOrbit
import NumqiProofs.CliffordSuccess
import NumqiProofs.CliffordExtract
import NumqiProofs.CliffordAuto
import NumqiProofs.CliffordRand
import NumqiProofs.CliffordExport
import Mathlib.Analysis.Real.Sqrt
import Mathlib.Data.Complex.Basic

namespace Numqi.C07
open Numqi Numqi.Clifford

/-! ### the object with its cache: every answer reflects all gates appended so far -/

/-- **History independence.**  For every sequence of method calls on a fresh `CliffordCircuit` (appends with valid or
rejected arguments, the `I` no-op, `to_symplectic_form`, `apply_pauli_F2`, `to_universal_circuit`, in any order), the
outputs of the object with its `_R/_S` cache equal the outputs of the cache-free specification, in which every query is
computed from *all* gates recorded before it. -/
theorem history_independent (ops : List Clifford.Op) : run St.init ops = specRun [] ops :=
  run_spec ops St.init inv_init

/-- the same from any reachable state: the invariant `cache = none ∨ cache = tableau of the recorded gates` is kept by
every operation -/
theorem cache_invariant (st : St) (h : Inv st) (op : Clifford.Op) : Inv (step st op).1 := (step_spec st h op).2.2

/-- a query answers with the tableau of exactly the recorded gates (specification unfolded once) -/
theorem query_reflects_all_gates (ops : List Clifford.Op) (gates : List Gate) :
    specRun gates (ops ++ [Clifford.Op.query]) = specRun gates ops ++
      [match symplecticOf (ops.foldl (fun g op => (specStep g op).1) gates) with
        | .ok t => Out.tab t
        | .error e => Out.err e] := by
  induction ops generalizing gates with
  | nil =>
    simp only [List.nil_append, specRun, specStep, List.foldl_nil]
    cases symplecticOf gates <;> rfl
  | cons op ops ih =>
    simp only [List.cons_append, specRun, List.foldl_cons]
    rw [ih]

/-- **Why the invalidation matters**: the object *without* the reset of `_R/_S` in the gate-recording methods
answers the second query of `H 0; query; S 0; query` with the stale `H`-only tableau. -/
theorem stale_without_invalidation :
    let ops := [Clifford.Op.append .H [0], Clifford.Op.query, Clifford.Op.append .S [0], Clifford.Op.query]
    runStale St.init ops ≠ specRun [] ops ∧
    (runStale St.init ops).getD 3 .unit = (runStale St.init ops).getD 1 .unit ∧
    (run St.init ops).getD 3 .unit ≠ (run St.init ops).getD 1 .unit := by
  decide +kernel

/-! ### the eight basic gates: tableau action = conjugation -/

/-- `_basic_clifford_dagger_f2(key)` — i.e. `clifford_array_to_F2` run on the adjoint gate matrix — returns these -/
theorem basicDaggerF2_eq (key : GateKey) : basicDaggerF2 key = some (dagTable key) :=
  basicDaggerF2_dagTable key

/-- the gate matrices are unitary up to the recorded scale: `G† G = c·1` (`c = 2` for the integer form `√2·H`) -/
theorem gate_unitary (key : GateKey) :
    Clifford.Mat.mul (2 ^ key.arity) (Clifford.Mat.dagger (2 ^ key.arity) key.mat) key.mat =
      Clifford.Mat.scale key.scale (pauliMat key.arity ⟨false, false, 0⟩) := by
  cases key <;> decide +kernel

/-- the bit-mask form of the Pauli matrix entries used below is the matrix semantics of C08 (`Pauli.matExp`, for which
C08 proves `mat (p*q) = mat p * mat q` and faithfulness), on 1, 2 and 3 qubits -/
theorem pauliEnt_is_C08 : ([1, 2, 3] : List Nat).all (fun k => (allPaulis k).all fun p =>
    (List.range (2 ^ k)).all fun r => (List.range (2 ^ k)).all fun c => pauliEnt k p r c == pauliEntC08 k p r c) = true := by
  simp only [List.all_eq_true, List.mem_range, beq_iff_eq]
  exact fun k _ p _ r hr c hc => pauliEnt_eq_C08 k p hr hc

/-- … in particular a Pauli matrix has a single non-zero entry per column, in row `c xor xIndex` -/
theorem pauli_support : ([1, 2] : List Nat).all (fun k => (allPaulis k).all (pauliSupportOK k)) = true := by
  decide +kernel

private theorem gateOpG_lit : ([1, 2] : List Nat).all (fun n => GateKey.all.all fun key =>
    (placements n key.arity).all fun qs => (List.range (2 ^ n)).all fun r => (List.range (2 ^ n)).all fun c =>
      gateOnNEnt n key.mat qs r c == gateOpG n ⟨key, qs⟩ (bitsOfIndex n r) (bitsOfIndex n c)) = true := by
  decide +kernel

/-- on registers of one and two qubits the dense operator `gateOnN` of the tables is the operator `gateOpG` of
`gate_conjugation_placed` (`gateOpG_lit`), so that theorem, read over ℤ[i] entry by entry, is the table -/
private theorem placed_table (n : Nat) (hn : n ∈ ([1, 2] : List Nat)) (key : GateKey) (qs : List Nat)
    (hqs : qs ∈ placements n key.arity) (p : PauliB) (hp : p ∈ allPaulis n) :
    intertwines n key.mat qs (Clifford.embed n (dagTable key) qs) p = true := by
  obtain ⟨hlen, hnd, hlt⟩ := mem_placements hqs (by cases key <;> decide)
  have h := (gate_conjugation GInt.I_mul_I 1 n ⟨key, qs⟩ hlen hnd hlt p (mem_allPaulis hp)).1
  simp only [gateAct, basicDaggerF2_dagTable] at h
  refine intertwines_of_matrix (fun a b => ?_) h
  have e := gateOpG_lit
  simp only [List.all_eq_true, List.mem_range, beq_iff_eq] at e
  rw [gateMatrixN_eq_gateOpG, Matrix.of_apply, gintTo_GInt,
    e n hn key (by cases key <;> decide) qs hqs _ a.toNat_lt _ b.toNat_lt]
  exact congrArg₂ _ (Bits.ofNat_toNat a).symm (Bits.ofNat_toNat b).symm

/-- **Basic gate table.**  For each of X, Y, Z, H, S, CX, CY, CZ and each of the `4·4^k` phased Paulis `P` on its `k`
qubits: `P · G = G · Q` with `Q = apply_clifford_on_pauli(P, tableau(G†))`, entry by entry over ℤ[i]
(`√2·H` for `H`).  With `G† G = c·1` (`gate_unitary`) this is `Q = G† P G`, phase included. -/
theorem basic_gate_table (key : GateKey) (t : Tab) (ht : basicDaggerF2 key = some t) (p : PauliB)
    (hp : p ∈ allPaulis key.arity) : intertwines key.arity key.mat (List.range key.arity) t p = true := by
  rw [basicDaggerF2_eq] at ht
  cases ht
  have h := placed_table key.arity (by cases key <;> decide) key (List.range key.arity) (by cases key <;> decide) p hp
  rwa [show Clifford.embed key.arity (dagTable key) (List.range key.arity) = dagTable key by cases key <;> decide] at h

/-- **Placement on two qubits.**  For every gate, every placement on a 2-qubit register (both orders of control and
target for the two-qubit gates) and all 64 phased Paulis: the embedded tableau used by `to_symplectic_form`
intertwines `P` with the dense operator of the placed gate. -/
theorem embedded_gate_table (key : GateKey) (t : Tab) (ht : basicDaggerF2 key = some t) (qs : List Nat)
    (hqs : qs ∈ placements 2 key.arity) (p : PauliB) (hp : p ∈ allPaulis 2) :
    intertwines 2 key.mat qs (Clifford.embed 2 t qs) p = true := by
  rw [basicDaggerF2_eq] at ht
  cases ht
  exact placed_table 2 (by decide) key qs hqs p hp

private theorem embed_local_lit : ([1, 2, 3] : List Nat).all (fun n => GateKey.all.all fun key =>
    (placements n key.arity).all fun qs => (List.range (4 ^ n)).all fun v =>
      applyOnPauli ⟨false, false, v⟩ (Clifford.embed n (dagTable key) qs) ==
        liftP n qs ⟨false, false, v⟩ (applyOnPauli (restrictP n qs ⟨false, false, v⟩) (dagTable key))) = true := by
  decide +kernel

/-- **Embedding acts locally, phase included** (registers of 1–3 qubits, every gate, every placement, all Paulis):
the embedded tableau of `to_symplectic_form` changes only the factor of `P` on the gate's qubits, exactly as the
gate's own tableau does (so `basic_gate_table` transfers to placed gates). -/
theorem embed_local_table (n : Nat) (hn : n ∈ ([1, 2, 3] : List Nat)) (key : GateKey) (loc : Tab)
    (hl : basicDaggerF2 key = some loc) (qs : List Nat) (hqs : qs ∈ placements n key.arity)
    (p : PauliB) (hp : p ∈ allPaulis n) :
    applyOnPauli p (Clifford.embed n loc qs) = liftP n qs p (applyOnPauli (restrictP n qs p) loc) := by
  rw [basicDaggerF2_eq] at hl
  cases hl
  have h := embed_local_lit
  simp only [List.all_eq_true, List.mem_range, beq_iff_eq] at h
  exact embed_local_of_phase_free p (h n hn key (by cases key <;> decide) qs hqs p.v (mem_allPaulis hp))

/-! ### phase-exact automorphism, composition rule, circuits — for every number of qubits -/

/-- **Every `(r, S)` with `S` symplectic acts as a phase-exact homomorphism of the Pauli group**:
`apply(P·Q) = apply(P)·apply(Q)` on the binary forms, for every `n`, every phase vector `r`, all phased Paulis.
(`mulB` is the product of C08, see `mulB_is_C08_mul`; `colSp` is `Sᵀ Λ S = Λ`.) -/
theorem apply_hom (t : Tab) (h : t.colSp = true) (a b : PauliB) :
    applyOnPauli (mulB t.n a b) t = mulB t.n (applyOnPauli a t) (applyOnPauli b t) :=
  apply_mulB t h a b

/-- the product on binary forms used in `apply_hom` is `PauliOperator.__matmul__` as modelled (and proved to be the
matrix product, phase included) in C08 -/
theorem mulB_is_C08_mul (n : Nat) (a b : PauliB) : toPauli n (mulB n a b) = (toPauli n a).mul (toPauli n b) :=
  toPauli_mulB n a b

/-- **Composition rule = sequential application**, every `n`: whenever `clifford_multiply(x, y)` returns `z` for
tableaux of equal size with `S_y` symplectic, `apply(P, z) = apply(apply(P, x), y)` for every phased Pauli, phase included. -/
theorem multiply_apply (x y z : Tab) (h : multiply x y = some z) (hn : x.n = y.n) (hy : y.colSp = true) (p : PauliB) :
    applyOnPauli p z = applyOnPauli (applyOnPauli p x) y :=
  multiply_apply_all h hn hy p

/-- the identity tableau (start value of `to_symplectic_form`) fixes every Pauli of the right length -/
theorem apply_identity (n : Nat) (p : PauliB) (hp : p.v < 4 ^ n) : applyOnPauli p (Tab.id n) = p := apply_id n p hp

/-- **An embedded symplectic tableau is symplectic**, for every register size `n` and every placement on pairwise
distinct qubits below `n` (what `to_symplectic_form` multiplies with) -/
theorem embed_colSp_all (n : Nat) (qs : List Nat) (hnd : qs.Nodup) (hlt : ∀ q ∈ qs, q < n) (loc : Tab)
    (hk : loc.n = qs.length) (hloc : loc.colSp = true) : (Clifford.embed n loc qs).colSp = true :=
  embed_colSp ⟨hnd, hlt⟩ loc hk hloc

/-- the eight adjoint-gate tableaux have the right size and are symplectic -/
theorem dagger_tableaux_symplectic (k : GateKey) :
    ∃ t, basicDaggerF2 k = some t ∧ t.n = k.arity ∧ t.colSp = true :=
  ⟨dagTable k, basicDaggerF2_eq k, by cases k <;> rfl, by cases k <;> decide⟩

/-- every gate record produced by method calls is well formed (index count = arity, indices pairwise distinct) -/
theorem recorded_gates_wf (ops : List Clifford.Op) : GatesWF (ops.foldl (fun g op => (specStep g op).1) []) := by
  have key : ∀ (ops : List Clifford.Op) (gates : List Gate), GatesWF gates →
      GatesWF (ops.foldl (fun g op => (specStep g op).1) gates) := by
    intro ops
    induction ops with
    | nil => intro gates h; exact h
    | cons op ops ih => intro gates h; exact ih _ (specStep_wf gates h op)
  exact key ops [] (fun g hg => by cases hg)

/-- **The tableau of a circuit acts as its gates one after the other** (last gate first: `U† P U`, `U = g_L ⋯ g_1`),
for every well-formed gate record on any number of qubits: whenever `to_symplectic_form` returns `t`,
`apply(P, t)` is the identity tableau followed by the embedded adjoint-gate tableaux in reverse order. -/
theorem circuit_sequential (gates : List Gate) (hwf : GatesWF gates) (t : Tab) (h : symplecticOf gates = .ok t) :
    ∃ n, Clifford.numQubit gates = .ok n ∧ t.n = n ∧
      ∀ p, applyOnPauli p t = gates.reverse.foldl (gateAct n) (applyOnPauli p (Tab.id n)) :=
  symplecticOf_sequential gates hwf dagger_tableaux_symplectic t h

/-! ### end to end: the tableau answer is conjugation by the unitary of the exported circuit (C03), every `n` -/

section conj
open Matrix
variable {R : Type} [CommRing R]

/-- **One placed gate, every register size.**  For each of X, Y, Z, H, S (any qubit) and CX, CY, CZ (any ordered pair of
distinct qubits) of an `n`-qubit register and every phased Pauli `P`: `P · G = G · Q`, where `G` is the operator C03
assigns to the exported gate (`embed` of the one-qubit matrix, `ctrlEmbed` of X/Y/Z controlled by the first index; `h` is
the normalisation of `H`) and `Q` the answer of the gate's embedded adjoint tableau; `Q` is again an `n`-qubit Pauli. -/
theorem gate_conjugation_placed {I : R} (hI : I * I = -1) (h : R) (n : Nat) (g : Gate)
    (hlen : g.idx.length = g.key.arity) (hnd : g.idx.Nodup) (hlt : ∀ q ∈ g.idx, q < n)
    (p : PauliB) (hp : p.v < 4 ^ n) :
    PM n I p * gateMatrixN I h n g = gateMatrixN I h n g * PM n I (gateAct n p g) ∧ (gateAct n p g).v < 4 ^ n :=
  gate_conjugation hI h n g hlen hnd hlt p hp

/-- **End to end, any commutative ring with `I² = −1`** (no division, no star): for every well-formed recorded gate list and
every phased Pauli `P` on its `n` qubits, `P · U = U · answer`, `answer = apply_clifford_on_pauli(P, to_symplectic_form())`,
`U = circuitUnitary` = ordered product of the exported gates' operators. -/
theorem circuit_conjugation_intertwine {I : R} (hI : I * I = -1) (h : R) (gates : List Gate) (hwf : GatesWF gates)
    (t : Tab) (ht : symplecticOf gates = .ok t) :
    ∃ n, Clifford.numQubit gates = .ok n ∧ t.n = n ∧ ∀ p : PauliB, p.v < 4 ^ n →
      PM n I p * circuitUnitary I h n gates = circuitUnitary I h n gates * PM n I (applyOnPauli p t) :=
  circuit_conjugation_all hI h gates hwf t ht

/-- the exported universal circuit (`to_universal_circuit`) is accepted by C03's index resolution … -/
theorem export_compiles (I h : R) (gates : List Gate) (hwf : GatesWF gates) (n : Nat) (hn : Clifford.numQubit gates = .ok n) :
    ∃ ops : List (Numqi.Op n R), compileCircuit n (gates.map (exportRaw I h)) = some ops :=
  compileCircuit_export_isSome I h n gates hwf (fun g hg q hq => numQubit_spec hn g hg q hq)

/-- … and `U` is literally C03's `Circuit.to_unitary` of it: `P · toUnitary = toUnitary · answer`. -/
theorem circuit_conjugation_toUnitary {I : R} (hI : I * I = -1) (h : R) (gates : List Gate) (hwf : GatesWF gates)
    (t : Tab) (ht : symplecticOf gates = .ok t) :
    ∃ n, Clifford.numQubit gates = .ok n ∧ t.n = n ∧
      ∀ ops : List (Numqi.Op n R), compileCircuit n (gates.map (exportRaw I h)) = some ops →
        ∀ p : PauliB, p.v < 4 ^ n →
          PM n I p * Matrix.of (toUnitary ops) = Matrix.of (toUnitary ops) * PM n I (applyOnPauli p t) :=
  Clifford.circuit_conjugation_toUnitary hI h gates hwf t ht

/-- **the export the driver executes** (`exportRawG`, over ℤ[i] with the unnormalised `H` array, op `exportraw`) **is the
ring-generic `exportRaw` at `R = ℤ[i]`, `I = i`, `h = 1`** — so the two theorems above, read at that ring, are statements about
the executed constant: -/
theorem export_executed_eq (g : Gate) : exportRaw GInt.I (1 : GInt) g = exportRawG g := exportRaw_GInt g

/-- **the executed export is accepted by C03's index resolution** on `numQubit` qubits (the `true` the driver prints) -/
theorem export_compiles_executed (gates : List Gate) (hwf : GatesWF gates) (n : Nat) (hn : Clifford.numQubit gates = .ok n) :
    (compileCircuit n (gates.map exportRawG)).isSome = true := by
  obtain ⟨ops, h⟩ := export_compiles GInt.I (1 : GInt) gates hwf n hn
  rw [map_exportRaw_GInt] at h
  rw [h]; rfl

/-- **… and C03's `toUnitary` of the executed export conjugates every Pauli to the simulator's answer** (over ℤ[i]; the
unnormalised `H` only scales `U`, which cancels in `P·U = U·P'`) -/
theorem circuit_conjugation_executed_export (gates : List Gate) (hwf : GatesWF gates) (t : Tab) (ht : symplecticOf gates = .ok t) :
    ∃ n, Clifford.numQubit gates = .ok n ∧ t.n = n ∧
      ∀ ops : List (Numqi.Op n GInt), compileCircuit n (gates.map exportRawG) = some ops →
        ∀ p : PauliB, p.v < 4 ^ n →
          PM n GInt.I p * Matrix.of (toUnitary ops) = Matrix.of (toUnitary ops) * PM n GInt.I (applyOnPauli p t) := by
  obtain ⟨n, h1, h2, h3⟩ := Clifford.circuit_conjugation_toUnitary GInt.I_mul_I (1 : GInt) gates hwf t ht
  refine ⟨n, h1, h2, fun ops hc => h3 ops ?_⟩
  rw [map_exportRaw_GInt]; exact hc

/-! ### `random_one_qubit_gate` / `random_two_qubit_gate`: a scripted raw draw selects an ordinary method call -/

/-- the op a random call performs is the no-op `I` or an ordinary one-qubit append … -/
theorem random_one_is_method_call (k : Nat) (q : Int) :
    randomOneOp k q = .gateI ∨ ∃ key : GateKey, key.arity = 1 ∧ randomOneOp k q = .append key [q] := by
  unfold randomOneOp
  cases h : singleGateList.getD k none with
  | none => exact Or.inl rfl
  | some key =>
    refine Or.inr ⟨key, ?_, rfl⟩
    have hm : some key ∈ singleGateList := by
      by_cases hk : k < singleGateList.length
      · rw [List.getD_eq_getElem?_getD, List.getElem?_eq_getElem hk] at h
        simp only [Option.getD_some] at h
        rw [← h]; exact List.getElem_mem hk
      · rw [List.getD_eq_getElem?_getD, List.getElem?_eq_none (by omega)] at h
        cases h
    simp only [singleGateList, List.mem_cons, List.not_mem_nil, or_false, Option.some.injEq, reduceCtorEq, false_or] at hm
    rcases hm with h | h | h | h | h <;> subst h <;> rfl

/-- … a successful draw `1 ≤ k < 6` records `_single_gate_list[k]` on the qubit **and drops the cache** -/
theorem random_one_records (st : St) (k : Nat) (hk1 : 1 ≤ k) (hk : k < 6) (q : Nat) :
    ∃ key, singleGateList.getD k none = some key ∧
      step st (randomOneOp k (q : Int)) = ({ gates := st.gates ++ [⟨key, [q]⟩], cache := none }, .unit) := by
  have : k = 1 ∨ k = 2 ∨ k = 3 ∨ k = 4 ∨ k = 5 := by omega
  have hq : ¬ ((q : Int) < 0) := by omega
  rcases this with h | h | h | h | h <;> subst h <;>
    exact ⟨_, rfl, by simp [randomOneOp, singleGateList, step, checkArgs, GateKey.arity, hq]⟩

/-- the two-qubit version is an ordinary two-qubit append; its early `assert index0 != index1` has the recorder's outcome -/
theorem random_two_is_method_call (k : Nat) (a b : Int) :
    (∃ key : GateKey, key.arity = 2 ∧ randomTwoOp k a b = .append key [a, b])
    ∧ ∀ st : St, step st (randomTwoOp k a a) = (st, .err .assert) := by
  have happ : ∀ a b : Int, ∃ key : GateKey, key.arity = 2 ∧ randomTwoOp k a b = .append key [a, b] := by
    intro a b
    refine ⟨twoGateList.getD k .CX, ?_, rfl⟩
    by_cases hk : k < twoGateList.length
    · have : k = 0 ∨ k = 1 ∨ k = 2 := by simp [twoGateList] at hk; omega
      rcases this with h | h | h <;> subst h <;> rfl
    · rw [List.getD_eq_getElem?_getD, List.getElem?_eq_none (by omega)]; rfl
  refine ⟨happ a b, fun st => ?_⟩
  obtain ⟨key, hk, e⟩ := happ a a
  rw [e]
  have : checkArgs key [a, a] = none := by
    unfold checkArgs
    simp only [List.length_cons, List.length_nil, hk]
    split
    · rfl
    · split
      · rfl
      · simp
  simp only [step, this]

/-- a successful two-qubit draw `k < 3` on distinct qubits records `_two_qubit_gate_list[k]` on `(a, b)` **in this order** and drops the cache -/
theorem random_two_records (st : St) (k : Nat) (hk : k < 3) (a b : Nat) (hab : a ≠ b) :
    ∃ key, twoGateList[k]? = some key ∧
      step st (randomTwoOp k (a : Int) (b : Int)) = ({ gates := st.gates ++ [⟨key, [a, b]⟩], cache := none }, .unit) := by
  have : k = 0 ∨ k = 1 ∨ k = 2 := by omega
  have ha : ¬ ((a : Int) < 0) := by omega
  have hb : ¬ ((b : Int) < 0) := by omega
  have hne : ¬ ((a : Int) = (b : Int)) := by omega
  rcases this with h | h | h <;> subst h <;>
    exact ⟨_, rfl, by simp [randomTwoOp, twoGateList, step, checkArgs, GateKey.arity, ha, hb, hne]⟩

/-- draws consumed by `random_two_qubit_gate` (op `r2draws`): none when the early `assert index0 != index1` fires, one otherwise -/
theorem random_two_draws (a b : Int) : randomTwoDraws a a = 0 ∧ (a ≠ b → randomTwoDraws a b = 1) := by
  unfold randomTwoDraws
  exact ⟨by simp, fun h => by simp [h]⟩

/-- **`history_independent` covers the random-gate methods**: histories whose calls are ordinary ops, `random_one_qubit_gate`
(draw, index) or `random_two_qubit_gate` (draw, indices), in any order -/
theorem history_independent_random (calls : List (Clifford.Op ⊕ (Nat × Int) ⊕ (Nat × Int × Int))) :
    let ops := calls.map (Sum.elim id (Sum.elim (fun x => randomOneOp x.1 x.2) (fun x => randomTwoOp x.1 x.2.1 x.2.2)))
    run St.init ops = specRun [] ops := history_independent _

/-- the unitary of the exported circuit is unitary (star ring, `star I = −I`, `h` real with `2h² = 1`) -/
theorem circuit_unitary_is_unitary [StarRing R] {I h : R} (hI : I * I = -1) (hs : star I = -I) (hh : star h = h)
    (h2 : 2 * (h * h) = 1) (n : Nat) (gates : List Gate) (hwf : GatesWF gates) :
    circuitUnitary I h n gates ∈ Matrix.unitaryGroup (Bits n) R :=
  circuitUnitary_unitary hI hs hh h2 n gates hwf

/-- **`circuit_conjugation`.**  Over a commutative star ring with `I² = −1`, `star I = −I` and a real `h` with `2h² = 1`
(`ℂ`, `Complex.I`, `1/√2`): for every well-formed recorded `CliffordCircuit` gate list on `n` qubits and every phased
Pauli `P`, the tableau simulator's answer is the F2 form of `U† P U`, `U` the unitary of the exported universal circuit —
phase included, for all `n`. -/
theorem circuit_conjugation [StarRing R] {I h : R} (hI : I * I = -1) (hs : star I = -I) (hh : star h = h)
    (h2 : 2 * (h * h) = 1) (gates : List Gate) (hwf : GatesWF gates) (t : Tab) (ht : symplecticOf gates = .ok t) :
    ∃ n, Clifford.numQubit gates = .ok n ∧ t.n = n ∧ ∀ p : PauliB, p.v < 4 ^ n →
      (circuitUnitary I h n gates)ᴴ * PM n I p * circuitUnitary I h n gates = PM n I (applyOnPauli p t) := by
  obtain ⟨n, h1, h3, h4⟩ := circuit_conjugation_all hI h gates hwf t ht
  refine ⟨n, h1, h3, fun p hp => ?_⟩
  have hU := circuitUnitary_unitary hI hs hh h2 n gates hwf
  rw [Matrix.mem_unitaryGroup_iff', Matrix.star_eq_conjTranspose] at hU
  exact conj_of_inter _ _ _ hU (h4 p hp)

/-! ### tableau extraction (`clifford_array_to_F2`) -/

/-- `clifford_array_to_F2` returns the tableau stored (`tabOfImages`) from the images `U X_q U†`, `U Z_q U†` that
`from_full_matrix` recognises -/
theorem arrayToF2_returns_tabOfImages {k : Nat} {U : Clifford.Mat} {T : Tab} (h : arrayToF2 k U = some T) :
    ∃ imgs : List PauliB, imgs.length = 2 * k ∧ T = tabOfImages k imgs ∧
      ∀ j, j < 2 * k → ofFullMatrix k ((Clifford.Mat.mul (2 ^ k) U (Clifford.Mat.dagger (2 ^ k) U)).get 0 0)
        (Clifford.Mat.mul (2 ^ k) (Clifford.Mat.mul (2 ^ k) U (pauliMat k (genPauli k (j % k) (decide (k ≤ j))))) (Clifford.Mat.dagger (2 ^ k) U))
          = some (imgs.getD j ⟨false, false, 0⟩) :=
  arrayToF2_spec h

/-- **Tableau extraction is sound.**  If the stored images `W_j` are Hermitian, the stored tableau is symplectic, and
`U g_j = W_j U` for the `2n` generators (`W_j = U g_j U†`), then for every phased Pauli `U P = apply(P, T) U`:
`apply_clifford_on_pauli(P, clifford_array_to_F2(U))` is the F2 form of `U P U†`. -/
theorem array_to_F2_sound {n : Nat} {I : R} (hI : I * I = -1) (imgs : List PauliB)
    (hherm : ∀ j, j < 2 * n → (imgs.getD j ⟨false, false, 0⟩).s1 =
      (cnt n (imgs.getD j ⟨false, false, 0⟩).v ((imgs.getD j ⟨false, false, 0⟩).v >>> n) % 2 == 1))
    (hsp : (tabOfImages n imgs).colSp = true) (U : Matrix (Bits n) (Bits n) R)
    (himg : ∀ j, j < 2 * n → U * PM n I (gen j) = PM n I (imgs.getD j ⟨false, false, 0⟩) * U)
    (p : PauliB) (hp : p.v < 4 ^ n) :
    U * PM n I p = PM n I (applyOnPauli p (tabOfImages n imgs)) * U :=
  tableau_of_images hI imgs hherm hsp U himg p hp

/-- the same with a unitary `U`: `U P U† = apply(P, T)` -/
theorem array_to_F2_sound_unitary [StarRing R] {n : Nat} {I : R} (hI : I * I = -1) (imgs : List PauliB)
    (hherm : ∀ j, j < 2 * n → (imgs.getD j ⟨false, false, 0⟩).s1 =
      (cnt n (imgs.getD j ⟨false, false, 0⟩).v ((imgs.getD j ⟨false, false, 0⟩).v >>> n) % 2 == 1))
    (hsp : (tabOfImages n imgs).colSp = true) (U : Matrix (Bits n) (Bits n) R) (hU : U * Uᴴ = 1)
    (himg : ∀ j, j < 2 * n → U * PM n I (gen j) * Uᴴ = PM n I (imgs.getD j ⟨false, false, 0⟩))
    (p : PauliB) (hp : p.v < 4 ^ n) :
    U * PM n I p * Uᴴ = PM n I (applyOnPauli p (tabOfImages n imgs)) := by
  have hU' : Uᴴ * U = 1 := mul_eq_one_comm.mp hU
  have := tableau_of_images hI imgs hherm hsp U (fun j hj => by
    rw [← himg j hj, Matrix.mul_assoc, hU', Matrix.mul_one]) p hp
  rw [this, Matrix.mul_assoc, hU, Matrix.mul_one]

end conj

/-- the hypotheses of `circuit_conjugation` hold in `ℂ` with `I = Complex.I`, `h = 1/√2` -/
example : Complex.I * Complex.I = -1 ∧ star Complex.I = -Complex.I ∧
    star ((Real.sqrt 2)⁻¹ : ℂ) = ((Real.sqrt 2)⁻¹ : ℂ) ∧
    2 * (((Real.sqrt 2)⁻¹ : ℂ) * ((Real.sqrt 2)⁻¹ : ℂ)) = 1 := by
  obtain ⟨h1, h2, h3, h4, _⟩ := complex_setup
  exact ⟨h1, h2, h3, h4⟩

/-! ### success: the end-to-end theorems are not conditional -/

/-- **`clifford_multiply` returns** (the `assert` of `clifford.py:66` holds) whenever the sizes agree and `S_y` is symplectic -/
theorem multiply_returns (x y : Tab) (hn : x.n = y.n) (hy : y.colSp = true) : (multiply x y).isSome = true :=
  multiply_isSome x y hn hy

/-- **`to_symplectic_form` returns for every well-formed non-empty gate record** (in particular for every record produced by
method calls, `recorded_gates_wf`) -/
theorem to_symplectic_form_returns (gates : List Gate) (hne : gates ≠ []) (hwf : GatesWF gates) :
    ∃ t, symplecticOf gates = .ok t := by
  obtain ⟨n, hn⟩ := numQubit_ok gates hne hwf
  unfold symplecticOf
  rw [hn]
  exact foldl_symStep_ok n gates.reverse (fun g hg => hwf g (List.mem_reverse.1 hg))
    (fun g hg q hq => numQubit_spec hn g (List.mem_reverse.1 hg) q hq) (Tab.id n) rfl

/-- **`circuit_conjugation`, unconditional**: every non-empty well-formed record has a tableau `t` on `n` qubits, and `U† P U = apply(P, t)` -/
theorem circuit_conjugation_total {R : Type} [CommRing R] [StarRing R] {I h : R} (hI : I * I = -1) (hs : star I = -I)
    (hh : star h = h) (h2 : 2 * (h * h) = 1) (gates : List Gate) (hne : gates ≠ []) (hwf : GatesWF gates) :
    ∃ t n, symplecticOf gates = .ok t ∧ Clifford.numQubit gates = .ok n ∧ t.n = n ∧ ∀ p : PauliB, p.v < 4 ^ n →
      (circuitUnitary I h n gates).conjTranspose * PM n I p * circuitUnitary I h n gates = PM n I (applyOnPauli p t) := by
  obtain ⟨t, ht⟩ := to_symplectic_form_returns gates hne hwf
  obtain ⟨n, h1, h3, h4⟩ := circuit_conjugation hI hs hh h2 gates hwf t ht
  exact ⟨t, n, ht, h1, h3, h4⟩

/-! ### automorphism; the two symplectic conditions -/

/-- a symplectic tableau preserves the symplectic form … -/
theorem apply_preserves_form (t : Tab) (h : t.colSp = true) (v w : Nat) :
    (om t.n (matVec t.cols v (2 * t.n)) (matVec t.cols w (2 * t.n)) +
      om t.n (matVec t.cols w (2 * t.n)) (matVec t.cols v (2 * t.n))) % 2 = (om t.n v w + om t.n w v) % 2 :=
  form_preserved t h v w

/-- … and acts **bijectively** on the `n`-qubit phased Paulis: with `apply_hom` a phase-exact *automorphism* -/
theorem apply_automorphism (t : Tab) (h : t.colSp = true) (hc : ∀ j, j < 2 * t.n → t.cols.getD j 0 < 4 ^ t.n) :
    Set.BijOn (fun p => applyOnPauli p t) {p : PauliB | p.v < 4 ^ t.n} {p : PauliB | p.v < 4 ^ t.n} := by
  have hmaps : Set.MapsTo (fun p => applyOnPauli p t) {p : PauliB | p.v < 4 ^ t.n} {p : PauliB | p.v < 4 ^ t.n} := by
    intro p _
    show (applyOnPauli p t).v < 4 ^ t.n
    rw [apply_v, SpF2.four_pow]
    exact matVec_lt (fun j hj => by rw [← SpF2.four_pow]; exact hc j hj) _
  exact ((finite_paulis (4 ^ t.n)).injOn_iff_bijOn_of_mapsTo hmaps).1
    (fun p hp q hq he => apply_injective t h p q hp hq he)

/-- **C09's `isSp` (`S Λ Sᵀ = Λ`, rows) implies C07's `colSp` (`Sᵀ Λ S = Λ`, columns)** for the tableau with that `cli_mat` -/
theorem colSp_of_isSp (n r : Nat) (M : List Nat) (h : SpF2.isSp n M = true) :
    (Tab.mk n r (colsOfRows (2 * n) M)).colSp = true := by
  obtain ⟨hwf, hsp⟩ := (SpF2.isSp_iff n M).1 h
  exact colSp_of_rowsSp n r M hwf hsp

/-! ### the executed dense constants are the matrices of the theorems -/

section dense
variable {R : Type} [CommRing R]

/-- the operator executed by the driver op `opmat` (C03's `embed`/`ctrlEmbed` of the exported gate over ℤ[i], tied to
`Circuit.to_unitary`) is `gateMatrixN` (with `H` unnormalised) entry by entry under `ℤ[i] → R` -/
theorem executed_gate_operator (I : R) (n : Nat) (g : Gate) :
    gateMatrixN I 1 n g = Matrix.of (fun x y => gintTo I (gateOpG n g x y)) := gateMatrixN_eq_gateOpG I n g

/-- the Pauli matrix executed by the driver op `paulimat` (C08's `matExp` over ℤ[i], tied to `full_matrix`) is `PM` -/
theorem executed_pauli_matrix {I : R} (hI : I * I = -1) (n : Nat) (p : PauliB) :
    PM n I p = Matrix.of (fun x y => gintTo I (pauliEntG n p x y)) := PM_eq_pauliEntG hI n p

/-- the list-of-lists `pauliMat k p` used by `arrayToF2` / the kernel tables is C08's matrix **for every `k`** -/
theorem pauliMat_is_C08 {I : R} (hI : I * I = -1) (k : Nat) (p : PauliB) : toMatrix k I (pauliMat k p) = PM k I p :=
  toMatrix_pauliMat hI k p

/-- **`clifford_array_to_F2` as executed (driver op `a2f`) is sound**: whenever it returns `T` for the integer matrix `U`
(`U U† = γ·1`, `γ` a unit of `R`), `T` is symplectic and `U · P = apply(P, T) · U` for every phased Pauli on `k` qubits -/
theorem array_to_F2_executed_sound [StarRing R] {I : R} (hI : I * I = -1) (hs : star I = -I) (hne : (1 : R) ≠ -1)
    {k : Nat} {U : Clifford.Mat} {T : Tab} (h : arrayToF2 k U = some T)
    (hγ : IsUnit (gintTo I ((Clifford.Mat.mul (2 ^ k) U (Clifford.Mat.dagger (2 ^ k) U)).get 0 0)))
    (p : PauliB) (hp : p.v < 4 ^ k) :
    T.colSp = true ∧ toMatrix k I U * PM k I p = PM k I (applyOnPauli p T) * toMatrix k I U :=
  arrayToF2_sound_executed hI hs hne h hγ p hp

end dense

/-- non-vacuity: the executed extraction on `√2·H` over `ℂ` (`γ = 2`) -/
example (p : PauliB) (hp : p.v < 4 ^ 1) :
    toMatrix 1 Complex.I GateKey.H.mat * PM 1 Complex.I p =
      PM 1 Complex.I (applyOnPauli p ⟨1, 0, [2, 1]⟩) * toMatrix 1 Complex.I GateKey.H.mat := by
  have h : arrayToF2 1 GateKey.H.mat = some ⟨1, 0, [2, 1]⟩ := by decide +kernel
  have hc : (Clifford.Mat.mul (2 ^ 1) GateKey.H.mat (Clifford.Mat.dagger (2 ^ 1) GateKey.H.mat)).get 0 0 = ⟨2, 0⟩ := by
    decide +kernel
  refine (array_to_F2_executed_sound Complex.I_mul_I Complex.conj_I ?_ h ?_ p hp).2
  · intro e; have := congrArg Complex.re e; norm_num at this
  · rw [hc]; simp [gintTo]

/-! ### C19 (QEC model) ↔ C07 / C08 / C03: one set of objects -/

/-- C19's mask operator `i^k X^x Z^z` and its image `ofMP` in C07 denote the same element of C08's `Pauli n` -/
theorem qec_pauli_agree {n : Nat} (p : Qec.MP) (hx : p.x < 2 ^ n) :
    toPauli n (ofMP n p) = Qec.toPauli n p := toPauli_ofMP p hx

/-- C19's product on masks is `mulB` (= C08's `Pauli.mul`), phase included -/
theorem qec_mul_is_mulB {n : Nat} (hn : n ≤ 32) (a b : Qec.MP) (hax : a.x < 2 ^ n) (hbx : b.x < 2 ^ n) :
    ofMP n (Qec.MP.mul a b) = mulB n (ofMP n a) (ofMP n b) := by
  apply PauliB.ext_ph
  · rw [mulB_v]
    apply Nat.eq_of_testBit_eq; intro j
    simp only [ofMP, Qec.MP.mul, Nat.testBit_or, Nat.testBit_xor, Nat.testBit_shiftLeft]
    by_cases hj : j ≥ n
    · rw [SpF2.testBit_eq_false_of_lt hax hj, SpF2.testBit_eq_false_of_lt hbx hj]; simp [hj]
    · simp [hj]
  · rw [mulB_ph, ph_ofMP, ph_ofMP, ph_ofMP]
    have hsh : (ofMP n a).v >>> n = a.z := by
      apply Nat.eq_of_testBit_eq; intro j
      rw [Nat.testBit_shiftRight, testBit_ofMP_hi a hax]
    have hc : cnt n a.z (ofMP n b).v = cnt n a.z b.x := by
      rw [cnt_eq_sum, cnt_eq_sum]
      apply Finset.sum_congr rfl; intro i _
      rw [testBit_ofMP_lo b i.isLt]
    have := cnt_parity_par hn a.z b.x hbx
    simp only [om, hsh, hc, Qec.MP.mul]
    generalize Qec.par (a.z &&& b.x) = P at this ⊢
    generalize cnt n a.z b.x = C at this ⊢
    cases P <;> simp at this ⊢ <;> omega

/-- C19's anticommutation test is the negation of C08's commutation test -/
theorem qec_acomm_is_not_commutes {n : Nat} (hn : n ≤ 32) (a b : Qec.MP) (hax : a.x < 2 ^ n) (hbx : b.x < 2 ^ n) :
    Qec.MP.acomm a b = !(Pauli.commutes (Qec.toPauli n a) (Qec.toPauli n b)) := by
  have h1 := Qec.dotN_parity hn b.z (fun i : Fin n => a.x.testBit i)
  have h2 := Qec.dotN_parity hn a.z (fun i : Fin n => b.x.testBit i)
  rw [posOf_testBits hax] at h1
  rw [posOf_testBits hbx] at h2
  simp only [Qec.MP.acomm, Pauli.commutes, Qec.toPauli, Qec.par_xor]
  rw [Bits.dotN_comm (fun i : Fin n => a.x.testBit i)] 
  rw [Nat.and_comm a.x b.z]
  revert h1 h2
  generalize Bits.dotN (fun i : Fin n => b.z.testBit ↑i) (fun i : Fin n => a.x.testBit ↑i) = D1
  generalize Bits.dotN (fun i : Fin n => a.z.testBit ↑i) (fun i : Fin n => b.x.testBit ↑i) = D2
  cases Qec.par (b.z &&& a.x) <;> cases Qec.par (a.z &&& b.x) <;> simp <;> omega

/-- **C19's gate step on state vectors is multiplication by C03's operator of the same gate** (`embed` / `ctrlEmbed`,
`H` unnormalised as in C19), under `basis state b ↦ position Σ b_i 2^i` -/
theorem qec_gate_is_C03_operator {R : Type} [CommRing R] {n : Nat} (I : R) (g : Qec.Gate)
    (hg : Qec.gateOk n g = true) (g' : Gate) (hg' : toGate g = some g') (v : Nat → R) (x : Bits n) :
    Qec.applyGate I g v (Qec.posOf x) = (gateMatrixN I 1 n g').mulVec (fun b => v (Qec.posOf b)) x :=
  qec_applyGate_eq I g hg g' hg' v x

/-- C19's per-gate soundness as an identity of C03/C08 matrices: `G · P = (conj1 P g) · G` -/
theorem qec_conj1_matrix {R : Type} [CommRing R] {n : Nat} {I : R} (hI : I * I = -1) (hn : n ≤ 32) (g : Qec.Gate)
    (hg : Qec.gateOk n g = true) (g' : Gate) (hg' : toGate g = some g') (p p' : Qec.MP)
    (h : Qec.conj1 p g = some p') (hx : p.x < 2 ^ n) (hz : p.z < 2 ^ n) :
    gateMatrixN I 1 n g' * PM n I (ofMP n p) = PM n I (ofMP n p') * gateMatrixN I 1 n g' :=
  conj1_matrix hI hn g hg g' hg' p p' h hx hz

/-- **tableau steps agree**: C19's `conj1` (`P ↦ G P G†`) is undone by C07's adjoint-gate tableau of the same gate
(`gateAct`: `P' ↦ G† P' G`), bit for bit, for every register size `n ≤ 32` -/
theorem qec_tableau_step_inverse {n : Nat} (hn : n ≤ 32) (g : Qec.Gate) (hg : Qec.gateOk n g = true) (g' : Gate)
    (hg' : toGate g = some g') (p p' : Qec.MP) (h : Qec.conj1 p g = some p') (hx : p.x < 2 ^ n) (hz : p.z < 2 ^ n) :
    gateAct n (ofMP n p') g' = ofMP n p := conj1_gateAct hn g hg g' hg' p p' h hx hz

/-- **C19's `tableau_is_conjugation` and C07's `circuit_conjugation` are about the same objects**: if C19 propagates `P`
through a gate list to `P'` (`= U P U†`), C07's tableau of the same recorded circuit maps `P'` back to `P` (`= U† P' U`) -/
theorem qec_tableau_inverse {n : Nat} (hn : n ≤ 32) (gs : List Qec.Gate) (hg : gs.all (Qec.gateOk n) = true)
    (gates : List Gate) (hgs : gs.mapM toGate = some gates) (hnq : Clifford.numQubit gates = .ok n)
    (t : Tab) (ht : symplecticOf gates = .ok t) (hwf : GatesWF gates)
    (p p' : Qec.MP) (h : Qec.conjCirc p gs = some p') (hx : p.x < 2 ^ n) (hz : p.z < 2 ^ n) :
    applyOnPauli (ofMP n p') t = ofMP n p := by
  obtain ⟨n', h1, _, h3⟩ := symplecticOf_sequential gates hwf
    (fun k => ⟨dagTable k, basicDaggerF2_dagTable k, dagTable_n k, dagTable_colSp k⟩) t ht
  rw [hnq] at h1; cases h1
  obtain ⟨e, hx', hz'⟩ := conjCirc_seq hn gs hg gates hgs p p' h hx hz
  rw [h3, apply_id n _ (ofMP_lt p' hx' hz')]
  exact e

/-! ### orbits of Pauli index sets under Sp(2n,F2) (`get_pauli_subset_equivalent`, `get_pauli_subset_stabilizer`) -/

/-- **the enumerated orbit is the full Sp(2n,F2)-orbit**: the image of the index set under *every* symplectic matrix is
among the images produced by the loop over `from_int_tuple` (C09 `from_to`) … -/
theorem pauli_subset_orbit_complete (n : Nat) (subset : List Nat) (S : List Nat) (hS : SpF2.isSp n S = true) :
    subsetImage n S (firstElement subset) ∈ orbitImages n subset := by
  obtain ⟨hwf, hsp⟩ := (SpF2.isSp_iff n S).1 hS
  obtain ⟨t, _, h2, h3, h4⟩ := SpF2.toIntTuple_all n S hwf hsp
  simp only [orbitImages, List.mem_map]
  exact ⟨t, (SpF2.mem_allTuples_iff n t).2 ⟨h2, h3⟩, by rw [← h4]; rfl⟩

/-- … and every image produced comes from a symplectic matrix -/
theorem pauli_subset_orbit_sound (n : Nat) (subset : List Nat) (img : List Nat) (h : img ∈ orbitImages n subset) :
    ∃ S, SpF2.isSp n S = true ∧ img = subsetImage n S (firstElement subset) := by
  simp only [orbitImages, List.mem_map] at h
  obtain ⟨t, ht, rfl⟩ := h
  obtain ⟨hl, hr⟩ := (SpF2.mem_allTuples_iff n t).1 ht
  have := SpF2.fromRev_all t.reverse hr
  rw [List.length_reverse, hl] at this
  exact ⟨SpF2.fromIntTuple t, (SpF2.isSp_iff _ _).2 ⟨this.1, this.2.1⟩, rfl⟩

/-- the set returned by `get_pauli_subset_equivalent` is `{first_element} ∪ images` -/
theorem pauli_subset_equivalent_mem (n : Nat) (subset : List Nat) (x : List Nat) :
    x ∈ subsetEquivalent n subset ↔ x = firstElement subset ∨ x ∈ orbitImages n subset := by
  simp only [subsetEquivalent, List.mem_eraseDups, List.mem_cons]

/-- `get_pauli_subset_stabilizer` returns exactly the in-range tuples whose matrix fixes the set … -/
theorem pauli_subset_stabilizer_mem (n : Nat) (subset : List Nat) (t : List (Nat × Nat)) :
    t ∈ subsetStabilizer n subset ↔ (t.length = n ∧ SpF2.inRange t = true) ∧
      subsetImage n (SpF2.fromIntTuple t) (firstElement subset) = firstElement subset := by
  simp only [subsetStabilizer, List.mem_filter, SpF2.mem_allTuples_iff, beq_iff_eq]

/-- … and every symplectic matrix fixing the set is the matrix of one of them (the full stabiliser) -/
theorem pauli_subset_stabilizer_complete (n : Nat) (subset : List Nat) (S : List Nat) (hS : SpF2.isSp n S = true)
    (hfix : subsetImage n S (firstElement subset) = firstElement subset) :
    ∃ t ∈ subsetStabilizer n subset, SpF2.fromIntTuple t = S := by
  obtain ⟨hwf, hsp⟩ := (SpF2.isSp_iff n S).1 hS
  obtain ⟨t, _, h2, h3, h4⟩ := SpF2.toIntTuple_all n S hwf hsp
  refine ⟨t, (pauli_subset_stabilizer_mem n subset t).2 ⟨⟨h2, h3⟩, ?_⟩, h4⟩
  have : SpF2.fromIntTuple t = S := h4
  rw [this]; exact hfix

example : subsetEquivalent 1 [1] = [[1], [3], [2]] ∧ subsetStabilizer 1 [1] = [[(0, 0)], [(0, 1)]] := by decide +kernel

/-- all 24 one-qubit tableaux: Sp(2,F2) (enumerated by `from_int_tuple`) × all 4 phase vectors -/
def tabs1 : List Tab :=
  ((SpF2.allTuples 1).map SpF2.fromIntTuple).flatMap fun S => (List.range 4).map fun r => ⟨1, r, S⟩

/-! ### the hypotheses are satisfiable, the statements are not vacuous -/

example : run St.init [.append .H [0], .query, .append .S [0], .query] =
    [.unit, .tab ⟨1, 0, [2, 1]⟩, .unit, .tab ⟨1, 0, [3, 1]⟩] := by decide +kernel
/-- rejected arguments leave the object unchanged; a query on the empty object raises -/
example : run St.init [.query, .append .CX [0, 0], .append .X [-1], .exportCirc] =
    [.err .value, .err .assert, .err .assert, .gates []] := by decide +kernel
/-- `H`: X ↦ Z, and `-Y`: the phase is tracked -/
example : applyOnPauli ⟨false, false, 1⟩ (dagTable .H) = ⟨false, false, 2⟩ ∧
    applyOnPauli ⟨false, true, 3⟩ (dagTable .H) = ⟨true, true, 3⟩ := by decide
example : tabs1.length = 24 ∧ (allPaulis 2).length = 64 ∧ (placements 2 2).length = 2 := by decide +kernel
/-- the hypotheses of `apply_hom` / `multiply_apply` hold for all 24 one-qubit tableaux, and `clifford_multiply` returns on them -/
example : tabs1.all (fun x => x.colSp && tabs1.all fun y => (multiply x y).isSome) = true := by decide +kernel
/-- a non-symplectic matrix is rejected by `colSp` -/
example : Tab.colSp ⟨1, 0, [1, 1]⟩ = false := by decide
/-- `X·Z = -iY` on the binary form -/
example : mulB 1 ⟨false, false, 1⟩ ⟨false, false, 2⟩ = ⟨false, false, 3⟩ ∧
    mulB 1 ⟨false, false, 2⟩ ⟨false, false, 1⟩ = ⟨true, false, 3⟩ := by decide

end Numqi.C07
