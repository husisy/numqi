/-
C17 — partial traces and the Dicke-basis reduction equal the explicit contraction.

Property theorems with their proofs (shared lemmas: `NumqiProofs/PartialTrace.lean`, `Dicke*.lean`).  Part 1 (`utils.partial_trace`)
holds for every additive commutative monoid of scalars, every dimension list and every keep mask.  Part 2 (Dicke) is combinatorics
over ℕ/ℚ plus the overlap identity over ℝ.  Part 3 is the reduction identity for complex `ψ`, Part 4 the users of the reduction
(`entangle/pureb.py`, `maximum_entropy/_internal.py`).
-/
import NumqiProofs.PartialTrace
import NumqiProofs.Dicke
import NumqiProofs.DickeReduction
import NumqiProofs.DickeUsers
import Mathlib.Analysis.Real.Sqrt
import Mathlib.Data.Complex.Basic
import Mathlib.Data.Complex.BigOperators

namespace Numqi.C17
open Numqi Numqi.PT Finset

variable {M : Type} [AddCommMonoid M]

/-! ## Part 1: `partial_trace` -/

/-- **`partial_trace` is the explicit index contraction.**
`(Tr_T ρ)[a,b] = Σ_{x,y} ρ[x,y]` over the pairs of flat indices whose kept digits are those of `a` resp. `b`
and whose traced digits coincide (`part_digits` says that `part` reads off exactly those digits). -/
theorem partialTrace_eq_contraction (dims : List ℕ) (keep : List Bool) (hlen : dims.length = keep.length)
    (ρ : ℕ → ℕ → M) (a b : ℕ) (ha : a < prodSel true dims keep) (hb : b < prodSel true dims keep) :
    partialTrace dims keep ρ a b =
      ∑ x ∈ range (prodDims dims), ∑ y ∈ range (prodDims dims),
        if part true dims keep x = a ∧ part true dims keep y = b ∧ part false dims keep x = part false dims keep y
        then ρ x y else 0 := by
  rw [partialTrace, sumRange_eq_sum]
  symm
  calc _ = ∑ x ∈ range (prodDims dims), ∑ y ∈ range (prodDims dims), ∑ t ∈ range (prodSel false dims keep),
          (if x = ptIndex dims keep a t ∧ y = ptIndex dims keep b t then ρ x y else 0) :=
        sum_congr rfl fun x hx => sum_congr rfl fun y hy =>
          (sparse_single dims keep hlen x y (ρ x y) (mem_range.1 hx) (mem_range.1 hy) a b ha hb).symm
    _ = ∑ t ∈ range (prodSel false dims keep), ∑ x ∈ range (prodDims dims), ∑ y ∈ range (prodDims dims),
          (if x = ptIndex dims keep a t ∧ y = ptIndex dims keep b t then ρ x y else 0) :=
        (sum_congr rfl fun x _ => sum_comm).trans sum_comm
    _ = _ := sum_congr rfl fun t ht =>
        sum_sum_ite_pair (ptIndex_lt dims keep hlen a t ha (mem_range.1 ht)) (ptIndex_lt dims keep hlen b t hb (mem_range.1 ht)) ρ

/-- `part b` reads off the digits of `x` on the axes with mask bit `b` (row-major, like `np.unravel_index`). -/
theorem part_digits (b : Bool) (dims : List ℕ) (keep : List Bool) (hlen : dims.length = keep.length) (x : ℕ)
    (hx : x < prodDims dims) :
    unravel (sel b dims keep) (part b dims keep x) = sel b (unravel dims x) keep :=
  unravel_part b dims keep hlen x hx

/-- the output has `∏ dim[keep]` rows, the kept dimensions in ascending axis order -/
theorem output_size (b : Bool) (dims : List ℕ) (keep : List Bool) :
    prodSel b dims keep = prodDims (sel b dims keep) := prodSel_eq_prodDims_sel b dims keep

/-- the index function is a bijection `[0,∏kept) × [0,∏traced) → [0,∏dims)` (both inverse laws + ranges) -/
theorem ptIndex_bijective (dims : List ℕ) (keep : List Bool) (hlen : dims.length = keep.length) :
    (∀ a t, a < prodSel true dims keep → t < prodSel false dims keep →
      ptIndex dims keep a t < prodDims dims ∧
      part true dims keep (ptIndex dims keep a t) = a ∧ part false dims keep (ptIndex dims keep a t) = t) ∧
    (∀ x, x < prodDims dims →
      part true dims keep x < prodSel true dims keep ∧ part false dims keep x < prodSel false dims keep ∧
      ptIndex dims keep (part true dims keep x) (part false dims keep x) = x) :=
  ⟨fun a t ha ht => ⟨ptIndex_lt dims keep hlen a t ha ht, part_ptIndex dims keep hlen a t ha ht⟩,
   fun x hx => ⟨part_lt true dims keep hlen x hx, part_lt false dims keep hlen x hx, ptIndex_part dims keep hlen x hx⟩⟩

/-- **The partial trace preserves the trace** (unit trace for states). -/
theorem trace_partialTrace (dims : List ℕ) (keep : List Bool) (hlen : dims.length = keep.length) (ρ : ℕ → ℕ → M) :
    ∑ a ∈ range (prodSel true dims keep), partialTrace dims keep ρ a a = ∑ x ∈ range (prodDims dims), ρ x x := by
  simp only [partialTrace, sumRange_eq_sum]
  exact sum_ptIndex dims keep hlen (fun x => ρ x x)

/-- **Tracing in two steps equals tracing in one step**: first keep `keep1`, then (among the kept axes) `keep2`. -/
theorem partialTrace_twice (dims : List ℕ) (keep1 keep2 : List Bool) (h1 : dims.length = keep1.length)
    (h2 : (sel true dims keep1).length = keep2.length) (ρ : ℕ → ℕ → M) (a b : ℕ)
    (ha : a < prodSel true (sel true dims keep1) keep2) (hb : b < prodSel true (sel true dims keep1) keep2) :
    partialTrace (sel true dims keep1) keep2 (partialTrace dims keep1 ρ) a b
      = partialTrace dims (composeMask keep1 keep2) ρ a b := by
  simp only [partialTrace, sumRange_eq_sum]
  exact (sum_compose dims keep1 keep2 h1 h2 (fun x y => ρ x y) a b ha hb).symm

/-- the sparse evaluation used by the driver for large dimension lists is the same map -/
theorem partialTraceSparse_eq (dims : List ℕ) (keep : List Bool) (hlen : dims.length = keep.length)
    (es : List (ℕ × ℕ × M)) (hes : ∀ e ∈ es, e.1 < prodDims dims ∧ e.2.1 < prodDims dims) (a b : ℕ)
    (ha : a < prodSel true dims keep) (hb : b < prodSel true dims keep) :
    partialTraceSparse dims keep es a b = partialTrace dims keep (denseOf es) a b :=
  sparse_eq dims keep hlen es hes a b ha hb

/-- `maskOf` implements `sorted(set(keep_index))`: only membership matters -/
theorem maskOf_spec (n : ℕ) (keepIdx : List ℕ) (i : ℕ) (hi : i < n) :
    (maskOf n keepIdx)[i]? = some (decide (i ∈ keepIdx)) := by
  simp [maskOf, hi]

theorem maskOf_length (n : ℕ) (keepIdx : List ℕ) : (maskOf n keepIdx).length = n := by simp [maskOf]

/-- non-vacuity: the hypotheses are satisfiable and the map is not constant (keep axes {0,2} of 2×3×2) -/
example : prodSel true [2, 3, 2] [true, false, true] = 4 ∧ ptIndex [2, 3, 2] [true, false, true] 3 2 = 11
    ∧ partialTrace [2, 3, 2] [true, false, true] (fun x y => (x * 100 + y : ℕ)) 1 2 = 106 + 308 + 510 := by
  decide

/-! ## Part 2: Dicke basis -/
open Numqi.Dicke

/-- **`n · M(a − e_r) = a_r · M(a)`** for the multinomial `M(a) = (Σa)!/∏aᵢ!` (number of strings of occupation `a`). -/
theorem multinomial_shift (a : List ℕ) (r : ℕ) (hr : r < a.length) (hpos : 0 < a.getD r 0) :
    a.sum * multinomial (a.set r (a.getD r 0 - 1)) = a.getD r 0 * multinomial a :=
  multinomial_shift' a r hr hpos

/-- `get_dicke_klist(n, d)` lists exactly the occupation vectors of length `d` summing to `n` … -/
theorem klist_complete (d n : ℕ) (hd : 1 ≤ d) (a : List ℕ) : a ∈ klist d n ↔ a.length = d ∧ a.sum = n := by
  obtain ⟨e, rfl⟩ : ∃ e, d = e + 1 := ⟨d - 1, by omega⟩
  exact mem_klist_iff e n a

/-- … each exactly once … -/
theorem klist_nodup (d n : ℕ) (hd : 1 ≤ d) : (klist d n).Nodup := by
  obtain ⟨e, rfl⟩ : ∃ e, d = e + 1 := ⟨d - 1, by omega⟩
  exact Dicke.klist_nodup e n

/-- … hence **there are `C(n+d-1, d-1)` Dicke vectors**, which is also what `get_dicke_number` returns. -/
theorem dicke_count (d n : ℕ) (hd : 1 ≤ d) :
    (klist d n).length = (n + d - 1).choose (d - 1) ∧ dickeNumber n d = (klist d n).length := by
  obtain ⟨e, rfl⟩ : ∃ e, d = e + 1 := ⟨d - 1, by omega⟩
  have h := klist_length e n
  refine ⟨by simpa using h, ?_⟩
  rw [dickeNumber, choose_eq, h]; simp

/-- **The number of basis strings of occupation `a` is `M(a)`** (so `1/M(a)` are the squared amplitudes of a unit vector). -/
theorem dicke_support_count (d n : ℕ) (a : List ℕ) (hl : a.length = d) (hs : a.sum = n) :
    cnt d n a = multinomial a := cnt_eq_multinomial d n a hl hs

/-- **Dicke vectors are normalised**: the squared amplitudes sum to one. -/
theorem dicke_norm (d n : ℕ) (a : List ℕ) (hl : a.length = d) (hs : a.sum = n) :
    ∑ x ∈ range (d ^ n), dickeSq d n a x = 1 := by
  have hM : (multinomial a : ℚ) ≠ 0 := by exact_mod_cast (multinomial_pos a).ne'
  have h := cnt_eq_multinomial d n a hl hs
  have : ∀ x ∈ range (d ^ n), dickeSq d n a x
      = ((if occ d (digits d n x) = a then 1 else 0 : ℕ) : ℚ) * (1 / (multinomial a : ℚ)) := by
    intro x _; unfold dickeSq; split <;> simp
  rw [sum_congr rfl this, ← sum_mul, ← Nat.cast_sum]
  have hc : (∑ x ∈ range (d ^ n), if occ d (digits d n x) = a then 1 else 0) = cnt d n a := rfl
  rw [hc, h]; field_simp

/-- **Distinct Dicke vectors are orthogonal**: their supports are disjoint. -/
theorem dicke_orthogonal (d n : ℕ) (a b : List ℕ) (hab : a ≠ b) (x : ℕ) :
    dickeSq d n a x * dickeSq d n b x = 0 := by
  unfold dickeSq
  by_cases h1 : occ d (digits d n x) = a
  · have h2 : ¬ occ d (digits d n x) = b := fun h => hab (h1.symm.trans h)
    simp [h2]
  · simp [h1]

/-- **Permutation invariance**: the amplitude depends on the digit string only through its occupation numbers,
which are invariant under every permutation of the `n` qudits. -/
theorem dicke_perm_invariant (d n : ℕ) (a : List ℕ) (x y : ℕ) (h : (digits d n x).Perm (digits d n y)) :
    dickeSq d n a x = dickeSq d n a y := by
  unfold dickeSq; rw [occ_perm d h]

/-- with `c = M(a − e_r)` and `a − e_r = b − e_s`: `(c·(n+1))² = a_r b_s · M(a) M(b)`, from `multinomial_shift` on both sides -/
private theorem shift_sq {n r s : ℕ} {a b : List ℕ} (hr : r < a.length) (hs : s < b.length) (hsa : a.sum = n + 1) (hsb : b.sum = n + 1)
    (h1 : 0 < a.getD r 0) (h2 : 0 < b.getD s 0) (h3 : a.set r (a.getD r 0 - 1) = b.set s (b.getD s 0 - 1)) :
    (multinomial (a.set r (a.getD r 0 - 1)) * (n + 1)) ^ 2 = a.getD r 0 * b.getD s 0 * (multinomial a * multinomial b) := by
  have e1 := multinomial_shift' a r hr h1
  have e2 := multinomial_shift' b s hs h2
  rw [← h3, hsb] at e2
  rw [hsa] at e1
  linear_combination (multinomial (a.set r (a.getD r 0 - 1)) * (n + 1)) * e1 + (a.getD r 0 * multinomial a) * e2

/-- **Overlap, squared (rational form compared exactly with the code's table):**
`(Σ_y ⟨r,y|D_a⟩⟨D_b|s,y⟩)² = a_r b_s/(n+1)²` if `a − e_r = b − e_s`, else `0`;
here `Σ_y ⟨r,y|D_a⟩⟨D_b|s,y⟩ = common/√(M(a)M(b))`. -/
theorem dicke_overlap_sq (d n r s : ℕ) (a b : List ℕ) (hr : r < d) (hs : s < d) (hla : a.length = d) (hlb : b.length = d)
    (hsa : a.sum = n + 1) (hsb : b.sum = n + 1) :
    ((common d n r s a b : ℚ)) ^ 2 / ((multinomial a : ℚ) * (multinomial b : ℚ)) =
      if 0 < a.getD r 0 ∧ 0 < b.getD s 0 ∧ a.set r (a.getD r 0 - 1) = b.set s (b.getD s 0 - 1)
      then ((a.getD r 0 * b.getD s 0 : ℕ) : ℚ) / (((n + 1) * (n + 1) : ℕ) : ℚ) else 0 := by
  rw [common_eq d n r s a b hr hs hla hlb hsa]
  by_cases hC : 0 < a.getD r 0 ∧ 0 < b.getD s 0 ∧ a.set r (a.getD r 0 - 1) = b.set s (b.getD s 0 - 1)
  · rw [if_pos hC, if_pos hC]
    have hsq : ((multinomial (a.set r (a.getD r 0 - 1)) * (n + 1)) ^ 2 : ℚ)
        = a.getD r 0 * b.getD s 0 * (multinomial a * multinomial b) := by
      exact_mod_cast shift_sq (by omega) (by omega) hsa hsb hC.1 hC.2.1 hC.2.2
    have hMa : (multinomial a : ℚ) ≠ 0 := by exact_mod_cast (multinomial_pos a).ne'
    have hMb : (multinomial b : ℚ) ≠ 0 := by exact_mod_cast (multinomial_pos b).ne'
    have hn : ((n : ℚ) + 1) ≠ 0 := by positivity
    push_cast
    rw [div_eq_div_iff (mul_ne_zero hMa hMb) (mul_ne_zero hn hn)]
    linear_combination hsq
  · rw [if_neg hC, if_neg hC]; simp

/-- **Overlap over ℝ** — the number the code stores: `Σ_y ⟨r,y|D_a⟩⟨D_b|s,y⟩ = √(a_r b_s)/(n+1)·[a − e_r = b − e_s]`. -/
theorem dicke_overlap (d n r s : ℕ) (a b : List ℕ) (hr : r < d) (hs : s < d) (hla : a.length = d) (hlb : b.length = d)
    (hsa : a.sum = n + 1) (hsb : b.sum = n + 1) :
    (common d n r s a b : ℝ) / (√(multinomial a : ℝ) * √(multinomial b : ℝ)) =
      if 0 < a.getD r 0 ∧ 0 < b.getD s 0 ∧ a.set r (a.getD r 0 - 1) = b.set s (b.getD s 0 - 1)
      then √((a.getD r 0 : ℝ) * (b.getD s 0 : ℝ)) / ((n : ℝ) + 1) else 0 := by
  rw [common_eq d n r s a b hr hs hla hlb hsa]
  by_cases hC : 0 < a.getD r 0 ∧ 0 < b.getD s 0 ∧ a.set r (a.getD r 0 - 1) = b.set s (b.getD s 0 - 1)
  · rw [if_pos hC, if_pos hC]
    set c := multinomial (a.set r (a.getD r 0 - 1)) with hc
    have hsq : ((c : ℝ) * ((n : ℝ) + 1)) ^ 2
        = ((a.getD r 0 : ℝ) * (b.getD s 0 : ℝ)) * ((multinomial a : ℝ) * (multinomial b : ℝ)) := by
      exact_mod_cast shift_sq (by omega) (by omega) hsa hsb hC.1 hC.2.1 hC.2.2
    have hMa : (0 : ℝ) < multinomial a := by exact_mod_cast multinomial_pos a
    have hMb : (0 : ℝ) < multinomial b := by exact_mod_cast multinomial_pos b
    have hroot : √(((a.getD r 0 : ℝ) * (b.getD s 0 : ℝ)) * ((multinomial a : ℝ) * (multinomial b : ℝ)))
        = (c : ℝ) * ((n : ℝ) + 1) := by
      rw [← hsq]; exact Real.sqrt_sq (by positivity)
    rw [Real.sqrt_mul (by positivity), Real.sqrt_mul hMa.le] at hroot
    have hd : √(multinomial a : ℝ) * √(multinomial b : ℝ) ≠ 0 :=
      mul_ne_zero (Real.sqrt_ne_zero'.2 hMa) (Real.sqrt_ne_zero'.2 hMb)
    have hn : ((n : ℝ) + 1) ≠ 0 := by positivity
    rw [div_eq_div_iff hd hn]
    linarith
  · rw [if_neg hC, if_neg hC]; simp

/-! ## Part 3: the reduction `A ⊗ Sym^k(B) → AB` -/

/-- amplitude of `D_a` at flat index `x` (over ℝ); its square is the executed model constant `dickeSq` -/
noncomputable def amp (d n : ℕ) (a : List ℕ) (x : ℕ) : ℝ :=
  if occ d (digits d n x) = a then 1 / √(multinomial a : ℝ) else 0

theorem amp_sq (d n : ℕ) (a : List ℕ) (x : ℕ) : (amp d n a x) ^ 2 = ((dickeSq d n a x : ℚ) : ℝ) := by
  unfold amp dickeSq
  split
  · have : (0 : ℝ) ≤ multinomial a := by positivity
    rw [div_pow, Real.sq_sqrt this]; push_cast; ring
  · simp

theorem amp_nonneg (d n : ℕ) (a : List ℕ) (x : ℕ) : 0 ≤ amp d n a x := by
  unfold amp; split <;> positivity

/-- the vector of `A ⊗ B^{⊗ n}` with Dicke coordinates `ψ[α, i]`: `Ψ = (1 ⊗ Dickeᵀ) ψ` -/
noncomputable def embed (d n : ℕ) (ψ : ℕ → ℕ → ℂ) (α x : ℕ) : ℂ :=
  ∑ i ∈ range (klist d n).length, ψ α i * ((amp d n ((klist d n).getD i []) x : ℝ) : ℂ)

/-- `Tr_{B^{n}} |Ψ⟩⟨Ψ|` for `Ψ ∈ A ⊗ B^{⊗ (n+1)}`, entry `((α,r),(β,s))` -/
noncomputable def explicitAB (d n : ℕ) (ψ : ℕ → ℕ → ℂ) (α r β s : ℕ) : ℂ :=
  ∑ y ∈ range (d ^ n), embed d (n + 1) ψ α (r * d ^ n + y) * (starRingEnd ℂ) (embed d (n + 1) ψ β (s * d ^ n + y))

/-- the coefficient the fast reduction must use for the pair of occupation vectors `(a, b)` -/
noncomputable def coef (n r s : ℕ) (a b : List ℕ) : ℝ :=
  if 0 < a.getD r 0 ∧ 0 < b.getD s 0 ∧ a.set r (a.getD r 0 - 1) = b.set s (b.getD s 0 - 1)
  then √((a.getD r 0 : ℝ) * (b.getD s 0 : ℝ)) / ((n : ℝ) + 1) else 0

/-- the table entries over ℂ: `value = √(value²)` -/
noncomputable def tableC (n d : ℕ) (q : ℕ) : List (ℕ × ℕ × ℂ) :=
  (bijTable n d (q / d) (q % d)).map fun e => (e.1, e.2.1, ((√((e.2.2 : ℚ) : ℝ) : ℝ) : ℂ))

/-- **The reduction identity** (proved as `dicke_reduction_eq`): for every `ψ ∈ A ⊗ Sym^{n+1}(B)` the fast
reduction assembled from the index table equals embedding with the Dicke basis and tracing out `n` copies explicitly. -/
def DickeReduction.Statement : Prop :=
  ∀ (d n : ℕ) (_ : 2 ≤ d) (ψ : ℕ → ℕ → ℂ) (α β r s : ℕ) (_ : r < d) (_ : s < d),
    @Dicke.assembleAB ℂ _ _ _ ⟨starRingEnd ℂ⟩ d (tableC (n + 1) d) ψ (α * d + r) (β * d + s) = explicitAB d n ψ α r β s

/-- **Analytic half of the reduction identity**: the explicit reduction is the double sum over pairs of Dicke vectors with the
closed-form coefficient `√(a_r b_s)/(n+1)·[a − e_r = b − e_s]`.  (The combinatorial half — the index table lists exactly the
pairs with non-zero coefficient, with `value = coefficient` — is `Dicke.row_sum`; together they give `dicke_reduction_eq`.) -/
theorem dicke_reduction_partial (d n : ℕ) (hd : 1 ≤ d) (ψ : ℕ → ℕ → ℂ) (α β r s : ℕ) (hr : r < d) (hs : s < d) :
    explicitAB d n ψ α r β s =
      ∑ i ∈ range (klist d (n + 1)).length, ∑ j ∈ range (klist d (n + 1)).length,
        ψ α i * (starRingEnd ℂ) (ψ β j) *
          ((coef n r s ((klist d (n + 1)).getD i []) ((klist d (n + 1)).getD j []) : ℝ) : ℂ) := by
  set kl := klist d (n + 1) with hkl
  have hmem : ∀ i ∈ range kl.length, (kl.getD i []).length = d ∧ (kl.getD i []).sum = n + 1 := by
    intro i hi
    have hi' := mem_range.1 hi
    rw [List.getD_eq_getElem _ _ hi']
    exact (klist_complete d (n + 1) hd _).1 (List.getElem_mem hi')
  -- overlap of two amplitudes summed over the traced copies
  have hov : ∀ i ∈ range kl.length, ∀ j ∈ range kl.length,
      ∑ y ∈ range (d ^ n), (amp d (n + 1) (kl.getD i []) (r * d ^ n + y)) * (amp d (n + 1) (kl.getD j []) (s * d ^ n + y))
        = coef n r s (kl.getD i []) (kl.getD j []) := by
    intro i hi j hj
    obtain ⟨la, sa⟩ := hmem i hi
    obtain ⟨lb, sb⟩ := hmem j hj
    rw [coef, ← dicke_overlap d n r s _ _ hr hs la lb sa sb, common, Nat.cast_sum, sum_div]
    refine sum_congr rfl fun y _ => ?_
    generalize kl.getD i [] = a
    generalize kl.getD j [] = b
    unfold amp
    by_cases h1 : occ d (digits d (n + 1) (r * d ^ n + y)) = a <;>
      by_cases h2 : occ d (digits d (n + 1) (s * d ^ n + y)) = b <;> simp [h1, h2]
    exact mul_comm _ _
  unfold explicitAB embed
  rw [← hkl]
  simp only [map_sum, map_mul, Complex.conj_ofReal, Finset.sum_mul_sum]
  rw [sum_comm]
  refine sum_congr rfl fun i hi => ?_
  rw [sum_comm]
  refine sum_congr rfl fun j hj => ?_
  rw [← hov i hi j hj]
  push_cast
  rw [mul_sum]
  refine sum_congr rfl fun y _ => ?_
  ring

theorem coef_eq_coefN (n r s : ℕ) (a b : List ℕ) : coef n r s a b = coefN (n + 1) r s a b := by
  unfold coef coefN
  by_cases h : Cond r s a b
  · have h' : 0 < a.getD r 0 ∧ 0 < b.getD s 0 ∧ a.set r (a.getD r 0 - 1) = b.set s (b.getD s 0 - 1) := h
    rw [if_pos h, if_pos h', Nat.cast_add, Nat.cast_one]
  · have h' : ¬ (0 < a.getD r 0 ∧ 0 < b.getD s 0 ∧ a.set r (a.getD r 0 - 1) = b.set s (b.getD s 0 - 1)) := h
    rw [if_neg h, if_neg h']

/-- **The fast reduction equals embedding with the Dicke basis and tracing out the copies explicitly** — the target statement,
for every `(copies, dimension)`, every vector of `A ⊗ Sym^{n+1}(B)` and every entry of the reduced matrix. -/
theorem dicke_reduction_eq : DickeReduction.Statement := by
  intro d n hd ψ α β r s hr hs
  have hd1 : 1 ≤ d := by omega
  rw [dicke_reduction_partial d n hd1 ψ α β r s hr hs]
  unfold Dicke.assembleAB tableC
  simp only [div_of_lt hr, mod_of_lt hr, div_of_lt hs, mod_of_lt hs]
  rw [foldr_eq_sum_map, List.map_map]
  have hfun : ((fun e : ℕ × ℕ × ℂ => ψ α e.1 * e.2.2 * (starRingEnd ℂ) (ψ β e.2.1)) ∘
      fun e : ℕ × ℕ × ℚ => (e.1, e.2.1, ((√((e.2.2 : ℚ) : ℝ) : ℝ) : ℂ)))
      = fun e : ℕ × ℕ × ℚ => (fun i j => ψ α i * (starRingEnd ℂ) (ψ β j)) e.1 e.2.1 * wRoot e.2.2 := by
    funext e; simp only [Function.comp, wRoot]; ring
  rw [hfun, bijTable_sum (n + 1) d r s hd1 hr hs fun i j => ψ α i * (starRingEnd ℂ) (ψ β j)]
  exact sum_congr rfl fun i _ => sum_congr rfl fun j _ => by rw [coef_eq_coefN]

/-! ## Part 4: the users of the reduction (`entangle/pureb.py`, `maximum_entropy/_internal.py`) -/

/-- the embedded vector on the flat index of the register `[A, B, B^{⊗n}]` -/
noncomputable def embedFlat (d n : ℕ) (ψ : ℕ → ℕ → ℂ) (x : ℕ) : ℂ := embed d (n + 1) ψ (x / d ^ (n + 1)) (x % d ^ (n + 1))

/-- **the explicit reduction of Part 3 is the model's `partialTrace`** of `|Ψ⟩⟨Ψ|` over the register `[dimA, d, d^n]` with the
last block traced out -/
theorem explicitAB_eq_partialTrace (dimA d n : ℕ) (ψ : ℕ → ℕ → ℂ) (α r β s : ℕ) (hr : r < d) (hs : s < d) :
    explicitAB d n ψ α r β s
      = partialTrace [dimA, d, d ^ n] [true, true, false]
          (fun x y => embedFlat d n ψ x * (starRingEnd ℂ) (embedFlat d n ψ y)) (α * d + r) (β * d + s) := by
  simp only [explicitAB, partialTrace, sumRange_eq_sum, ptIndex, prodSel, prodDims, Bool.false_eq_true, Bool.true_eq_false, if_false, if_true,
    one_mul, mul_one, Nat.div_one, Nat.mod_one, Nat.add_zero, div_of_lt hr, mod_of_lt hr, div_of_lt hs, mod_of_lt hs]
  refine sum_congr rfl fun y hy => ?_
  have hy' := mem_range.1 hy
  have hpow : d ^ (n + 1) = d * d ^ n := by rw [pow_succ, Nat.mul_comm]
  have h1 : r * d ^ n + y < d ^ (n + 1) := by rw [hpow]; exact mul_add_lt hr hy'
  have h2 : s * d ^ n + y < d ^ (n + 1) := by rw [hpow]; exact mul_add_lt hs hy'
  have e1 : α * (d * d ^ n) + (r * d ^ n + y) = α * d ^ (n + 1) + (r * d ^ n + y) := by rw [hpow]
  have e2 : β * (d * d ^ n) + (s * d ^ n + y) = β * d ^ (n + 1) + (s * d ^ n + y) := by rw [hpow]
  simp only [embedFlat, Nat.add_assoc, e1, e2, div_of_lt h1, mod_of_lt h1, div_of_lt h2, mod_of_lt h2]

/-- **`PureBosonicExt.forward`**: the density matrix it hands to the loss — parameter vector reshaped to `(dimA, L)` and reduced
with the index table — is the `partialTrace` of the explicitly embedded state, for every parameter vector `v`. -/
theorem pureb_forward_eq (dimA d n : ℕ) (hd : 2 ≤ d) (v : ℕ → ℂ) (α β r s : ℕ) (hr : r < d) (hs : s < d) :
    @Dicke.purebReduce ℂ _ _ _ ⟨starRingEnd ℂ⟩ d (klist d (n + 1)).length (tableC (n + 1) d) v (α * d + r) (β * d + s)
      = partialTrace [dimA, d, d ^ n] [true, true, false]
          (fun x y => embedFlat d n (purebCoeff (klist d (n + 1)).length v) x
            * (starRingEnd ℂ) (embedFlat d n (purebCoeff (klist d (n + 1)).length v) y)) (α * d + r) (β * d + s) := by
  rw [← explicitAB_eq_partialTrace dimA d n _ α r β s hr hs]
  exact dicke_reduction_eq d n hd (purebCoeff (klist d (n + 1)).length v) α β r s hr hs

/-- **`sdp_2local_rdm_solve`**: the two nested `partial_trace` calls give the reduced state of the block `(ind0, ind0+1)`:
one `partialTrace` over the register `[L, 4, R]` (`L = 2^ind0`, `R = 2^(n-2-ind0)`) keeping the middle block. -/
theorem rdm2local_eq {M : Type} [AddCommMonoid M] (L R : ℕ) (hL : L ≠ 1) (hR : R ≠ 1) (X : ℕ → ℕ → M) (a b : ℕ) :
    rdmTwoStep L R X a b = partialTrace [L, 4, R] [false, true, false] X a b := rdmTwoStep_eq L R hL hR X a b

/-- boundary blocks of the chain (`ind0 = 0`, `ind0 = n-2`) -/
theorem rdm2local_boundary {M : Type} [AddCommMonoid M] (B : ℕ) (hB : B ≠ 1) (X : ℕ → ℕ → M) (a b : ℕ) :
    rdmTwoStep 1 B X a b = partialTrace [4, B] [true, false] X a b ∧
    rdmTwoStep B 1 X a b = partialTrace [B, 4] [false, true] X a b :=
  ⟨rdmTwoStep_left B hB X a b, rdmTwoStep_right B hB X a b⟩

/-- splitting an axis into two axes with the same mask bit does not change the partial trace (so `[L,4,R]` may be read as the
qubit register `[2,…,2]` one factor at a time) -/
theorem partialTrace_regroup {M : Type} [AddCommMonoid M] (d1 d2 : ℕ) (ds : List ℕ) (k : Bool) (ks : List Bool)
    (ρ : ℕ → ℕ → M) (a b : ℕ) :
    partialTrace (d1 :: d2 :: ds) (k :: k :: ks) ρ a b = partialTrace (d1 * d2 :: ds) (k :: ks) ρ a b :=
  partialTrace_split d1 d2 ds k ks ρ a b

section users
variable {R : Type} [CommRing R] [StarRing R]

/-- **expectation of an operator embedded on the kept axes = expectation in the partial trace** (the identity behind both
`get_ABk_gellmann_preimage_op` kinds and the 2-local constraints) -/
theorem embedded_expectation (dims : List ℕ) (keep : List Bool) (hlen : dims.length = keep.length) (G : ℕ → ℕ → R) (ψ : ℕ → R) :
    ∑ x ∈ range (prodDims dims), ∑ y ∈ range (prodDims dims), star (ψ x) * embedKeep dims keep G x y * ψ y
      = ∑ u ∈ range (prodSel true dims keep), ∑ v ∈ range (prodSel true dims keep),
          G u v * partialTrace dims keep (fun y x => ψ y * star (ψ x)) v u :=
  embedKeep_expectation dims keep hlen G ψ

/-- **`get_ABk_gellmann_preimage_op(kind='symmetric')`** (numerator; the code divides by `kext`): `k·⟨ψ|preimage(G)|ψ⟩ = Σ_c Tr(G · Tr_{all copies but A,B_c} |ψ⟩⟨ψ|)`,
every term an explicit `partialTrace` of the model over the register `[A, B_1, …, B_k]` with keep set `{A, B_c}` -/
theorem preimage_symmetric_expectation (dimA dimB k : ℕ) (G : ℕ → ℕ → R) (ψ : ℕ → R) :
    ∑ x ∈ range (prodDims (dimA :: List.replicate k dimB)), ∑ y ∈ range (prodDims (dimA :: List.replicate k dimB)),
        star (ψ x) * preimageSymSum dimA dimB k G x y * ψ y
      = ∑ c ∈ range k, ∑ u ∈ range (prodSel true (dimA :: List.replicate k dimB) (maskAB k (c + 1))),
          ∑ v ∈ range (prodSel true (dimA :: List.replicate k dimB) (maskAB k (c + 1))),
          G u v * partialTrace (dimA :: List.replicate k dimB) (maskAB k (c + 1)) (fun y x => ψ y * star (ψ x)) v u := by
  have hlen : ∀ c, (dimA :: List.replicate k dimB).length = (maskAB k c).length := fun c => by simp [maskAB_length]
  simp only [preimageSymSum, sumRange_eq_sum, mul_sum, sum_mul]
  rw [sum_comm]
  conv_lhs => enter [2, y]; rw [sum_comm]
  rw [sum_comm]
  refine sum_congr rfl fun c _ => ?_
  rw [← embedKeep_expectation (dimA :: List.replicate k dimB) (maskAB k (c + 1)) (hlen _) G ψ]
  rw [sum_comm]

/-- **`get_ABk_gellmann_preimage_op(kind='boson')`**: `⟨ψ|preimage(G)|ψ⟩ = Tr(G·ρ_AB)` with `ρ_AB` the fast reduction written with
the same tensor (`assembleTensor`), for every tensor with the overlap symmetry `B[r,s,i,j] = B[s,r,j,i]` on the index ranges
(discharged for the executed table, all sizes, by `tensor_overlap_symmetric`; composed in `preimage_boson_end_to_end`). -/
theorem preimage_boson_expectation (dimA dimB L : ℕ) (G : ℕ → ℕ → R) (B : ℕ → ℕ → ℕ → ℕ → R)
    (hsym : ∀ r s i j, r < dimB → s < dimB → i < L → j < L → B r s i j = B s r j i) (ψ : ℕ → ℕ → R) :
    ∑ x ∈ range (dimA * L), ∑ y ∈ range (dimA * L),
        star (ψ (x / L) (x % L)) * preimageBoson dimB L G B x y * ψ (y / L) (y % L)
      = ∑ u ∈ range (dimA * dimB), ∑ v ∈ range (dimA * dimB), G u v * assembleTensor dimB L B ψ v u := by
  simp only [sum_range_mul]
  refine sum_congr rfl fun a _ => ?_
  -- left: a, p, a', q ; right: a, r, a', s
  have hL : ∀ p ∈ range L, ∀ a' ∈ range dimA, ∀ q ∈ range L,
      star (ψ ((a * L + p) / L) ((a * L + p) % L)) * preimageBoson dimB L G B (a * L + p) (a' * L + q)
          * ψ ((a' * L + q) / L) ((a' * L + q) % L)
        = ∑ r ∈ range dimB, ∑ s ∈ range dimB,
            G (a * dimB + r) (a' * dimB + s) * (ψ a' q * B s r q p * star (ψ a p)) := by
    intro p hp a' _ q hq
    have hp' := mem_range.1 hp; have hq' := mem_range.1 hq
    simp only [preimageBoson, sumRange_eq_sum, div_of_lt hp', mod_of_lt hp', div_of_lt hq', mod_of_lt hq', mul_sum, sum_mul]
    refine sum_congr rfl fun r hr => sum_congr rfl fun s hs => ?_
    rw [hsym s r q p (mem_range.1 hs) (mem_range.1 hr) hq' hp']; ring
  have hR : ∀ r ∈ range dimB, ∀ a' ∈ range dimA, ∀ s ∈ range dimB,
      G (a * dimB + r) (a' * dimB + s) * assembleTensor dimB L B ψ (a' * dimB + s) (a * dimB + r)
        = ∑ i ∈ range L, ∑ j ∈ range L, G (a * dimB + r) (a' * dimB + s) * (ψ a' i * B s r i j * star (ψ a j)) := by
    intro r hr a' _ s hs
    have hr' := mem_range.1 hr; have hs' := mem_range.1 hs
    simp only [assembleTensor, sumRange_eq_sum, div_of_lt hr', mod_of_lt hr', div_of_lt hs', mod_of_lt hs', mul_sum,
      conj_eq_star]
  rw [sum_congr rfl fun p hp => sum_congr rfl fun a' ha' => sum_congr rfl fun q hq => hL p hp a' ha' q hq,
      sum_congr rfl fun r hr => sum_congr rfl fun a' ha' => sum_congr rfl fun s hs => hR r hr a' ha' s hs]
  -- now both sides are six-fold sums of the same term; reorder the right one: r a' s i j  →  j a' i r s
  symm
  refine (sum_congr rfl fun r _ => sum_congr rfl fun a' _ => sum_congr rfl fun s _ => sum_comm).trans ?_
  refine (sum_congr rfl fun r _ => sum_congr rfl fun a' _ => sum_comm).trans ?_
  refine (sum_congr rfl fun r _ => sum_comm).trans ?_
  refine sum_comm.trans ?_
  -- j r a' s i
  refine sum_congr rfl fun j _ => ?_
  refine sum_comm.trans ?_
  -- a' r s i
  refine sum_congr rfl fun a' _ => ?_
  refine (sum_congr rfl fun r _ => sum_comm).trans ?_
  exact sum_comm

end users

private theorem tableC_eq_tableCq (N d q : ℕ) : tableC N d q = tableCq N d (q / d) (q % d) := rfl

/-- **list form = tensor form** of the fast reduction, for the real index table: `partial_trace_ABk_to_AB(ψ, Bij)` equals the
contraction of `ψ ⊗ conj ψ` with `get_partial_trace_ABk_to_AB_index(…, return_tensor=True)` (what `get_ABk_gellmann_preimage_op`
uses), for every `(n, d)`. -/
theorem reduction_list_eq_tensor (N d : ℕ) (ψ : ℕ → ℕ → ℂ) (x y : ℕ) :
    @Dicke.assembleAB ℂ _ _ _ ⟨starRingEnd ℂ⟩ d (tableC N d) ψ x y
      = @Dicke.assembleTensor ℂ _ _ _ ⟨starRingEnd ℂ⟩ d (klist d N).length
          (@Dicke.tensorOfTable ℂ _ d (tableC N d)) ψ x y :=
  @assembleAB_eq_assembleTensor ℂ _ _ d (klist d N).length (tableC N d) ψ
    (fun q => (tableCq_wf N d (q / d) (q % d)).1) (fun q => (tableCq_wf N d (q / d) (q % d)).2) x y

/-- **the Dicke vectors span the permutation-invariant vectors** (the spanning half of "basis of the symmetric subspace"): a vector
of `(ℂ^d)^{⊗n}` (here real amplitudes on the flat index range) that is invariant under every permutation of the `n` qudits is
constant on occupation classes, hence a linear combination of the `C(n+d−1, d−1)` Dicke vectors of `get_dicke_klist`. -/
theorem dicke_span (d n : ℕ) (hd : 1 ≤ d) (v : ℕ → ℝ)
    (hsym : ∀ x y, x < d ^ n → y < d ^ n → (digits d n x).Perm (digits d n y) → v x = v y) :
    ∃ c : List ℕ → ℝ, ∀ x, x < d ^ n → v x = ((klist d n).map fun a => c a * amp d n a x).sum := by
  classical
  let w : List ℕ → ℝ := fun a => if h : ∃ x, x < d ^ n ∧ occ d (digits d n x) = a then v (Classical.choose h) else 0
  refine ⟨fun a => w a * √(multinomial a : ℝ), fun x hx => ?_⟩
  set a0 := occ d (digits d n x) with ha0
  have hmem : a0 ∈ klist d n := occ_digits_mem_klist d n x hd hx
  have hterm : ∀ a, w a * √(multinomial a : ℝ) * amp d n a x = if a0 = a then w a else 0 := by
    intro a
    unfold amp
    by_cases h : a0 = a
    · have hM : (0 : ℝ) < multinomial a := by exact_mod_cast multinomial_pos a
      have hs : √(multinomial a : ℝ) ≠ 0 := Real.sqrt_ne_zero'.2 hM
      rw [if_pos h, if_pos h]
      field_simp
    · rw [if_neg h, if_neg h, mul_zero]
  simp only [hterm]
  rw [sum_map_single (klist d n) (C17.klist_nodup d n hd) a0 hmem w]
  have hex : ∃ y, y < d ^ n ∧ occ d (digits d n y) = a0 := ⟨x, hx, rfl⟩
  show v x = w a0
  simp only [w, dif_pos hex]
  obtain ⟨hy1, hy2⟩ := Classical.choose_spec hex
  exact symmetric_const_on_occ d n v hsym x _ hx hy1 hy2.symm

/-- **overlap symmetry of the executed tensor, every `(N, d)`**: `B[r,s,i,j] = B[s,r,j,i]` for `return_tensor=True`
(each entry is the closed-form coefficient `√(a_r b_s)/N·[a−e_r = b−e_s]`, `Dicke.valOf_tableCq`) — the hypothesis of
`preimage_boson_expectation`. -/
theorem tensor_overlap_symmetric (N d : ℕ) (hd : 1 ≤ d) (r s i j : ℕ) (hr : r < d) (hs : s < d)
    (hi : i < (klist d N).length) (hj : j < (klist d N).length) :
    @Dicke.tensorOfTable ℂ _ d (tableC N d) r s i j = @Dicke.tensorOfTable ℂ _ d (tableC N d) s r j i := by
  show valOf (tableC N d (r * d + s)) i j = valOf (tableC N d (s * d + r)) j i
  rw [tableC_eq_tableCq, tableC_eq_tableCq, div_of_lt hs, mod_of_lt hs, div_of_lt hr, mod_of_lt hr]
  exact tensor_symm N d r s i j hd hr hs hi hj

/-- **`get_ABk_gellmann_preimage_op(kind='boson')`, end to end**: for the executed tensor, every `d ≥ 2`, number of copies `n+1`,
observable `G` and coefficient matrix `ψ`:
`⟨ψ| preimage(G) |ψ⟩ = Σ_{u,v} G_{uv}·(Tr_{B^n} |Ψ⟩⟨Ψ|)_{vu}` with the model's `partialTrace` of the explicitly embedded state. -/
theorem preimage_boson_end_to_end (dimA d n : ℕ) (hd : 2 ≤ d) (G : ℕ → ℕ → ℂ) (ψ : ℕ → ℕ → ℂ) :
    let L := (klist d (n + 1)).length
    ∑ x ∈ range (dimA * L), ∑ y ∈ range (dimA * L),
        star (ψ (x / L) (x % L)) * @Dicke.preimageBoson ℂ _ _ _ d L G (@Dicke.tensorOfTable ℂ _ d (tableC (n + 1) d)) x y
          * ψ (y / L) (y % L)
      = ∑ u ∈ range (dimA * d), ∑ v ∈ range (dimA * d), G u v *
          partialTrace [dimA, d, d ^ n] [true, true, false]
            (fun x y => embedFlat d n ψ x * (starRingEnd ℂ) (embedFlat d n ψ y)) v u := by
  intro L
  have hd1 : 1 ≤ d := by omega
  have hpos : 0 < d := by omega
  rw [preimage_boson_expectation dimA d L G _
    (fun r s i j hr hs hi hj => tensor_overlap_symmetric (n + 1) d hd1 r s i j hr hs hi hj) ψ]
  refine sum_congr rfl fun u _ => sum_congr rfl fun v _ => ?_
  congr 1
  have hv : v % d < d := Nat.mod_lt _ hpos
  have hu : u % d < d := Nat.mod_lt _ hpos
  have e1 : assembleTensor d L (@Dicke.tensorOfTable ℂ _ d (tableC (n + 1) d)) ψ v u
      = @Dicke.assembleAB ℂ _ _ _ ⟨starRingEnd ℂ⟩ d (tableC (n + 1) d) ψ v u :=
    (reduction_list_eq_tensor (n + 1) d ψ v u).symm
  rw [e1]
  have e2 := dicke_reduction_eq d n hd ψ (v / d) (u / d) (v % d) (u % d) hv hu
  rw [Nat.div_add_mod' v d, Nat.div_add_mod' u d] at e2
  rw [e2, explicitAB_eq_partialTrace dimA d n ψ (v / d) (v % d) (u / d) (u % d) hv hu,
    Nat.div_add_mod' v d, Nat.div_add_mod' u d]

/-- Boolean check of the overlap symmetry `B[r,s,i,j] = B[s,r,j,i]` (on `value²`) -/
def tensorSymmetric (n d : ℕ) : Bool :=
  let L := (klist d n).length
  let T := @Dicke.tensorOfTable ℚ _ d (fun q => bijTable n d (q / d) (q % d))
  (List.range d).all fun r => (List.range d).all fun s => (List.range L).all fun i => (List.range L).all fun j =>
    decide (T r s i j = T s r j i)

/-- the symmetry hypothesis of `preimage_boson_expectation` holds for the executed table (kernel evaluation, small sizes; the
tensor itself is compared with the implementation exactly on every run) -/
theorem tensor_symmetric_small :
    tensorSymmetric 1 2 = true ∧ tensorSymmetric 2 2 = true ∧ tensorSymmetric 3 2 = true ∧ tensorSymmetric 4 2 = true ∧
    tensorSymmetric 2 3 = true ∧ tensorSymmetric 3 3 = true ∧ tensorSymmetric 2 4 = true := by
  decide +kernel

/-- rational square of `coef` for total copy number `n` -/
def coefSq (n r s : ℕ) (a b : List ℕ) : ℚ :=
  if 0 < a.getD r 0 ∧ 0 < b.getD s 0 ∧ a.set r (a.getD r 0 - 1) = b.set s (b.getD s 0 - 1)
  then ((a.getD r 0 * b.getD s 0 : ℕ) : ℚ) / ((n * n : ℕ) : ℚ) else 0

theorem coef_sq (n r s : ℕ) (a b : List ℕ) : (coef n r s a b) ^ 2 = ((coefSq (n + 1) r s a b : ℚ) : ℝ) := by
  unfold coef coefSq
  split
  · rw [div_pow, Real.sq_sqrt (by positivity)]; push_cast; ring
  · simp

/-- Boolean check: for every `(r,s)` and every pair `(i,j)` of Dicke indices the table of `(n,d)` holds at most one triple
`(i,j,·)`, all its indices are in range, and its `value²` (0 if there is no triple) is `coefSq` — i.e. the table lists exactly
the support of `coef`, with the right values. -/
def tableMatches (n d : ℕ) : Bool :=
  let kl := klist d n
  (List.range (d * d)).all fun q =>
    let t := bijTable n d (q / d) (q % d)
    t.all (fun e => decide (e.1 < kl.length ∧ e.2.1 < kl.length)) &&
    (List.range kl.length).all fun i => (List.range kl.length).all fun j =>
      let hits := t.filter fun e => decide (e.1 = i ∧ e.2.1 = j)
      decide (hits.length ≤ 1) && decide ((hits.map (·.2.2)).sum = coefSq n (q / d) (q % d) (kl.getD i []) (kl.getD j []))

/-- independent finite cross-check by kernel evaluation: for `(n, d)` with `n ≤ 4, d ≤ 3` and `n ≤ 3, d = 4` the executed table
holds, for every `(r,s)` and `(i,j)`, at most one triple, indices in range, and `value² = coefSq` (all sizes: `dicke_reduction_eq`) -/
theorem bijTable_lists_coef_support :
    tableMatches 1 2 = true ∧ tableMatches 2 2 = true ∧ tableMatches 3 2 = true ∧ tableMatches 4 2 = true ∧
    tableMatches 1 3 = true ∧ tableMatches 2 3 = true ∧ tableMatches 3 3 = true ∧ tableMatches 4 3 = true ∧
    tableMatches 1 4 = true ∧ tableMatches 2 4 = true ∧ tableMatches 3 4 = true := by
  -- the triples of row `i` are picked out once for all `j`: the kernel then filters a row, not the whole table, per `(i, j)`
  simp only [tableMatches, filter_fst_and_snd]
  decide +kernel

/-! ### `PureBosonicExt`: the stored table and the expectation branch -/

/-- the table `PureBosonicExt.__init__` stores is the model's table: substituting the table's own values position by position gives
the table back (the exact tie substitutes *integer* values into the index lists of `bijTable`, which the object must therefore share) -/
theorem tableWith_self {β : Type} (tab : List (ℕ × ℕ × β)) : tableWith tab (tab.map (·.2.2)) = tab := by
  unfold tableWith
  induction tab with
  | nil => rfl
  | cons e t ih => simp only [List.map_cons, List.zip_cons_cons, ih]

/-- … and the substitution never changes an index pair -/
theorem tableWith_indices {α β : Type} (tab : List (ℕ × ℕ × β)) (w : List α) (h : w.length = tab.length) :
    (tableWith tab w).map (fun e => (e.1, e.2.1)) = tab.map (fun e => (e.1, e.2.1)) := by
  unfold tableWith
  induction tab generalizing w with
  | nil => simp
  | cons e t ih =>
    cases w with
    | nil => simp at h
    | cons x w => simp only [List.zip_cons_cons, List.map_cons, ih w (by simpa using h)]

/-- **the expectation branch of `PureBosonicExt.forward`**: `dot(dm.view(-1), op.T.reshape(-1))` is `tr(op·ρ_AB)` -/
theorem expectLoss_eq_trace {R : Type} [CommRing R] (N : ℕ) (op ρ : ℕ → ℕ → R) :
    expectLoss N op ρ = ∑ y ∈ Finset.range N, ∑ x ∈ Finset.range N, op y x * ρ x y := by
  simp only [expectLoss, sumRange_eq_sum]
  rw [Finset.sum_comm]
  exact Finset.sum_congr rfl fun y _ => Finset.sum_congr rfl fun x _ => mul_comm _ _

/-- non-vacuity of the Dicke hypotheses: `(2,0,1)` is an occupation vector of `(n,d) = (3,3)` with `M = 3` -/
example : [2, 0, 1] ∈ klist 3 3 ∧ multinomial [2, 0, 1] = 3 ∧ (klist 3 3).length = 10 ∧ cnt 3 3 [2, 0, 1] = 3 := by
  decide +kernel

end Numqi.C17
