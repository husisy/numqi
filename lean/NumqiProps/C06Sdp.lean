/-
C06 — the index layer of the two SDP routines of the hierarchy (`entangle/symext.py`: `is_ABk_symmetric_ext`,
`get_ABk_symmetric_extension_boundary`, `_ABk_symmetric_extension_setup`, `get_cvxpy_transpose0213_indexing`).

Theorems about the shared model constants of `NumqiModel/SymExt.lean` (`idx0213`, `sxRealign`, `extRaySigma`, `irrepGather`,
`irrepBlockRdm`), which `Driver/C06.lean` executes through `Driver/SymExtOps.lean` (ops `idx0213`, `sxrealign`, `extray`, `irreprdm`).
-/
import NumqiProps.C06
import NumqiModel.SymExt
import NumqiProofs.EntangleIndex
import NumqiProps.C05SymExt

namespace Numqi.C06
open Numqi Numqi.Boundary Matrix Finset Numqi.Dicke
open scoped ComplexOrder MatrixOrder

/-! ## realignment, the affine expression of the boundary SDP, the gather of the irrep blocks -/

section sdpindex

/-- **the affine expression handed to the boundary SDP is the (realigned) ray point**: `get_ABk_symmetric_extension_boundary` constrains the
reduced state to `eye_realigned/(dA dB) + β·R` with `R` the realigned direction (op `extray` executes `extRaySigma`); this is the
realignment of `1/N + β·H`, the point `rayPoint` of the threshold theorems of `NumqiProps/C06.lean` -/
theorem extRaySigma_realign {R : Type} [Semiring R] (dA dB : ℕ) (invN β : R) (H : ℕ → ℕ → R) :
    Ent.extRaySigma dA dB invN β (Ent.sxRealign dA dB H)
      = Ent.sxRealign dA dB (fun r c => (if r = c then (1 : R) else 0) * invN + β * H r c) := rfl

/-- the realignment of both SDP routines (`rho.reshape(dA,dB,dA,dB).transpose(0,2,1,3).reshape(dA²,dB²)`, op `sxrealign`) puts entry
`ρ[(a,b),(a',b')]` at row `(a,a')`, column `(b,b')` -/
theorem sxRealign_entry {α : Type} (dA dB : ℕ) (ρ : ℕ → ℕ → α) (a a' b b' : ℕ) (ha : a < dA) (ha' : a' < dA) (hb : b < dB) (hb' : b' < dB) :
    Ent.sxRealign dA dB ρ (a * dA + a') (b * dB + b') = ρ (a * dB + b) (a' * dB + b') := by
  simpa only [Ent.flat, Ent.prodL, Nat.mul_one, Nat.add_zero] using C05.sxRealign_entry dA dB ρ ha hb ha' hb'

/-- the gather of `_ABk_symmetric_extension_setup` (F-order reshape ∘ `get_cvxpy_transpose0213_indexing(dA,x)` ∘ F-order reshape, ops
`idx0213`, `irreprdm`) puts entry `P[(a,i),(a',j)]` of an irrep block at row `(a,a')`, column `(i,j)`: `cvx_rdm` contracts the irrep
indices `(i,j)` with the coefficient tensor and leaves the `A` indices in the realigned position of `sxRealign_entry` -/
theorem irrepGather_entry {α : Type} (dA x : ℕ) (P : ℕ → ℕ → α) (a a' i j : ℕ) (ha : a < dA) (ha' : a' < dA) (hi : i < x) (hj : j < x) :
    Ent.irrepGather dA x P (a * dA + a') (i * x + j) = P (a * x + i) (a' * x + j) := by
  simpa only [Ent.flat, Ent.prodL, Nat.mul_one, Nat.add_zero] using C05.irrepGather_entry dA x P ha ha' hi hj

end sdpindex

/-! ## the bosonic block: feasible points are extendible -/

section boson
variable {dA dB : ℕ}

/-- `Σ_{t<a·P} F (t/P) (t%P) = Σ_{i<a} Σ_{j<P} F i j` -/
theorem sum_range_divmod {M : Type} [AddCommMonoid M] (a P : ℕ) (F : ℕ → ℕ → M) :
    ∑ r ∈ Finset.range (a * P), F (r / P) (r % P) = ∑ i ∈ Finset.range a, ∑ j ∈ Finset.range P, F i j :=
  Ent.sum_range_mul_divmod a P F

theorem isSymExt_zero (k : ℕ) : IsSymExt (dA := dA) (dB := dB) k 0 0 :=
  ⟨Matrix.PosSemidef.zero, fun _ _ _ => rfl, fun _ _ => by simp⟩

theorem isSymExt_add (k : ℕ) {ρ₁ ρ₂ : Matrix (Fin dA × Fin dB) (Fin dA × Fin dB) ℂ} {σ₁ σ₂}
    (h₁ : IsSymExt k ρ₁ σ₁) (h₂ : IsSymExt k ρ₂ σ₂) : IsSymExt k (ρ₁ + ρ₂) (σ₁ + σ₂) := by
  refine ⟨h₁.1.add h₂.1, fun π p q => ?_, fun p q => ?_⟩
  · simp only [Matrix.add_apply, h₁.2.1 π p q, h₂.2.1 π p q]
  · simp only [Matrix.add_apply, h₁.2.2 p q, h₂.2.2 p q, Finset.sum_add_distrib]

theorem kext_sum (k : ℕ) {M : ℕ} (ρ : Fin M → Matrix (Fin dA × Fin dB) (Fin dA × Fin dB) ℂ) (h : ∀ m, ρ m ∈ KEXT dA dB k) :
    (∑ m, ρ m) ∈ KEXT dA dB k := by
  induction M with
  | zero => exact ⟨0, by simpa using isSymExt_zero k⟩
  | succ M ih =>
    rw [Fin.sum_univ_castSucc]
    obtain ⟨σ₁, h₁⟩ := ih (fun m => ρ m.castSucc) (fun m => h _)
    obtain ⟨σ₂, h₂⟩ := h (Fin.last M)
    exact ⟨_, isSymExt_add k h₁ h₂⟩

/-- the coefficient tensor of the bosonic block as `_ABk_symmetric_extension_setup` reads it (`coeffB.reshape(L², d²)` of
`coeffB = get_partial_trace_ABk_to_AB_index(N, d, return_tensor=True).transpose(2,3,0,1)`, C17's `tensorOfTable` of the index table;
a Lean-side constant, not executed by the driver: its link to the implementation is the tie `bij` — for `d = 2` it is entry by entry the
tensor `group/symext.py:222` hands to the SDP; for `d = 3` (`kext = 2, 3`; thorough also `kext = 4` and `d = 4`) the library's tensor is this
one in the numerically derived irrep basis, `c' = (V ⊗ V̄)·c` with `V` unitary, checked by transforming back; other `(d, kext)` are not tied) -/
noncomputable def bosonCoeff (d N : ℕ) : ℕ → ℂ := fun u =>
  @Dicke.tensorOfTable ℂ _ d (C17.tableC N d) ((u % (d * d)) / d) ((u % (d * d)) % d)
    ((u / (d * d)) / (klist d N).length) ((u / (d * d)) % (klist d N).length)

/-- the block's contribution to `cvx_rdm` (model `irrepBlockRdm`, op `irreprdm`) at a Gram-form block `P = Σ_m ψ_m ψ_mᴴ` is, entry by
entry in the realigned position, the sum of the Dicke reductions `partial_trace_ABk_to_AB(ψ_m)` -/
theorem irrepBlockRdm_boson_entry (N : ℕ) (M : ℕ) (ψ : Fin M → ℕ → ℕ → ℂ) (a a' b b' : ℕ)
    (ha : a < dA) (ha' : a' < dA) (hb : b < dB) (hb' : b' < dB) :
    Ent.irrepBlockRdm dA (klist dB N).length dB
        (fun r c => ∑ m, ψ m (r / (klist dB N).length) (r % (klist dB N).length)
          * star (ψ m (c / (klist dB N).length) (c % (klist dB N).length)))
        (bosonCoeff dB N) (a * dA + a') (b * dB + b')
      = ∑ m, @Dicke.assembleAB ℂ _ _ _ ⟨starRingEnd ℂ⟩ dB (C17.tableC N dB) (ψ m) (a * dB + b) (a' * dB + b') := by
  set L := (klist dB N).length with hL
  simp only [C17.reduction_list_eq_tensor, ← hL]
  unfold Ent.irrepBlockRdm
  rw [Ent.sumRange_eq_sum]
  have hstep : ∀ t ∈ range (L * L),
      Ent.irrepGather dA L (fun r c => ∑ m, ψ m (r / L) (r % L) * star (ψ m (c / L) (c % L))) (a * dA + a') t
          * bosonCoeff dB N (t * (dB * dB) + (b * dB + b'))
        = (fun i j => ∑ m, ψ m a i * @Dicke.tensorOfTable ℂ _ dB (C17.tableC N dB) b b' i j * star (ψ m a' j)) (t / L) (t % L) := by
    intro t ht
    have hLpos : 0 < L := by
      rcases Nat.eq_zero_or_pos L with h | h
      · rw [h] at ht; simp at ht
      · exact h
    have hi : t / L < L := Nat.div_lt_of_lt_mul (Finset.mem_range.1 ht)
    have hj : t % L < L := Nat.mod_lt _ hLpos
    have ht' : t = (t / L) * L + t % L := by rw [Nat.mul_comm]; exact (Nat.div_add_mod t L).symm
    have hlt : b * dB + b' < dB * dB := mul_add_lt hb hb'
    conv_lhs => rw [ht', irrepGather_entry dA L _ a a' (t / L) (t % L) ha ha' hi hj]
    rw [← ht']
    simp only [bosonCoeff, ← hL, mod_of_lt hlt, div_of_lt hlt, div_of_lt hb', mod_of_lt hb', div_of_lt hi, mod_of_lt hi,
      div_of_lt hj, mod_of_lt hj, Finset.sum_mul]
    refine Finset.sum_congr rfl fun m _ => ?_
    ring
  rw [Finset.sum_congr rfl hstep,
    sum_range_divmod L L (fun i j => ∑ m, ψ m a i * @Dicke.tensorOfTable ℂ _ dB (C17.tableC N dB) b b' i j * star (ψ m a' j))]
  simp only [Dicke.assembleTensor, Numqi.sumRange_eq_sum, div_of_lt hb, mod_of_lt hb, div_of_lt hb', mod_of_lt hb']
  refine (Finset.sum_congr rfl fun i _ => Finset.sum_comm).trans (Finset.sum_comm.trans ?_)
  rfl

/-- hence for a Gram-form block the state fixed by the constraint `cvx_rdm == realign(ρ)` is `n`-extendible -/
theorem sdp_boson_block_in_kext (n : ℕ) (hd : 2 ≤ dB) (M : ℕ) (ψ : Fin M → ℕ → ℕ → ℂ) :
    (Matrix.of fun p q : Fin dA × Fin dB =>
      Ent.irrepBlockRdm dA (klist dB (n + 1)).length dB
        (fun r c => ∑ m, ψ m (r / (klist dB (n + 1)).length) (r % (klist dB (n + 1)).length)
          * star (ψ m (c / (klist dB (n + 1)).length) (c % (klist dB (n + 1)).length)))
        (bosonCoeff dB (n + 1)) (p.1.val * dA + q.1.val) (p.2.val * dB + q.2.val)) ∈ KEXT dA dB n := by
  have e : (Matrix.of fun p q : Fin dA × Fin dB =>
      Ent.irrepBlockRdm dA (klist dB (n + 1)).length dB
        (fun r c => ∑ m, ψ m (r / (klist dB (n + 1)).length) (r % (klist dB (n + 1)).length)
          * star (ψ m (c / (klist dB (n + 1)).length) (c % (klist dB (n + 1)).length)))
        (bosonCoeff dB (n + 1)) (p.1.val * dA + q.1.val) (p.2.val * dB + q.2.val))
      = ∑ m, (fun p q : Fin dA × Fin dB =>
          @Dicke.assembleAB ℂ _ _ _ ⟨starRingEnd ℂ⟩ dB (C17.tableC (n + 1) dB) (ψ m) (p.1.val * dB + p.2.val) (q.1.val * dB + q.2.val)) := by
    ext p q
    rw [Matrix.of_apply, irrepBlockRdm_boson_entry (n + 1) M ψ p.1.val q.1.val p.2.val q.2.val p.1.isLt q.1.isLt p.2.isLt q.2.isLt,
      Finset.sum_apply, Finset.sum_apply]
  rw [e]
  exact kext_sum n _ fun m => ⟨_, assembleAB_isSymExt dA n hd (ψ m)⟩

/-- (with the block size as a variable) -/
theorem sdp_boson_block_psd_aux (n : ℕ) (hd : 2 ≤ dB) (L : ℕ) (hL : L = (klist dB (n + 1)).length)
    (P : Matrix (Fin (dA * L)) (Fin (dA * L)) ℂ) (hP : P.PosSemidef) :
    (Matrix.of fun p q : Fin dA × Fin dB =>
      Ent.irrepBlockRdm dA L dB (fun r c => if h : r < dA * L ∧ c < dA * L then P ⟨r, h.1⟩ ⟨c, h.2⟩ else 0)
        (bosonCoeff dB (n + 1)) (p.1.val * dA + q.1.val) (p.2.val * dB + q.2.val)) ∈ KEXT dA dB n := by
  have h0 : (0 : Matrix (Fin (dA * L)) (Fin (dA * L)) ℂ) ≤ P := Matrix.nonneg_iff_posSemidef.2 hP
  have hS : CFC.sqrt P * CFC.sqrt P = P := CFC.sqrt_mul_sqrt_self P h0
  have hh : (CFC.sqrt P)ᴴ = CFC.sqrt P := (Matrix.nonneg_iff_posSemidef.1 (CFC.sqrt_nonneg P)).1
  let ψ : Fin (dA * L) → ℕ → ℕ → ℂ := fun m a i => if h : a * L + i < dA * L then CFC.sqrt P ⟨_, h⟩ m else 0
  have key := sdp_boson_block_in_kext (dA := dA) n hd (dA * L) ψ
  rw [← hL] at key
  have e : (fun r c : ℕ => ∑ m, ψ m (r / L) (r % L) * star (ψ m (c / L) (c % L)))
      = fun r c => if h : r < dA * L ∧ c < dA * L then P ⟨r, h.1⟩ ⟨c, h.2⟩ else 0 := by
    funext r c
    have hr : r / L * L + r % L = r := by rw [Nat.mul_comm]; exact Nat.div_add_mod r L
    have hc : c / L * L + c % L = c := by rw [Nat.mul_comm]; exact Nat.div_add_mod c L
    by_cases h : r < dA * L ∧ c < dA * L
    · rw [dif_pos h]
      have h1 : r / L * L + r % L < dA * L := by rw [hr]; exact h.1
      have h2 : c / L * L + c % L < dA * L := by rw [hc]; exact h.2
      simp only [ψ, dif_pos h1, dif_pos h2]
      have e1 : (⟨r / L * L + r % L, h1⟩ : Fin (dA * L)) = ⟨r, h.1⟩ := Fin.ext hr
      have e2 : (⟨c / L * L + c % L, h2⟩ : Fin (dA * L)) = ⟨c, h.2⟩ := Fin.ext hc
      rw [e1, e2]
      conv_rhs => rw [← hS, Matrix.mul_apply]
      refine Finset.sum_congr rfl fun m _ => ?_
      have := congrFun (congrFun hh m) ⟨c, h.2⟩
      rw [Matrix.conjTranspose_apply] at this
      rw [this]
    · rw [dif_neg h]
      refine Finset.sum_eq_zero fun m _ => ?_
      simp only [ψ, hr, hc]
      rcases not_and_or.1 h with h | h
      · rw [dif_neg h, zero_mul]
      · rw [dif_neg h, star_zero, mul_zero]
  rw [e] at key
  exact key

/-- **soundness of the bosonic block of the SDP: every feasible point certifies an extension** — for the coefficient tensor `bosonCoeff`
(tied to the implementation for `dimB = 2` entry by entry, for `dimB = 3` up to the unitary change of irrep basis, which maps positive blocks
to positive blocks and leaves `cvx_rdm` unchanged; see `bosonCoeff`).  For a
positive semidefinite block `P` (the constraint `P >> 0`), the state `ρ` determined by `cvx_rdm == realign(ρ)` has a symmetric extension
to `n+1` copies of `B` (`kext = n+1`), for all `dimA`, `dimB ≥ 2`, `n` — so `is_ABk_symmetric_ext(…) = True` and every
`β ≤ get_ABk_symmetric_extension_boundary(…)` are, up to the solver contract, statements about `KEXT n`.  (The converse inclusion
`KEXT n ⊆` feasible set — needed for "infeasible ⇒ not extendible" — uses Schur–Weyl duality and stays a named gap.) -/
theorem sdp_boson_block_psd_in_kext (n : ℕ) (hd : 2 ≤ dB)
    (P : Matrix (Fin (dA * (klist dB (n + 1)).length)) (Fin (dA * (klist dB (n + 1)).length)) ℂ) (hP : P.PosSemidef) :
    (Matrix.of fun p q : Fin dA × Fin dB =>
      Ent.irrepBlockRdm dA (klist dB (n + 1)).length dB
        (fun r c => if h : r < dA * (klist dB (n + 1)).length ∧ c < dA * (klist dB (n + 1)).length then P ⟨r, h.1⟩ ⟨c, h.2⟩ else 0)
        (bosonCoeff dB (n + 1)) (p.1.val * dA + q.1.val) (p.2.val * dB + q.2.val)) ∈ KEXT dA dB n :=
  sdp_boson_block_psd_aux n hd _ rfl P hP

end boson

end Numqi.C06
