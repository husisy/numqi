/-
C19, thorough tier — the ((11,2,5)) code (31 713 errors below the distance, none of them a product of generators:
the 529 errors of weight at most 2 have pairwise different syndromes, `klCheck_of_syndromeCheck`).
-/
import NumqiProps.C19

namespace Numqi.C19
open Numqi Numqi.Qec Numqi.Qec.Generated


theorem code11_2_5_klCheck : klCheck code11_2_5 = true := klCheck_of_syndromeCheck _ (by decide +kernel)
theorem code11_2_5_listed : listedCheck code11_2_5 = true := by decide +kernel
theorem code11_2_5_listedIndep : listedIndepCheck code11_2_5 = true := by decide +kernel
theorem code11_2_5_stabCirc : stabCircImplCheck code11_2_5 = true := by decide +kernel

/-- **((11,2,5))**: orthonormal code words, Knill–Laflamme for every error of weight < 5, the ten listed
stabilizers fix the code words, the ten shipped circuits are those operators. -/
theorem code11_2_5_holds : Holds code11_2_5 :=
  holds_of_checks _ code11_2_5_klCheck code11_2_5_listed code11_2_5_stabCirc

end Numqi.C19
