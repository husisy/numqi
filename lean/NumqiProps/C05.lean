/-
C05 — entanglement criteria never flag a separable state.

Property theorems with their proofs (shared lemmas: `NumqiProofs/EntangleIndex.lean`, `EntangleSep.lean`, `EntangleNuc.lean`).
(i) index layer: the reshapes / axis permutations of `is_ppt`, `is_generalized_ppt`, `check_reduction_witness`,
`check_swap_witness`, `get_negativity` are the mathematical operations, for every dimension list;
(ii) mathematics over ℂ: for a separable state the matrices / numbers the criteria test are positive, for all local
dimensions, every party and any number of terms; (iii) the verdict layer (comparison operators and tolerances regenerated from the source; robust acceptance) is in
`NumqiProofs/DecisionC05.lean`, a separate module so that a changed tolerance does not take the theorems below with it.
-/
import NumqiProofs.EntangleNuc
import Mathlib.Data.Real.Basic
import Mathlib.Algebra.BigOperators.Pi
import Mathlib.Algebra.BigOperators.Ring.Finset

namespace Numqi.C05
open Numqi Numqi.Ent
open scoped ComplexOrder Kronecker
open Matrix

/-! ## (i) index layer -/

/-- **numpy `transpose` reads the permuted multi-index** (generic; all shapes, all axis permutations). -/
theorem npTranspose_entry {α : Type} (shape perm : List Nat) (x : Nat → α) (o : List Nat)
    (ho : InShape o (permShape shape perm)) :
    npTranspose shape perm x (flat (permShape shape perm) o) = x (flat shape (transposeIn perm o)) :=
  npTranspose_flat shape perm x o ho

/-- … where component `perm[m]` of the input multi-index is component `m` of the output multi-index. -/
theorem transposeIn_component (perm o : List Nat) (hnd : perm.Nodup) (m : Nat) (hm : m < perm.length)
    (hp : perm[m] < perm.length) : (transposeIn perm o).getD (perm[m]) 0 = o.getD m 0 :=
  transposeIn_getD perm o hnd m hm hp

/-- **`is_generalized_ppt`, any bipartition `(d0,d1)` of the `2n` axes**: the matrix whose nuclear norm is taken has,
at (row multi-index = components of `(x,y)` on the axes `d0`, column multi-index = components on `d1`), the entry `ρ[x,y]`. -/
theorem gpptMatrix_entry {α : Type} (dim d0 d1 : List Nat) (hperm : (d0 ++ d1).Perm (List.range (dim ++ dim).length))
    (ρ : Nat → Nat → α) {x y : List Nat} (hx : InShape x dim) (hy : InShape y dim) :
    gpptMatrix dim d0 d1 ρ (flat (permShape (dim ++ dim) d0) (d0.map ((x ++ y).getD · 0)))
        (flat (permShape (dim ++ dim) d1) (d1.map ((x ++ y).getD · 0)))
      = ρ (flat dim x) (flat dim y) := by
  have hxy : InShape (x ++ y) (dim ++ dim) := hx.append hy
  have hmem : ∀ p ∈ d0 ++ d1, p < (dim ++ dim).length := fun p hp => List.mem_range.1 (hperm.mem_iff.1 hp)
  have h0 : InShape (d0.map ((x ++ y).getD · 0)) (permShape (dim ++ dim) d0) :=
    inShape_map_getD hxy fun p hp => hmem p (List.mem_append_left _ hp)
  unfold gpptMatrix
  rw [ofFlat_flat_append _ h0, ← permShape_append, ← List.map_append]
  rw [npTranspose_flat _ _ _ _ (inShape_map_getD hxy hmem), transposeIn_map hperm hxy.length_eq]
  exact toFlat_flat_append dim ρ hx hy

/-- **`is_ppt`, block form** (`a = prod dim[:i]`, `d = dim[i]`, `b = prod dim[i+1:]`):
`reshape(a,d,b,a,d,b).transpose(0,4,2,3,1,5)` exchanges the middle digits of row and column. -/
theorem ptBlock_entry {α : Type} (a d b : Nat) (ρ : Nat → Nat → α) {x0 x1 x2 y0 y1 y2 : Nat}
    (hx0 : x0 < a) (hx1 : x1 < d) (hx2 : x2 < b) (hy0 : y0 < a) (hy1 : y1 < d) (hy2 : y2 < b) :
    ptBlock a d b ρ (flat [a, d, b] [x0, y1, x2]) (flat [a, d, b] [y0, x1, y2])
      = ρ (flat [a, d, b] [x0, x1, x2]) (flat [a, d, b] [y0, y1, y2]) := by
  have h := gpptMatrix_entry [a, d, b] [0, 4, 2] [3, 1, 5] (show [0, 4, 2, 3, 1, 5].Perm (List.range 6) by decide) ρ
    (inShape3 hx0 hx1 hx2) (inShape3 hy0 hy1 hy2)
  simp only [gpptMatrix, permShape, List.map, List.cons_append, List.nil_append, List.getD_cons_zero, List.getD_cons_succ] at h
  rw [ptBlock, ← prodL3]
  exact h

/-- **`is_ppt`, party `i` of any dimension list**: the matrix handed to the PSD test is the partial transpose on
party `i`: its entry at (x with y_i in slot i, y with x_i in slot i) is `ρ[x,y]`. -/
theorem pptMatrix_entry {α : Type} (dim : List Nat) (i : Nat) (hi : i < dim.length) (ρ : Nat → Nat → α)
    {x y : List Nat} (hx : InShape x dim) (hy : InShape y dim) :
    pptMatrix dim i ρ (flat dim (x.set i (y.getD i 0))) (flat dim (y.set i (x.getD i 0))) = ρ (flat dim x) (flat dim y) := by
  have hxi := hx.getD_lt i hi
  have hyi := hy.getD_lt i hi
  have hxl : i < x.length := by rw [hx.length_eq]; exact hi
  have hyl : i < y.length := by rw [hy.length_eq]; exact hi
  have hx' := hx.set i _ hyi
  have hy' := hy.set i _ hxi
  rw [flat_blocks hx' i hi, flat_blocks hy' i hi, flat_blocks hx i hi, flat_blocks hy i hi]
  simp only [pptMatrix, blocks]
  have e1 : (x.set i (y.getD i 0)).take i = x.take i := take_set_self _ _ _
  have e2 : (x.set i (y.getD i 0)).drop (i + 1) = x.drop (i + 1) := drop_succ_set_self _ _ _
  have e3 : (x.set i (y.getD i 0)).getD i 0 = y.getD i 0 := by simp [List.getD_eq_getElem?_getD, hxl]
  have f1 : (y.set i (x.getD i 0)).take i = y.take i := take_set_self _ _ _
  have f2 : (y.set i (x.getD i 0)).drop (i + 1) = y.drop (i + 1) := drop_succ_set_self _ _ _
  have f3 : (y.set i (x.getD i 0)).getD i 0 = x.getD i 0 := by simp [List.getD_eq_getElem?_getD, hyl]
  rw [e1, e2, e3, f1, f2, f3]
  exact ptBlock_entry _ _ _ ρ (flat_lt (hx.take i)) hxi (flat_lt (hx.drop (i + 1)))
    (flat_lt (hy.take i)) hyi (flat_lt (hy.drop (i + 1)))

theorem mem_gpptDimList {n : Nat} (hn : 1 ≤ n) {p : List Nat × List Nat} :
    p ∈ gpptDimList n ↔
      p.2 = complement (2 * n) p.1 ∧ p.1.Sublist (List.range (2 * n)) ∧
        (p.1.length < n ∨ (p.1.length = n ∧ p.1.head? = some 0)) := by
  obtain ⟨d0, d1⟩ := p
  simp only [gpptDimList, List.mem_cons, List.mem_append, List.mem_flatMap, List.mem_map, List.mem_filter,
    mem_combos, Prod.mk.injEq]
  constructor
  · rintro (⟨rfl, rfl⟩ | ⟨x, hx, y, ⟨hy, hl⟩, rfl, rfl⟩ | ⟨y, ⟨⟨hy, hl⟩, hh⟩, rfl, rfl⟩)
    · exact ⟨(complement_nil _).symm, List.nil_sublist _, Or.inl (by simp; omega)⟩
    · refine ⟨rfl, hy, Or.inl ?_⟩
      have := List.mem_of_mem_tail hx
      rw [List.mem_range] at this; omega
    · exact ⟨rfl, hy, Or.inr ⟨hl, by simpa using hh⟩⟩
  · rintro ⟨rfl, hs, h⟩
    rcases h with h | ⟨h, hh⟩
    · rcases Nat.eq_zero_or_pos d0.length with h0 | h0
      · left; have : d0 = [] := List.length_eq_zero_iff.1 h0
        subst this; exact ⟨rfl, complement_nil _⟩
      · right; left
        refine ⟨d0.length, ?_, d0, ⟨hs, rfl⟩, rfl, rfl⟩
        have : (List.range n).tail = (List.range n).drop 1 := by simp
        rw [this, List.mem_drop_iff_getElem]
        exact ⟨d0.length - 1, by simp; omega, by simp; omega⟩
    · right; right
      exact ⟨d0, ⟨⟨hs, h⟩, by simpa using hh⟩, rfl, rfl⟩

/-- every entry of `_is_generalized_ppt_dim_list(n)` is a split of the `2n` axes into two complementary groups -/
theorem gpptDimList_perm {n : Nat} (hn : 1 ≤ n) {p : List Nat × List Nat} (hp : p ∈ gpptDimList n) :
    (p.1 ++ p.2).Perm (List.range (2 * n)) := by
  obtain ⟨h1, h2, _⟩ := (mem_gpptDimList hn).1 hp
  rw [h1]; exact append_complement_perm h2


/-- **`get_negativity` / `get_ppt_boundary`**: `reshape(dA,dB,dA,dB).transpose(0,3,2,1)` is the partial transpose on B. -/
theorem ptB_entry {α : Type} (dA dB : Nat) (ρ : Nat → Nat → α) {a b a' b' : Nat}
    (ha : a < dA) (hb : b < dB) (ha' : a' < dA) (hb' : b' < dB) :
    ptB dA dB ρ (flat [dA, dB] [a, b']) (flat [dA, dB] [a', b]) = ρ (flat [dA, dB] [a, b]) (flat [dA, dB] [a', b']) := by
  have h := gpptMatrix_entry [dA, dB] [0, 3] [2, 1] (show [0, 3, 2, 1].Perm (List.range 4) by decide) ρ
    (inShape2 ha hb) (inShape2 ha' hb')
  simp only [gpptMatrix, permShape, List.map, List.cons_append, List.nil_append, List.getD_cons_zero, List.getD_cons_succ] at h
  rw [ptB, ← prodL2]
  exact h

/-- **`check_reduction_witness`**: the tested matrix is `1 ⊗ ρ_i ⊗ 1 − ρ` (block form). -/
theorem reductionBlock_entry {α : Type} [AddCommGroup α] (a d b : Nat) (ρ : Nat → Nat → α) {x0 x1 x2 y0 y1 y2 : Nat}
    (hx0 : x0 < a) (hx1 : x1 < d) (hx2 : x2 < b) (hy0 : y0 < a) (hy1 : y1 < d) (hy2 : y2 < b) :
    reductionBlock a d b ρ (flat [a, d, b] [x0, x1, x2]) (flat [a, d, b] [y0, y1, y2])
      = (if x0 = y0 ∧ x2 = y2 then
          ∑ s ∈ Finset.range a, ∑ t ∈ Finset.range b, ρ (flat [a, d, b] [s, x1, t]) (flat [a, d, b] [s, y1, t])
         else 0) - ρ (flat [a, d, b] [x0, x1, x2]) (flat [a, d, b] [y0, y1, y2]) := by
  unfold reductionBlock
  simp only [unflat_flat (inShape3 hx0 hx1 hx2), unflat_flat (inShape3 hy0 hy1 hy2), reducedParty, sumRange_eq_sum]
  simp
/-- **`check_swap_witness`**: the tested number is `Σ_{a,b} ρ[(a,b),(b,a)] = tr(ρ·SWAP)`. -/
theorem swapValue_eq {α : Type} [AddCommMonoid α] (d : Nat) (ρ : Nat → Nat → α) :
    swapValue d ρ = ∑ a ∈ Finset.range d, ∑ b ∈ Finset.range d, ρ (a * d + b) (b * d + a) := by
  simp [swapValue, sumRange_eq_sum, flat, prodL]

/-- `swapValue` in terms of the flat two-digit indices -/
theorem swapValue_eq_flat {α : Type} [AddCommMonoid α] (d : Nat) (ρ : Nat → Nat → α) :
    swapValue d ρ = ∑ a ∈ Finset.range d, ∑ b ∈ Finset.range d, ρ (flat [d, d] [a, b]) (flat [d, d] [b, a]) := by
  simp [swapValue, sumRange_eq_sum]

/-! ## (ii) mathematics over ℂ -/

/-- **separable across the cut "party i | rest" ⇒ the partial transpose on party i is PSD** (block form):
`ρ = Σ_k p_k ψ_k ψ_kᴴ`, `ψ_k[(x0,x1,x2)] = u_k[x0,x2]·v_k[x1]`, `p_k ≥ 0`, any block sizes, any number of terms.
The matrix is exactly the one `is_ppt` hands to the PSD test (`ptBlock`). -/
theorem sep_ppt {K : Type} [Fintype K] (a d b : Nat) (p : K → ℝ) (hp : ∀ k, 0 ≤ p k)
    (u : K → Nat → Nat → ℂ) (v : K → Nat → ℂ) :
    (Matrix.of fun r c : Fin (a * d * b) =>
      ptBlock a d b (mixture p fun k => sepBlockVec a d b (u k) (v k)) r c).PosSemidef := by
  have key : (Matrix.of fun r c : Fin (a * d * b) =>
      ptBlock a d b (mixture p fun k => sepBlockVec a d b (u k) (v k)) r c)
      = Matrix.of fun r c : Fin (a * d * b) => ∑ k, (p k : ℂ) *
          sepBlockVec a d b (u k) (fun i => star (v k i)) r * star (sepBlockVec a d b (u k) (fun i => star (v k i)) c) := by
    ext r c
    obtain ⟨r0, r1, r2⟩ := dig_lt r.2
    obtain ⟨c0, c1, c2⟩ := dig_lt c.2
    have h := ptBlock_entry a d b (mixture p fun k => sepBlockVec a d b (u k) (v k)) r0 c1 r2 c0 r1 c2
    rw [flat_dig r.2, flat_dig c.2] at h
    simp only [Matrix.of_apply]
    rw [h]
    simp only [mixture]
    refine Finset.sum_congr rfl fun k _ => ?_
    rw [sepBlockVec_flat _ _ r0 c1 r2, sepBlockVec_flat _ _ c0 r1 c2]
    simp only [sepBlockVec, star_mul', star_star]
    ring
  rw [key]
  exact posSemidef_mixture p hp _


/-- **… ⇒ the reduction-criterion matrix `1 ⊗ ρ_i ⊗ 1 − ρ` is PSD** (block form). Uses Cauchy–Schwarz
(`‖u‖²·1 − u uᴴ ⪰ 0`) and `PosSemidef.kronecker`. -/
theorem sep_reduction {K : Type} [Fintype K] (a d b : Nat) (p : K → ℝ) (hp : ∀ k, 0 ≤ p k)
    (u : K → Nat → Nat → ℂ) (v : K → Nat → ℂ) :
    (Matrix.of fun r c : Fin (a * d * b) =>
      reductionBlock a d b (mixture p fun k => sepBlockVec a d b (u k) (v k)) r c).PosSemidef := by
  classical
  let e : Fin (a * d * b) → (Fin a × Fin b) × Fin d := fun r =>
    ((⟨dig a d b r 0, (dig_lt r.2).1⟩, ⟨dig a d b r 2, (dig_lt r.2).2.2⟩), ⟨dig a d b r 1, (dig_lt r.2).2.1⟩)
  let U : K → Fin a × Fin b → ℂ := fun k i => u k i.1 i.2
  let V : K → Fin d → ℂ := fun k i => v k i
  let A : K → Matrix (Fin a × Fin b) (Fin a × Fin b) ℂ := fun k =>
    (∑ i, U k i * star (U k i)) • (1 : Matrix _ _ ℂ) - vecMulVec (U k) (star (U k))
  let B : K → Matrix (Fin d) (Fin d) ℂ := fun k => vecMulVec (V k) (star (V k))
  have key : (Matrix.of fun r c : Fin (a * d * b) =>
      reductionBlock a d b (mixture p fun k => sepBlockVec a d b (u k) (v k)) r c)
      = (∑ k, (p k : ℂ) • (A k ⊗ₖ B k)).submatrix e e := by
    ext r c
    obtain ⟨r0, r1, r2⟩ := dig_lt r.2
    obtain ⟨c0, c1, c2⟩ := dig_lt c.2
    have h := reductionBlock_entry a d b (mixture p fun k => sepBlockVec a d b (u k) (v k)) r0 r1 r2 c0 c1 c2
    rw [flat_dig r.2, flat_dig c.2] at h
    simp only [Matrix.of_apply, Matrix.submatrix_apply, Matrix.sum_apply, Matrix.smul_apply, smul_eq_mul,
      kroneckerMap_apply]
    rw [h]
    have hn : ∀ k, (∑ i, U k i * star (U k i)) = ∑ s ∈ Finset.range a, ∑ t ∈ Finset.range b, u k s t * star (u k s t) := by
      intro k
      rw [Fintype.sum_prod_type, Finset.sum_range]
      refine Finset.sum_congr rfl fun s _ => ?_
      rw [Finset.sum_range]
    have hmix : ∀ s ∈ Finset.range a, ∀ t ∈ Finset.range b,
        mixture p (fun k => sepBlockVec a d b (u k) (v k)) (flat [a, d, b] [s, dig a d b r 1, t]) (flat [a, d, b] [s, dig a d b c 1, t])
          = ∑ k, (p k : ℂ) * (u k s t * star (u k s t)) * (v k (dig a d b r 1) * star (v k (dig a d b c 1))) := by
      intro s hs t ht
      simp only [mixture]
      refine Finset.sum_congr rfl fun k _ => ?_
      rw [sepBlockVec_flat _ _ (Finset.mem_range.1 hs) r1 (Finset.mem_range.1 ht),
        sepBlockVec_flat _ _ (Finset.mem_range.1 hs) c1 (Finset.mem_range.1 ht), star_mul']
      ring
    have hsum : (∑ s ∈ Finset.range a, ∑ t ∈ Finset.range b,
        mixture p (fun k => sepBlockVec a d b (u k) (v k)) (flat [a, d, b] [s, dig a d b r 1, t]) (flat [a, d, b] [s, dig a d b c 1, t]))
        = ∑ k, (p k : ℂ) * (∑ i, U k i * star (U k i)) * (v k (dig a d b r 1) * star (v k (dig a d b c 1))) := by
      rw [Finset.sum_congr rfl fun s hs => Finset.sum_congr rfl fun t ht => hmix s hs t ht]
      rw [Finset.sum_congr rfl fun s _ => Finset.sum_comm]
      rw [Finset.sum_comm]
      refine Finset.sum_congr rfl fun k _ => ?_
      rw [hn k, Finset.mul_sum, Finset.sum_mul]
      refine Finset.sum_congr rfl fun s _ => ?_
      rw [Finset.mul_sum, Finset.sum_mul]
    have hrho : mixture p (fun k => sepBlockVec a d b (u k) (v k)) r c
        = ∑ k, (p k : ℂ) * (u k (dig a d b r 0) (dig a d b r 2) * star (u k (dig a d b c 0) (dig a d b c 2)))
            * (v k (dig a d b r 1) * star (v k (dig a d b c 1))) := by
      simp only [mixture, sepBlockVec, star_mul']
      refine Finset.sum_congr rfl fun k _ => by ring
    rw [hsum, hrho]
    by_cases hδ : dig a d b r 0 = dig a d b c 0 ∧ dig a d b r 2 = dig a d b c 2
    · rw [if_pos hδ, ← Finset.sum_sub_distrib]
      refine Finset.sum_congr rfl fun k _ => ?_
      have : (e r).1 = (e c).1 := by simp [e, hδ.1, hδ.2]
      have h1 : (1 : Matrix (Fin a × Fin b) (Fin a × Fin b) ℂ) (e r).1 (e c).1 = 1 := by
        rw [this]; exact Matrix.one_apply_eq _
      simp only [A, B, Matrix.sub_apply, Matrix.smul_apply, h1, vecMulVec_apply,
        smul_eq_mul, Pi.star_apply]
      simp only [U, V, e]
      ring
    · rw [if_neg hδ, zero_sub, ← Finset.sum_neg_distrib]
      refine Finset.sum_congr rfl fun k _ => ?_
      have : (e r).1 ≠ (e c).1 := by
        intro h; apply hδ
        simp only [e, Prod.mk.injEq, Fin.mk.injEq] at h
        exact h
      have h1 : (1 : Matrix (Fin a × Fin b) (Fin a × Fin b) ℂ) (e r).1 (e c).1 = 0 := Matrix.one_apply_ne this
      simp only [A, B, Matrix.sub_apply, Matrix.smul_apply, h1, vecMulVec_apply,
        smul_eq_mul, Pi.star_apply]
      simp only [U, V, e]
      ring
  rw [key]
  refine PosSemidef.submatrix ?_ e
  refine posSemidef_sum _ fun k _ => ?_
  refine PosSemidef.smul ?_ (by exact_mod_cast hp k)
  exact (posSemidef_normSq_sub_rankOne (U k)).kronecker (posSemidef_vecMulVec_self_star (V k))


private theorem ptBlock_congr {α : Type} (a d b : Nat) {ρ ρ' : Nat → Nat → α}
    (h : ∀ r c, r < a * d * b → c < a * d * b → ρ r c = ρ' r c) {r c : Nat} (hr : r < a * d * b) (hc : c < a * d * b) :
    ptBlock a d b ρ r c = ptBlock a d b ρ' r c := by
  obtain ⟨r0, r1, r2⟩ := dig_lt hr
  obtain ⟨c0, c1, c2⟩ := dig_lt hc
  have h1 := ptBlock_entry a d b ρ r0 c1 r2 c0 r1 c2
  have h2 := ptBlock_entry a d b ρ' r0 c1 r2 c0 r1 c2
  rw [flat_dig hr, flat_dig hc] at h1 h2
  rw [h1, h2]
  have b1 : flat [a, d, b] [dig a d b r 0, dig a d b c 1, dig a d b r 2] < a * d * b := by
    rw [← prodL3]; exact flat_lt (inShape3 r0 c1 r2)
  have b2 : flat [a, d, b] [dig a d b c 0, dig a d b r 1, dig a d b c 2] < a * d * b := by
    rw [← prodL3]; exact flat_lt (inShape3 c0 r1 c2)
  exact h _ _ b1 b2


private theorem reductionBlock_congr {α : Type} [AddCommGroup α] (a d b : Nat) {ρ ρ' : Nat → Nat → α}
    (h : ∀ r c, r < a * d * b → c < a * d * b → ρ r c = ρ' r c) {r c : Nat} (hr : r < a * d * b) (hc : c < a * d * b) :
    reductionBlock a d b ρ r c = reductionBlock a d b ρ' r c := by
  obtain ⟨r0, r1, r2⟩ := dig_lt hr
  obtain ⟨c0, c1, c2⟩ := dig_lt hc
  have h1 := reductionBlock_entry a d b ρ r0 r1 r2 c0 c1 c2
  have h2 := reductionBlock_entry a d b ρ' r0 r1 r2 c0 c1 c2
  rw [flat_dig hr, flat_dig hc] at h1 h2
  rw [h1, h2, h r c hr hc]
  congr 2
  refine Finset.sum_congr rfl fun s hs => Finset.sum_congr rfl fun t ht => ?_
  refine h _ _ ?_ ?_ <;> rw [← prodL3] <;> apply flat_lt
  · exact inShape3 (Finset.mem_range.1 hs) r1 (Finset.mem_range.1 ht)
  · exact inShape3 (Finset.mem_range.1 hs) c1 (Finset.mem_range.1 ht)


/-- **separable ⇒ PPT, every dimension list, every party, any number of terms.** -/
theorem sep_ppt_full {K : Type} [Fintype K] (dim : List Nat) (i : Nat) (hi : i < dim.length) (p : K → ℝ) (hp : ∀ k, 0 ≤ p k)
    (w : K → Nat → Nat → ℂ) :
    (Matrix.of fun r c : Fin (prodL dim) => pptMatrix dim i (mixture p fun k => prodVec dim (w k)) r c).PosSemidef := by
  have hN := blocks_prod dim i hi
  have base := sep_ppt (prodL (dim.take i)) (dim.getD i 1) (prodL (dim.drop (i + 1))) p hp
    (fun k => restVec dim i (w k)) (fun k => w k i)
  have := base.submatrix (Fin.cast hN.symm)
  convert this using 1
  ext r c
  simp only [Matrix.of_apply, Matrix.submatrix_apply, pptMatrix, blocks, Fin.val_cast]
  have hr : (r : Nat) < prodL (dim.take i) * dim.getD i 1 * prodL (dim.drop (i + 1)) := by rw [hN]; exact r.2
  have hc : (c : Nat) < prodL (dim.take i) * dim.getD i 1 * prodL (dim.drop (i + 1)) := by rw [hN]; exact c.2
  exact ptBlock_congr _ _ _ (mixture_congr p fun k r hr => prodVec_eq_sepBlockVec dim i hi (w k) hr) hr hc



/-- **separable ⇒ reduction criterion, every dimension list, every party, any number of terms.** -/
theorem sep_reduction_full {K : Type} [Fintype K] (dim : List Nat) (i : Nat) (hi : i < dim.length) (p : K → ℝ)
    (hp : ∀ k, 0 ≤ p k) (w : K → Nat → Nat → ℂ) :
    (Matrix.of fun r c : Fin (prodL dim) => reductionMatrix dim i (mixture p fun k => prodVec dim (w k)) r c).PosSemidef := by
  have hN := blocks_prod dim i hi
  have base := sep_reduction (prodL (dim.take i)) (dim.getD i 1) (prodL (dim.drop (i + 1))) p hp
    (fun k => restVec dim i (w k)) (fun k => w k i)
  have := base.submatrix (Fin.cast hN.symm)
  convert this using 1
  ext r c
  simp only [Matrix.of_apply, Matrix.submatrix_apply, reductionMatrix, blocks, Fin.val_cast]
  have hr : (r : Nat) < prodL (dim.take i) * dim.getD i 1 * prodL (dim.drop (i + 1)) := by rw [hN]; exact r.2
  have hc : (c : Nat) < prodL (dim.take i) * dim.getD i 1 * prodL (dim.drop (i + 1)) := by rw [hN]; exact c.2
  exact reductionBlock_congr _ _ _ (mixture_congr p fun k r hr => prodVec_eq_sepBlockVec dim i hi (w k) hr) hr hc


/-- **separable ⇒ swap witness non-negative**: `Σ ρ[(a,b),(b,a)] = Σ_k p_k |⟨b_k|a_k⟩|² ≥ 0` (in the order of ℂ:
real and non-negative), any local dimension, any number of terms. -/
theorem sep_swap {K : Type} [Fintype K] (d : Nat) (p : K → ℝ) (hp : ∀ k, 0 ≤ p k) (w : K → Nat → Nat → ℂ) :
    0 ≤ swapValue d (mixture p fun k => prodVec [d, d] (w k)) := by
  rw [swapValue_eq_flat]
  have h : ∀ a ∈ Finset.range d, ∀ b ∈ Finset.range d,
      mixture p (fun k => prodVec [d, d] (w k)) (flat [d, d] [a, b]) (flat [d, d] [b, a])
        = ∑ k, (p k : ℂ) * ((w k 0 a * star (w k 1 a)) * star (w k 0 b * star (w k 1 b))) := by
    intro a ha b hb
    simp only [mixture]
    refine Finset.sum_congr rfl fun k _ => ?_
    rw [prodVec_flat (inShape2 (Finset.mem_range.1 ha) (Finset.mem_range.1 hb)),
      prodVec_flat (inShape2 (Finset.mem_range.1 hb) (Finset.mem_range.1 ha))]
    simp [List.range_succ, star_mul']
    ring
  rw [Finset.sum_congr rfl fun a ha => Finset.sum_congr rfl fun b hb => h a ha b hb]
  rw [Finset.sum_congr rfl fun a _ => Finset.sum_comm, Finset.sum_comm]
  refine Finset.sum_nonneg fun k _ => ?_
  have : (∑ a ∈ Finset.range d, ∑ b ∈ Finset.range d,
      (p k : ℂ) * ((w k 0 a * star (w k 1 a)) * star (w k 0 b * star (w k 1 b))))
      = (p k : ℂ) * ((∑ a ∈ Finset.range d, w k 0 a * star (w k 1 a)) * star (∑ b ∈ Finset.range d, w k 0 b * star (w k 1 b))) := by
    rw [star_sum, Finset.sum_mul_sum, Finset.mul_sum]
    refine Finset.sum_congr rfl fun a _ => ?_
    rw [Finset.mul_sum]
  rw [this]
  exact mul_nonneg (by exact_mod_cast hp k) (mul_star_self_nonneg _)



private theorem star_list_prod (l : List ℂ) : star l.prod = (l.map star).prod := by
  induction l with
  | nil => simp
  | cons a l ih => simp [star_mul', ih]

private theorem prodVec_outer (dim : List Nat) (w : Nat → Nat → ℂ) {x y : List Nat} (hx : InShape x dim) (hy : InShape y dim) :
    prodVec dim w (flat dim x) * star (prodVec dim w (flat dim y))
      = ((List.range (dim ++ dim).length).map fun m => axisVec dim.length w m ((x ++ y).getD m 0)).prod := by
  rw [prodVec_flat hx, prodVec_flat hy, star_list_prod, List.length_append, List.range_add, List.map_append,
    List.prod_append, List.map_map, List.map_map]
  congr 1
  · congr 1
    refine List.map_congr_left fun j hj => ?_
    have hj' : j < dim.length := List.mem_range.1 hj
    simp only [axisVec, hj', if_true]
    rw [getD_append_left' _ _ _ (by rw [hx.length_eq]; exact hj')]
  · congr 1
    refine List.map_congr_left fun j hj => ?_
    simp only [Function.comp, axisVec]
    rw [if_neg (by omega), getD_append_right' _ _ _ (by rw [hx.length_eq]; omega), hx.length_eq]
    simp

/-- **realignment decomposition.** For a separable `ρ = Σ_k p_k ψ_k ψ_kᴴ` (product vectors, any dimension list, any
number of terms) and any split `(d0,d1)` of the `2n` tensor axes, the matrix whose nuclear norm `is_generalized_ppt`
takes is `Σ_k p_k (row vector)_k (column vector)_k`, each a product of the local factors on its axes. -/
theorem sep_realign_decomp {K : Type} [Fintype K] (dim d0 d1 : List Nat)
    (hperm : (d0 ++ d1).Perm (List.range (dim ++ dim).length)) (p : K → ℝ) (w : K → Nat → Nat → ℂ)
    {x y : List Nat} (hx : InShape x dim) (hy : InShape y dim) :
    gpptMatrix dim d0 d1 (mixture p fun k => prodVec dim (w k))
        (flat (permShape (dim ++ dim) d0) (d0.map ((x ++ y).getD · 0)))
        (flat (permShape (dim ++ dim) d1) (d1.map ((x ++ y).getD · 0)))
      = ∑ k, (p k : ℂ) * (d0.map fun m => axisVec dim.length (w k) m ((x ++ y).getD m 0)).prod
                        * (d1.map fun m => axisVec dim.length (w k) m ((x ++ y).getD m 0)).prod := by
  rw [gpptMatrix_entry dim d0 d1 hperm _ hx hy]
  simp only [mixture]
  refine Finset.sum_congr rfl fun k _ => ?_
  rw [mul_assoc, prodVec_outer dim (w k) hx hy, mul_assoc, ← List.prod_append, ← List.map_append]
  congr 1
  exact (List.Perm.map _ hperm).prod_eq.symm


/-- matrix form of `sep_realign_decomp`: every entry of the realigned matrix, in terms of its own row and column index -/
theorem sep_realign_entry {K : Type} [Fintype K] (dim d0 d1 : List Nat)
    (hperm : (d0 ++ d1).Perm (List.range (dim ++ dim).length)) (p : K → ℝ) (w : K → Nat → Nat → ℂ)
    {r c : Nat} (hr : r < prodL (permShape (dim ++ dim) d0)) (hc : c < prodL (permShape (dim ++ dim) d1)) :
    gpptMatrix dim d0 d1 (mixture p fun k => prodVec dim (w k)) r c
      = ∑ k, (p k : ℂ) * rowVec dim.length (w k) d0 (unflat (permShape (dim ++ dim) d0) r)
                      * rowVec dim.length (w k) d1 (unflat (permShape (dim ++ dim) d1) c) := by
  have hi0 : InShape (unflat (permShape (dim ++ dim) d0) r) (permShape (dim ++ dim) d0) := unflat_inShape _ _ hr
  have hi1 : InShape (unflat (permShape (dim ++ dim) d1) c) (permShape (dim ++ dim) d1) := unflat_inShape _ _ hc
  generalize ho0 : unflat (permShape (dim ++ dim) d0) r = o0 at hi0
  generalize ho1 : unflat (permShape (dim ++ dim) d1) c = o1 at hi1
  have f0 : flat (permShape (dim ++ dim) d0) o0 = r := by rw [← ho0]; exact flat_unflat _ _ hr
  have f1 : flat (permShape (dim ++ dim) d1) o1 = c := by rw [← ho1]; exact flat_unflat _ _ hc
  have hi : InShape (o0 ++ o1) (permShape (dim ++ dim) (d0 ++ d1)) := by rw [permShape_append]; exact hi0.append hi1
  have hzs : InShape (transposeIn (d0 ++ d1) (o0 ++ o1)) (dim ++ dim) := transposeIn_inShape hperm hi
  generalize hz : transposeIn (d0 ++ d1) (o0 ++ o1) = z at hzs
  have hplen : (d0 ++ d1).length = (dim ++ dim).length := by simpa using hperm.length_eq
  have hmap : (d0 ++ d1).map (z.getD · 0) = o0 ++ o1 := by
    rw [← hz]
    exact map_transposeIn (hperm.nodup_iff.2 List.nodup_range)
      (fun q hq => by rw [hplen]; exact List.mem_range.1 (hperm.mem_iff.1 hq))
      (by rw [hi.length_eq]; simp [permShape])
  have hl0 : (d0.map (z.getD · 0)).length = o0.length := by rw [hi0.length_eq]; simp [permShape]
  have hm0 : d0.map (z.getD · 0) = o0 := by
    rw [List.map_append] at hmap
    exact (List.append_inj hmap hl0).1
  have hm1 : d1.map (z.getD · 0) = o1 := by
    rw [List.map_append] at hmap
    exact (List.append_inj hmap hl0).2
  have hzx : InShape (z.take dim.length) dim := by
    have := hzs.take dim.length; simpa using this
  have hzy : InShape (z.drop dim.length) dim := by
    have := hzs.drop dim.length; simpa using this
  have hzz : z.take dim.length ++ z.drop dim.length = z := List.take_append_drop _ _
  have key := sep_realign_decomp dim d0 d1 hperm p w hzx hzy
  rw [hzz, hm0, hm1, f0, f1] at key
  rw [key]
  refine Finset.sum_congr rfl fun k _ => ?_
  simp only [rowVec]
  rw [← hm0, ← hm1, zipWith_map_self, zipWith_map_self]


/-- **separable ⇒ every generalized partial transposition (realignment) has nuclear norm ≤ 1**, for every dimension
list, every split `(d0,d1)` of the `2n` axes (in particular every entry of `_is_generalized_ppt_dim_list`, theorem
`gpptDimList_perm`), any number of terms, normalised local vectors, weights summing to 1.  The nuclear norm is taken in
its dual form `NucLe`; that `np.linalg.norm(ord='nuc')` computes this number is the contract of that routine.
The matrix is exactly the one `is_generalized_ppt` hands to `np.linalg.norm` (`gpptMatrix`). -/
theorem sep_realign_nuc {K : Type} [Fintype K] (dim d0 d1 : List Nat)
    (hperm : (d0 ++ d1).Perm (List.range (dim ++ dim).length)) (p : K → ℝ) (hp : ∀ k, 0 ≤ p k) (hsum : ∑ k, p k = 1)
    (w : K → Nat → Nat → ℂ) (hw : ∀ k j, j < dim.length → ∑ v ∈ Finset.range (dim.getD j 1), ‖w k j v‖ ^ 2 = 1) :
    NucLe (Matrix.of fun (r : Fin (gpptRows dim d0)) (c : Fin (prodL (permShape (dim ++ dim) d1))) =>
      gpptMatrix dim d0 d1 (mixture p fun k => prodVec dim (w k)) r c) 1 := by
  have hmem : ∀ q ∈ d0 ++ d1, q < (dim ++ dim).length := fun q hq => List.mem_range.1 (hperm.mem_iff.1 hq)
  let Rv : K → Fin (gpptRows dim d0) → ℂ := fun k r => rowVec dim.length (w k) d0 (unflat (permShape (dim ++ dim) d0) r)
  let Cv : K → Fin (prodL (permShape (dim ++ dim) d1)) → ℂ := fun k c => star (rowVec dim.length (w k) d1 (unflat (permShape (dim ++ dim) d1) c))
  have key : (Matrix.of fun (r : Fin (gpptRows dim d0)) (c : Fin (prodL (permShape (dim ++ dim) d1))) =>
      gpptMatrix dim d0 d1 (mixture p fun k => prodVec dim (w k)) r c)
      = ∑ k, (p k : ℂ) • vecMulVec (Rv k) (star (Cv k)) := by
    ext r c
    simp only [Matrix.of_apply, Matrix.sum_apply, Matrix.smul_apply, vecMulVec_apply, smul_eq_mul, Pi.star_apply, Rv, Cv, star_star]
    rw [sep_realign_entry dim d0 d1 hperm p w r.2 c.2]
    refine Finset.sum_congr rfl fun k _ => by ring
  rw [key]
  refine nucLe_mixture p hp hsum _ fun k => nucLe_rankOne _ _ (le_of_eq ?_) (le_of_eq ?_)
  · exact sum_rowVec_eq_one (w k) (hw k) d0 fun m hm => hmem m (List.mem_append_left _ hm)
  · simp only [Cv, norm_star]
    exact sum_rowVec_eq_one (w k) (hw k) d1 fun m hm => hmem m (List.mem_append_right _ hm)


/-- candidate `n`-copy extension of `ρ = Σ_k p_k a_k a_kᴴ ⊗ b_k b_kᴴ`:  `Σ_k p_k a_k a_kᴴ ⊗ (b_k b_kᴴ)^{⊗n}`, as a matrix over
`A × (Fin n → B)` -/
def symExt {K A B : Type} [Fintype K] (n : Nat) (p : K → ℝ) (a : K → A → ℂ) (b : K → B → ℂ) :
    Matrix (A × (Fin n → B)) (A × (Fin n → B)) ℂ :=
  Matrix.of fun x y => ∑ k, (p k : ℂ) * (a k x.1 * ∏ t, b k (x.2 t)) * star (a k y.1 * ∏ t, b k (y.2 t))

/-- **separable ⇒ a symmetric (indeed bosonic) extension to any number `n+1` of copies of B exists**:
the candidate is PSD, invariant under every permutation of the copies applied to rows and columns, even under a
permutation applied to the rows alone (supported on the symmetric subspace), and tracing out all copies but the first
returns `ρ` (for normalised `b_k`). -/
theorem sep_symext {K A B : Type} [Fintype K] [Fintype A] [Fintype B] (n : Nat) (p : K → ℝ) (hp : ∀ k, 0 ≤ p k)
    (a : K → A → ℂ) (b : K → B → ℂ) (hb : ∀ k, ∑ v, b k v * star (b k v) = 1) :
    (symExt (n + 1) p a b).PosSemidef
    ∧ (∀ (π : Equiv.Perm (Fin (n + 1))) x y, symExt (n + 1) p a b (x.1, x.2 ∘ π) (y.1, y.2 ∘ π) = symExt (n + 1) p a b x y)
    ∧ (∀ (π : Equiv.Perm (Fin (n + 1))) x y, symExt (n + 1) p a b (x.1, x.2 ∘ π) y = symExt (n + 1) p a b x y)
    ∧ (∀ (x y : A × B), ∑ β : Fin n → B, symExt (n + 1) p a b (x.1, Fin.cons x.2 β) (y.1, Fin.cons y.2 β)
          = ∑ k, (p k : ℂ) * (a k x.1 * b k x.2) * star (a k y.1 * b k y.2)) := by
  have hperm : ∀ (k : K) (π : Equiv.Perm (Fin (n + 1))) (β : Fin (n + 1) → B), ∏ t, b k ((β ∘ π) t) = ∏ t, b k (β t) :=
    fun k π β => Equiv.prod_comp π fun t => b k (β t)
  refine ⟨posSemidef_mixture p hp _, ?_, ?_, ?_⟩
  · intro π x y
    simp only [symExt, Matrix.of_apply, hperm]
  · intro π x y
    simp only [symExt, Matrix.of_apply, hperm]
  · intro x y
    simp only [symExt, Matrix.of_apply, Fin.prod_univ_succ, Fin.cons_zero, Fin.cons_succ]
    rw [Finset.sum_comm]
    refine Finset.sum_congr rfl fun k _ => ?_
    have h1 : ∀ β : Fin n → B, (p k : ℂ) * (a k x.1 * (b k x.2 * ∏ t, b k (β t))) * star (a k y.1 * (b k y.2 * ∏ t, b k (β t)))
        = ((p k : ℂ) * (a k x.1 * b k x.2) * star (a k y.1 * b k y.2)) * ∏ t, (b k (β t) * star (b k (β t))) := by
      intro β
      rw [Finset.prod_mul_distrib]
      simp only [star_mul', star_prod]
      ring
    rw [Finset.sum_congr rfl fun β _ => h1 β, ← Finset.mul_sum]
    rw [← Fintype.sum_pow (fun v => b k v * star (b k v)) n, hb k, one_pow, mul_one]

/-! ## an analytically complete family: Bell-diagonal states -/

/-- concrete read-out of the two-qubit partial transpose -/
theorem ptB22 {α : Type} (M : Nat → Nat → α) (r c : Fin 4) :
    ptB 2 2 M r c = M (r / 2 * 2 + c % 2) (c / 2 * 2 + r % 2) := by
  fin_cases r <;> fin_cases c <;> rfl

/-- partial transpose of `2ρ` for a Bell-diagonal state, as a complex 4×4 matrix -/
def bellPT (p : Nat → ℝ) : Matrix (Fin 4) (Fin 4) ℂ :=
  Matrix.of fun r c : Fin 4 => ptB 2 2 (bellDiag2 fun i => (p i : ℂ)) r c

theorem bellPT_eq_mixture (p : Nat → ℝ) (hs : p 0 + p 1 + p 2 + p 3 = 1) :
    bellPT p = Matrix.of fun r c : Fin 4 => ∑ k : Fin 4,
      (((1 - 2 * p (3 - k)) / 2 : ℝ) : ℂ) * (bellVec k r : ℂ) * star (bellVec k c : ℂ) := by
  have hs' : (p 0 : ℂ) + p 1 + p 2 + p 3 = 1 := by exact_mod_cast hs
  ext r c
  simp only [bellPT, Matrix.of_apply, ptB22, Fin.sum_univ_four]
  have h3 : (p 3 : ℂ) = 1 - p 0 - p 1 - p 2 := by linear_combination hs'
  fin_cases r <;> fin_cases c <;> simp [bellDiag2, bellVec, h3] <;> ring


/-- **Bell-diagonal states: PPT ⇔ every weight ≤ ½** (`p_max ≤ ½`). The matrix is the one `is_ppt` / `get_negativity`
build (`ptB 2 2`), for `ρ = Σ_i p_i |Bell_i⟩⟨Bell_i|`, `Σ p = 1`; its eigenvalues are `½ − p_i`. -/
theorem bellDiag_ppt_iff (p : Nat → ℝ) (hs : p 0 + p 1 + p 2 + p 3 = 1) :
    (bellPT p).PosSemidef ↔ ∀ i < 4, p i ≤ 1 / 2 := by
  constructor
  · intro h i hi
    -- quadratic form at the Bell vector that carries the eigenvalue 1 - 2 p_i
    have hq := h.dotProduct_mulVec_nonneg (fun r : Fin 4 => (bellVec (3 - i) r : ℂ))
    have h3 : (p 3 : ℂ) = 1 - p 0 - p 1 - p 2 := by
      have hs' : (p 0 : ℂ) + p 1 + p 2 + p 3 = 1 := by exact_mod_cast hs
      linear_combination hs'
    have key : star (fun r : Fin 4 => (bellVec (3 - i) r : ℂ)) ⬝ᵥ (bellPT p *ᵥ fun r : Fin 4 => (bellVec (3 - i) r : ℂ))
        = ((2 * (1 - 2 * p i) : ℝ) : ℂ) := by
      simp only [bellPT, dotProduct, mulVec, Matrix.of_apply, ptB22, Fin.sum_univ_four, Pi.star_apply]
      interval_cases i <;> simp [bellDiag2, bellVec, h3] <;> ring
    rw [key, Complex.zero_le_real] at hq
    linarith
  · intro h
    rw [bellPT_eq_mixture p hs]
    exact posSemidef_mixture _ (fun k => by
      have := h (3 - k) (by omega)
      linarith) _


/-! ## the hypotheses are satisfiable, the statements are not vacuous -/

/-- the boundary state `p = (½, ½, 0, 0)` is PPT, the Bell state `p = (1,0,0,0)` is not -/
example : (bellPT fun i => if i < 2 then 1 / 2 else 0).PosSemidef :=
  (bellDiag_ppt_iff _ (by norm_num)).2 fun i hi => by interval_cases i <;> norm_num

example : ¬ (bellPT fun i => if i = 0 then 1 else 0).PosSemidef := fun h => by
  have := (bellDiag_ppt_iff _ (by norm_num)).1 h 0 (by norm_num)
  norm_num at this


/-- a valid multi-index exists for every shape used by the harness, e.g. `(1,2,1)` in `(2,3,2)` -/
example : InShape [1, 2, 1] [2, 3, 2] := by unfold InShape; simp

/-- the model really transposes: partial transpose of party 1 of a `2×2` system with entries `ρ[r,c] = 4r+c` -/
example : (List.range 4).map (fun r => (List.range 4).map fun c => pptMatrix [2, 2] 1 (fun r c => 4 * r + c) r c)
    = [[0, 4, 2, 6], [1, 5, 3, 7], [8, 12, 10, 14], [9, 13, 11, 15]] := by decide

/-- middle party of three (`(2,2,2)`, party 1): only the middle bit of row and column is exchanged -/
example : pptMatrix [2, 2, 2] 1 (fun r c => 8 * r + c) 0b010 0b101 = 8 * 0b000 + 0b111 := by decide

/-- the bipartition list for two parties, as produced by the model (compared with the implementation on every run) -/
example : gpptDimList 2 = [([], [0, 1, 2, 3]), ([0], [1, 2, 3]), ([1], [0, 2, 3]), ([2], [0, 1, 3]), ([3], [0, 1, 2]),
    ([0, 1], [2, 3]), ([0, 2], [1, 3]), ([0, 3], [1, 2])] := by decide

/-- the permutation hypothesis of `gpptMatrix_entry` holds for every entry of the list (here: realignment `(0,2),(1,3)`) -/
example : (([0, 2] : List Nat) ++ [1, 3]).Perm (List.range ([2, 3] ++ [2, 3]).length) := by decide

/-- the separability hypotheses are satisfiable (one term, weight 1) and the conclusion is about a concrete matrix -/
example : (Matrix.of fun r c : Fin (prodL [2, 3]) =>
    pptMatrix [2, 3] 1 (mixture (fun _ : Unit => 1) fun _ => prodVec [2, 3] fun _ _ => 1) r c).PosSemidef :=
  sep_ppt_full [2, 3] 1 (by decide) _ (fun _ => zero_le_one) _

end Numqi.C05
