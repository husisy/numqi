/-
C19 — shipped quantum codes satisfy Knill–Laflamme and their listed stabilizers.

Model: `NumqiModel/Qec.lean` (executed by `Driver/C19.lean`); data: `NumqiModel/Generated/QecCircuits.lean`
(rewritten from the live `numqi.qec.generate_code*()` objects on every run, so the per-code theorems
below are re-checked by the kernel whenever an encoder, a listed string or a stabilizer circuit changes).

Reading guide.  A state vector is a function `position → amplitude` over a commutative ring `R` with an
element `I`, `I² = -1` (instantiate `R = ℂ`); `codeword I c a` is the model of
`generate_code_np(c.encode, K)[a]` scaled by `√2^h` (`h` Hadamards); `pauliAct I P v` is the Pauli operator
`P = i^k X^x Z^z` applied to `v`; `ip n u v = Σ_{i<2^n} conj(u_i) v_i`.
Helper lemmas: `NumqiProofs/Qec*.lean`.  Error-set theorems: `NumqiProps/C19ErrorSets.lean`.
-/
import NumqiProofs.QecKL
import NumqiProofs.QecErrorList
import NumqiProofs.QecParseval
import NumqiProofs.QecEnumOrder
import NumqiProofs.QecBridge
import NumqiProofs.QecLoss
import NumqiProofs.QecTab
import NumqiProofs.QecShift
import NumqiModel.Generated.QecCircuits
import Mathlib.Data.Complex.Basic

namespace Numqi.C19
open Numqi Numqi.Qec Numqi.Qec.Generated


variable {R : Type} [CommRing R]

/-! ### general theorems (every code, every circuit of the modelled gates, `n ≤ 32` qubits) -/

/-- **The tableau is conjugation.**  Propagating `P` through the gate list with the tableau rules gives
`P' = U P U†`:  `U (P v) = P' (U v)` for every vector `v`. -/
theorem tableau_is_conjugation {I : R} (hI : I * I = -1) {n : Nat} (hn : n ≤ 32) (gs : List Gate)
    (hg : gs.all (gateOk n) = true) (p p' : MP) (h : conjCirc p gs = some p') (v : Nat → R) :
    run I gs (pauliAct I p v) = pauliAct I p' (run I gs v) :=
  conjCirc_sound hI hn gs hg p p' h v

/-- **Product and commutation on the masks are those of the operators**, phase included. -/
theorem pauli_product_law {I : R} (hI : I * I = -1) (a b : MP) (v : Nat → R) :
    pauliAct I (MP.mul a b) v = pauliAct I a (pauliAct I b v)
    ∧ pauliAct I a (pauliAct I b v) = fun i => (if MP.acomm a b then -1 else 1) * pauliAct I b (pauliAct I a v) i :=
  ⟨pauliAct_mul hI a b v, pauliAct_comm hI a b v⟩

variable [StarRing R]

/-- **Pauli operators are unitary** on `n` qubits. -/
theorem pauli_unitary {I : R} (hI : I * I = -1) (hs : star I = -I) {n : Nat} (p : MP) (hx : p.x < 2 ^ n)
    (u v : Nat → R) : ip n (pauliAct I p u) (pauliAct I p v) = ip n u v :=
  ip_pauliAct hI hs p hx u v

/-- **Every circuit is an isometry up to the `√2` scaling of `H`.** -/
theorem circuit_isometry {I : R} (hI : I * I = -1) (hs : star I = -I) (h2 : ∀ a b : R, 2 * a = 2 * b → a = b)
    {n : Nat} (gs : List Gate) (hg : gs.all (gateOk n) = true) (u v : Nat → R) :
    ip n (run I gs u) (run I gs v) = 2 ^ countH gs * ip n u v :=
  ip_run hI hs h2 gs hg u v

/-- **Code words are orthonormal** (after the `1/√2^h` scaling): `⟨c_a|c_b⟩ = 2^h δ_ab`. -/
theorem codewords_orthonormal {I : R} (hI : I * I = -1) (hs : star I = -I) (h2 : ∀ a b : R, 2 * a = 2 * b → a = b)
    (c : Code) (hc : shapeCheck c = true) (a b : Nat) (ha : a < c.K) (hb : b < c.K) :
    ip c.n (codeword I c a) (codeword I c b) = if a = b then 2 ^ countH c.encode else 0 :=
  codeword_ortho hI hs h2 c hc a b ha hb

/-- **`stabilizer_KL`: the Pauli-level check implies Knill–Laflamme on the vectors, for every Pauli
string below the distance.**  If `klCheck c = true` then for every string `s` of `n` symbols I/X/Y/Z of
weight `1 ≤ w < d` there is a scalar `κ` with `⟨c_a| σ_s |c_b⟩ = κ δ_ab` for all code words. -/
theorem stabilizer_KL {I : R} (hI : I * I = -1) (hs : star I = -I) (h2 : ∀ a b : R, 2 * a = 2 * b → a = b)
    (c : Code) (h : klCheck c = true) (s : List Nat) (hl : s.length = c.n) (h4 : ∀ x ∈ s, x < 4)
    (hw1 : 1 ≤ symWeight s) (hw2 : symWeight s < c.d) :
    ∃ κ : R, ∀ a < c.K, ∀ b < c.K,
      ip c.n (codeword I c a) (pauliAct I (MP.ofSyms s) (codeword I c b)) = if a = b then κ else 0 := by
  have hm := errorList_complete c.n c.d s hl h4 hw1 hw2
  rw [List.mem_map] at hm
  obtain ⟨e, he, rfl⟩ := hm
  rw [← ofSparse_eq_ofSyms c.n c.d e he]
  exact kl_of_klCheck hI hs h2 c h e he

/-- **Parseval identity of the Pauli basis** `X^x Z^z`, `x,z < 2^n`:
`Σ_{x,z} conj⟨u|P|v⟩ ⟨w|P|y⟩ = 2^n ⟨w|u⟩⟨v|y⟩`. -/
theorem pauli_basis_parseval {I : R} (hI : I * I = -1) (h2 : ∀ a b : R, 2 * a = 2 * b → a = b) (n : Nat) (hn : n ≤ 32)
    (u v w y : Nat → R) :
    ∑ x ∈ Finset.range (2 ^ n), ∑ z ∈ Finset.range (2 ^ n),
        star (ip n u (pauliAct I ⟨0, x, z⟩ v)) * ip n w (pauliAct I ⟨0, x, z⟩ y) = 2 ^ n * (ip n w u * ip n v y) :=
  pauli_parseval hI h2 n hn u v w y

/-- **Weight-enumerator sum rules** for the code words of any shape-correct code (`N = 2^h` is their squared norm;
sums over the whole Pauli basis, identity included): `Σ_P |Σ_a ⟨c_a|P|c_a⟩|² = 2^n K N²`,
`Σ_P Σ_ab |⟨c_a|P|c_b⟩|² = 2^n K² N²`, i.e. `Σ_j A_j = 2^n/K`, `Σ_j B_j = 2^n K` in the normalisation of
`quantum_weight_enumerator` (which omits `A_0 = B_0 = 1`). -/
theorem weight_enumerator_sum_rules {I : R} (hI : I * I = -1) (hs : star I = -I) (h2 : ∀ a b : R, 2 * a = 2 * b → a = b)
    (c : Code) (hc : shapeCheck c = true) :
    (∑ x ∈ Finset.range (2 ^ c.n), ∑ z ∈ Finset.range (2 ^ c.n),
        star (∑ a ∈ Finset.range c.K, ip c.n (codeword I c a) (pauliAct I ⟨0, x, z⟩ (codeword I c a)))
          * (∑ a ∈ Finset.range c.K, ip c.n (codeword I c a) (pauliAct I ⟨0, x, z⟩ (codeword I c a))))
      = 2 ^ c.n * (c.K * (2 ^ countH c.encode * 2 ^ countH c.encode))
    ∧ (∑ x ∈ Finset.range (2 ^ c.n), ∑ z ∈ Finset.range (2 ^ c.n), ∑ a ∈ Finset.range c.K, ∑ b ∈ Finset.range c.K,
        star (ip c.n (codeword I c a) (pauliAct I ⟨0, x, z⟩ (codeword I c b)))
          * ip c.n (codeword I c a) (pauliAct I ⟨0, x, z⟩ (codeword I c b)))
      = 2 ^ c.n * (c.K * c.K * (2 ^ countH c.encode * 2 ^ countH c.encode)) := by
  have hn : c.n ≤ 32 := by
    simp only [shapeCheck, Bool.and_eq_true, decide_eq_true_eq] at hc
    exact hc.1.2
  exact enumerator_sum_rules hI h2 c.n hn c.K (2 ^ countH c.encode) (fun a => codeword I c a)
    (fun a ha b hb => codeword_ortho hI hs h2 c hc a b ha hb)

attribute [local instance] starConj

/-- **What the model of `quantum_weight_enumerator` returns, entry by entry**: `retA[w]·K²` and `retB[w]·K`
are the sums, over the Pauli strings of weight exactly `w + 1`, of `|Σ_a⟨c_a|σ|c_a⟩|²` resp. `Σ_ab|⟨c_a|σ|c_b⟩|²`
(`enumTerm`), for any list of vectors. -/
theorem weight_enumerator_by_weight (I : R) (n : Nat) (cw : List (Nat → R)) (w : Nat) :
    (enumLevel I n cw w).1
        = ∑ s ∈ (allSyms n).toFinset.filter (fun s => symWeight s = w + 1), (enumTerm I n cw (MP.ofSyms s)).1
    ∧ (enumLevel I n cw w).2
        = ∑ s ∈ (allSyms n).toFinset.filter (fun s => symWeight s = w + 1), (enumTerm I n cw (MP.ofSyms s)).2 :=
  enumLevel_eq_strings I n cw w

/-- **Sum rules for the returned arrays**, code words of a shape-correct code (`N = 2^h`): adding the weight-0
terms `A'_0 = (K·2^h)²`, `B'_0 = K·4^h` that the implementation leaves out,
`Σ_w retA'[w] + A'_0 = 2^n K 4^h` and `Σ_w retB'[w] + B'_0 = 2^n K² 4^h`; after the division by `K²` resp. `K`
(and by `4^h` for the scaling): `A_0 = B_0 = 1`, `Σ_{j=1..n} A_j = 2^n/K - 1`, `Σ_{j=1..n} B_j = 2^n K - 1`. -/
theorem weight_enumerator_arrays_sum_rules {I : R} (hI : I * I = -1) (hs : star I = -I)
    (h2 : ∀ a b : R, 2 * a = 2 * b → a = b) (c : Code) (hc : shapeCheck c = true) :
    let cw := (List.range c.K).map (fun a => codeword I c a)
    sumL ((weightEnum I c.n cw).map (·.1)) + (enumTerm I c.n cw MP.one).1
        = 2 ^ c.n * (c.K * (2 ^ countH c.encode * 2 ^ countH c.encode))
    ∧ sumL ((weightEnum I c.n cw).map (·.2)) + (enumTerm I c.n cw MP.one).2
        = 2 ^ c.n * (c.K * c.K * (2 ^ countH c.encode * 2 ^ countH c.encode))
    ∧ enumTerm I c.n cw MP.one
        = (star ((c.K : R) * 2 ^ countH c.encode) * (c.K * 2 ^ countH c.encode),
           c.K * (star ((2 : R) ^ countH c.encode) * 2 ^ countH c.encode)) := by
  have hn : c.n ≤ 32 := by
    simp only [shapeCheck, Bool.and_eq_true, decide_eq_true_eq] at hc
    exact hc.1.2
  exact weightEnum_sum_rules hI hs h2 c.n hn c.K (2 ^ countH c.encode) (fun a => codeword I c a)
    (fun a ha b hb => codeword_ortho hI hs h2 c hc a b ha hb)

/-- **`0 ≤ A_j ≤ B_j`** for every returned entry (over ℂ, any `K` vectors; Cauchy–Schwarz):
`retA'[w]`, `retB'[w]` are non-negative reals and `retA'[w] ≤ K·retB'[w]`, i.e. `A_{w+1} = retA'/K² ≤ retB'/K = B_{w+1}`. -/
theorem weight_enumerator_order (n K : Nat) (c : Nat → Nat → ℂ) (w : Nat) :
    NonnegReal (enumLevel Complex.I n ((List.range K).map c) w).1
    ∧ NonnegReal (enumLevel Complex.I n ((List.range K).map c) w).2
    ∧ (enumLevel Complex.I n ((List.range K).map c) w).1.re ≤ K * (enumLevel Complex.I n ((List.range K).map c) w).2.re := by
  unfold enumLevel
  apply list_order
  intro t ht
  rw [List.mem_map] at ht
  obtain ⟨p, _, rfl⟩ := ht
  exact enumTerm_order n K c p

omit [StarRing R] in
/-- **C19's Pauli action is C08's matrix**: for masks below `2^n`, `pauliAct I p v` at the position of the basis
state `b'` is `Σ_b mat I (toPauli n p) b' b · v(pos b)`, with `C08.mat` the matrix of `i^k X^x Z^z` whose
product / inverse / commutation laws are proved in `NumqiProps/C08.lean`. -/
theorem pauliAct_is_C08_matrix {I : R} (hI : I * I = -1) {n : Nat} (hn : n ≤ 32) (p : MP) (hx : p.x < 2 ^ n)
    (v : Nat → R) (b' : Bits n) :
    pauliAct I p v (posOf b') = (Matrix.mulVec (C08.mat I (toPauli n p)) (fun b => v (posOf b))) b' :=
  pauliAct_eq_mat hI hn p hx v b'

omit [StarRing R] in
/-- **`knill_laflamme_loss(M,'L2') = 0` iff the Knill–Laflamme conditions hold on the entries it uses**
(strict upper triangle zero, diagonal constant), for every array of Gaussian rationals. -/
theorem knill_laflamme_loss_zero_iff (E K : Nat) (M : Nat → Nat → Nat → QI) :
    klLossL2 E K M = 0 ↔
      ∀ e < E, (∀ a < K, ∀ b < K, a < b → M e a b = 0) ∧ (∀ a < K, M e a a = klMean K M e) := by
  have h1 : ∀ x ∈ klOffTerms E K M, 0 ≤ x := by
    intro x hx
    simp only [klOffTerms, List.mem_flatMap, List.mem_map] at hx
    obtain ⟨e, _, a, _, b, _, rfl⟩ := hx
    exact QI.normSq_nonneg _
  have h2 : ∀ x ∈ klDiagTerms E K M, 0 ≤ x := by
    intro x hx
    simp only [klDiagTerms, List.mem_flatMap, List.mem_map] at hx
    obtain ⟨e, _, a, _, rfl⟩ := hx
    exact QI.normSq_nonneg _
  have hs : ∀ l : List ℚ, (∀ x ∈ l, 0 ≤ x) → 0 ≤ l.foldr (· + ·) 0 := by
    intro l hl; induction l with
    | nil => simp
    | cons b l ih => simp only [List.foldr_cons]
                     exact add_nonneg (hl b (List.mem_cons_self ..)) (ih (fun x hx => hl x (List.mem_cons_of_mem _ hx)))
  have n1 : 0 ≤ (klOffTerms E K M).foldr (· + ·) 0 := hs _ h1
  have n2 : 0 ≤ (klDiagTerms E K M).foldr (· + ·) 0 := hs _ h2
  unfold klLossL2
  constructor
  · intro h
    have z1 : (klOffTerms E K M).foldr (· + ·) 0 = 0 := by linarith
    have z2 : (klDiagTerms E K M).foldr (· + ·) 0 = 0 := by linarith
    rw [sum_eq_zero_iff_of_nonneg _ h1] at z1
    rw [sum_eq_zero_iff_of_nonneg _ h2] at z2
    intro e he
    constructor
    · intro a ha b hb hab
      have : QI.normSq (M e a b) ∈ klOffTerms E K M := by
        simp only [klOffTerms, List.mem_flatMap, List.mem_map, List.mem_range, List.mem_filter, decide_eq_true_eq]
        exact ⟨e, he, a, ha, b, ⟨hb, hab⟩, rfl⟩
      exact (QI.normSq_eq_zero _).1 (z1 _ this)
    · intro a ha
      have : QI.normSq (M e a a - klMean K M e) ∈ klDiagTerms E K M := by
        simp only [klDiagTerms, List.mem_flatMap, List.mem_map, List.mem_range]
        exact ⟨e, he, a, ha, rfl⟩
      exact (QI.sub_eq_zero _ _).1 ((QI.normSq_eq_zero _).1 (z2 _ this))
  · intro h
    have z1 : (klOffTerms E K M).foldr (· + ·) 0 = 0 := by
      rw [sum_eq_zero_iff_of_nonneg _ h1]
      intro x hx
      simp only [klOffTerms, List.mem_flatMap, List.mem_map, List.mem_range, List.mem_filter, decide_eq_true_eq] at hx
      obtain ⟨e, he, a, ha, b, ⟨hb, hab⟩, rfl⟩ := hx
      rw [(h e he).1 a ha b hb hab]; exact (QI.normSq_eq_zero 0).2 rfl
    have z2 : (klDiagTerms E K M).foldr (· + ·) 0 = 0 := by
      rw [sum_eq_zero_iff_of_nonneg _ h2]
      intro x hx
      simp only [klDiagTerms, List.mem_flatMap, List.mem_map, List.mem_range] at hx
      obtain ⟨e, he, a, ha, rfl⟩ := hx
      rw [(QI.normSq_eq_zero _).2 ((QI.sub_eq_zero _ _).2 ((h e he).2 a ha))]
    rw [z1, z2]; simp

omit [StarRing R] in
/-- **Listed stabilizers fix every code word**, sign `+1` included. -/
theorem listed_stabilizers_fix {I : R} (hI : I * I = -1) (c : Code) (h : listedCheck c = true)
    (l : List Nat) (hl : l ∈ c.listed) (a : Nat) (ha : a < c.K) :
    pauliAct I (MP.ofSyms l) (codeword I c a) = codeword I c a := by
  unfold listedCheck at h
  simp only [Bool.and_eq_true] at h
  obtain ⟨⟨hs, _⟩, h⟩ := h
  cases hg : gens c with
  | none => simp [hg] at h
  | some gs =>
    simp only [hg, MP.forceList_eq, MP.force_eq, List.all_eq_true, Bool.and_eq_true, List.any_eq_true, beq_iff_eq] at h
    obtain ⟨_, s, hsm, hsp⟩ := h l hl
    rw [← hsp]
    exact span_fix hI gs _ (fun g hgm => gens_fix hI c hs gs hg g hgm a ha) s hsm

omit [StarRing R] in
/-- **The shipped stabilizer circuits implement exactly the listed Pauli strings**: one circuit per
listed string, and the circuit acts on every vector as that operator. -/
theorem stabilizer_circuit_implements {I : R} (hI : I * I = -1) (c : Code) (h : stabCircImplCheck c = true) :
    c.stabCircs.length = c.listed.length ∧
    ∀ cl ∈ c.stabCircs.zip c.listed, ∀ v : Nat → R, run I cl.1 v = pauliAct I (MP.ofSyms cl.2) v := by
  unfold stabCircImplCheck at h
  simp only [Bool.and_eq_true, decide_eq_true_eq, beq_iff_eq, List.all_eq_true] at h
  obtain ⟨⟨⟨hn, _⟩, hlen⟩, hall⟩ := h
  refine ⟨hlen, fun cl hcl v => ?_⟩
  have := hall cl hcl
  cases hp : circPauli c.n cl.1 with
  | none => simp [hp] at this
  | some p =>
    simp only [hp, beq_iff_eq] at this
    rw [run_circPauli hI c.n hn cl.1 p hp, this.2]

/-! ### the statement for one code over `ℂ`, and the three Boolean obligations that imply it -/

/-- what C19 asserts about one shipped code, over the complex numbers -/
def Holds (c : Code) : Prop :=
  (∀ a < c.K, ∀ b < c.K,
      ip c.n (codeword Complex.I c a) (codeword Complex.I c b) = if a = b then 2 ^ countH c.encode else 0)
  ∧ (∀ s : List Nat, s.length = c.n → (∀ x ∈ s, x < 4) → 1 ≤ symWeight s → symWeight s < c.d →
      ∃ κ : ℂ, ∀ a < c.K, ∀ b < c.K,
        ip c.n (codeword Complex.I c a) (pauliAct Complex.I (MP.ofSyms s) (codeword Complex.I c b)) = if a = b then κ else 0)
  ∧ (∀ l ∈ c.listed, ∀ a < c.K, pauliAct Complex.I (MP.ofSyms l) (codeword Complex.I c a) = codeword Complex.I c a)
  ∧ (c.stabCircs.length = c.listed.length ∧ c.listed ≠ [] ∧
      ∀ cl ∈ c.stabCircs.zip c.listed, ∀ v : Nat → ℂ, run Complex.I cl.1 v = pauliAct Complex.I (MP.ofSyms cl.2) v)

theorem complex_hyps : Complex.I * Complex.I = -1 ∧ star Complex.I = -Complex.I ∧ ∀ a b : ℂ, 2 * a = 2 * b → a = b :=
  ⟨Complex.I_mul_I, Complex.conj_I, fun _ _ h => mul_left_cancel₀ two_ne_zero h⟩

/-- the three kernel-checked obligations imply the full statement -/
theorem holds_of_checks (c : Code) (h1 : klCheck c = true) (h2 : listedCheck c = true) (h3 : stabCircImplCheck c = true) :
    Holds c := by
  obtain ⟨hI, hs, h2'⟩ := complex_hyps
  have hshape : shapeCheck c = true := by
    unfold klCheck at h1; rw [Bool.and_eq_true] at h1; exact h1.1
  have hne : c.listed ≠ [] := by
    unfold listedCheck at h2
    simp only [Bool.and_eq_true, Bool.not_eq_true', List.isEmpty_eq_false_iff] at h2
    exact h2.1.2
  refine ⟨fun a ha b hb => codewords_orthonormal hI hs h2' c hshape a b ha hb,
    fun s hl h4 hw1 hw2 => stabilizer_KL hI hs h2' c h1 s hl h4 hw1 hw2,
    fun l hl a ha => listed_stabilizers_fix hI c h2 l hl a ha, ?_⟩
  obtain ⟨e1, e2⟩ := stabilizer_circuit_implements (R := ℂ) hI c h3
  exact ⟨e1, hne, e2⟩

/-! ### shifted registers: `Circuit.shift_qubit_index_` and `VarQEC` -/

omit [StarRing R] in
/-- **`shift_qubit_index_(k)` commutes with running the circuit**: the gate list with every index moved up by `k`, run on a
vector of the larger register, is the original list run on each slice with the first `k` qubits fixed (position `lo < 2^k`). -/
theorem shift_runs_on_upper_qubits (I : R) (k lo : Nat) (hlo : lo < 2 ^ k) (gs : List Gate) (w : Nat → R) :
    slice k lo (run I (gs.map (Gate.shift k)) w) = run I gs (slice k lo w) :=
  run_shift I k lo hlo gs w

omit [StarRing R] in
/-- **`VarQEC(encode, K, …).get_code()` returns the code words of `generate_code_np(encode, K)`**: for `1 ≤ K ≤ 2^n`
(the range in which the real object exists: for `K > 2^n` writing the diagonal `q0[a, a] = 1` raises `IndexError`, which the
driver op `varqec` mirrors and the harness ties) row `a < K` of the model of `get_code` (encoder shifted by `⌈log2 K⌉`, applied
to `Σ_a |a⟩⊗|a⟩`, sliced) is `codeword a`, for `K` a power of two or not.  (`hK` is the guard of the real code; the identity
itself does not need it.) -/
theorem varqec_get_code_is_generate_code_np (I : R) (c : Code) (K a : Nat) (_hK : K ≤ 2 ^ c.n) (ha : a < K) :
    varqecCode I c K a = codeword I c a := by
  have hK := le_two_pow_ceilLog2 K
  set kl := ceilLog2 K with hkl
  have hlo : posOfIdx kl a < 2 ^ kl := posOfIdx_lt kl a (by omega)
  have h1 := run_shift I kl (posOfIdx kl a) hlo c.encode (varqecInit c.n kl K)
  have hfun : varqecCode I c K a = slice kl (posOfIdx kl a) (run I (c.encode.map (Gate.shift kl)) (varqecInit c.n kl K)) := by
    funext hi; simp only [varqecCode, slice, ← hkl]
  rw [hfun, h1]
  unfold codeword
  congr 1
  funext hi
  simp only [slice, varqecInit, basisVec]
  by_cases h : hi = posOfIdx c.n a
  · subst h
    have : (List.range K).any (fun a' => posOfIdx kl a + 2 ^ kl * posOfIdx c.n a == posOfIdx kl a' + 2 ^ kl * posOfIdx c.n a') = true := by
      rw [List.any_eq_true]; exact ⟨a, List.mem_range.2 ha, by simp⟩
    simp [this]
  · have : (List.range K).any (fun a' => posOfIdx kl a + 2 ^ kl * hi == posOfIdx kl a' + 2 ^ kl * posOfIdx c.n a') = false := by
      rw [Bool.eq_false_iff]; intro hc
      rw [List.any_eq_true] at hc
      obtain ⟨a', ha', he⟩ := hc
      rw [List.mem_range] at ha'
      simp only [beq_iff_eq] at he
      have hlo' : posOfIdx kl a' < 2 ^ kl := posOfIdx_lt kl a' (by omega)
      have e1 : posOfIdx kl a = posOfIdx kl a' := by
        have := congrArg (· % 2 ^ kl) he
        simpa [Nat.add_mul_mod_self_left, Nat.mod_eq_of_lt hlo, Nat.mod_eq_of_lt hlo'] using this
      have e2 : hi = posOfIdx c.n a' := by
        rw [e1] at he
        have := Nat.add_left_cancel he
        exact Nat.eq_of_mul_eq_mul_left (by positivity) this
      have e3 : a = a' := posOfIdx_inj kl a a' (by omega) (by omega) e1
      exact h (by rw [e2, e3])
    simp [this, h]

/-- **what the driver op `varqec` evaluates is `varqecCode`**: the shifted encoder fits on the `n + ⌈log2 K⌉` qubit register
(`gateOk` for every shifted gate), so the tabulated run of the driver is the proved `run`, and its entry at position
`posOfIdx kl a + 2^kl · hi` is `varqecCode GInt.I c K a hi` (for `hi < 2^n`, `a < 2^kl`). -/
theorem varqec_driver_evaluates_model (c : Code) (hc : c.encode.all (gateOk c.n) = true) (K : Nat) :
    (c.encode.map (Gate.shift (ceilLog2 K))).all (gateOk (c.n + ceilLog2 K)) = true ∧
    runTab (c.n + ceilLog2 K) (c.encode.map (Gate.shift (ceilLog2 K))) (tabulate (c.n + ceilLog2 K) (varqecInit c.n (ceilLog2 K) K))
      = tabulate (c.n + ceilLog2 K) (fun pos => run GInt.I (c.encode.map (Gate.shift (ceilLog2 K))) (varqecInit c.n (ceilLog2 K) K) pos) :=
  ⟨allOk_shift c.n _ c.encode hc, runTab_eq _ _ (allOk_shift c.n _ c.encode hc) _⟩

/-- **the listed strings are independent**: `listedIndepCheck` says that there are at most `n − log2 K` of them
(`K = 2^k`) and that no non-empty sub-product is a scalar.  Together with `listedCheck` (each is a product, sign `+1`, of the
`n − log2 K` generators `U Z_j U†`) the `m` listed strings generate a subgroup of order `2^m` of the stabilizer group: the whole
group when `m = n − log2 K` (the number listed per shipped code: `listed_counts` in `C19Coverage.lean`). -/
theorem listed_independent (c : Code) (h : listedIndepCheck c = true) :
    2 ^ Nat.log2 c.K = c.K ∧ c.listed.length ≤ c.n - Nat.log2 c.K ∧
    ∀ mask, 0 < mask → mask < 2 ^ c.listed.length →
      (subsetProd (c.listed.map MP.ofSyms) mask).x ≠ 0 ∨ (subsetProd (c.listed.map MP.ofSyms) mask).z ≠ 0 := by
  unfold listedIndepCheck independent at h
  simp only [MP.forceList_eq, MP.force_eq, Bool.and_eq_true, beq_iff_eq, List.all_eq_true, List.mem_range,
    List.length_map, Bool.or_eq_true, bne_iff_ne, ne_eq, Code.logK] at h
  obtain ⟨⟨⟨⟨h1, _⟩, h3⟩, _⟩, h5⟩ := h
  refine ⟨h1, of_decide_eq_true h3, fun mask h0 hm => ?_⟩
  rcases h5 mask hm with h | h
  · omega
  · exact h

/-! ### what the driver executes is the model the theorems are about -/

/-- **The tabulated evaluation of the driver is the proved model** on the first `2^n` positions:
`runTab` is `run`, `codewordTab` is `codeword`, `pauliTab` is `pauliAct`, and the per-error class `klClass`
refines the Boolean `klOne` used by `klCheck` (inner products in the driver are the model's `ipL`). -/
theorem driver_evaluates_model :
    (∀ (n : Nat) (gs : List Gate), gs.all (gateOk n) = true → ∀ v : Nat → GInt,
        runTab n gs (tabulate n v) = tabulate n (run GInt.I gs v))
    ∧ (∀ c : Code, c.encode.all (gateOk c.n) = true → ∀ a, codewordTab c a = tabulate c.n (codeword GInt.I c a))
    ∧ (∀ (n : Nat) (p : MP), p.x < 2 ^ n → ∀ v : Nat → GInt, pauliTab n p (tabulate n v) = tabulate n (pauliAct GInt.I p v))
    ∧ (∀ gs sp p, klOne gs sp p = (klClass gs sp p != 'F')) :=
  ⟨runTab_eq, codewordTab_eq, pauliTab_eq, klOne_eq_klClass⟩

/-! ### per code, re-checked by the kernel whenever the generated data change -/

theorem code523_klCheck : klCheck code523 = true := by decide +kernel
theorem code422_klCheck : klCheck code422 = true := by decide +kernel
theorem code442_klCheck : klCheck code442 = true := by decide +kernel
theorem code642_klCheck : klCheck code642 = true := by decide +kernel
theorem code883_klCheck : klCheck code883 = true := by decide +kernel
theorem code8_64_2_klCheck : klCheck code8_64_2 = true := by decide +kernel
theorem code10_4_4_klCheck : klCheck code10_4_4 = true := by decide +kernel

theorem code523_listed : listedCheck code523 = true := by decide +kernel
theorem code422_listed : listedCheck code422 = true := by decide +kernel
theorem code442_listed : listedCheck code442 = true := by decide +kernel
theorem code642_listed : listedCheck code642 = true := by decide +kernel
theorem code883_listed : listedCheck code883 = true := by decide +kernel
theorem code8_64_2_listed : listedCheck code8_64_2 = true := by decide +kernel
theorem code10_4_4_listed : listedCheck code10_4_4 = true := by decide +kernel

theorem code523_listedIndep : listedIndepCheck code523 = true := by decide +kernel
theorem code422_listedIndep : listedIndepCheck code422 = true := by decide +kernel
theorem code442_listedIndep : listedIndepCheck code442 = true := by decide +kernel
theorem code642_listedIndep : listedIndepCheck code642 = true := by decide +kernel
theorem code883_listedIndep : listedIndepCheck code883 = true := by decide +kernel
theorem code8_64_2_listedIndep : listedIndepCheck code8_64_2 = true := by decide +kernel
theorem code10_4_4_listedIndep : listedIndepCheck code10_4_4 = true := by decide +kernel

theorem code523_stabCirc : stabCircImplCheck code523 = true := by decide +kernel
theorem code422_stabCirc : stabCircImplCheck code422 = true := by decide +kernel
theorem code442_stabCirc : stabCircImplCheck code442 = true := by decide +kernel
theorem code642_stabCirc : stabCircImplCheck code642 = true := by decide +kernel
theorem code883_stabCirc : stabCircImplCheck code883 = true := by decide +kernel
theorem code8_64_2_stabCirc : stabCircImplCheck code8_64_2 = true := by decide +kernel
theorem code10_4_4_stabCirc : stabCircImplCheck code10_4_4 = true := by decide +kernel

/-- **((5,2,3))**: orthonormal code words, Knill–Laflamme for every error of weight < 3, the four listed
stabilizers fix the code words, the four shipped circuits are those operators. -/
theorem code523_holds : Holds code523 := holds_of_checks _ code523_klCheck code523_listed code523_stabCirc
theorem code422_holds : Holds code422 := holds_of_checks _ code422_klCheck code422_listed code422_stabCirc
theorem code442_holds : Holds code442 := holds_of_checks _ code442_klCheck code442_listed code442_stabCirc
theorem code642_holds : Holds code642 := holds_of_checks _ code642_klCheck code642_listed code642_stabCirc
theorem code883_holds : Holds code883 := holds_of_checks _ code883_klCheck code883_listed code883_stabCirc
theorem code8_64_2_holds : Holds code8_64_2 := holds_of_checks _ code8_64_2_klCheck code8_64_2_listed code8_64_2_stabCirc
theorem code10_4_4_holds : Holds code10_4_4 := holds_of_checks _ code10_4_4_klCheck code10_4_4_listed code10_4_4_stabCirc

/-! ### the obligations are not vacuous -/

/-- the check rejects a code without encoder: `X` on the last qubit is undetected -/
example : klCheck ⟨"no encoder", 5, 2, 3, [], [], []⟩ = false := by decide +kernel
/-- … a wrong listed string … -/
example : listedCheck { code523 with listed := [[1, 0, 2, 1, 3]] } = false := by decide +kernel
/-- … a listed string replaced by a copy of another one (each still fixes the code words: `listedCheck` holds) … -/
example : listedIndepCheck { code523 with listed := code523.listed.take 3 ++ code523.listed.take 1 } = false := by decide +kernel
/-- … a stabilizer circuit that is not its listed string (here: a different gate) … -/
example : stabCircImplCheck { code422 with stabCircs := [[.x 0, .x 1], [.z 0, .x 1, .z 2, .z 3], [.x 2, .x 3]] } = false := by
  decide +kernel
/-- … and an unclassified gate anywhere in the encoder. -/
example : klCheck { code422 with encode := code422.encode ++ [.unknown] } = false := by decide +kernel
/-- the ((5,2,3)) statement speaks about 2 code words, 4 listed strings and errors of weight 1 and 2 -/
example : code523.K = 2 ∧ code523.listed.length = 4 ∧ (errorList code523.n code523.d).length = 105 := by decide +kernel
/-- the degenerate branch (error = product of generators up to a phase) is exercised by the trivial
one-dimensional code `|00⟩` with `d = 2`: `Z` errors act as scalars (no shipped code has such errors below `d`) -/
example : klCheck ⟨"|00>", 2, 1, 2, [], [], []⟩ = true := by decide +kernel

end Numqi.C19
