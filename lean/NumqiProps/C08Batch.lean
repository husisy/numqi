/-
C08 (batched paths) — the batched conversion routes and `from_np_list` compute what the single-item routes compute.

Property theorems with their proofs, about the constants of `NumqiModel/PauliBatch.lean` that the driver executes.
-/
import NumqiProps.C08
import NumqiModel.PauliBatch

namespace Numqi.C08
open Numqi Numqi.Pauli Numqi.PauliBatch

variable {n : Nat}

/-! ### index → F2 -/

private theorem unpack64_getD (idx j : Nat) (hj : j < 64) : (unpack64 idx).getD j false = idx.testBit (63 - j) := by
  have h8 : j % 8 < 8 := Nat.mod_lt _ (by norm_num)
  have hd : j / 8 < 8 := by omega
  simp only [unpack64, List.getD_eq_getElem?_getD, List.getElem?_map, List.getElem?_range hj, Option.map_some,
    Option.getD_some]
  have e : idx.testBit (63 - j) = (idx / 2 ^ (8 * (7 - j / 8)) % 2 ^ 8).testBit (7 - j % 8) := by
    rw [Nat.testBit_mod_two_pow, Nat.testBit_div_two_pow]
    have : 7 - j % 8 < 8 := by omega
    simp only [this, decide_true, Bool.true_and]
    congr 1; omega
  rw [e, Nat.testBit_eq_decide_div_mod_eq, Bool.eq_iff_iff]
  simp

private theorem indexPair_eq (idx q : Nat) (hn : n ≤ 32) (hq : q < n) :
    indexPair n idx q = (idx.testBit (2 * (n - 1 - q) + 1), idx.testBit (2 * (n - 1 - q))) := by
  have hg : ∀ i, i < 2 * n → ((unpack64 idx).drop (64 - 2 * n)).getD i false = idx.testBit (2 * n - 1 - i) := by
    intro i hi
    rw [List.getD_eq_getElem?_getD, List.getElem?_drop, ← List.getD_eq_getElem?_getD, unpack64_getD _ _ (by omega)]
    congr 1; omega
  simp only [indexPair]
  rw [hg _ (by omega), hg _ (by omega)]
  congr 2 <;> omega

private theorem pair_digit (idx m : Nat) :
    pairToXZ (idx.testBit (2 * m + 1), idx.testBit (2 * m)) = (symX (idx / 4 ^ m % 4), symZ (idx / 4 ^ m % 4)) := by
  have h4 : (4 : Nat) ^ m = 2 ^ (2 * m) := by rw [pow_mul]; norm_num
  rw [Nat.testBit_eq_decide_div_mod_eq, Nat.testBit_eq_decide_div_mod_eq, h4, pow_succ, ← Nat.div_div_eq_div_mul]
  generalize idx / 2 ^ (2 * m) = y
  have h := Nat.mod_lt y (by norm_num : 4 > 0)
  have e1 : y / 2 % 2 = y % 4 / 2 := by omega
  have e2 : y % 2 = y % 4 % 2 := by omega
  rw [e1, e2]
  generalize y % 4 = d at h
  interval_cases d <;> rfl

private theorem indexToSyms_getD : ∀ (k idx q : Nat), q < k → (indexToSyms k idx).getD q 0 = idx / 4 ^ (k - 1 - q) % 4
  | 0, _, _, h => by omega
  | k + 1, idx, q, h => by
    rw [indexToSyms]
    by_cases hq : q < k
    · rw [List.getD_eq_getElem?_getD, List.getElem?_append_left (by rw [indexToSyms_length]; exact hq),
        ← List.getD_eq_getElem?_getD, indexToSyms_getD k (idx / 4) q hq, Nat.div_div_eq_div_mul]
      congr 2
      have : k + 1 - 1 - q = (k - 1 - q) + 1 := by omega
      rw [this, pow_succ, mul_comm]
    · have : q = k := by omega
      subst this
      rw [List.getD_eq_getElem?_getD, List.getElem?_append_right (by rw [indexToSyms_length]), indexToSyms_length]
      simp

/-- **batched `pauli_index_to_F2` = single**: the big-endian `np.unpackbits` route gives, for every `n ≤ 32` (the assertion
of the code) and every index, exactly the operator of the single-item route (string → F2) -/
theorem ofIndexBatch_eq (hn : n ≤ 32) (idx : Nat) : ofIndexBatch n idx = Pauli.ofIndex n idx := by
  have hxz : ∀ i : Fin n, pairToXZ (indexPair n idx i.val)
      = (symX ((indexToSyms n idx).getD i.val 0), symZ ((indexToSyms n idx).getD i.val 0)) := by
    intro i
    rw [indexPair_eq idx i.val hn i.isLt, pair_digit, indexToSyms_getD n idx i.val i.isLt]
  have hx : (fun i : Fin n => (pairToXZ (indexPair n idx i.val)).1) = fun i => symX ((indexToSyms n idx).getD i.val 0) :=
    funext fun i => by rw [hxz]
  have hz : (fun i : Fin n => (pairToXZ (indexPair n idx i.val)).2) = fun i => symZ ((indexToSyms n idx).getD i.val 0) :=
    funext fun i => by rw [hxz]
  unfold ofIndexBatch Pauli.ofIndex Pauli.ofStr
  simp only [hx, hz, Nat.add_zero]

/-! ### F2 → index -/

private theorem weighted_append (l : List Bool) (b : Bool) : weighted (l ++ [b]) = 2 * weighted l + b.toNat := by
  unfold weighted
  rw [List.length_append, List.length_singleton, List.range_succ, List.map_append, List.sum_append, List.map_singleton,
    List.sum_singleton]
  congr 1
  · rw [← List.sum_map_mul_left]
    congr 1
    apply List.map_congr_left
    intro j hj
    have hj' : j < l.length := List.mem_range.1 hj
    rw [List.getD_eq_getElem?_getD, List.getElem?_append_left hj', ← List.getD_eq_getElem?_getD]
    have : l.length + 1 - 1 - j = (l.length - 1 - j) + 1 := by omega
    rw [this, pow_succ]; ring
  · simp

private theorem weighted_eq_foldl (l : List Bool) : weighted l = l.foldl (fun a b => 2 * a + b.toNat) 0 := by
  induction l using List.reverseRecOn with
  | nil => rfl
  | append_singleton l b ih => rw [weighted_append, ih, List.foldl_append]; rfl

/-- **batched `pauli_F2_to_index` = single**, every `n` (over ℕ; see the note on int64 in `design_notes/C08.md`) -/
theorem toIndexBatch_eq (p : Pauli n) : toIndexBatch p = p.toIndex := by
  unfold toIndexBatch pairBits Pauli.toIndex Pauli.toStr symsToIndex
  rw [weighted_eq_foldl, List.foldl_flatMap, List.foldl_map]
  congr 1
  funext a i
  simp only [List.foldl_cons, List.foldl_nil]
  cases p.x i <;> cases p.z i <;> simp [xzToPair, symOfBits] <;> ring

/-! ### `from_np_list` -/

private theorem sigma_row : ∀ s, s < 4 →
    ((List.range 4).map (overlap (sigma s))).all (fun v => v.im == 0) = true ∧
    (((List.range 4).map (overlap (sigma s))).map (·.re)).sum = 2 ∧
    (((List.range 4).map (overlap (sigma s))).map (·.re)).foldl max
      ((((List.range 4).map (overlap (sigma s))).map (·.re)).getD 0 0) = 2 ∧
    argmax4 (((List.range 4).map (overlap (sigma s))).map (·.re)) = s ∧ (sigma s).length = 4 := by
  decide

/-- **`from_np_list` inverts `(np_list, sign)`**: the overlaps with `I X Y Z` are `2δ`, so the assertions pass, `argmax` reads
the letters back and the operator is recovered, for every `n` -/
theorem fromNpList_npList (p : Pauli n) :
    ∃ q, fromNpList n (npList p) p.toStr.2 = some q ∧ Pauli.beq q p = true := by
  have hs := p.toStr_lt
  have he : p.toStr.2 < 4 := by simp only [Pauli.toStr]; exact Nat.mod_lt _ (by norm_num)
  have hlen : p.toStr.1.length = n := by simp [Pauli.toStr]
  refine ⟨Pauli.ofStr n p.toStr.1 p.toStr.2, ?_, ofStr_toStr p⟩
  unfold fromNpList npList
  have hrows : ((p.toStr.1.map sigma).map fun M => (List.range 4).map (overlap M)).map (fun r => argmax4 (r.map (·.re)))
      = p.toStr.1 := by
    rw [List.map_map, List.map_map]
    conv_rhs => rw [← List.map_id p.toStr.1]
    apply List.map_congr_left
    intro s hs'
    exact (sigma_row s (hs s hs')).2.2.2.1
  have hok : (((p.toStr.1.map sigma).map fun M => (List.range 4).map (overlap M)).all fun r =>
      r.all (fun v => v.im == 0) && (r.map (·.re)).sum == 2 &&
        (r.map (·.re)).foldl max ((r.map (·.re)).getD 0 0) == 2) = true := by
    rw [List.all_eq_true]
    intro r hr
    simp only [List.mem_map] at hr
    obtain ⟨M, ⟨s, hs', rfl⟩, rfl⟩ := hr
    obtain ⟨h1, h2, h3, _, _⟩ := sigma_row s (hs s hs')
    rw [h1, h2, h3]; rfl
  have hall : (p.toStr.1.map sigma).all (·.length == 4) = true := by
    rw [List.all_eq_true]
    intro M hM
    obtain ⟨s, hs', rfl⟩ := List.mem_map.1 hM
    simp [(sigma_row s (hs s hs')).2.2.2.2]
  simp only [hrows, hok, hall, List.length_map, hlen, beq_self_eq_true, he, decide_true, Bool.and_self, if_true]

/-! ### non-vacuity -/

example : (ofIndexBatch 3 27).toF2List = (Pauli.ofIndex 3 27).toF2List := by decide
example : toIndexBatch (Pauli.ofIndex 3 27) = 27 := by decide
/-- a non-Pauli factor is rejected -/
example : fromNpList 1 [[⟨1,0⟩, ⟨1,0⟩, ⟨0,0⟩, ⟨1,0⟩]] 0 = none := by decide

end Numqi.C08
