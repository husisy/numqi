/-
C03 (gate vocabulary) — every gate the `Circuit` class can append is unitary, hence every circuit built from the
vocabulary has a unitary `to_unitary`.

Property theorems with their proofs (shared lemmas: `NumqiProofs/SimGates.lean`).  They are about the arrays of `NumqiModel/Gates.lean` that the driver executes and the harness
compares with the live `numqi.gate.*` objects and with what the `Circuit` methods append.  `R` is any commutative star ring
with an imaginary unit `I` (`I*I = -1`, `star I = -I`; instantiate `ℂ`, `Complex.I`); an angle enters as a pair
`(c, s)` with `star c = c`, `star s = s`, `c² + s² = 1` (`CS.Valid`), so every statement holds for **every angle**.
-/
import NumqiProps.C03
import NumqiProofs.SimGates
import Mathlib.Data.Complex.Basic

namespace Numqi.C03
open Numqi Function Matrix

variable {R : Type} [CommRing R] [StarRing R]

/-- `I` is an imaginary unit of the star ring -/
structure ImagUnit (I : R) : Prop where
  sq : I * I = -1
  star_eq : star I = -I

/-- `I` has modulus one -/
private theorem ImagUnit.norm {I : R} (hI : ImagUnit I) : I * star I = 1 := by
  rw [hI.star_eq, mul_neg, hI.sq, neg_neg]

/-- a phase `c + i s` of a valid pair has modulus one -/
theorem phase_norm {I : R} (hI : ImagUnit I) {p : CS R} (hp : p.Valid) :
    (p.c + I * p.s) * star (p.c + I * p.s) = 1 := by
  simp only [star_add, star_mul', hp.real_c, hp.real_s, hI.star_eq]
  linear_combination (1 : R) * hp.norm - p.s * p.s * hI.sq

/-- so has the conjugate phase `c − i s` -/
private theorem conj_phase_norm {I : R} (hI : ImagUnit I) {p : CS R} (hp : p.Valid) :
    (p.c - I * p.s) * star (p.c - I * p.s) = 1 := by
  simp only [star_sub, star_mul', hp.real_c, hp.real_s, hI.star_eq]
  linear_combination (1 : R) * hp.norm - p.s * p.s * hI.sq

/-! ### fixed gates

Those with entries in {0, ±1} are unitary over `ℤ` (a finite check) and hence over every `R`. -/

private theorem of_int {d : ℕ} {a : Array ℤ} {b : Array R} (hb : a.map Int.cast = b)
    (h : flatMat d a * star (flatMat d a) = 1) : flatMat d b ∈ unitaryGroup (Fin d) R :=
  hb ▸ flatMat_intCast_unitary (mem_unitaryGroup_iff.2 h)

theorem I2_unitary : flatMat 2 (Gates.I2 : Array R) ∈ unitaryGroup (Fin 2) R :=
  of_int (a := Gates.I2) (by simp [Gates.I2]) (by decide)

theorem X_unitary : flatMat 2 (Gates.X : Array R) ∈ unitaryGroup (Fin 2) R :=
  of_int (a := Gates.X) (by simp [Gates.X]) (by decide)

theorem Y_unitary {I : R} (hI : ImagUnit I) : flatMat 2 (Gates.Y I) ∈ unitaryGroup (Fin 2) R := by
  refine flatMat_two_unitary ?_ ?_ ?_ <;>
    simp only [star_zero, star_neg, mul_zero, zero_mul, add_zero, zero_add, neg_mul_neg, hI.norm]

theorem Z_unitary : flatMat 2 (Gates.Z : Array R) ∈ unitaryGroup (Fin 2) R :=
  of_int (a := Gates.Z) (by simp [Gates.Z]) (by decide)

theorem S_unitary {I : R} (hI : ImagUnit I) : flatMat 2 (Gates.S I) ∈ unitaryGroup (Fin 2) R :=
  flatMat_two_diag_unitary (by simp) hI.norm

/-- `H` is unitary for every valid pair — in particular for `c = s = 1/√2` -/
theorem H_unitary {p : CS R} (hp : p.Valid) : flatMat 2 (Gates.H p) ∈ unitaryGroup (Fin 2) R := by
  refine flatMat_two_unitary ?_ ?_ ?_ <;> simp only [star_neg, hp.real_c, hp.real_s]
  · exact hp.norm
  · linear_combination hp.norm
  · ring

/-- `T = diag(1, c + i s)` is unitary for every valid pair — in particular for the angle `π/4` -/
theorem T_unitary {I : R} (hI : ImagUnit I) {p : CS R} (hp : p.Valid) :
    flatMat 2 (Gates.T I p) ∈ unitaryGroup (Fin 2) R :=
  flatMat_two_diag_unitary (by simp) (phase_norm hI hp)

theorem Swap_unitary : flatMat 4 (Gates.Swap : Array R) ∈ unitaryGroup (Fin 4) R :=
  of_int (a := Gates.Swap) (by simp [Gates.Swap]) (by decide)

theorem CNOT_unitary : flatMat 4 (Gates.CNOT : Array R) ∈ unitaryGroup (Fin 4) R :=
  of_int (a := Gates.CNOT) (by simp [Gates.CNOT]) (by decide)

theorem CZ_unitary : flatMat 4 (Gates.CZ : Array R) ∈ unitaryGroup (Fin 4) R :=
  of_int (a := Gates.CZ) (by simp [Gates.CZ]) (by decide)

/-! ### parametrised gates: unitary for every angle -/

theorem rx_unitary {I : R} (hI : ImagUnit I) {h : CS R} (hv : h.Valid) :
    flatMat 2 (Gates.rx I h) ∈ unitaryGroup (Fin 2) R := by
  refine flatMat_two_unitary ?_ ?_ ?_ <;> simp only [star_neg, star_mul', hv.real_c, hv.real_s, hI.star_eq]
  · linear_combination hv.norm - h.s * h.s * hI.sq
  · linear_combination hv.norm - h.s * h.s * hI.sq
  · ring

theorem ry_unitary {h : CS R} (hv : h.Valid) : flatMat 2 (Gates.ry h) ∈ unitaryGroup (Fin 2) R := by
  refine flatMat_two_unitary ?_ ?_ ?_ <;> simp only [star_neg, hv.real_c, hv.real_s]
  · linear_combination hv.norm
  · linear_combination hv.norm
  · ring

theorem rz_unitary {I : R} (hI : ImagUnit I) {h : CS R} (hv : h.Valid) :
    flatMat 2 (Gates.rz I h) ∈ unitaryGroup (Fin 2) R :=
  flatMat_two_diag_unitary (conj_phase_norm hI hv) (phase_norm hI hv)

theorem rzz_unitary {I : R} (hI : ImagUnit I) {h : CS R} (hv : h.Valid) :
    flatMat 4 (Gates.rzz I h) ∈ unitaryGroup (Fin 4) R :=
  flatMat_four_diag_unitary (conj_phase_norm hI hv) (phase_norm hI hv) (phase_norm hI hv) (conj_phase_norm hI hv)

/-- the shape of `u3` with the two phases kept abstract -/
private theorem u3_core (ct st el ep : R) (hct : star ct = ct) (hst : star st = st) (hn : ct * ct + st * st = 1)
    (hel : el * star el = 1) (hep : ep * star ep = 1) :
    flatMat 2 #[ct, -(st * el), st * ep, ct * el * ep] ∈ unitaryGroup (Fin 2) R := by
  refine flatMat_two_unitary ?_ ?_ ?_ <;> simp only [star_neg, star_mul', hct, hst]
  · linear_combination hn + st * st * hel
  · linear_combination hn + st * st * hep + ct * ct * (ep * star ep * hel + hep)
  · linear_combination (-(ct * st * star ep)) * hel

theorem u3_unitary {I : R} (hI : ImagUnit I) {h ph la : CS R} (hv : h.Valid) (hph : ph.Valid) (hla : la.Valid) :
    flatMat 2 (Gates.u3 I h ph la) ∈ unitaryGroup (Fin 2) R :=
  u3_core h.c h.s (la.c + I * la.s) (ph.c + I * ph.s) hv.real_c hv.real_s hv.norm (phase_norm hI hla) (phase_norm hI hph)


/-! ### `u3` is its documented Euler product; rotations about one axis compose by adding angles -/

/-- double-angle pair: `(cos 2x, sin 2x)` from `(cos x, sin x)` -/
def CS.double (p : CS R) : CS R := ⟨p.c * p.c - p.s * p.s, p.c * p.s + p.s * p.c⟩
/-- angle-addition pair: `(cos(x+y), sin(x+y))` -/
def CS.add (p q : CS R) : CS R := ⟨p.c * q.c - p.s * q.s, p.s * q.c + p.c * q.s⟩

/-- **`u3(θ,φ,λ) = e^{i(φ+λ)/2} · R_z(φ) R_y(θ) R_z(λ)`** (the docstring of `numqi.gate.u3`), with `hp`, `hl` the
half-angle pairs of `φ`, `λ` and the full-angle pairs obtained by angle doubling -/
theorem u3_eq_euler {I : R} (hI : ImagUnit I) (h : CS R) {hp hl : CS R} (hvp : hp.Valid) (hvl : hl.Valid) :
    flatMat 2 (Gates.u3 I h (CS.double hp) (CS.double hl))
      = ((hp.c + I * hp.s) * (hl.c + I * hl.s)) •
          (flatMat 2 (Gates.rz I hp) * flatMat 2 (Gates.ry h) * flatMat 2 (Gates.rz I hl)) := by
  have h1 : (hp.c + I * hp.s) * (hp.c - I * hp.s) = 1 := by
    linear_combination (1 : R) * hvp.norm - hp.s * hp.s * hI.sq
  have h2 : (hl.c + I * hl.s) * (hl.c - I * hl.s) = 1 := by
    linear_combination (1 : R) * hvl.norm - hl.s * hl.s * hI.sq
  have e1 : (CS.double hp).c + I * (CS.double hp).s = (hp.c + I * hp.s) * (hp.c + I * hp.s) := by
    simp only [CS.double]; linear_combination (-(hp.s * hp.s)) * hI.sq
  have e2 : (CS.double hl).c + I * (CS.double hl).s = (hl.c + I * hl.s) * (hl.c + I * hl.s) := by
    simp only [CS.double]; linear_combination (-(hl.s * hl.s)) * hI.sq
  simp only [Gates.u3, Gates.rz, Gates.ry, e1, e2, flatMat_two_mul, flatMat_two_smul]
  generalize hp.c + I * hp.s = zp at *
  generalize hp.c - I * hp.s = zp' at *
  generalize hl.c + I * hl.s = zl at *
  generalize hl.c - I * hl.s = zl' at *
  refine flatMat_two_congr ?_ ?_ ?_ ?_
  · linear_combination (-(h.c * (zp * zp' * h2 + h1)))
  · linear_combination (h.s * zl * zl) * h1
  · linear_combination (-(h.s * zp * zp)) * h2
  · ring

/-- phases multiply by adding angles -/
private theorem phase_add {I : R} (hI : ImagUnit I) (a b : CS R) :
    (a.c + I * a.s) * (b.c + I * b.s) = (CS.add a b).c + I * (CS.add a b).s := by
  simp only [CS.add]
  linear_combination (a.s * b.s) * hI.sq

private theorem conj_phase_add {I : R} (hI : ImagUnit I) (a b : CS R) :
    (a.c - I * a.s) * (b.c - I * b.s) = (CS.add a b).c - I * (CS.add a b).s := by
  simp only [CS.add]
  linear_combination (a.s * b.s) * hI.sq

theorem rz_mul {I : R} (hI : ImagUnit I) (a b : CS R) :
    flatMat 2 (Gates.rz I a) * flatMat 2 (Gates.rz I b) = flatMat 2 (Gates.rz I (CS.add a b)) := by
  simp only [Gates.rz, flatMat_two_mul, mul_zero, zero_mul, add_zero, zero_add, phase_add hI, conj_phase_add hI]

theorem rx_mul {I : R} (hI : ImagUnit I) (a b : CS R) :
    flatMat 2 (Gates.rx I a) * flatMat 2 (Gates.rx I b) = flatMat 2 (Gates.rx I (CS.add a b)) := by
  simp only [Gates.rx, flatMat_two_mul, CS.add]
  refine flatMat_two_congr ?_ ?_ ?_ ?_
  · linear_combination (a.s * b.s) * hI.sq
  · ring
  · ring
  · linear_combination (a.s * b.s) * hI.sq

omit [StarRing R] in
theorem ry_mul (a b : CS R) :
    flatMat 2 (Gates.ry a) * flatMat 2 (Gates.ry b) = flatMat 2 (Gates.ry (CS.add a b)) := by
  simp only [Gates.ry, flatMat_two_mul, CS.add]
  refine flatMat_two_congr ?_ ?_ ?_ ?_ <;> ring

theorem rzz_mul {I : R} (hI : ImagUnit I) (a b : CS R) :
    flatMat 4 (Gates.rzz I a) * flatMat 4 (Gates.rzz I b) = flatMat 4 (Gates.rzz I (CS.add a b)) := by
  simp only [Gates.rzz, flatMat_four_diag_mul, phase_add hI, conj_phase_add hI]

/-! ### the constants `CNOT`, `CZ` are the controlled gates the `Circuit` methods build (entries in {0, ±1}: decided over ℤ) -/

theorem CNOT_eq_controlled_X :
    tabulateMat (ctrlEmbed (lookupMat (k := 1) (Gates.X : Array Int)) (fun i : Fin 2 => i == 0) ![1])
      = (Gates.CNOT : Array Int) := by decide

theorem CZ_eq_controlled_Z :
    tabulateMat (ctrlEmbed (lookupMat (k := 1) (Gates.Z : Array Int)) (fun i : Fin 2 => i == 0) ![1])
      = (Gates.CZ : Array Int) := by decide


/-! ### every circuit written in the vocabulary is unitary -/

/-- a flat array that is a unitary `2^k × 2^k` matrix for some `k` -/
def FlatUnitary (U : Array R) : Prop :=
  ∃ k, U.size = 2 ^ k * 2 ^ k ∧ Matrix.of (lookupMat (k := k) U) ∈ unitaryGroup (Bits k) R

/-- a raw gate-list entry carrying a unitary array -/
def IsUnitaryEntry : RawOp R → Prop
  | .unitary U _ => FlatUnitary U
  | .control U _ _ => FlatUnitary U
  | .custom U => FlatUnitary U
  | .measure _ _ => False

private theorem pow_sq_inj {k m : Nat} (h : 2 ^ k * 2 ^ k = 2 ^ m * 2 ^ m) : k = m := by
  rw [← pow_add, ← pow_add] at h
  have := Nat.pow_right_injective (le_refl 2) h
  omega

/-- resolving an entry against a register keeps its array: unitary entries become unitary operators -/
theorem compile_isUnitary (n : Nat) (g : RawOp R) (op : Op n R) (h : g.compile n = some op)
    (hu : IsUnitaryEntry g) : IsUnitaryOp op := by
  obtain ⟨m, rfl⟩ := compile_pos h
  cases g with
  | unitary U t =>
    obtain ⟨k, hk, hU⟩ := hu
    obtain ⟨-, hs, rfl⟩ := compile_unitary_some h
    obtain rfl := pow_sq_inj (hk.symm.trans hs)
    exact hU
  | control U c t =>
    obtain ⟨k, hk, hU⟩ := hu
    obtain ⟨n', -, -, hs, rfl⟩ := compile_control_some h
    obtain rfl := pow_sq_inj (hk.symm.trans hs)
    exact hU
  | measure s o => exact hu.elim
  | custom U =>
    obtain ⟨k, hk, hU⟩ := hu
    obtain ⟨hs, rfl⟩ := compile_custom_some h
    obtain rfl := pow_sq_inj (hk.symm.trans hs)
    exact hU

/-- **every method of the vocabulary appends a unitary gate**, for every angle -/
theorem vocab_isUnitaryEntry {I : R} (hI : ImagUnit I) (v : Vocab R) (hp : ∀ p ∈ v.pairs, p.Valid) :
    IsUnitaryEntry (v.toRaw I) := by
  have one := fun (a : Array R) (hs : a.size = 2 ^ 1 * 2 ^ 1) (h : flatMat 2 a ∈ unitaryGroup (Fin 2) R) =>
    (⟨1, hs, lookupMat_unitary (d := 2) (k := 1) rfl a h⟩ : FlatUnitary a)
  have two := fun (a : Array R) (hs : a.size = 2 ^ 2 * 2 ^ 2) (h : flatMat 4 a ∈ unitaryGroup (Fin 4) R) =>
    (⟨2, hs, lookupMat_unitary (d := 4) (k := 2) rfl a h⟩ : FlatUnitary a)
  cases v with
  | X _ | cnot _ _ | toffoli _ _ _ => exact one _ rfl X_unitary
  | Y _ | cy _ _ => exact one _ rfl (Y_unitary hI)
  | Z _ | cz _ _ => exact one _ rfl Z_unitary
  | S _ => exact one _ rfl (S_unitary hI)
  | H _ p => exact one _ rfl (H_unitary (hp p (by simp [Vocab.pairs])))
  | T _ p => exact one _ rfl (T_unitary hI (hp p (by simp [Vocab.pairs])))
  | Swap _ _ => exact two _ rfl Swap_unitary
  | rx _ h | crx _ _ h => exact one _ rfl (rx_unitary hI (hp h (by simp [Vocab.pairs])))
  | ry _ h | cry _ _ h => exact one _ rfl (ry_unitary (hp h (by simp [Vocab.pairs])))
  | rz _ h | crz _ _ h => exact one _ rfl (rz_unitary hI (hp h (by simp [Vocab.pairs])))
  | u3 _ h ph la | cu3 _ _ h ph la =>
    exact one _ rfl (u3_unitary hI (hp h (by simp [Vocab.pairs])) (hp ph (by simp [Vocab.pairs])) (hp la (by simp [Vocab.pairs])))
  | rzz _ _ h => exact two _ rfl (rzz_unitary hI (hp h (by simp [Vocab.pairs])))

private theorem mapM_some_mem {α β : Type} (f : α → Option β) :
    ∀ (l : List α) (c : List β), l.mapM f = some c → ∀ b ∈ c, ∃ a ∈ l, f a = some b
  | [], c, h, b, hb => by simp at h; subst h; simp at hb
  | a :: l, c, h, b, hb => by
    obtain ⟨b0, c0, hfa, hl, rfl⟩ := mapM_cons_some f a l c h
    rcases List.mem_cons.1 hb with rfl | hb
    · exact ⟨a, by simp, hfa⟩
    · obtain ⟨a', ha', hfa'⟩ := mapM_some_mem f l c0 hl b hb
      exact ⟨a', List.mem_cons_of_mem _ ha', hfa'⟩

/-- **`circuit_unitary_of_vocabulary`**: every circuit built only from vocabulary methods (any qubits the index
resolution accepts, any angles) has a unitary `to_unitary` — no per-gate hypothesis left. -/
theorem circuit_unitary_of_vocabulary {I : R} (hI : ImagUnit I) (n : Nat) (prog : List (Vocab R))
    (hp : ∀ v ∈ prog, ∀ p ∈ v.pairs, p.Valid) (c : List (Op n R))
    (hc : compileCircuit n (prog.map (Vocab.toRaw I)) = some c) :
    Matrix.of (toUnitary c) ∈ unitaryGroup (Bits n) R := by
  have key : ∀ op ∈ c, op.WF ∧ IsUnitaryOp op := by
    intro op hop
    obtain ⟨g, hg, hgo⟩ := mapM_some_mem _ _ _ hc op hop
    obtain ⟨v, hv, rfl⟩ := List.mem_map.1 hg
    exact ⟨compile_wf n _ op hgo, compile_isUnitary n _ op hgo (vocab_isUnitaryEntry hI v (hp v hv))⟩
  exact toUnitary_unitary c (fun op hop => (key op hop).1) (fun op hop => (key op hop).2)

/-! ### the executed carriers -/

/-- `GInt.I` and `QI.I` (what the driver passes as the imaginary unit) are imaginary units -/
theorem imagUnit_GInt : ImagUnit GInt.I := ⟨GInt.I_mul_I, GInt.star_I⟩
theorem imagUnit_QI : ImagUnit QI.I := ⟨QI.I_mul_I, QI.star_I⟩

/-- **what the driver computes**: every vocabulary program over `ℚ[i]` (exact rational cosine/sine pairs) resolved by the
index resolution has a unitary `to_unitary` -/
theorem circuit_unitary_of_vocabulary_QI (n : Nat) (prog : List (Vocab QI)) (hp : ∀ v ∈ prog, ∀ p ∈ v.pairs, p.Valid)
    (c : List (Op n QI)) (hc : compileCircuit n (prog.map (Vocab.toRaw QI.I)) = some c) :
    Matrix.of (toUnitary c) ∈ unitaryGroup (Bits n) QI :=
  circuit_unitary_of_vocabulary imagUnit_QI n prog hp c hc

/-- over `ℚ[i]` an imaginary unit **and** non-trivial valid pairs exist together (angle with cos = 3/5, sin = 4/5) -/
example : ImagUnit QI.I ∧ (⟨⟨3/5, 0⟩, ⟨4/5, 0⟩⟩ : CS QI).Valid := by
  refine ⟨imagUnit_QI, ⟨?_, ?_, ?_⟩⟩
  · apply QI.ext' <;> simp [star]
  · apply QI.ext' <;> simp [star]
  · apply QI.ext' <;> simp
    norm_num

/-! ### the hypotheses are satisfiable -/

/-- `ℂ` with `Complex.I` -/
example : ImagUnit Complex.I := ⟨Complex.I_mul_I, Complex.conj_I⟩

/-- the angle 0 (and `π`, `π/2`) as exact pairs over any ring; over `ℚ` also `(3/5, 4/5)` -/
example : (⟨1, 0⟩ : CS ℚ).Valid ∧ (⟨0, 1⟩ : CS ℚ).Valid ∧ (⟨-1, 0⟩ : CS ℚ).Valid ∧ (⟨3/5, 4/5⟩ : CS ℚ).Valid := by
  refine ⟨⟨rfl, rfl, by norm_num⟩, ⟨rfl, rfl, by norm_num⟩, ⟨rfl, rfl, by norm_num⟩, ⟨rfl, rfl, by norm_num⟩⟩

/-- the model computes: the Toffoli entry `toffoli((0,2), 1)` flips qubit 1 of |101⟩ -/
example : (((Vocab.toffoli 0 2 1 : Vocab Int).toRaw 0).compile 3).map (fun g => g.applyA #[0,0,0,0,0,1,0,0])
    = some #[0,0,0,0,0,0,0,1] := by decide

end Numqi.C03
