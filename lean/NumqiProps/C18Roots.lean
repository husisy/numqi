/-
C18 (roots-of-unity UPB families) — `load_upb('gentiles1', d)`, `load_upb('gentiles2', (m, n))`, `load_upb('quadres', dim)`
(`numqi/entangle/upb.py:93-111, 163-200`) are orthonormal families of product vectors for **every** admissible size, so
`upb_bes_projector` / `upb_bes_ppt` (`NumqiProps/C18.lean`) apply: `upb_to_bes` returns a PPT state of rank `D − |UPB|`.

Model: the symbolic tables `gt1A/gt1B`, `gt2A/gt2B`, `qrA/qrB` of `NumqiModel/CatalogueRoots.lean` (executed by
`Driver/C18Roots.lean`, tied to the arrays of `load_upb` by `harness/c18roots.py`): each component is `0` or
`± sc(cls) · ω^e`.  The theorems are about the evaluation `ev sc ω x = x.eval sc (ω^·)` of exactly these tables.

Two layers:
* `*_orthonormal_of_relations`: in `ℂ`, for any `ω`, `sc` satisfying the algebraic relations `RootData` (`ω^h = 1`, `ω̄ω = 1`,
  `Σ_{k<h} ω^{jk} = 0` for `0 < j < h`) and `ScaleData` / `QuadScale` (squares of the real scales) — the ring-theoretic content;
* `*_orthonormal`, `*_bes`: for the library's numbers `ω = exp(2πi/h)`, scales `1/√·`, `N = max(−σ, 1+σ)`.
For quadres the number theory (non-zero squares of `ℤ/p` form an index-2 subgroup, `−1` is a square iff `p ≢ 3 mod 4`, the
executed lists `quadResidues p` / `firstNonResidue p` are the squares / a non-square) is proved, not assumed.
Unextendibility (which makes the state entangled) is literature and not part of these statements.
-/
import NumqiProps.C18
import NumqiProofs.CatalogueRoots

namespace Numqi.C18
open Numqi.Catalogue Finset

/-! ## the relations, and that the library's numbers satisfy them -/

/-- **`exp(2πi/h)` satisfies the root-of-unity relations** used below (in particular the vanishing sums). -/
theorem rootC_relations {h : ℕ} (hh : 0 < h) : RootData h (rootC h) := rootData_rootC hh

/-- **the scales `1, 1/√h, 1/√dA, 1/√2, 1/√dB` satisfy the scale relations** -/
theorem scaleC_relations {h dA dB : ℕ} (hh : 0 < h) (hA : 0 < dA) (hB : 0 < dB) :
    ScaleData (scaleC h dA dB) h dA dB := by
  have sq : ∀ x : ℝ, 0 < x → ((1 / Real.sqrt x : ℝ) : ℂ) * ((1 / Real.sqrt x : ℝ) : ℂ) * (x : ℂ) = 1 := fun x hx => by
    exact_mod_cast roots_inv_sqrt_mul_self hx
  refine ⟨fun c => Complex.conj_ofReal _, by simp [scaleC], ?_, ?_, ?_, ?_⟩
  · simpa [scaleC] using sq h (by exact_mod_cast hh)
  · simpa [scaleC] using sq dA (by exact_mod_cast hA)
  · simpa [scaleC] using sq dB (by exact_mod_cast hB)
  · simpa [scaleC] using sq 2 (by norm_num)

/-- **quadres: for a prime `p ≡ 1 (mod 4)` the weight `N = max(−σ, 1+σ)`, `σ = Re Σ_{q∈Q} e^{2πiq/p}` and the two
scales `√N/√(N+|Q|)`, `1/√(N+|Q|)` satisfy the scale relations** — this uses that `σ` is real (`−1` is a square). -/
theorem scaleQ_relations {p : ℕ} [Fact p.Prime] (h4 : p % 4 = 1) :
    QuadScale (scaleQ p) (rootC p) p (weightN p : ℂ) := by
  have hN := weightN_pos p
  have hD : 0 < weightN p + ((quadResidues p).length : ℝ) := by positivity
  have hsD : Real.sqrt (weightN p + ((quadResidues p).length : ℝ)) ≠ 0 := (Real.sqrt_pos.2 hD).ne'
  have e6 : scaleQ p 6 = ((Real.sqrt (weightN p) / Real.sqrt (weightN p + (quadResidues p).length) : ℝ) : ℂ) := by
    simp [scaleQ]
  have e7 : scaleQ p 7 = ((1 / Real.sqrt (weightN p + (quadResidues p).length) : ℝ) : ℂ) := by
    simp [scaleQ]
  refine ⟨Complex.conj_ofReal _, Complex.conj_ofReal _, ?_, ?_, ?_⟩
  · rw [e6, e7]
    have : Real.sqrt (weightN p) / Real.sqrt (weightN p + (quadResidues p).length) *
        (Real.sqrt (weightN p) / Real.sqrt (weightN p + (quadResidues p).length)) =
        weightN p * (1 / Real.sqrt (weightN p + (quadResidues p).length) *
          (1 / Real.sqrt (weightN p + (quadResidues p).length))) := by
      have h := Real.mul_self_sqrt (le_of_lt hN)
      field_simp
      nlinarith [h]
    exact_mod_cast this
  · rw [e7]
    have := roots_inv_sqrt_mul_self hD
    exact_mod_cast this
  · have hs := sigmaC_real (p := p) h4
    show (weightN p : ℂ) = -sigmaC p ∨ (weightN p : ℂ) = 1 + sigmaC p
    rw [← hs]
    unfold weightN
    rcases max_choice (-(sigmaC p).re) (1 + (sigmaC p).re) with h | h
    · left; rw [h]; push_cast; ring
    · right; rw [h]; push_cast; ring

/-! ## GenTiles1: `d = 2h ≥ 4`, `d² − 2d + 1` vectors in `d ⊗ d` -/

/-- **GenTiles1 from the relations alone.** -/
theorem gentiles1_orthonormal_of_relations {h : ℕ} {η : ℂ} {sc : ℕ → ℂ} (hR : RootData h η)
    (hS : ScaleData sc h (2 * h) (2 * h)) (hh : 2 ≤ h) :
    Orthonormal (gt1Count (2 * h)) (2 * h * (2 * h))
      (prodVec (2 * h) (fun a i => ev sc η (gt1A (2 * h) a i)) (fun a i => ev sc η (gt1B (2 * h) a i))) := by
  have hpos : 0 < h := by omega
  have hd : 0 < 2 * h := by omega
  have hh2 : 2 * h / 2 = h := by omega
  apply orthonormal_of_le
  intro a b hab hb
  rw [inner_prodVec (2 * h) (2 * h) hd]
  unfold gt1Count at hb
  rw [hh2] at hb
  -- bounds on the decoded indices
  have dec : ∀ c, c < (h - 1) * (2 * (2 * h)) →
      0 < c / (2 * (2 * h)) + 1 ∧ c / (2 * (2 * h)) + 1 < h ∧ c % (2 * (2 * h)) / 2 < 2 * h := by
    intro c hc
    have h1 : c / (2 * (2 * h)) < h - 1 := (Nat.div_lt_iff_lt_mul (by omega)).2 hc
    have h2 : c % (2 * (2 * h)) < 2 * (2 * h) := Nat.mod_lt _ (by omega)
    generalize c / (2 * (2 * h)) = q at *
    generalize c % (2 * (2 * h)) = r at *
    omega
  have hjm : ∀ j, j < 2 * h → (j + 1) % (2 * h) < 2 * h := fun j _ => Nat.mod_lt _ hd
  simp only [gt1A, gt1B, hh2]
  by_cases hbT : b < (h - 1) * (2 * (2 * h))
  · have haT : a < (h - 1) * (2 * (2 * h)) := by omega
    obtain ⟨ma0, mah, jad⟩ := dec a haT
    obtain ⟨mb0, mbh, jbd⟩ := dec b hbT
    simp only [if_pos haT, if_pos hbT]
    by_cases sa : a % 2 = 0 <;> by_cases sb : b % 2 = 0
    · simp only [if_pos sa, if_pos sb]
      rw [gt1_same hR hS (fun j => (j + 1) % (2 * h)) mah mbh jad (hjm _ jbd)]
      exact if_congr (gt1_index (by omega)) rfl rfl
    · simp only [if_pos sa, if_neg sb]
      rw [gt1_cross hR hS jad jbd, if_neg (fun e => sb (by rw [← e]; exact sa))]
    · simp only [if_neg sa, if_pos sb]
      rw [gt1_cross' hR hS jad jbd, if_neg (fun e => sa (by rw [e]; exact sb))]
    · simp only [if_neg sa, if_neg sb]
      rw [mul_comm, gt1_same hR hS (fun j => j) mah mbh jad jbd]
      exact if_congr (gt1_index (by omega)) rfl rfl
  · have hbE : b = (h - 1) * (2 * (2 * h)) := by omega
    by_cases haT : a < (h - 1) * (2 * (2 * h))
    · obtain ⟨ma0, mah, jad⟩ := dec a haT
      simp only [if_pos haT, if_neg hbT]
      rw [if_neg (by omega)]
      by_cases sa : a % 2 = 0
      · simp only [if_pos sa]
        rw [inner_tile_const hR _ ma0 mah (hjm _ jad), mul_zero]
      · simp only [if_neg sa]
        rw [inner_tile_const hR _ ma0 mah jad, zero_mul]
    · have haE : a = b := by omega
      simp only [if_neg haT, if_neg hbT]
      rw [if_pos haE]
      have e3 : ev sc η ⟨3, false, 0⟩ = sc 3 := by simp [ev, RootEnt.eval]
      have e5 : ev sc η ⟨5, false, 0⟩ = sc 5 := by simp [ev, RootEnt.eval]
      simp only [e3, e5]
      rw [inner_const_const _ _ (hS.real 3) (by exact_mod_cast hS.stopA),
        inner_const_const _ _ (hS.real 5) (by exact_mod_cast hS.stopB), one_mul]

/-- local vectors of GenTiles1 with the library's numbers -/
noncomputable def gt1VecA (h a i : ℕ) : ℂ := ev (scaleC h (2 * h) (2 * h)) (rootC h) (gt1A (2 * h) a i)
noncomputable def gt1VecB (h a i : ℕ) : ℂ := ev (scaleC h (2 * h) (2 * h)) (rootC h) (gt1B (2 * h) a i)

/-- **GenTiles1 is an orthonormal product family for every even `d = 2h ≥ 4`.** -/
theorem gentiles1_orthonormal (h : ℕ) (hh : 2 ≤ h) :
    Orthonormal (gt1Count (2 * h)) (2 * h * (2 * h)) (prodVec (2 * h) (gt1VecA h) (gt1VecB h)) :=
  gentiles1_orthonormal_of_relations (rootData_rootC (by omega)) (scaleC_relations (by omega) (by omega) (by omega)) hh

theorem gentiles1_count (h : ℕ) (hh : 1 ≤ h) : gt1Count (2 * h) + 2 * (2 * h) = 2 * h * (2 * h) + 1 := by
  unfold gt1Count
  have : 2 * h / 2 = h := by omega
  rw [this]
  obtain ⟨k, rfl⟩ := Nat.exists_eq_add_of_le hh
  simp only [Nat.add_sub_cancel_left]; ring

/-- **the GenTiles1 bound entangled state**: the complement of the span is a Hermitian projector of trace `d² − (d²−2d+1)`,
positive semidefinite, with positive semidefinite partial transpose. -/
theorem gentiles1_bes (h : ℕ) (hh : 2 ≤ h) :
    let w := prodVec (2 * h) (gt1VecA h) (gt1VecB h)
    let D := 2 * h * (2 * h)
    let m := gt1Count (2 * h)
    (∀ r < D, ∀ c < D, ∑ y ∈ range D, upbCompl m w r y * upbCompl m w y c = upbCompl m w r c)
    ∧ (∀ r c, starRingEnd ℂ (upbCompl m w r c) = upbCompl m w c r)
    ∧ ∑ r ∈ range D, upbCompl m w r r = (D : ℂ) - (m : ℂ)
    ∧ (∀ x : ℕ → ℂ, 0 ≤ (hform D (upbCompl m w) x).re ∧ (hform D (upbCompl m w) x).im = 0)
    ∧ ∀ x : ℕ → ℂ, 0 ≤ (hform D (ptB (2 * h) (upbCompl m w)) x).re ∧ (hform D (ptB (2 * h) (upbCompl m w)) x).im = 0 := by
  intro w D m
  have ho := gentiles1_orthonormal h hh
  obtain ⟨h1, h2, h3, h4⟩ := upb_bes_projector m D w ho
  exact ⟨h1, h2, h3, h4, fun x => upb_bes_ppt m (2 * h) (2 * h) (by omega) _ _ ho x⟩

/-! ## GenTiles2: `3 ≤ m ≤ n`, `4 ≤ n`, `mn − 2m + 1` vectors in `m ⊗ n` -/

/-- **GenTiles2 from the relations alone.** -/
theorem gentiles2_orthonormal_of_relations {m n : ℕ} {ζ : ℂ} {sc : ℕ → ℂ} (hR : RootData (n - 2) ζ)
    (hS : ScaleData sc (n - 2) m n) (hm : 3 ≤ m) (hmn : m ≤ n) (hn : 4 ≤ n) :
    Orthonormal (gt2Count m n) (m * n)
      (prodVec n (fun a i => ev sc ζ (gt2A m n a i)) (fun a i => ev sc ζ (gt2B m n a i))) := by
  have hm2 : 2 ≤ m := by omega
  have hnpos : 0 < n := by omega
  have hL : 0 < n - 3 := by omega
  apply orthonormal_of_le
  intro a b hab hb
  rw [inner_prodVec m n hnpos]
  unfold gt2Count at hb
  have dec : ∀ c, m ≤ c → c < m + m * (n - 3) →
      (c - m) / (n - 3) < m ∧ 0 < (c - m) % (n - 3) + 1 ∧ (c - m) % (n - 3) + 1 < n - 2 := by
    intro c h1 h2
    have h3 : (c - m) / (n - 3) < m := (Nat.div_lt_iff_lt_mul hL).2 (by omega)
    have h4 : (c - m) % (n - 3) < n - 3 := Nat.mod_lt _ hL
    generalize (c - m) / (n - 3) = q at *
    generalize (c - m) % (n - 3) = r at *
    omega
  have e3 : ev sc ζ ⟨3, false, 0⟩ = sc 3 := by simp [ev, RootEnt.eval]
  have e5 : ev sc ζ ⟨5, false, 0⟩ = sc 5 := by simp [ev, RootEnt.eval]
  have uB : ∀ c, c < m → (fun i => ev sc ζ (gt2B m n c i)) = fun i => ev sc ζ (unitEnt c i) := by
    intro c hc; funext i; simp only [gt2B, if_pos hc]
  have pB : ∀ c, m ≤ c → c < m + m * (n - 3) → (fun i => ev sc ζ (gt2B m n c i)) =
      fun i => ev sc ζ (gt2Phi m n ((c - m) / (n - 3)) ((c - m) % (n - 3) + 1) i) := by
    intro c h1 h2; funext i; simp only [gt2B, if_neg (not_lt.2 h1), if_pos h2]
  have pA : ∀ c, m ≤ c → c < m + m * (n - 3) → (fun i => ev sc ζ (gt2A m n c i)) =
      fun i => ev sc ζ (unitEnt ((c - m) / (n - 3)) i) := by
    intro c h1 h2; funext i; simp only [gt2A, if_neg (not_lt.2 h1), if_pos h2]
  have sA : ∀ c, ¬ c < m + m * (n - 3) → (fun i => ev sc ζ (gt2A m n c i)) = fun _ => sc 3 := by
    intro c h2; funext i; simp only [gt2A, if_neg (show ¬ c < m by omega), if_neg h2, e3]
  have sB : ∀ c, ¬ c < m + m * (n - 3) → (fun i => ev sc ζ (gt2B m n c i)) = fun _ => sc 5 := by
    intro c h2; funext i; simp only [gt2B, if_neg (show ¬ c < m by omega), if_neg h2, e5]
  by_cases hb0 : b < m
  · have ha0 : a < m := by omega
    rw [uB a ha0, uB b hb0, inner_unit_left hS.one ζ (by omega : a < n), ev_unit hS.one]
    by_cases e : a = b
    · subst e; rw [inner_diff_self hS hm2 ha0, if_pos rfl, one_mul]
    · rw [if_neg e, mul_zero]
  · by_cases hb1 : b < m + m * (n - 3)
    · obtain ⟨jb, lb0, lbN⟩ := dec b (by omega) hb1
      by_cases ha0 : a < m
      · rw [uB a ha0, pB b (by omega) hb1, pA b (by omega) hb1, gt2_cross hR hS hm2 hmn ha0 jb,
          if_neg (by omega)]
      · obtain ⟨ja, la0, laN⟩ := dec a (by omega) (by omega)
        rw [pA a (by omega) (by omega), pA b (by omega) hb1, pB a (by omega) (by omega), pB b (by omega) hb1,
          gt2_same hR hS hm2 hmn ja laN lbN]
        exact if_congr (gt2_index.trans ⟨fun e => by omega, fun e => by rw [e]⟩) rfl rfl
    · rw [sA b hb1, sB b hb1]
      by_cases ha0 : a < m
      · rw [inner_diff_const hS hm2 ha0, zero_mul, if_neg (by omega)]
      · by_cases ha1 : a < m + m * (n - 3)
        · obtain ⟨ja, la0, laN⟩ := dec a (by omega) ha1
          rw [pB a (by omega) ha1, inner_phi_const hR hm2 hmn _ la0 laN, mul_zero, if_neg (by omega)]
        · rw [sA a ha1, sB a ha1, inner_const_const _ _ (hS.real 3) hS.stopA,
            inner_const_const _ _ (hS.real 5) hS.stopB, one_mul, if_pos (by omega)]

noncomputable def gt2VecA (m n a i : ℕ) : ℂ := ev (scaleC (n - 2) m n) (rootC (n - 2)) (gt2A m n a i)
noncomputable def gt2VecB (m n a i : ℕ) : ℂ := ev (scaleC (n - 2) m n) (rootC (n - 2)) (gt2B m n a i)

/-- **GenTiles2 is an orthonormal product family for every `3 ≤ m ≤ n`, `4 ≤ n`.** -/
theorem gentiles2_orthonormal (m n : ℕ) (hm : 3 ≤ m) (hmn : m ≤ n) (hn : 4 ≤ n) :
    Orthonormal (gt2Count m n) (m * n) (prodVec n (gt2VecA m n) (gt2VecB m n)) :=
  gentiles2_orthonormal_of_relations (rootData_rootC (by omega)) (scaleC_relations (by omega) (by omega) (by omega)) hm hmn hn

theorem gentiles2_count (m n : ℕ) (hn : 3 ≤ n) : gt2Count m n + 2 * m = m * n + 1 := by
  unfold gt2Count
  obtain ⟨k, rfl⟩ := Nat.exists_eq_add_of_le hn
  simp only [Nat.add_sub_cancel_left]; ring

/-- **the GenTiles2 bound entangled state** -/
theorem gentiles2_bes (m n : ℕ) (hm : 3 ≤ m) (hmn : m ≤ n) (hn : 4 ≤ n) :
    let w := prodVec n (gt2VecA m n) (gt2VecB m n)
    let D := m * n
    let c := gt2Count m n
    (∀ r < D, ∀ s < D, ∑ y ∈ range D, upbCompl c w r y * upbCompl c w y s = upbCompl c w r s)
    ∧ (∀ r s, starRingEnd ℂ (upbCompl c w r s) = upbCompl c w s r)
    ∧ ∑ r ∈ range D, upbCompl c w r r = (D : ℂ) - (c : ℂ)
    ∧ (∀ x : ℕ → ℂ, 0 ≤ (hform D (upbCompl c w) x).re ∧ (hform D (upbCompl c w) x).im = 0)
    ∧ ∀ x : ℕ → ℂ, 0 ≤ (hform D (ptB n (upbCompl c w)) x).re ∧ (hform D (ptB n (upbCompl c w)) x).im = 0 := by
  intro w D c
  have ho := gentiles2_orthonormal m n hm hmn hn
  obtain ⟨h1, h2, h3, h4⟩ := upb_bes_projector c D w ho
  exact ⟨h1, h2, h3, h4, fun x => upb_bes_ppt c m n (by omega) _ _ ho x⟩

/-! ## QuadRes: `p = 2·dim − 1` prime, `dim` odd (`p ≡ 1 mod 4`), `p` vectors in `dim ⊗ dim` -/

/-- **the executed list `quadResidues p` is exactly the set of non-zero squares of `ℤ/p`** -/
theorem quadResidues_spec {p : ℕ} [Fact p.Prime] (x : ℕ) :
    x ∈ quadResidues p ↔ x < p ∧ x ≠ 0 ∧ IsSquare (x : ZMod p) := mem_quadResidues

/-- **… it has `(p−1)/2` elements, i.e. `dim = |Q| + 1` satisfies `2·dim = p + 1`** -/
theorem quadres_dim {p : ℕ} [Fact p.Prime] (hp2 : p ≠ 2) : 2 * ((quadResidues p).length + 1) = p + 1 := by
  have h := sum_quadResidues (p := p) (fun _ => (1 : ℂ))
  simp only [Finset.sum_const, Finset.card_range, nsmul_eq_mul, mul_one] at h
  have : (quadResidues p).length = (Qset p).card := by exact_mod_cast h
  have := card_Qset (p := p) hp2
  omega

/-- **the executed `firstNonResidue p` (`s[0]`) is a non-square** -/
theorem firstNonResidue_not_square {p : ℕ} [Fact p.Prime] (hp2 : p ≠ 2) :
    firstNonResidue p < p ∧ ¬ IsSquare ((firstNonResidue p : ℕ) : ZMod p) := firstNonResidue_spec hp2

/-- **QuadRes from the relations alone** (any odd prime; the hypothesis `QuadScale` contains `N ∈ {−σ, 1+σ}`). -/
theorem quadres_orthonormal_of_relations {p : ℕ} [Fact p.Prime] {ω : ℂ} {sc : ℕ → ℂ} {Nc : ℂ} (hp2 : p ≠ 2)
    (hR : RootData p ω) (hS : QuadScale sc ω p Nc) :
    Orthonormal p (((quadResidues p).length + 1) * ((quadResidues p).length + 1))
      (prodVec ((quadResidues p).length + 1) (fun b i => ev sc ω (qrA p b i)) (fun b i => ev sc ω (qrB p b i))) := by
  intro a ha b hb
  rw [inner_prodVec _ _ (Nat.succ_pos _)]
  simp only [ev_qrA hR.pow, ev_qrB hR.pow]
  rw [show (fun i => qrVec sc ω (1 : ZMod p) a i) = qrVec sc ω (1 : ZMod p) a from rfl,
    show (fun i => qrVec sc ω (1 : ZMod p) b i) = qrVec sc ω (1 : ZMod p) b from rfl,
    show (fun i => qrVec sc ω ((firstNonResidue p : ℕ) : ZMod p) a i) = qrVec sc ω ((firstNonResidue p : ℕ) : ZMod p) a from rfl,
    show (fun i => qrVec sc ω ((firstNonResidue p : ℕ) : ZMod p) b i) = qrVec sc ω ((firstNonResidue p : ℕ) : ZMod p) b from rfl,
    inner_qrVec hR hS, inner_qrVec hR hS, one_mul]
  by_cases hab : a = b
  · subst hab
    have hG0 : G ω (0 : ZMod p) = ((quadResidues p).length : ℂ) := by
      have h := sum_quadResidues (p := p) (fun _ => (1 : ℂ))
      simp only [Finset.sum_const, Finset.card_range, nsmul_eq_mul, mul_one] at h
      unfold G; simp only [zero_mul, chi_zero, Finset.sum_const, nsmul_eq_mul, mul_one]; exact h.symm
    rw [if_pos rfl, sub_self, mul_zero, hG0, hS.norm, one_mul]
  · rw [if_neg hab]
    have ht : ((b : ZMod p) - (a : ZMod p)) ≠ 0 := by
      intro h
      have := (ZMod.natCast_eq_natCast_iff' b a p).1 (sub_eq_zero.1 h)
      rw [Nat.mod_eq_of_lt ha, Nat.mod_eq_of_lt hb] at this
      exact hab this.symm
    have hN := hS.choice
    rw [sigma_eq_G hR.pow] at hN
    have := G_product hR hp2 (firstNonResidue_spec hp2).2 ht Nc hN
    calc _ = sc 7 * sc 7 * (sc 7 * sc 7) * ((Nc + G ω ((b : ZMod p) - (a : ZMod p))) *
            (Nc + G ω (((firstNonResidue p : ℕ) : ZMod p) * ((b : ZMod p) - (a : ZMod p))))) := by ring
      _ = 0 := by rw [this, mul_zero]

noncomputable def qrVecA (p b i : ℕ) : ℂ := ev (scaleQ p) (rootC p) (qrA p b i)
noncomputable def qrVecB (p b i : ℕ) : ℂ := ev (scaleQ p) (rootC p) (qrB p b i)

/-- **QuadRes is an orthonormal product family for every prime `p ≡ 1 (mod 4)`**, `dim = (p+1)/2`. -/
theorem quadres_orthonormal (p : ℕ) [Fact p.Prime] (h4 : p % 4 = 1) :
    Orthonormal p (((quadResidues p).length + 1) * ((quadResidues p).length + 1))
      (prodVec ((quadResidues p).length + 1) (qrVecA p) (qrVecB p)) :=
  quadres_orthonormal_of_relations (by omega) (rootData_rootC (Fact.out : p.Prime).pos) (scaleQ_relations h4)

/-- **the QuadRes bound entangled state** -/
theorem quadres_bes (p : ℕ) [Fact p.Prime] (h4 : p % 4 = 1) :
    let dim := (quadResidues p).length + 1
    let w := prodVec dim (qrVecA p) (qrVecB p)
    let D := dim * dim
    (∀ r < D, ∀ s < D, ∑ y ∈ range D, upbCompl p w r y * upbCompl p w y s = upbCompl p w r s)
    ∧ (∀ r s, starRingEnd ℂ (upbCompl p w r s) = upbCompl p w s r)
    ∧ ∑ r ∈ range D, upbCompl p w r r = (D : ℂ) - (p : ℂ)
    ∧ (∀ x : ℕ → ℂ, 0 ≤ (hform D (upbCompl p w) x).re ∧ (hform D (upbCompl p w) x).im = 0)
    ∧ ∀ x : ℕ → ℂ, 0 ≤ (hform D (ptB dim (upbCompl p w)) x).re ∧ (hform D (ptB dim (upbCompl p w)) x).im = 0 := by
  intro dim w D
  have ho := quadres_orthonormal p h4
  obtain ⟨h1, h2, h3, h4'⟩ := upb_bes_projector p D w ho
  exact ⟨h1, h2, h3, h4', fun x => upb_bes_ppt p dim dim (Nat.succ_pos _) _ _ ho x⟩

/-! ## non-vacuity: the tables at the smallest sizes (the driver prints exactly these constants) -/

example : gt1Count 4 = 9 ∧ gt2Count 3 4 = 7 := by decide
example : (List.range 4).map (gt1A 4 1) = [⟨2, false, 0⟩, ⟨2, false, 1⟩, RootEnt.zero, RootEnt.zero] := by decide
example : (List.range 4).map (gt1B 4 0) = [RootEnt.zero, ⟨2, false, 0⟩, ⟨2, false, 1⟩, RootEnt.zero] := by decide
example : (List.range 3).map (gt2A 3 4 2) = [⟨4, true, 0⟩, RootEnt.zero, ⟨4, false, 0⟩] := by decide
example : (List.range 4).map (gt2B 3 4 3) = [RootEnt.zero, ⟨2, false, 0⟩, RootEnt.zero, ⟨2, false, 1⟩] := by decide
example : quadResidues 5 = [1, 4] ∧ firstNonResidue 5 = 2 ∧ quadResidues 13 = [1, 3, 4, 9, 10, 12] := by decide
example : (List.range 3).map (qrA 5 2) = [⟨6, false, 0⟩, ⟨7, false, 2⟩, ⟨7, false, 3⟩] := by decide
example : (List.range 3).map (qrB 5 2) = [⟨6, false, 0⟩, ⟨7, false, 4⟩, ⟨7, false, 1⟩] := by decide
/-- the hypotheses of `quadres_orthonormal` are satisfiable: `p = 5` (`dim = 3`) -/
example : Orthonormal 5 (3 * 3) (prodVec 3 (qrVecA 5) (qrVecB 5)) := by
  have : Fact (Nat.Prime 5) := ⟨by norm_num⟩
  have h := quadres_orthonormal 5 (by norm_num)
  have e : (quadResidues 5).length + 1 = 3 := by decide
  rwa [e] at h

end Numqi.C18
