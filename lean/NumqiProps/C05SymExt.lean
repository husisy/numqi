/-
C05 — the formulation of the naive symmetric-extension SDP (`numqi.entangle.is_ABk_symmetric_ext_naive`, model
`NumqiModel/SymExt.lean`; the solver stays a contract).  Theorems: the two index arrays the implementation imposes are the exchange of
the last two copies and the cyclic shift of the copies; every symmetric extension in the sense of C06 (`Boundary.IsSymExt` of
`NumqiProofs/BoundaryLemmas.lean`) read out on flat indices satisfies **every** captured constraint (soundness of
"feasible"); with `sep_subset_kext` the constraint set is therefore feasible for every separable state — the C05 clause for the
extension test.  (The naive path has no PPT / bosonic option; those exist only in the irrep-block path, which stays a contract;
of that path the file treats the index helpers `get_cvxpy_transpose0213_indexing`, the realignment and the block contraction.)
`kext = j+2` copies of B  ↔  `IsSymExt (j+1)`.
-/
import NumqiModel.SymExt
import NumqiProofs.EntangleBridge
import Mathlib.Logic.Equiv.Fin.Rotate
import NumqiProofs.EntangleConj

namespace Numqi.C05
open Numqi Numqi.Ent
open scoped ComplexOrder
open Matrix

variable {dA dB : ℕ}

/-- flat position (row-major, `(a, β_0, …, β_{K-1})`) of a basis label of `A ⊗ B^{⊗K}` -/
def sxEnc {K : ℕ} (x : Fin dA × (Fin K → Fin dB)) : Nat :=
  flat (sxDims dA dB K) (x.1.val :: List.ofFn fun t => (x.2 t).val)

theorem inShape_ofFn_replicate {K : ℕ} (β : Fin K → Fin dB) :
    InShape (List.ofFn fun t => (β t).val) (List.replicate K dB) := by
  induction K with
  | zero => simp [InShape]
  | succ K ih =>
    rw [List.ofFn_succ, List.replicate_succ]
    exact List.Forall₂.cons (β 0).2 (ih fun t => β t.succ)

theorem sxEnc_inShape {K : ℕ} (x : Fin dA × (Fin K → Fin dB)) :
    InShape (x.1.val :: List.ofFn fun t => (x.2 t).val) (sxDims dA dB K) :=
  List.Forall₂.cons x.1.2 (inShape_ofFn_replicate x.2)

theorem unflat_sxEnc {K : ℕ} (x : Fin dA × (Fin K → Fin dB)) :
    unflat (sxDims dA dB K) (sxEnc x) = x.1.val :: List.ofFn fun t => (x.2 t).val :=
  unflat_flat (sxEnc_inShape x)

/-- a map of positions that fixes position 0 and acts on the copies as the permutation `π` -/
theorem gatherPos_cons_ofFn {K : ℕ} (σ : Nat → Nat) (π : Equiv.Perm (Fin K)) (h0 : σ 0 = 0)
    (hσ : ∀ t : Fin K, σ (t.val + 1) = (π t).val + 1) (a : Nat) (γ : Fin K → Nat) :
    gatherPos σ (a :: List.ofFn γ) = a :: List.ofFn (γ ∘ π) := by
  apply List.ext_getElem
  · simp [gatherPos]
  · intro i h1 h2
    simp only [gatherPos, List.getElem_map, List.getElem_range]
    cases i with
    | zero => simp [h0]
    | succ i =>
      have hi : i < K := by simpa using h2
      have := hσ ⟨i, hi⟩
      simp only at this
      rw [this]
      simp [List.getD_eq_getElem?_getD]

/-- the permutation of the copies imposed by index array 0: exchange of the last two copies -/
def sxPerm0 (j : ℕ) : Equiv.Perm (Fin (j + 2)) := Equiv.swap (Fin.last (j + 1)) (Fin.last j).castSucc

/-- the permutation of the copies imposed by index array 1: `t ↦ t-1`, `0 ↦ last` -/
def sxPerm1 (j : ℕ) : Equiv.Perm (Fin (j + 2)) := (finRotate (j + 2)).symm

theorem sxPerm0_val (j : ℕ) (t : Fin (j + 2)) :
    ((sxPerm0 j t).val : Nat) = if t.val + 2 = j + 3 then t.val - 1 else if t.val + 3 = j + 3 then t.val + 1 else t.val := by
  unfold sxPerm0
  by_cases h1 : t = Fin.last (j + 1)
  · subst h1; simp [Equiv.swap_apply_left]
  · by_cases h2 : t = (Fin.last j).castSucc
    · subst h2
      simp [Equiv.swap_apply_right]
    · rw [Equiv.swap_apply_of_ne_of_ne h1 h2]
      have e1 : t.val ≠ j + 1 := fun h => h1 (Fin.ext (by simpa using h))
      have e2 : t.val ≠ j := fun h => h2 (Fin.ext (by simpa using h))
      have := t.2
      split_ifs <;> omega

theorem sxPerm1_val (j : ℕ) (t : Fin (j + 2)) :
    ((sxPerm1 j t).val : Nat) = if t.val = 0 then j + 1 else t.val - 1 := by
  unfold sxPerm1
  -- (finRotate).symm t = s  ↔  finRotate s = t
  have key : ∀ s : Fin (j + 2), finRotate (j + 2) s = t → (s.val : Nat) = if t.val = 0 then j + 1 else t.val - 1 := by
    intro s hs
    by_cases hl : s = Fin.last (j + 1)
    · subst hl
      rw [finRotate_last] at hs
      simp [← hs]
    · have h1 := coe_finRotate_of_ne_last hl
      rw [hs] at h1
      have : t.val ≠ 0 := by omega
      simp only [this, if_false]; omega
  exact key _ (Equiv.apply_symm_apply _ _)


/-! ## the index arrays permute the copies -/

/-- **index array 0 exchanges the last two copies**: `indP0[enc(a,β)] = enc(a, β∘(last last-1))` -/
theorem sxPermIndex_zero (j : ℕ) (x : Fin dA × (Fin (j + 2) → Fin dB)) :
    sxPermIndex dA dB (j + 2) 0 (sxEnc x) = sxEnc (x.1, x.2 ∘ sxPerm0 j) := by
  have hlen : (x.1.val :: List.ofFn fun t => (x.2 t).val).length = j + 3 := by simp
  unfold sxPermIndex
  simp only [if_true]
  rw [unflat_sxEnc]
  unfold swapLastTwo sxEnc
  rw [hlen]
  congr 1
  refine gatherPos_cons_ofFn _ (sxPerm0 j) (by simp) (fun t => ?_) _ _
  have hv := sxPerm0_val j t
  have ht := t.2
  rw [hv]
  split_ifs <;> omega

/-- **index array 1 (present for `kext > 2`) shifts the copies cyclically**: `indP1[enc(a,β)] = enc(a, β∘rot⁻¹)` -/
theorem sxPermIndex_one (j : ℕ) (x : Fin dA × (Fin (j + 2) → Fin dB)) :
    sxPermIndex dA dB (j + 2) 1 (sxEnc x) = sxEnc (x.1, x.2 ∘ sxPerm1 j) := by
  have hlen : (x.1.val :: List.ofFn fun t => (x.2 t).val).length = j + 3 := by simp
  unfold sxPermIndex
  simp only [one_ne_zero, if_false]
  rw [unflat_sxEnc]
  unfold rotateCopies sxEnc
  rw [hlen]
  congr 1
  refine gatherPos_cons_ofFn _ (sxPerm1 j) (by simp) (fun t => ?_) _ _
  have hv := sxPerm1_val j t
  have ht := t.2
  rw [hv]
  split_ifs <;> omega

theorem sxEnc_injective {K : ℕ} {x y : Fin dA × (Fin K → Fin dB)} (h : sxEnc x = sxEnc y) : x = y := by
  have := congrArg (unflat (sxDims dA dB K)) h
  rw [unflat_sxEnc, unflat_sxEnc] at this
  obtain ⟨h1, h2⟩ := List.cons.inj this
  refine Prod.ext (Fin.ext h1) (funext fun t => Fin.ext ?_)
  have := congrArg (fun l => l.getD t.val 0) h2
  simpa [List.getD_eq_getElem?_getD] using this

/-- every flat index below `N = dimA·dimB^K` is the position of a basis label -/
theorem sxEnc_surjective {K : ℕ} {r : Nat} (hr : r < prodL (sxDims dA dB K)) : ∃ x : Fin dA × (Fin K → Fin dB), sxEnc x = r := by
  have hs := unflat_inShape _ _ hr
  have hf := flat_unflat _ _ hr
  generalize unflat (sxDims dA dB K) r = l at hs hf
  match l, hs with
  | a :: c, .cons ha hc =>
    have hlen : c.length = K := by simpa using List.Forall₂.length_eq hc
    have hlt : ∀ i (hi : i < K), c.getD i 0 < dB := by
      intro i hi
      have := InShape.getD_lt hc i (by simpa using hi)
      simpa [List.getD_eq_getElem?_getD, hi] using this
    refine ⟨(⟨a, ha⟩, fun t => ⟨c.getD t.val 0, hlt t.val t.2⟩), ?_⟩
    rw [← hf, sxEnc]
    congr 2
    apply List.ext_getElem
    · simp [hlen]
    · intro i h1 h2
      simp [List.getD_eq_getElem?_getD, h2]

/-! ## sums over the traced-out copies -/

theorem sum_flat_replicate {M : Type} [AddCommMonoid M] (K : ℕ) (g : Nat → M) :
    ∑ t ∈ Finset.range (prodL (List.replicate K dB)), g t
      = ∑ r : Fin K → Fin dB, g (flat (List.replicate K dB) (List.ofFn fun t => (r t).val)) := by
  induction K generalizing g with
  | zero => simp [prodL, flat]
  | succ K ih =>
    rw [List.replicate_succ]
    simp only [prodL]
    have hdm : ∀ t, g t = g (t / prodL (List.replicate K dB) * prodL (List.replicate K dB) + t % prodL (List.replicate K dB)) :=
      fun t => by rw [Nat.div_add_mod']
    rw [Finset.sum_congr rfl fun t _ => hdm t,
      sum_range_mul_divmod dB (prodL (List.replicate K dB)) fun i j => g (i * prodL (List.replicate K dB) + j)]
    rw [← (Fintype.sum_equiv (Fin.consEquiv fun _ : Fin (K + 1) => Fin dB) _ _ fun _ => rfl), Fintype.sum_prod_type, Finset.sum_range]
    refine Finset.sum_congr rfl fun b _ => ?_
    rw [ih]
    refine Finset.sum_congr rfl fun r _ => ?_
    simp [Fin.consEquiv, List.ofFn_succ, flat]

/-- the trace of the variable is the trace of its reduction (pure index identity) -/
theorem sxTrace_eq_trace_reduced {M : Type} [AddCommMonoid M] (n0 n1 : ℕ) (X : Nat → Nat → M) :
    sxTrace (n0 * n1) X = sumRange n0 fun i => ptraceLast n1 X i i := by
  simp only [sxTrace, ptraceLast, sumRange_eq_sum]
  have hdm : ∀ r, X r r = X (r / n1 * n1 + r % n1) (r / n1 * n1 + r % n1) := fun r => by rw [Nat.div_add_mod']
  rw [Finset.sum_congr rfl fun r _ => hdm r]
  exact sum_range_mul_divmod n0 n1 fun i t => X (i * n1 + t) (i * n1 + t)

/-! ## soundness: a symmetric extension satisfies every captured constraint -/

section sound
variable (j : ℕ) (ρ : Matrix (Fin dA × Fin dB) (Fin dA × Fin dB) ℂ)
  (σ : Matrix (Fin dA × (Fin (j + 2) → Fin dB)) (Fin dA × (Fin (j + 2) → Fin dB)) ℂ)
  (X : Nat → Nat → ℂ)

/-- **the permutation constraints** `X[indP[:,None], indP] = X` (both index arrays) hold for the flat read-out of any
permutation-invariant `σ`, at every entry -/
theorem naive_perm_constraints (hσ : Boundary.IsSymExt (j + 1) ρ σ) (hX : ∀ x y, X (sxEnc x) (sxEnc y) = σ x y) (which : ℕ)
    (hw : which < 2) {r c : ℕ} (hr : r < prodL (sxDims dA dB (j + 2))) (hc : c < prodL (sxDims dA dB (j + 2))) :
    sxPermuted dA dB (j + 2) which X r c = X r c := by
  obtain ⟨x, rfl⟩ := sxEnc_surjective hr
  obtain ⟨y, rfl⟩ := sxEnc_surjective hc
  have hinv := hσ.2.1
  interval_cases which
  · simp only [sxPermuted, sxPermIndex_zero, hX]; exact hinv (sxPerm0 j) x y
  · simp only [sxPermuted, sxPermIndex_one, hX]; exact hinv (sxPerm1 j) x y

/-- **the reduction constraint** `partial_trace(X, (dA·dB, dB^(kext-1)), 1) = ρ` holds (the implementation keeps the *first* copy,
`IsSymExt` the last one; they agree by permutation invariance) -/
theorem naive_reduction_constraint (hσ : Boundary.IsSymExt (j + 1) ρ σ) (hX : ∀ x y, X (sxEnc x) (sxEnc y) = σ x y)
    (p q : Fin dA × Fin dB) :
    sxReduced dB (j + 2) X (flat [dA, dB] [p.1.val, p.2.val]) (flat [dA, dB] [q.1.val, q.2.val]) = ρ p q := by
  have henc : ∀ (z : Fin dA × Fin dB) (r : Fin (j + 1) → Fin dB),
      flat [dA, dB] [z.1.val, z.2.val] * prodL (List.replicate (j + 1) dB)
        + flat (List.replicate (j + 1) dB) (List.ofFn fun t => (r t).val)
        = sxEnc (dA := dA) (z.1, (Fin.cons z.2 r : Fin (j + 2) → Fin dB)) := by
    intro z r
    simp only [sxEnc, sxDims, List.replicate_succ, List.ofFn_succ, flat, prodL, Fin.cons_zero, Fin.cons_succ]
    ring
  simp only [sxReduced, ptraceLast, sumRange_eq_sum, show j + 2 - 1 = j + 1 from rfl]
  rw [sum_flat_replicate]
  rw [hσ.2.2 p q]
  refine Finset.sum_congr rfl fun r _ => ?_
  rw [henc p r, henc q r, hX]
  have h := hσ.2.1 (finRotate (j + 2)) (p.1, Fin.cons p.2 r) (q.1, Fin.cons q.2 r)
  simp only at h
  rw [← h]
  congr 2 <;> · rw [Fin.snoc_eq_cons_rotate]; rfl

/-- **the trace constraint** -/
theorem naive_trace_constraint (hσ : Boundary.IsSymExt (j + 1) ρ σ) (hX : ∀ x y, X (sxEnc x) (sxEnc y) = σ x y)
    (hρ : ρ.trace = 1) : sxTrace (prodL (sxDims dA dB (j + 2))) X = 1 := by
  have hN : prodL (sxDims dA dB (j + 2)) = dA * dB * prodL (List.replicate (j + 1) dB) := by
    simp [sxDims, List.replicate_succ, prodL, Nat.mul_assoc]
  have hred : ∀ z : Fin dA × Fin dB, ptraceLast (prodL (List.replicate (j + 1) dB)) X (z.1.val * dB + z.2.val)
      (z.1.val * dB + z.2.val) = ρ z z := by
    intro z
    have := naive_reduction_constraint j ρ σ X hσ hX z z
    simpa [sxReduced, flat, prodL] using this
  rw [hN, sxTrace_eq_trace_reduced, ← hρ, Matrix.trace, sumRange_eq_sum]
  set f : Nat → ℂ := fun i => ptraceLast (prodL (List.replicate (j + 1) dB)) X i i with hf
  have hdm : ∀ i, f i = f (i / dB * dB + i % dB) := fun i => by rw [Nat.div_add_mod']
  rw [Finset.sum_congr rfl fun i _ => hdm i, sum_range_mul_divmod dA dB fun a b => f (a * dB + b), Fintype.sum_prod_type,
    Finset.sum_range]
  refine Finset.sum_congr rfl fun a _ => ?_
  rw [Finset.sum_range]
  exact Finset.sum_congr rfl fun b _ => hred (a, b)

/-- **the PSD constraint** `X ⪰ 0`, for `X` restricted to the `N×N` block the variable lives on -/
theorem naive_psd_constraint (hσ : Boundary.IsSymExt (j + 1) ρ σ) (hX : ∀ x y, X (sxEnc x) (sxEnc y) = σ x y) :
    (Matrix.of fun r c : Fin (prodL (sxDims dA dB (j + 2))) => X r c).PosSemidef := by
  classical
  let dec : Fin (prodL (sxDims dA dB (j + 2))) → Fin dA × (Fin (j + 2) → Fin dB) := fun r => (sxEnc_surjective r.2).choose
  have hdec : ∀ r, sxEnc (dec r) = r.val := fun r => (sxEnc_surjective r.2).choose_spec
  have : (Matrix.of fun r c : Fin (prodL (sxDims dA dB (j + 2))) => X r c) = σ.submatrix dec dec := by
    ext r c
    simp only [Matrix.of_apply, Matrix.submatrix_apply]
    rw [← hX, hdec, hdec]
  rw [this]
  exact hσ.1.submatrix dec

end sound

/-- **soundness of "feasible"**: the flat read-out of any symmetric extension `σ` of a unit-trace `ρ` (C06's `IsSymExt (j+1)`) satisfies every
constraint that `is_ABk_symmetric_ext_naive(rho, (dA,dB), kext=j+2)` hands to the solver. -/
theorem naive_sdp_constraints_of_isSymExt (j : ℕ) (ρ : Matrix (Fin dA × Fin dB) (Fin dA × Fin dB) ℂ)
    (σ : Matrix (Fin dA × (Fin (j + 2) → Fin dB)) (Fin dA × (Fin (j + 2) → Fin dB)) ℂ) (X : Nat → Nat → ℂ)
    (hσ : Boundary.IsSymExt (j + 1) ρ σ) (hρ : ρ.trace = 1) (hX : ∀ x y, X (sxEnc x) (sxEnc y) = σ x y) :
    (Matrix.of fun r c : Fin (prodL (sxDims dA dB (j + 2))) => X r c).PosSemidef
    ∧ sxTrace (prodL (sxDims dA dB (j + 2))) X = 1
    ∧ (∀ p q : Fin dA × Fin dB,
        sxReduced dB (j + 2) X (flat [dA, dB] [p.1.val, p.2.val]) (flat [dA, dB] [q.1.val, q.2.val]) = ρ p q)
    ∧ ∀ which < sxNumPerm (j + 2), ∀ r < prodL (sxDims dA dB (j + 2)), ∀ c < prodL (sxDims dA dB (j + 2)),
        sxPermuted dA dB (j + 2) which X r c = X r c :=
  ⟨naive_psd_constraint j ρ σ X hσ hX, naive_trace_constraint j ρ σ X hσ hX hρ, naive_reduction_constraint j ρ σ X hσ hX,
    fun which hw r hr c hc => naive_perm_constraints j ρ σ X hσ hX which
      (lt_of_lt_of_le hw (by unfold sxNumPerm; split_ifs <;> omega)) hr hc⟩

/-- **the naive extension SDP is feasible for every separable state** (any number of product terms, normalised `b_k`, weights `≥ 0`
with unit total trace, every `kext = j+2 ≥ 2`, all local dimensions): a matrix satisfying all captured constraints exists, namely the flat
read-out of `symExt (j+2) p a b`. What remains for "`is_ABk_symmetric_ext_naive` answers True" is the solver contract. -/
theorem naive_sdp_feasible_for_separable {K : Type} [Fintype K] (j : ℕ) (p : K → ℝ) (hp : ∀ i, 0 ≤ p i) (a : K → Fin dA → ℂ)
    (b : K → Fin dB → ℂ) (hb : ∀ i, ∑ v, b i v * star (b i v) = 1) (htr : (sepState p a b).trace = 1) :
    ∃ X : Nat → Nat → ℂ,
      (Matrix.of fun r c : Fin (prodL (sxDims dA dB (j + 2))) => X r c).PosSemidef
      ∧ sxTrace (prodL (sxDims dA dB (j + 2))) X = 1
      ∧ (∀ x y : Fin dA × Fin dB,
          sxReduced dB (j + 2) X (flat [dA, dB] [x.1.val, x.2.val]) (flat [dA, dB] [y.1.val, y.2.val]) = sepState p a b x y)
      ∧ ∀ which < sxNumPerm (j + 2), ∀ r < prodL (sxDims dA dB (j + 2)), ∀ c < prodL (sxDims dA dB (j + 2)),
          sxPermuted dA dB (j + 2) which X r c = X r c := by
  classical
  -- the index set is not empty because the trace is 1
  obtain ⟨x0⟩ : Nonempty (Fin dA × Fin dB) := by
    by_contra h
    rw [not_nonempty_iff] at h
    simp [Matrix.trace] at htr
  -- flat read-out of the explicit extension `symExt (j+2) p a b` (theorem `symExt_isSymExt`)
  obtain ⟨σ, hσ⟩ := sep_subset_kext (j + 1) p hp a b hb
  let dec : Nat → Fin dA × (Fin (j + 2) → Fin dB) := fun r =>
    if h : r < prodL (sxDims dA dB (j + 2)) then (sxEnc_surjective h).choose else (x0.1, fun _ => x0.2)
  have hdec : ∀ x, dec (sxEnc x) = x := by
    intro x
    have hx : sxEnc x < prodL (sxDims dA dB (j + 2)) := flat_lt (sxEnc_inShape x)
    show (if h : sxEnc x < prodL (sxDims dA dB (j + 2)) then (sxEnc_surjective h).choose else (x0.1, fun _ => x0.2)) = x
    rw [dif_pos hx]
    exact sxEnc_injective (sxEnc_surjective hx).choose_spec
  refine ⟨fun r c => σ (dec r) (dec c), ?_⟩
  refine naive_sdp_constraints_of_isSymExt j (sepState p a b) σ (fun r c => σ (dec r) (dec c)) hσ htr fun x y => ?_
  show σ (dec (sxEnc x)) (dec (sxEnc y)) = σ x y
  rw [hdec, hdec]

/-! ## the irrep-block path: index helpers (`get_cvxpy_transpose0213_indexing`, the realignment, the block contraction) -/

private theorem inShape4 {s0 s1 s2 s3 i0 i1 i2 i3 : Nat} (h0 : i0 < s0) (h1 : i1 < s1) (h2 : i2 < s2) (h3 : i3 < s3) :
    InShape [i0, i1, i2, i3] [s0, s1, s2, s3] := .cons h0 (.cons h1 (.cons h2 (.cons h3 .nil)))

/-- **`get_cvxpy_transpose0213_indexing` is the axis permutation it claims**: at position `(n1,n3,n0,n2)` (row-major in shape
`(N1,N3,N0,N2)`) it holds the row-major position of `(n2,n3,n0,n1)` in shape `(N2,N3,N0,N1)` … -/
theorem idx0213_entry (N0 N1 N2 N3 : Nat) {n0 n1 n2 n3 : Nat} (h0 : n0 < N0) (h1 : n1 < N1) (h2 : n2 < N2) (h3 : n3 < N3) :
    idx0213 N0 N1 N2 N3 (flat [N1, N3, N0, N2] [n1, n3, n0, n2]) = flat [N2, N3, N0, N1] [n2, n3, n0, n1] := by
  unfold idx0213
  have hs : permShape [N2, N3, N0, N1] [3, 1, 2, 0] = [N1, N3, N0, N2] := rfl
  have := npTranspose_flat [N2, N3, N0, N1] [3, 1, 2, 0] (id : Nat → Nat) [n1, n3, n0, n2] (by rw [hs]; exact inShape4 h1 h3 h0 h2)
  rw [hs] at this
  rw [this]
  simp [transposeIn, List.range_succ, List.idxOf_cons]

/-- … which is the column-major (`order='F'`) position of the entry `[(n0,n1),(n2,n3)]` of an `(N0·N1)×(N2·N3)` matrix -/
theorem idx0213_target_is_Fflat (N0 N1 N2 N3 n0 n1 n2 n3 : Nat) :
    flat [N2, N3, N0, N1] [n2, n3, n0, n1] = (n0 * N1 + n1) + (n2 * N3 + n3) * (N0 * N1) := by
  simp [flat, prodL]; ring

/-- **the realignment of the input state** (`is_ABk_symmetric_ext`, `get_ABk_symmetric_extension_boundary`):
`out[(a,a'),(b,b')] = ρ[(a,b),(a',b')]` -/
theorem sxRealign_entry {α : Type} (dA dB : Nat) (ρ : Nat → Nat → α) {a b a' b' : Nat}
    (ha : a < dA) (hb : b < dB) (ha' : a' < dA) (hb' : b' < dB) :
    sxRealign dA dB ρ (flat [dA, dA] [a, a']) (flat [dB, dB] [b, b']) = ρ (flat [dA, dB] [a, b]) (flat [dA, dB] [a', b']) := by
  have h := gpptMatrix_entry [dA, dB] [0, 2] [1, 3] (show [0, 2, 1, 3].Perm (List.range 4) by decide) ρ
    (inShape2 ha hb) (inShape2 ha' hb')
  simp only [gpptMatrix, permShape, List.map, List.cons_append, List.nil_append, List.getD_cons_zero, List.getD_cons_succ] at h
  rw [sxRealign, ← prodL2 dB dB, ← prodL2 dA dB]
  exact h

/-- the constraint `cvx_rdm == cvx_rho` of the irrep-block SDP, un-realigned: the reduced state of the extension is the AB state -/
theorem realigned_constraint_iff {α : Type} (dA dB : Nat) (rdm ρ : Nat → Nat → α) :
    (∀ a < dA, ∀ a' < dA, ∀ b < dB, ∀ b' < dB,
        rdm (flat [dA, dA] [a, a']) (flat [dB, dB] [b, b']) = sxRealign dA dB ρ (flat [dA, dA] [a, a']) (flat [dB, dB] [b, b']))
      ↔ ∀ a < dA, ∀ a' < dA, ∀ b < dB, ∀ b' < dB,
        rdm (flat [dA, dA] [a, a']) (flat [dB, dB] [b, b']) = ρ (flat [dA, dB] [a, b]) (flat [dA, dB] [a', b']) := by
  constructor <;> intro h a ha a' ha' b hb b' hb'
  · rw [h a ha a' ha' b hb b' hb', sxRealign_entry dA dB ρ ha hb ha' hb']
  · rw [h a ha a' ha' b hb b' hb', sxRealign_entry dA dB ρ ha hb ha' hb']

/-- the right-hand side `eye/(dA·dB) + β·direction` of `get_ABk_symmetric_extension_boundary` is the realignment of the ray point
`1/N + β·ρ̂` (the realignment only moves entries) -/
theorem extRaySigma_eq_realign_rayPoint {α : Type} [Add α] [Mul α] [Zero α] [One α] (dA dB : Nat) (invN β : α) (ρhat : Nat → Nat → α) :
    extRaySigma dA dB invN β (sxRealign dA dB ρhat)
      = sxRealign dA dB (fun r c => (if r = c then (1 : α) else 0) * invN + β * ρhat r c) := rfl

/-- **the gather of one irrep block**: `tmp3[(a,a'),(i,j)] = P[(a,i),(a',j)]` (`P` indexed A-major, `x` = dimension of the block) -/
theorem irrepGather_entry {α : Type} (dA x : Nat) (P : Nat → Nat → α) {a a' i j : Nat} (ha : a < dA) (ha' : a' < dA) (hi : i < x) (hj : j < x) :
    irrepGather dA x P (flat [dA, dA] [a, a']) (flat [x, x] [i, j]) = P (flat [dA, x] [a, i]) (flat [dA, x] [a', j]) := by
  unfold irrepGather
  have hpos : flat [dA, dA] [a, a'] + flat [x, x] [i, j] * (dA * dA) = flat [x, x, dA, dA] [i, j, a, a'] := by
    simp [flat, prodL]; ring
  rw [hpos, idx0213_entry dA x dA x ha hi ha' hj, idx0213_target_is_Fflat]
  unfold flatF
  have hlt : a * x + i < x * dA := by
    calc a * x + i < a * x + x := by omega
      _ = (a + 1) * x := by ring
      _ ≤ dA * x := Nat.mul_le_mul_right _ ha
      _ = x * dA := Nat.mul_comm _ _
  have e1 : (a * x + i + (a' * x + j) * (dA * x)) % (x * dA) = a * x + i := by
    rw [Nat.mul_comm dA x, Nat.add_mul_mod_self_right, Nat.mod_eq_of_lt hlt]
  have e2 : (a * x + i + (a' * x + j) * (dA * x)) / (x * dA) = a' * x + j := by
    rw [Nat.mul_comm dA x, Nat.add_mul_div_right _ _ (by omega : 0 < x * dA), Nat.div_eq_of_lt hlt, Nat.zero_add]
  rw [e1, e2]
  simp [flat, prodL]

/-- **the reduced-state contribution of one irrep block** is `Σ_{i,j} P[(a,i),(a',j)]·coeffB[i,j,·]` -/
theorem irrepBlockRdm_entry {α : Type} [CommSemiring α] (dA x dB : Nat) (P : Nat → Nat → α) (C : Nat → α) {a a' : Nat} (ha : a < dA)
    (ha' : a' < dA) (c : Nat) :
    irrepBlockRdm dA x dB P C (flat [dA, dA] [a, a']) c
      = ∑ i ∈ Finset.range x, ∑ j ∈ Finset.range x, P (flat [dA, x] [a, i]) (flat [dA, x] [a', j]) * C ((i * x + j) * (dB * dB) + c) := by
  unfold irrepBlockRdm
  rw [sumRange_eq_sum]
  have hdm : ∀ t, irrepGather dA x P (flat [dA, dA] [a, a']) t * C (t * (dB * dB) + c)
      = irrepGather dA x P (flat [dA, dA] [a, a']) (t / x * x + t % x) * C ((t / x * x + t % x) * (dB * dB) + c) :=
    fun t => by rw [Nat.div_add_mod']
  rw [Finset.sum_congr rfl fun t _ => hdm t,
    sum_range_mul_divmod x x fun i j => irrepGather dA x P (flat [dA, dA] [a, a']) (i * x + j) * C ((i * x + j) * (dB * dB) + c)]
  refine Finset.sum_congr rfl fun i hi => Finset.sum_congr rfl fun j hj => ?_
  have := irrepGather_entry dA x P ha ha' (Finset.mem_range.1 hi) (Finset.mem_range.1 hj)
  have hf : flat [x, x] [i, j] = i * x + j := by simp [flat, prodL]
  rw [hf] at this
  rw [this]

/-! ## the executable witness of the model is that extension -/

private theorem foldl_mul_eq_prod (f : Nat → ℂ) (l : List Nat) (acc : ℂ) :
    l.foldl (fun acc v => acc * f v) acc = acc * (l.map f).prod := by
  induction l generalizing acc with
  | nil => simp
  | cons x l ih => simp [ih, mul_assoc]

/-- **`sxWitness` (what the driver feeds into the captured constraints) is the flat read-out of `symExt`**, for any number `n` of product terms -/
theorem sxWitness_eq_symExt {K n : ℕ} (p : Fin n → ℝ) (a b : Fin n → Nat → ℂ) (x y : Fin dA × (Fin K → Fin dB)) :
    sxWitness dA dB K (List.ofFn fun k => ((p k : ℂ), a k, b k)) (sxEnc x) (sxEnc y)
      = symExt K p (fun k i => a k i.val) (fun k v => b k v.val) x y := by
  have hamp : ∀ (k : Fin n) (z : Fin dA × (Fin K → Fin dB)),
      sxAmp dA dB K (a k) (b k) (sxEnc z) = a k z.1.val * ∏ t, b k (z.2 t).val := by
    intro k z
    simp only [sxAmp, unflat_sxEnc, foldl_mul_eq_prod, one_mul, List.map_ofFn, List.prod_ofFn, Function.comp]
  simp only [sxWitness, symExt, Matrix.of_apply, List.map_ofFn, List.sum_ofFn, Function.comp, hamp, conj_eq_star]

/-! ## non-vacuity -/

/-- the hypotheses of the feasibility theorem hold for the product state `|00⟩⟨00|` of two qubits (one term), every number of copies -/
example (j : ℕ) : ∃ X : Nat → Nat → ℂ, sxTrace (prodL (sxDims 2 2 (j + 2))) X = 1 ∧
    ∀ r < prodL (sxDims 2 2 (j + 2)), ∀ c < prodL (sxDims 2 2 (j + 2)), sxPermuted 2 2 (j + 2) 0 X r c = X r c := by
  obtain ⟨X, _, h2, _, h4⟩ := naive_sdp_feasible_for_separable (dA := 2) (dB := 2) j (fun _ : Unit => 1) (fun _ => zero_le_one)
    (fun _ i => if i = 0 then 1 else 0) (fun _ i => if i = 0 then 1 else 0) (fun _ => by simp)
    (by simp [sepState, Matrix.trace, Fintype.sum_prod_type])
  exact ⟨X, h2, fun r hr c hc => h4 0 (by unfold sxNumPerm; split_ifs <;> omega) r hr c hc⟩

/-- the two imposed permutations are what they are called: on three copies, `(0 1 2) ↦` exchange of copies 1,2 and the shift -/
example : (List.range 8).map (sxPermIndex 1 2 3 0) = [0, 2, 1, 3, 4, 6, 5, 7] ∧ (List.range 8).map (sxPermIndex 1 2 3 1) = [0, 4, 1, 5, 2, 6, 3, 7] := by
  decide

end Numqi.C05
