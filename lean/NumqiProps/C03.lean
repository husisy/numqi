/-
C03 — the state-vector simulator applies gates exactly as the embedded operator.

Property theorems with their proofs; the lemmas several of them share are in `NumqiProofs/SimLemmas.lean`, `SimSlice.lean`,
`ScalarInstances.lean`.  The statements are about the
constants of `NumqiModel/Sim.lean` that the driver executes; they hold for every number of qubits `n`, every gate
size `k`, every duplicate-free target tuple `t : Fin k → Fin n` (in any order), and every commutative (semi)ring `R`
(instantiate `R = ℂ`).
-/
import NumqiProofs.SimLemmas
import NumqiProofs.SimSlice
import NumqiProofs.ScalarInstances
import Mathlib.Data.Complex.Basic

namespace Numqi.C03
open Numqi Function Matrix

variable {R : Type} {n k : Nat}

/-- **Gate application is multiplication by the embedded operator** (`U` on the qubits `t` in the order given,
identity elsewhere), for every duplicate-free target tuple. -/
theorem applyGate_eq_embed [Semiring R] {t : Fin k → Fin n} (ht : Injective t) (U : Mat k R) (ψ : Vec n R) :
    applyGate U t ψ = (Matrix.of (embed U t)).mulVec ψ := by
  funext x
  simp only [applyGate, sumBits_eq_sum, Matrix.mulVec, dotProduct, Matrix.of_apply, embed]
  symm
  have hinj : Injective (x.upd t) := fun y y' h => by rw [← Bits.sel_upd ht x y, h, Bits.sel_upd ht]
  rw [← Finset.sum_subset (Finset.subset_univ (Finset.univ.image (x.upd t))), Finset.sum_image (fun _ _ _ _ h => hinj h)]
  · refine Finset.sum_congr rfl (fun y _ => ?_)
    rw [Bits.agreeOff_upd, if_pos rfl, Bits.sel_upd ht]
  · intro x' _ hx'
    have : Bits.agreeOff x x' t ≠ true := fun h =>
      hx' (Finset.mem_image.2 ⟨x'.sel t, Finset.mem_univ _, Bits.upd_sel_of_agreeOff ht h⟩)
    rw [if_neg this, zero_mul]


/-! ### the embedding is a unital, star-preserving ring homomorphism -/

theorem embed_one [Semiring R] (t : Fin k → Fin n) :
    Matrix.of (embed (1 : Matrix (Bits k) (Bits k) R) t) = 1 := by
  ext x x'
  simp only [Matrix.of_apply, embed, Matrix.one_apply]
  by_cases h : x = x'
  · subst h; simp [Bits.agreeOff_refl]
  · rw [if_neg h]
    by_cases ha : Bits.agreeOff x x' t = true
    · rw [if_pos ha, if_neg]
      exact fun hs => h (Bits.eq_of_agreeOff_of_sel ha hs)
    · rw [if_neg ha]

theorem embed_mul [Semiring R] {t : Fin k → Fin n} (ht : Injective t) (U V : Matrix (Bits k) (Bits k) R) :
    Matrix.of (embed (U * V) t) = Matrix.of (embed U t) * Matrix.of (embed V t) := by
  ext x z
  have h := congrFun (applyGate_eq_embed ht U (fun w => embed V t w z)) x
  rw [Matrix.mul_apply]
  simp only [Matrix.mulVec, dotProduct, Matrix.of_apply] at h ⊢
  rw [← h]
  simp only [applyGate, sumBits_eq_sum, embed, Bits.sel_upd ht]
  have hag : ∀ y, Bits.agreeOff (x.upd t y) z t = Bits.agreeOff x z t := fun y => by
    rw [Bool.eq_iff_iff]
    exact ⟨fun h => Bits.agreeOff_trans (Bits.agreeOff_upd x y) h,
           fun h => Bits.agreeOff_trans (Bits.agreeOff_symm (Bits.agreeOff_upd x y)) h⟩
  simp only [hag]
  by_cases ha : Bits.agreeOff x z t = true
  · simp only [ha, if_true, Matrix.mul_apply]
  · simp [ha]

theorem embed_conjTranspose [Semiring R] [StarRing R] (t : Fin k → Fin n) (U : Matrix (Bits k) (Bits k) R) :
    (Matrix.of (embed U t))ᴴ = Matrix.of (embed Uᴴ t) := by
  ext x x'
  simp only [Matrix.conjTranspose_apply, Matrix.of_apply, embed]
  have : Bits.agreeOff x' x t = Bits.agreeOff x x' t := by
    rw [Bool.eq_iff_iff]; exact ⟨Bits.agreeOff_symm, Bits.agreeOff_symm⟩
  rw [this]
  by_cases ha : Bits.agreeOff x x' t = true <;> simp [ha]

/-- a unitary gate is embedded as a unitary operator -/
theorem embed_unitary [CommRing R] [StarRing R] {t : Fin k → Fin n} (ht : Injective t)
    {U : Matrix (Bits k) (Bits k) R} (hU : U ∈ Matrix.unitaryGroup (Bits k) R) :
    Matrix.of (embed U t) ∈ Matrix.unitaryGroup (Bits n) R := by
  rw [Matrix.mem_unitaryGroup_iff] at hU ⊢
  rw [Matrix.star_eq_conjTranspose] at hU ⊢
  rw [embed_conjTranspose, ← embed_mul ht, hU, embed_one]


/-! ### controlled gates: the operator acts only on the all-ones control subspace -/

/-- **`apply_control_n_gate` is multiplication by the controlled operator**: `embed U t` on the rows whose control
bits are all 1, identity on the others.  `rest` may be *any* enumeration of the non-control qubits and `tNew` any
renumbering with `t = rest ∘ tNew` (the implementation's `_control_n_index` is one such choice, see `compile_wf`). -/
theorem applyControlled_eq [Semiring R] {n' : Nat} {isCtrl : Fin n → Bool} {rest : Fin n' → Fin n}
    {tNew : Fin k → Fin n'} (hrest : Injective rest) (htn : Injective tNew)
    (hfree : ∀ i, isCtrl i = false ↔ ∃ m, rest m = i) (U : Mat k R) (ψ : Vec n R) :
    applyControlled U isCtrl rest tNew ψ
      = (Matrix.of (ctrlEmbed U isCtrl fun j => rest (tNew j))).mulVec ψ := by
  funext x
  have ht : Injective (fun j => rest (tNew j)) := hrest.comp htn
  by_cases hx : ctrlOn isCtrl x = true
  · have h := congrFun (applyGate_eq_embed ht U ψ) x
    simp only [Matrix.mulVec, dotProduct, Matrix.of_apply, ctrlEmbed, applyControlled, hx, if_true] at h ⊢
    rw [← h]
    simp only [applyGate, ctrl_upd_eq hrest htn hfree hx]
    rfl
  · simp only [Matrix.mulVec, dotProduct, Matrix.of_apply, ctrlEmbed, applyControlled, hx]
    simp [Bits.beq_iff]

/-- the controlled operator is `(1 − P₁) + P₁ · embed U t` with `P₁` the projector on the all-ones control subspace -/
theorem ctrlEmbed_eq [Ring R] (isCtrl : Fin n → Bool) (t : Fin k → Fin n) (U : Mat k R) :
    Matrix.of (ctrlEmbed U isCtrl t)
      = (1 - Matrix.diagonal fun x => if ctrlOn isCtrl x then (1 : R) else 0)
        + (Matrix.diagonal fun x => if ctrlOn isCtrl x then (1 : R) else 0) * Matrix.of (embed U t) := by
  ext x x'
  simp only [Matrix.of_apply, ctrlEmbed, Matrix.add_apply, Matrix.sub_apply, Matrix.diagonal_mul, Matrix.one_apply,
    Matrix.diagonal_apply, Bits.beq_iff]
  by_cases hxx : x = x'
  · subst hxx; by_cases hx : ctrlOn isCtrl x = true <;> simp [hx]
  · by_cases hx : ctrlOn isCtrl x = true <;> simp [hx, hxx]


theorem ctrlEmbed_one [Semiring R] (isCtrl : Fin n → Bool) (t : Fin k → Fin n) :
    Matrix.of (ctrlEmbed (1 : Matrix (Bits k) (Bits k) R) isCtrl t) = 1 := by
  ext x x'
  have h := congrFun (congrFun (embed_one (R := R) t) x) x'
  simp only [Matrix.of_apply] at h
  simp only [Matrix.of_apply, ctrlEmbed, h, Matrix.one_apply, Bits.beq_iff]
  split <;> rfl

theorem ctrlEmbed_mul [Semiring R] {isCtrl : Fin n → Bool} {t : Fin k → Fin n} (ht : Injective t)
    (hdisj : ∀ j, isCtrl (t j) = false) (U V : Matrix (Bits k) (Bits k) R) :
    Matrix.of (ctrlEmbed (U * V) isCtrl t) = Matrix.of (ctrlEmbed U isCtrl t) * Matrix.of (ctrlEmbed V isCtrl t) := by
  ext x z
  rw [Matrix.mul_apply]
  simp only [Matrix.of_apply, ctrlEmbed]
  by_cases hx : ctrlOn isCtrl x = true
  · simp only [hx, if_true]
    have h := congrFun (congrFun (embed_mul ht U V) x) z
    rw [Matrix.mul_apply] at h
    simp only [Matrix.of_apply] at h
    rw [h]
    refine Finset.sum_congr rfl (fun w _ => ?_)
    by_cases ha : Bits.agreeOff x w t = true
    · have : ctrlOn isCtrl w = true := by rw [← ctrlOn_of_agreeOff hdisj ha]; exact hx
      rw [if_pos this]
    · simp [embed, ha]
  · simp only [hx, Bits.beq_iff]
    rw [Finset.sum_eq_single x]
    · simp [hx]
    · intro w _ hw
      have : ¬ x = w := fun e => hw e.symm
      simp [this]
    · intro h; exact absurd (Finset.mem_univ x) h

theorem ctrlEmbed_conjTranspose [Semiring R] [StarRing R] {isCtrl : Fin n → Bool} {t : Fin k → Fin n}
    (hdisj : ∀ j, isCtrl (t j) = false) (U : Matrix (Bits k) (Bits k) R) :
    (Matrix.of (ctrlEmbed U isCtrl t))ᴴ = Matrix.of (ctrlEmbed Uᴴ isCtrl t) := by
  ext x x'
  have h := congrFun (congrFun (embed_conjTranspose t U) x) x'
  simp only [Matrix.conjTranspose_apply, Matrix.of_apply] at h
  simp only [Matrix.conjTranspose_apply, Matrix.of_apply, ctrlEmbed, Bits.beq_iff]
  by_cases ha : Bits.agreeOff x x' t = true
  · rw [← ctrlOn_of_agreeOff hdisj ha]
    by_cases hx : ctrlOn isCtrl x = true
    · simp only [hx, if_true, h]
    · simp only [hx]
      by_cases e : x = x'
      · subst e; simp
      · have e' : ¬ x' = x := fun h => e h.symm
        simp [e, e']
  · have ha' : ¬ Bits.agreeOff x' x t = true := fun h => ha (Bits.agreeOff_symm h)
    have e : ¬ x = x' := fun e => ha (e ▸ Bits.agreeOff_refl x)
    have e' : ¬ x' = x := fun h => e h.symm
    simp [embed, ha, ha', e, e']

/-- a controlled unitary gate is a unitary operator (targets disjoint from the controls) -/
theorem ctrlEmbed_unitary [CommRing R] [StarRing R] {isCtrl : Fin n → Bool} {t : Fin k → Fin n} (ht : Injective t)
    (hdisj : ∀ j, isCtrl (t j) = false) {U : Matrix (Bits k) (Bits k) R}
    (hU : U ∈ Matrix.unitaryGroup (Bits k) R) :
    Matrix.of (ctrlEmbed U isCtrl t) ∈ Matrix.unitaryGroup (Bits n) R := by
  rw [Matrix.mem_unitaryGroup_iff] at hU ⊢
  rw [Matrix.star_eq_conjTranspose] at hU ⊢
  rw [ctrlEmbed_conjTranspose hdisj, ← ctrlEmbed_mul ht hdisj, hU, ctrlEmbed_one]


/-- **`reduceShapeIndex_spec`, every `n`, every control set**: indexing `q0.reshape(shape0)` with the reduced index
tuple that `_control_n_index` obtains from `reduce_shape_index` selects exactly the entries whose control bits are all 1,
in increasing flat order.  (The gate theorems above do not depend on it: `applyControlled` is stated on bit vectors and
tied to the code directly; this theorem is about the literal model of the reshape/slice route.) -/
theorem reduceShapeIndex_spec (n : Nat) (c : List Nat) (hc : c ∈ (List.range n).sublists) :
    controlPositions n c = controlPositionsBitwise n c := by
  rw [List.mem_sublists] at hc
  rw [controlPositions_eq_ctrlPos, ctrlPos_eq_filter]
  unfold controlPositionsBitwise
  have hlen : ((List.range n).map fun q => c.contains q).length = n := by simp
  rw [hlen]
  apply List.filter_congr
  intro p _
  rw [Bool.eq_iff_iff, okB_iff, List.all_eq_true]
  simp only [hlen]
  constructor
  · intro h q hq
    have hqn : q < n := List.mem_range.1 (hc.subset hq)
    exact h q hqn (by simpa using hq)
  · intro h q hq hK
    exact h q (by simpa using hK)

/-! ### circuits -/

/-- **Whatever the index resolution accepts satisfies the side conditions of the gate theorems**; in particular
`_control_n_index` (`tmp0`, `index_map`, `ind_target_new`) is a valid choice of sub-register. -/
theorem compile_wf {α : Type} [Zero α] (n : Nat) (g : RawOp α) (op : Op n α) (h : g.compile n = some op) :
    op.WF := by
  obtain ⟨m, rfl⟩ := compile_pos h
  cases g with
  | unitary U t =>
    obtain ⟨hv, -, rfl⟩ := compile_unitary_some h
    exact mkTarget_injective hv.1 hv.2
  | control U c t =>
    obtain ⟨n', hlen, hv, -, rfl⟩ := compile_control_some h
    obtain ⟨h1, h2, h3, _⟩ := ctrl_data (n' := n') hlen hv.1 hv.2
    exact ⟨h1, h2, h3⟩
  | measure s o =>
    obtain ⟨-, -, rfl⟩ := compile_measure_some h
    trivial
  | custom U =>
    obtain ⟨-, rfl⟩ := compile_custom_some h
    exact injective_id

/-- … and the resolved entry refers to the qubits the user wrote, in the order written. -/
theorem compile_unitary_targets {α : Type} [Zero α] (n : Nat) (U : Array α) (t : List Int) (op : Op n α)
    (h : (RawOp.unitary U t).compile n = some op) :
    (op.targets.map fun i => (i.val : Int)) = t ∧ op.controls = [] := by
  obtain ⟨m, rfl⟩ := compile_pos h
  obtain ⟨hv, -, rfl⟩ := compile_unitary_some h
  exact ⟨ofFn_val_eq _ (mkTarget_val hv.1), rfl⟩

/-- For a controlled entry `tmp0[ind_target_new[j]] = ind_target[j]` (the renumbering of `_control_n_index` is undone
by the slice), and the control flags are exactly the control set. -/
theorem compile_control_targets {α : Type} [Zero α] (n : Nat) (U : Array α) (c t : List Int) (op : Op n α)
    (h : (RawOp.control U c t).compile n = some op) :
    (op.targets.map fun i => (i.val : Int)) = t ∧ ∀ i : Fin n, i ∈ op.controls ↔ (i.val : Int) ∈ c := by
  obtain ⟨m, rfl⟩ := compile_pos h
  obtain ⟨n', hlen, hv, -, rfl⟩ := compile_control_some h
  obtain ⟨_, _, _, h4⟩ := ctrl_data (n' := n') hlen hv.1 hv.2
  exact ⟨ofFn_val_eq _ h4, fun i => by simp [Op.controls]⟩

theorem compile_measure_targets {α : Type} [Zero α] (n : Nat) (s : List Int) (o : List Bool) (op : Op n α)
    (h : (RawOp.measure (α := α) s o).compile n = some op) :
    (op.targets.map fun i => (i.val : Int)) = s := by
  obtain ⟨m, rfl⟩ := compile_pos h
  obtain ⟨hr, -, rfl⟩ := compile_measure_some h
  exact ofFn_val_eq _ (mkTarget_val hr)

/-- every kind of gate-list entry acts as its matrix -/
theorem op_apply_eq [Semiring R] (g : Op n R) (hg : g.WF) (ψ : Vec n R) :
    g.apply ψ = (Matrix.of g.matrix).mulVec ψ := by
  cases g with
  | unitary U t => exact applyGate_eq_embed hg U ψ
  | control U isCtrl rest tNew => exact applyControlled_eq hg.1 hg.2.1 hg.2.2 U ψ
  | measure s o =>
    funext x
    simp only [Op.apply, Op.matrix, project, projEmbed, Matrix.mulVec, dotProduct, Matrix.of_apply,
      Bool.and_eq_true, Bits.beq_iff]
    rw [Finset.sum_eq_single x]
    · by_cases h : x.sel s = o <;> simp [h]
    · intro w _ hw
      have : ¬ x = w := fun e => hw e.symm
      simp [this]
    · intro h; exact absurd (Finset.mem_univ x) h

/-- the left fold of `Circuit.apply_state` on flat arrays is multiplication by the ordered product -/
theorem applyStateA_eq [Semiring R] (c : List (Op n R)) (hc : ∀ g ∈ c, g.WF) (a : Array R) :
    lookup (n := n) (applyStateA c a) = (circuitMatrix c).mulVec (lookup a) := by
  induction c generalizing a with
  | nil => simp [applyStateA, circuitMatrix_nil]
  | cons g c ih =>
    have h1 : applyStateA (g :: c) a = applyStateA c (g.applyA a) := rfl
    rw [h1, ih (fun g' hg' => hc g' (List.mem_cons_of_mem _ hg')), circuitMatrix_cons, Op.applyA, lookup_tabulate,
      op_apply_eq g (hc g List.mem_cons_self), Matrix.mulVec_mulVec]

/-- **acting with the circuit = multiplying by the ordered product of the gates' embedded operators** -/
theorem applyState_eq [Semiring R] (c : List (Op n R)) (hc : ∀ g ∈ c, g.WF) (ψ : Vec n R) :
    applyState c ψ = (circuitMatrix c).mulVec ψ := by
  rw [applyState, applyStateA_eq c hc, lookup_tabulate]

/-- **`to_unitary` (images of the basis vectors, then transpose) is that product** -/
theorem toUnitary_eq [Semiring R] (c : List (Op n R)) (hc : ∀ g ∈ c, g.WF) :
    Matrix.of (toUnitary c) = circuitMatrix c := by
  ext x x'
  have hx := Bits.toNat_lt x
  have hx' := Bits.toNat_lt x'
  simp only [Matrix.of_apply, toUnitary, lookupMat, toUnitaryA, unitaryRows]
  rw [getD_ofFn _ _ (flat_lt hx hx')]
  simp only [flat_div hx', flat_mod hx']
  have : (Array.ofFn (n := 2 ^ n) fun r => applyStateA c (tabulate (basis (α := R) (Bits.ofNat n r.val)))).getD
      x'.toNat #[] = applyStateA c (tabulate (basis x')) := by
    simp [Array.getD, hx', Bits.ofNat_toNat]
  rw [this]
  have h2 := congrFun (applyStateA_eq c hc (tabulate (basis x'))) x
  rw [lookup_tabulate, mulVec_basis] at h2
  exact h2

/-- so acting with the circuit equals multiplying by its `to_unitary` -/
theorem applyState_eq_toUnitary [Semiring R] (c : List (Op n R)) (hc : ∀ g ∈ c, g.WF) (ψ : Vec n R) :
    applyState c ψ = (Matrix.of (toUnitary c)).mulVec ψ := by
  rw [toUnitary_eq c hc, applyState_eq c hc]

/-- an entry of the gate list is a unitary gate: the matrix of a unitary or controlled entry is unitary -/
def IsUnitaryOp [CommRing R] [StarRing R] : Op n R → Prop
  | .unitary U _ => (U : Matrix _ _ R) ∈ Matrix.unitaryGroup _ R
  | .control U _ _ _ => (U : Matrix _ _ R) ∈ Matrix.unitaryGroup _ R
  | .measure _ _ => False

theorem op_matrix_unitary [CommRing R] [StarRing R] (g : Op n R) (hg : g.WF) (hu : IsUnitaryOp g) :
    Matrix.of g.matrix ∈ Matrix.unitaryGroup (Bits n) R := by
  cases g with
  | unitary U t => exact embed_unitary hg hu
  | control U isCtrl rest tNew =>
    exact ctrlEmbed_unitary (hg.1.comp hg.2.1) (fun j => (hg.2.2 _).2 ⟨tNew j, rfl⟩) hu
  | measure s o => exact hu.elim

/-- **the circuit unitary is unitary** when every gate is -/
theorem toUnitary_unitary [CommRing R] [StarRing R] (c : List (Op n R)) (hc : ∀ g ∈ c, g.WF)
    (hu : ∀ g ∈ c, IsUnitaryOp g) : Matrix.of (toUnitary c) ∈ Matrix.unitaryGroup (Bits n) R := by
  rw [toUnitary_eq c hc]
  induction c with
  | nil => rw [circuitMatrix_nil]; exact one_mem _
  | cons g c ih =>
    rw [circuitMatrix_cons]
    exact mul_mem (ih (fun g' hg' => hc g' (List.mem_cons_of_mem _ hg')) (fun g' hg' => hu g' (List.mem_cons_of_mem _ hg')))
      (op_matrix_unitary g (hc g List.mem_cons_self) (hu g List.mem_cons_self))

/-! ### index shifting (`shift_qubit_index_`) -/


/-- **index shifting**: the operator of a gate whose targets are shifted by `d` is `1 ⊗ (the original operator)` —
identity on the `d` new leading qubits -/
theorem embed_shift [Zero R] (d : Nat) (U : Mat k R) (t : Fin k → Fin n) (x x' : Bits (d + n)) :
    embed U (fun j => Fin.natAdd d (t j)) x x'
      = if Bits.head d x = Bits.head d x' then embed U t (Bits.tail d x) (Bits.tail d x') else 0 := by
  simp only [embed]
  by_cases h : Bits.agreeOff x x' (fun j => Fin.natAdd d (t j)) = true
  · rw [if_pos h]
    obtain ⟨h1, h2⟩ := (agreeOff_shift d t x x').1 h
    rw [if_pos h1, if_pos h2]; rfl
  · rw [if_neg h]
    by_cases h1 : Bits.head d x = Bits.head d x'
    · rw [if_pos h1, if_neg]
      exact fun h2 => h ((agreeOff_shift d t x x').2 ⟨h1, h2⟩)
    · rw [if_neg h1]

/-- the same for controlled gates: controls and targets shifted together -/
theorem ctrlEmbed_shift [Zero R] [One R] (d : Nat) (U : Mat k R) (isCtrl : Fin n → Bool) (t : Fin k → Fin n)
    (x x' : Bits (d + n)) :
    ctrlEmbed U (fun i => Fin.addCases (fun _ => false) isCtrl i) (fun j => Fin.natAdd d (t j)) x x'
      = if Bits.head d x = Bits.head d x' then ctrlEmbed U isCtrl t (Bits.tail d x) (Bits.tail d x') else 0 := by
  simp only [ctrlEmbed, ctrlOn_shift, embed_shift, Bits.beq_iff, bits_eq_iff_head_tail d x x']
  by_cases hc : ctrlOn isCtrl (Bits.tail d x) = true
  · simp [hc]
  · by_cases h1 : Bits.head d x = Bits.head d x' <;> simp [hc, h1]


/-- **`Circuit.num_qubit` bounds every index**: every qubit index mentioned by an entry of the gate list is below
`num_qubit` -/
theorem numQubit_gt_index {α : Type} (c : List (RawOp α)) (g : RawOp α) (hg : g ∈ c) (q : Int) (hq : q ∈ g.indices) :
    q < (numQubit c : Int) := by
  have h1 : q ≤ g.maxIndex := by rw [maxIndex_eq]; exact foldl_max_ge_mem _ _ q hq
  have h2 : g.maxIndex ≤ (c.map RawOp.maxIndex).foldl max 0 := foldl_max_ge_mem _ _ _ (List.mem_map_of_mem hg)
  have h3 : (0 : Int) ≤ (c.map RawOp.maxIndex).foldl max 0 := foldl_max_ge_init _ _
  unfold numQubit
  omega

/-- **… and is tight**: either `num_qubit = 1` or some entry mentions qubit `num_qubit - 1` -/
theorem numQubit_tight {α : Type} (c : List (RawOp α)) :
    numQubit c = 1 ∨ ∃ g ∈ c, ((numQubit c : Int) - 1) ∈ g.indices := by
  have h3 : (0 : Int) ≤ (c.map RawOp.maxIndex).foldl max 0 := foldl_max_ge_init _ _
  have hn : ((numQubit c : Nat) : Int) = (c.map RawOp.maxIndex).foldl max 0 + 1 := by unfold numQubit; omega
  rcases foldl_max_mem (c.map RawOp.maxIndex) 0 with h | h
  · left; unfold numQubit; rw [h]; rfl
  · obtain ⟨g, hg, hgm⟩ := List.mem_map.1 h
    rw [maxIndex_eq] at hgm
    rcases foldl_max_mem g.indices 0 with h0 | h0
    · left
      have : (c.map RawOp.maxIndex).foldl max 0 = 0 := by rw [← hgm, h0]
      unfold numQubit; rw [this]; rfl
    · right
      refine ⟨g, hg, ?_⟩
      rw [hn, ← hgm]; simpa using h0

/-- `shift_qubit_index_` adds `δ` to every index an entry mentions -/
theorem shift_indices {α : Type} (δ : Int) (g : RawOp α) : (g.shift δ).indices = g.indices.map (· + δ) := by
  cases g <;> simp [RawOp.shift, RawOp.indices]

/-- **`shift_qubit_index_` on a unitary entry**: resolving the shifted entry against `d` more qubits gives the operator
`1_d ⊗ (operator of the original entry)` -/
theorem compile_shift_unitary [Zero R] [One R] (d n : Nat) (U : Array R) (t : List Int) (op : Op (n + 1) R)
    (op' : Op (d + (n + 1)) R) (h : (RawOp.unitary U t).compile (n + 1) = some op)
    (h' : ((RawOp.unitary U t).shift d).compile (d + (n + 1)) = some op') (x x' : Bits (d + (n + 1))) :
    op'.matrix x x' = if Bits.head d x = Bits.head d x' then op.matrix (Bits.tail d x) (Bits.tail d x') else 0 := by
  obtain ⟨hv, -, rfl⟩ := compile_unitary_some h
  change RawOp.compile ((d + n) + 1) (RawOp.unitary U (t.map (· + (d : Int)))) = some op' at h'
  obtain ⟨hv', -, rfl⟩ := compile_unitary_some h'
  simp only [Op.matrix]
  have hk : (t.map (· + (d : Int))).length = t.length := List.length_map _
  rw [embed_cast_k hk U (fun j => Fin.natAdd d (mkTarget n t j)) _ ?_, embed_shift]
  intro j
  apply Fin.ext
  have e1 := mkTarget_val (n := d + n) hv'.1 j
  have e2 := mkTarget_val (n := n) hv.1 (Fin.cast hk j)
  have : ((mkTarget (d + n) (t.map (· + (d : Int))) j).val : Int)
      = ((Fin.natAdd d (mkTarget n t (Fin.cast hk j))).val : Int) := by
    rw [e1, Fin.val_natAdd, Nat.cast_add, e2]
    simp [add_comm]
  exact_mod_cast this


/-- **`shift_qubit_index_` on a controlled entry** (controls and targets shifted together): again `1_d ⊗ operator` -/
theorem compile_shift_control [Zero R] [One R] (d n : Nat) (U : Array R) (c t : List Int) (op : Op (n + 1) R)
    (op' : Op (d + (n + 1)) R) (h : (RawOp.control U c t).compile (n + 1) = some op)
    (h' : ((RawOp.control U c t).shift d).compile (d + (n + 1)) = some op') (x x' : Bits (d + (n + 1))) :
    op'.matrix x x' = if Bits.head d x = Bits.head d x' then op.matrix (Bits.tail d x) (Bits.tail d x') else 0 := by
  obtain ⟨n1, hlen, hv, -, rfl⟩ := compile_control_some h
  change RawOp.compile ((d + n) + 1) (RawOp.control U (c.map (· + (d : Int))) (t.map (· + (d : Int)))) = some op' at h'
  obtain ⟨n2, hlen', hv', -, rfl⟩ := compile_control_some h'
  obtain ⟨_, _, _, h4⟩ := ctrl_data (n' := n1) hlen hv.1 hv.2
  obtain ⟨_, _, _, h4'⟩ := ctrl_data (n' := n2) hlen' hv'.1 hv'.2
  simp only [Op.matrix]
  have hk : (t.map (· + (d : Int))).length = t.length := List.length_map _
  have hctrl : (fun i : Fin (d + (n + 1)) => (c.map (· + (d : Int))).contains (i.val : Int))
      = fun i : Fin (d + (n + 1)) => Fin.addCases (fun _ => false) (fun b : Fin (n + 1) => c.contains (b.val : Int)) i := by
    funext i
    refine Fin.addCases (m := d) (n := n + 1) (fun a => ?_) (fun b => ?_) i
    · rw [Fin.addCases_left]
      simp only [List.contains_eq_mem, List.mem_map, decide_eq_false_iff_not, Fin.val_castAdd]
      rintro ⟨y, hy, e⟩
      have := (hv.1 y (List.mem_append_left _ hy)).1
      have := a.isLt
      omega
    · rw [Fin.addCases_right]
      simp only [List.contains_eq_mem, List.mem_map, Fin.val_natAdd, Nat.cast_add, decide_eq_decide]
      constructor
      · rintro ⟨y, hy, e⟩
        have : y = (b.val : Int) := by omega
        rw [← this]; exact hy
      · intro hb; exact ⟨_, hb, by omega⟩
  refine Eq.trans (congrFun (congrFun (ctrlEmbed_cast_k (n := d + (n + 1)) hk U
    (fun i => Fin.addCases (fun _ => false) (fun b : Fin (n + 1) => c.contains (b.val : Int)) i) _ (congrFun hctrl)
    (fun j => Fin.natAdd d (Fin.ofNat (n + 1) ((freeQubits (n + 1) c).getD
      (Fin.ofNat (n1 + 1) (List.idxOf (t.getD j.val 0).toNat (freeQubits (n + 1) c))).val 0))) _ ?_) x) x') ?_
  swap
  · exact ctrlEmbed_shift d _ _ _ x x'
  intro j
  apply Fin.ext
  have e1 := h4' j
  have e2 := h4 (Fin.cast hk j)
  dsimp only at e1 e2
  simp only [List.getElem_map, Fin.val_cast] at e1 e2
  refine Int.ofNat_inj.1 ?_
  simp only [Fin.val_natAdd, Nat.cast_add, Fin.val_cast]
  rw [e1, e2]
  ring


/-! ### the embedded operator is `kron` + axis permutation -/

/-- on the full register in natural order the embedding is the operator itself -/
theorem embed_id [Zero R] (U : Mat n R) : embed U id = U := by
  funext x x'
  have : Bits.agreeOff x x' (id : Fin n → Fin n) = true := by
    rw [Bits.agreeOff_iff]; intro i hi; exact absurd rfl (hi i)
  simp only [embed, this, if_true]; rfl

/-- padding with `b` trailing qubits: `embed U t ⊗ 1_b` -/
theorem embed_pad [Zero R] (b : Nat) (U : Mat k R) (t : Fin k → Fin n) (x x' : Bits (n + b)) :
    embed U (fun j => Fin.castAdd b (t j)) x x'
      = if Bits.tail n x = Bits.tail n x' then embed U t (Bits.head n x) (Bits.head n x') else 0 := by
  have key : Bits.agreeOff x x' (fun j => Fin.castAdd b (t j)) = true ↔
      Bits.tail n x = Bits.tail n x' ∧ Bits.agreeOff (Bits.head n x) (Bits.head n x') t = true := by
    rw [Bits.agreeOff_iff, Bits.agreeOff_iff]
    constructor
    · intro h
      refine ⟨?_, ?_⟩
      · funext i
        exact h _ (fun j e => by
          have := congrArg Fin.val e; simp only [Fin.val_natAdd, Fin.val_castAdd] at this; have := (t j).isLt; omega)
      · intro i hi
        exact h _ (fun j e => hi j (Fin.castAdd_injective _ _ e))
    · rintro ⟨h1, h2⟩ i
      refine Fin.addCases (fun a => ?_) (fun c => ?_) i
      · intro hi; exact h2 a (fun j e => hi j (by rw [e]))
      · intro _; exact congrFun h1 c
  simp only [embed]
  by_cases h : Bits.agreeOff x x' (fun j => Fin.castAdd b (t j)) = true
  · rw [if_pos h]
    obtain ⟨h1, h2⟩ := key.1 h
    rw [if_pos h1, if_pos h2]; rfl
  · rw [if_neg h]
    by_cases h1 : Bits.tail n x = Bits.tail n x'
    · rw [if_pos h1, if_neg]
      exact fun h2 => h (key.2 ⟨h1, h2⟩)
    · rw [if_neg h1]

/-- relabelling the qubits by a permutation `σ` permutes the axes of the embedded operator -/
theorem embed_perm [Zero R] (σ : Equiv.Perm (Fin n)) (U : Mat k R) (t : Fin k → Fin n) (x x' : Bits n) :
    embed U (fun j => σ (t j)) x x' = embed U t (fun i => x (σ i)) (fun i => x' (σ i)) := by
  have key : Bits.agreeOff x x' (fun j => σ (t j)) = Bits.agreeOff (fun i => x (σ i)) (fun i => x' (σ i)) t := by
    rw [Bool.eq_iff_iff, Bits.agreeOff_iff, Bits.agreeOff_iff]
    constructor
    · intro h i hi
      exact h (σ i) (fun j e => hi j (σ.injective e))
    · intro h i hi
      have := h (σ.symm i) (fun j e => hi j (by rw [e]; simp))
      simpa using this
  simp only [embed, key]; rfl

/-! ### density matrices, expectation values, matrix elements, marginals -/

section star
attribute [local instance] starConj

/-- **`sim.dm.apply_gate` returns `E ρ Eᴴ`** with `E` the embedded operator -/
theorem dmApply_eq [CommSemiring R] [StarRing R] {t : Fin k → Fin n} (ht : Injective t) (U : Mat k R)
    (ρ : Matrix (Bits n) (Bits n) R) :
    Matrix.of (dmApply U t ρ) = Matrix.of (embed U t) * ρ * (Matrix.of (embed U t))ᴴ := by
  ext r c
  have hconj : ∀ x x', embed (conjMat U) t x x' = star (embed U t x x') := by
    intro x x'; simp only [embed, conjMat]; split <;> simp [conj]
  have h1 : ∀ x', applyGate U t (fun x => ρ x x') r = (Matrix.of (embed U t) * ρ) r x' := by
    intro x'
    rw [applyGate_eq_embed ht]
    simp [Matrix.mulVec, dotProduct, Matrix.mul_apply]
  simp only [Matrix.of_apply, dmApply, h1]
  rw [applyGate_eq_embed ht, Matrix.mul_apply]
  simp only [Matrix.mulVec, dotProduct, Matrix.of_apply, hconj, Matrix.conjTranspose_apply]
  exact Finset.sum_congr rfl (fun x' _ => mul_comm _ _)

/-- **`operator_expectation` returns `Tr(ρ · embed O t)`** -/
theorem expectation_eq [CommSemiring R] {t : Fin k → Fin n} (ht : Injective t) (O : Mat k R)
    (ρ : Matrix (Bits n) (Bits n) R) :
    expectation O t ρ = Matrix.trace (ρ * Matrix.of (embed O t)) := by
  simp only [expectation, sumBits_eq_sum, Matrix.trace, Matrix.diag_apply, Matrix.mul_apply, Matrix.of_apply]
  conv_rhs => rw [Finset.sum_comm]
  refine Finset.sum_congr rfl (fun c _ => ?_)
  have h := congrFun (applyGate_eq_embed ht O (fun r => ρ r c)) c
  simp only [applyGate, sumBits_eq_sum, Matrix.mulVec, dotProduct, Matrix.of_apply] at h
  calc ∑ a, ρ (c.upd t a) c * O (c.sel t) a = ∑ a, O (c.sel t) a * ρ (c.upd t a) c :=
        Finset.sum_congr rfl (fun _ _ => mul_comm _ _)
    _ = ∑ r, embed O t c r * ρ r c := h
    _ = ∑ r, ρ r c * embed O t c r := Finset.sum_congr rfl (fun _ _ => mul_comm _ _)

/-- **`inner_product_psi0_O_psi1`** returns `⟨ψ0| G₁ G₂ ⋯ G_m |ψ1⟩`, factors multiplied from left to right -/
theorem innerProductOp_eq [Semiring R] [StarRing R] (ψ0 ψ1 : Vec n R) (term : List (Op n R))
    (hc : ∀ g ∈ term, g.WF) :
    innerProductOp ψ0 ψ1 term
      = star ψ0 ⬝ᵥ ((term.map fun g => (Matrix.of g.matrix : Matrix (Bits n) (Bits n) R)).prod.mulVec ψ1) := by
  have key : lookup (n := n) (term.foldr (fun g a => g.applyA a) (tabulate ψ1))
      = (term.map fun g => (Matrix.of g.matrix : Matrix (Bits n) (Bits n) R)).prod.mulVec ψ1 := by
    induction term with
    | nil => simp [lookup_tabulate]
    | cons g term ih =>
      rw [List.foldr_cons, Op.applyA, lookup_tabulate, ih (fun g' hg' => hc g' (List.mem_cons_of_mem _ hg')),
        op_apply_eq g (hc g List.mem_cons_self), List.map_cons, List.prod_cons, Matrix.mulVec_mulVec]
  simp only [innerProductOp, vdot, sumBits_eq_sum, key, dotProduct, Pi.star_apply]
  rfl

/-- **`reduce_to_probability` returns the Born marginals**: entry `o` is `Σ |ψ x|²` over the basis states `x`
whose kept bits read `o` -/
theorem reduceToProbability_eq [Semiring R] [StarRing R] {m : Nat} (keep : Fin m → Fin n) (ψ : Vec n R) (o : Bits m) :
    reduceToProbability keep ψ o = ∑ x ∈ Finset.univ.filter (fun x : Bits n => x.sel keep = o), star (ψ x) * ψ x := by
  simp only [reduceToProbability, sumBits_eq_sum, Bits.beq_iff, normSq, conj]
  rw [Finset.sum_filter]

/-- the marginals sum to `‖ψ‖² = Σ |ψ x|²` (to 1 for a normalised state), whatever the kept set -/
theorem reduceToProbability_sum [Semiring R] [StarRing R] {m : Nat} (keep : Fin m → Fin n) (ψ : Vec n R) :
    ∑ o, reduceToProbability keep ψ o = ∑ x, star (ψ x) * ψ x := by
  simp only [reduceToProbability, sumBits_eq_sum, Bits.beq_iff, normSq, conj]
  rw [Finset.sum_comm]
  refine Finset.sum_congr rfl (fun x _ => ?_)
  rw [Finset.sum_ite_eq]
  simp

end star

/-! ### the flat-index convention -/

/-- numpy's flat index (`reshape`) is a bijection between `{0,…,2^n-1}` and bit vectors, qubit 0 most significant -/
theorem flatIndex_bijective (n : Nat) :
    (∀ x : Bits n, x.toNat < 2 ^ n ∧ Bits.ofNat n x.toNat = x) ∧ ∀ v, v < 2 ^ n → (Bits.ofNat n v).toNat = v :=
  ⟨fun x => ⟨Bits.toNat_lt x, Bits.ofNat_toNat x⟩, fun _ h => Bits.toNat_ofNat h⟩

/-- `reshape([2]*n)` after `reshape(-1)` is the identity (the model's array round trip) -/
theorem lookup_tabulate_id [Zero R] (ψ : Vec n R) : lookup (tabulate ψ) = ψ := lookup_tabulate ψ

/-! ### the executed carriers -/

/-- **The statement about exactly what the driver computes**: `applyGate` evaluated with the model's own `ℤ[i]` operations
(`GInt.instAdd`, `GInt.instMul`, `GInt.instZero` of `NumqiModel/Scalar.lean`) is multiplication by the embedded operator.
`GInt` is a commutative star ring on those very operations (`NumqiProofs/ScalarInstances.lean`), so this is
`applyGate_eq_embed` at `R = GInt`, accepted by definitional unfolding. -/
theorem applyGate_eq_embed_GInt {t : Fin k → Fin n} (ht : Injective t) (U : Mat k GInt) (ψ : Vec n GInt) :
    @applyGate GInt n k GInt.instAdd GInt.instMul GInt.instZero U t ψ
      = (Matrix.of (@embed GInt n k GInt.instZero U t)).mulVec ψ :=
  applyGate_eq_embed ht U ψ

/-- the same for the circuit fold at `ℚ[i]`, the carrier used for non-integer gates -/
theorem applyStateA_eq_QI (c : List (Op n QI)) (hc : ∀ g ∈ c, g.WF) (a : Array QI) :
    @lookup QI n QI.instZero (@applyStateA QI n QI.instAdd QI.instMul QI.instZero c a)
      = (circuitMatrix c).mulVec (@lookup QI n QI.instZero a) :=
  applyStateA_eq c hc a

/-! ### the hypotheses are satisfiable, the statements are not vacuous -/

/-- a non-ascending target tuple is duplicate-free: the gate theorems apply to it -/
example : Injective (![2, 0] : Fin 2 → Fin 3) := by decide

/-- … so e.g. over `ℂ` -/
example (U : Mat 2 ℂ) (ψ : Vec 3 ℂ) : applyGate U ![2, 0] ψ = (Matrix.of (embed U ![2, 0])).mulVec ψ :=
  applyGate_eq_embed (by decide) U ψ

/-- the model computes: CNOT written as a 2-qubit matrix on the targets (1,0) of two qubits, i.e. control = qubit 1,
maps |01⟩ to |11⟩ (flat index 1 ↦ 3); with targets (0,1) it would leave |01⟩ alone -/
example : tabulate (applyGate (lookupMat (k := 2) #[1,0,0,0, 0,1,0,0, 0,0,0,1, 0,0,1,0]) (![1, 0] : Fin 2 → Fin 2)
    (lookup (n := 2) #[(0 : Int), 1, 0, 0])) = #[0, 0, 0, 1] := by decide
example : tabulate (applyGate (lookupMat (k := 2) #[1,0,0,0, 0,1,0,0, 0,0,0,1, 0,0,1,0]) (![0, 1] : Fin 2 → Fin 2)
    (lookup (n := 2) #[(0 : Int), 1, 0, 0])) = #[0, 1, 0, 0] := by decide

/-- the index resolution accepts a Toffoli-like entry (controls 0 and 2, target 1, of 3 qubits) and rejects a target
that is also a control -/
example : ((RawOp.control #[(0 : Int), 1, 1, 0] [0, 2] [1]).compile 3).isSome = true := by decide
example : ((RawOp.control #[(0 : Int), 1, 1, 0] [0, 1] [1]).compile 3).isSome = false := by decide

/-- the controlled model acts only when the controls are 1: |101⟩ ↦ |111⟩, |100⟩ stays -/
example : (((RawOp.control #[(0 : Int), 1, 1, 0] [0, 2] [1]).compile 3).map fun g => g.applyA #[0,0,0,0,0,1,0,0])
    = some #[0,0,0,0,0,0,0,1] := by decide
example : (((RawOp.control #[(0 : Int), 1, 1, 0] [0, 2] [1]).compile 3).map fun g => g.applyA #[0,0,0,0,1,0,0,0])
    = some #[0,0,0,0,1,0,0,0] := by decide

/-- unitary gates exist over `ℂ` (hypothesis of `toUnitary_unitary`) -/
example : (1 : Matrix (Bits 1) (Bits 1) ℂ) ∈ Matrix.unitaryGroup (Bits 1) ℂ := one_mem _

end Numqi.C03
