/-
C12 — channel representations are equivalent and channels are contractive.

Property theorems; the lemmas they share are in `NumqiProofs/Channel*.lean`.  Index theorems hold over every commutative star-ring `R` (hence ℂ and ℝ), for all
`dim_in`, `dim_out` and numbers of Kraus terms.  Conjugation of the model (`conj`) is `star` here.
-/
import NumqiProofs.Channel
import NumqiProofs.ChannelBloch
import NumqiProofs.ChannelSpectral
import NumqiProofs.ChannelContract
import NumqiProps.C16
import Mathlib.Analysis.Real.Sqrt
import Mathlib.Data.Complex.Basic

namespace Numqi.C12
open Numqi Numqi.Channel Finset

variable {R : Type} [CommRing R] [StarRing R]

/-! ## conversions -/

/-- **Choi operator of a Kraus set**: `C[(i,a),(j,b)] = Σ_s K[s,a,i]·conj K[s,b,j]`. -/
theorem choi_of_kraus (N dout : ℕ) (K : ℕ → ℕ → ℕ → R) (i a j b : ℕ) (ha : a < dout) (hb : b < dout) :
    krausToChoi N dout K (i * dout + a) (j * dout + b) = ∑ s ∈ range N, K s a i * star (K s b j) := by
  simp only [krausToChoi, sumRange_eq_sum, div_of_lt ha, mod_of_lt ha, div_of_lt hb, mod_of_lt hb, conj_eq_star]

/-- **Super-operator of a Kraus set**: `S[(a,b),(i,j)] = Σ_s K[s,a,i]·conj K[s,b,j]` (`= Σ_s K_s ⊗ conj K_s`). -/
theorem super_of_kraus (N din dout : ℕ) (K : ℕ → ℕ → ℕ → R) (a b i j : ℕ) (hb : b < dout) (hj : j < din) :
    krausToSuper N din dout K (a * dout + b) (i * din + j) = ∑ s ∈ range N, K s a i * star (K s b j) := by
  simp only [krausToSuper, sumRange_eq_sum, div_of_lt hb, mod_of_lt hb, div_of_lt hj, mod_of_lt hj, conj_eq_star]

/-- Kraus → Choi → super-operator equals Kraus → super-operator. -/
theorem choiToSuper_krausToChoi (N din dout : ℕ) (K : ℕ → ℕ → ℕ → R) (r c : ℕ) (hr : r < dout * dout) :
    choiToSuper din dout (krausToChoi N dout K) r c = krausToSuper N din dout K r c := by
  have h1 := div_lt_of_lt_mul hr
  have h2 := mod_lt_of_lt_mul hr
  simp only [choiToSuper, krausToChoi, krausToSuper, div_of_lt h1, mod_of_lt h1, div_of_lt h2, mod_of_lt h2]

/-- **`super_op_to_choi_op ∘ choi_op_to_super_op = id`** (the permutations `(1,3,0,2)` and `(2,0,3,1)` are inverse). -/
theorem superToChoi_choiToSuper (din dout : ℕ) (C : ℕ → ℕ → R) (x y : ℕ) (hy : y < din * dout) :
    superToChoi din dout (choiToSuper din dout C) x y = C x y := by
  have h1 := mod_lt_of_lt_mul hy
  have h2 := div_lt_of_lt_mul hy
  simp only [superToChoi, choiToSuper, div_of_lt h1, mod_of_lt h1, div_of_lt h2, mod_of_lt h2, Nat.div_add_mod']

/-- **`choi_op_to_super_op ∘ super_op_to_choi_op = id`**. -/
theorem choiToSuper_superToChoi (din dout : ℕ) (S : ℕ → ℕ → R) (r c : ℕ) (hr : r < dout * dout) (hc : c < din * din) :
    choiToSuper din dout (superToChoi din dout S) r c = S r c := by
  have h1 := div_lt_of_lt_mul hr
  have h2 := mod_lt_of_lt_mul hr
  simp only [superToChoi, choiToSuper, div_of_lt h1, mod_of_lt h1, div_of_lt h2, mod_of_lt h2, Nat.div_add_mod']

/-- Choi → super → Choi and then applying is the same channel: `apply_super (choi_to_super C) = apply_choi C`, for every operator `C`. -/
theorem applySuper_choiToSuper (din dout : ℕ) (C ρ : ℕ → ℕ → R) (a b : ℕ) (hb : b < dout) :
    applySuper din dout (choiToSuper din dout C) ρ a b = applyChoi din dout C ρ a b := by
  simp only [applySuper, applyChoi, sumRange_eq_sum, sum_range_mul]
  refine sum_congr rfl fun i _ => sum_congr rfl fun j hj => ?_
  have hj' := mem_range.1 hj
  simp only [choiToSuper, div_of_lt hb, mod_of_lt hb, div_of_lt hj', mod_of_lt hj']

/-- `apply_choi (super_to_choi S) = apply_super S`, for every operator `S`. -/
theorem applyChoi_superToChoi (din dout : ℕ) (S ρ : ℕ → ℕ → R) (a b : ℕ) (ha : a < dout) (hb : b < dout) :
    applyChoi din dout (superToChoi din dout S) ρ a b = applySuper din dout S ρ a b := by
  simp only [applySuper, applyChoi, sumRange_eq_sum, sum_range_mul]
  refine sum_congr rfl fun i _ => sum_congr rfl fun j hj => ?_
  have hj' := mem_range.1 hj
  simp only [superToChoi, div_of_lt ha, mod_of_lt ha, div_of_lt hb, mod_of_lt hb, div_of_lt hj', mod_of_lt hj']

/-! ## the three `apply_*` routines agree on every state -/

/-- **`apply_choi_op (kraus_op_to_choi_op K) ρ = apply_kraus_op K ρ`** for every `ρ`. -/
theorem applyChoi_eq_applyKraus (N din dout : ℕ) (K : ℕ → ℕ → ℕ → R) (ρ : ℕ → ℕ → R) (a b : ℕ) (ha : a < dout) (hb : b < dout) :
    applyChoi din dout (krausToChoi N dout K) ρ a b = applyKraus N din K ρ a b := by
  simp only [applyChoi, applyKraus, sumRange_eq_sum, choi_of_kraus N dout K _ a _ b ha hb, conj_eq_star]
  simp only [sum_mul]
  symm
  rw [sum_comm₃]
  exact sum_congr rfl fun i _ => sum_congr rfl fun j _ => sum_congr rfl fun s _ => by ring

/-- **`apply_super_op (kraus_op_to_super_op K) ρ = apply_kraus_op K ρ`** for every `ρ`. -/
theorem applySuper_eq_applyKraus (N din dout : ℕ) (K : ℕ → ℕ → ℕ → R) (ρ : ℕ → ℕ → R) (a b : ℕ) (hb : b < dout) :
    applySuper din dout (krausToSuper N din dout K) ρ a b = applyKraus N din K ρ a b := by
  simp only [applySuper, applyKraus, sumRange_eq_sum, sum_range_mul]
  have : ∀ i ∈ range din, ∀ j ∈ range din,
      krausToSuper N din dout K (a * dout + b) (i * din + j) * ρ ((i * din + j) / din) ((i * din + j) % din)
        = ∑ s ∈ range N, K s a i * ρ i j * star (K s b j) := by
    intro i _ j hj
    have hj' := mem_range.1 hj
    rw [super_of_kraus N din dout K a b i j hb hj', div_of_lt hj', mod_of_lt hj', sum_mul]
    exact sum_congr rfl fun s _ => by ring
  rw [sum_congr rfl fun i hi => sum_congr rfl fun j hj => this i hi j hj]
  exact (sum_comm₃ _ _ _ _).symm

/-- **Kraus operators recovered from a Choi operator reproduce it**, given the `eigh` contract
`C = Σ_s (V w)_s (V w)_s†` on the columns kept after the `zero_eps` cut (`w` real: `star w = w`, `w_s² = λ_s`). -/
theorem kraus_of_choi (dout N0 N : ℕ) (V : ℕ → ℕ → R) (w : ℕ → R) (C : ℕ → ℕ → R)
    (hC : ∀ x y, C x y = ∑ s ∈ range N, (V x (N0 + s) * w (N0 + s)) * star (V y (N0 + s) * w (N0 + s)))
    (x y : ℕ) : krausToChoi N dout (choiToKraus dout N0 V w) x y = C x y := by
  simp only [krausToChoi, choiToKraus, sumRange_eq_sum, Nat.div_add_mod', conj_eq_star, hC]

omit [StarRing R] in
/-- `hf_channel_to_choi_op` recovers the Choi operator from the channel map. -/
theorem choiOfMap_applyChoi (din dout : ℕ) (C : ℕ → ℕ → R) (x y : ℕ) (hx : x < din * dout) (hy : y < din * dout) :
    choiOfMap dout (applyChoi din dout C) x y = C x y := by
  simp only [choiOfMap, applyChoi, sumRange_eq_sum, and_comm (a := _ = x / dout), ite_and, mul_ite, mul_one, mul_zero, sum_ite_eq',
    mem_range, div_lt_of_lt_mul hx, div_lt_of_lt_mul hy, if_true, Nat.div_add_mod']

omit [StarRing R] in
/-- `hf_channel_to_kraus_op` first tabulates the super-operator of the map: for `Φ = apply_choi_op(C, ·)` that is `choi_op_to_super_op(C)`. -/
theorem superOfMap_applyChoi (din dout : ℕ) (C : ℕ → ℕ → R) (r c : ℕ) (hc : c < din * din) :
    superOfMap din dout (applyChoi din dout C) r c = choiToSuper din dout C r c := by
  simp only [superOfMap, applyChoi, choiToSuper, sumRange_eq_sum, and_comm (a := _ = c / din), ite_and, mul_ite, mul_one, mul_zero,
    sum_ite_eq', mem_range, div_lt_of_lt_mul hc, mod_lt_of_lt_mul hc, if_true]

/-! ## complete positivity and trace preservation -/

/-- the Choi operator of a Kraus set is Hermitian … -/
theorem choi_hermitian (N dout : ℕ) (K : ℕ → ℕ → ℕ → R) (x y : ℕ) :
    star (krausToChoi N dout K x y) = krausToChoi N dout K y x := by
  simp only [krausToChoi, sumRange_eq_sum, conj_eq_star, star_sum, star_mul', star_star]
  exact sum_congr rfl fun s _ => mul_comm _ _

/-- … and positive semidefinite: its quadratic form is a sum of `star z · z` (complete positivity in Kraus form). -/
theorem choi_psd_form (N dout n : ℕ) (K : ℕ → ℕ → ℕ → R) (v : ℕ → R) :
    ∑ x ∈ range n, ∑ y ∈ range n, star (v x) * krausToChoi N dout K x y * v y
      = ∑ s ∈ range N, star (∑ x ∈ range n, star (K s (x % dout) (x / dout)) * v x)
          * (∑ y ∈ range n, star (K s (y % dout) (y / dout)) * v y) := by
  simp only [krausToChoi, sumRange_eq_sum, conj_eq_star, star_sum, star_mul', star_star]
  simp only [Finset.sum_mul_sum]
  simp only [mul_sum, sum_mul]
  symm
  rw [sum_comm₃]
  exact sum_congr rfl fun x _ => sum_congr rfl fun y _ => sum_congr rfl fun s _ => by ring

/-- **Trace preservation**: if `Σ_s K_s† K_s = 1` then `tr Φ(ρ) = tr ρ` for every `ρ`. -/
theorem trace_preserving (N din dout : ℕ) (K : ℕ → ℕ → ℕ → R) (ρ : ℕ → ℕ → R)
    (hTP : ∀ i j, i < din → j < din → krausGram N dout K i j = if i = j then 1 else 0) :
    ∑ a ∈ range dout, applyKraus N din K ρ a a = ∑ i ∈ range din, ρ i i := by
  have key : ∑ a ∈ range dout, applyKraus N din K ρ a a
      = ∑ i ∈ range din, ∑ j ∈ range din, ρ i j * krausGram N dout K j i := by
    simp only [applyKraus, krausGram, sumRange_eq_sum, conj_eq_star, mul_sum]
    rw [sum_comm, sum_congr rfl fun s _ => sum_comm₃ _ _ _ _, sum_comm₃]
    exact sum_congr rfl fun i _ => sum_congr rfl fun j _ => sum_congr rfl fun s _ => sum_congr rfl fun a _ => by ring
  rw [key]
  refine sum_congr rfl fun i hi => ?_
  rw [sum_eq_single i]
  · rw [hTP i i (mem_range.1 hi) (mem_range.1 hi)]; simp
  · intro j hj hne
    rw [hTP j i (mem_range.1 hj) (mem_range.1 hi), if_neg hne, mul_zero]
  · intro h; exact absurd hi h

/-! ## built-in noise channels are trace preserving for every rate -/

/-- dephasing: `Σ K†K = 1` whenever the two (real) coefficients satisfy `c0² + c1² = 1` … -/
theorem dephasing_tp (c0 c1 : R) (h0 : star c0 = c0) (h1 : star c1 = c1) (h : c0 * c0 + c1 * c1 = 1) (i j : ℕ)
    (hi : i < 2) (hj : j < 2) : krausGram 2 2 (dephasingKraus c0 c1) i j = if i = j then 1 else 0 := by
  interval_cases i <;> interval_cases j <;>
    simp [krausGram, sumRange, dephasingKraus, mat2, conj_eq_star, h0, h1] <;> linear_combination h

/-- … which holds for `c0 = √(1-p)`, `c1 = √p` and every rate `p ∈ [0,1]`. -/
theorem dephasing_tp_real (p : ℝ) (hp0 : 0 ≤ p) (hp1 : p ≤ 1) (i j : ℕ) (hi : i < 2) (hj : j < 2) :
    krausGram 2 2 (dephasingKraus (√(1 - p)) (√p)) i j = if i = j then 1 else 0 :=
  dephasing_tp _ _ (star_trivial _) (star_trivial _)
    (by rw [Real.mul_self_sqrt (by linarith), Real.mul_self_sqrt hp0]; ring) i j hi hj

/-- depolarising: `Σ K†K = 1` whenever `c0² + 3 c1² = 1` (`im` the imaginary unit) … -/
theorem depolarizing_tp (im c0 c1 : R) (him : im * im = -1) (hims : star im = -im) (h0 : star c0 = c0) (h1 : star c1 = c1)
    (h : c0 * c0 + 3 * (c1 * c1) = 1) (i j : ℕ) (hi : i < 2) (hj : j < 2) :
    krausGram 4 2 (depolarizingKraus im c0 c1) i j = if i = j then 1 else 0 := by
  interval_cases i <;> interval_cases j <;>
    simp [krausGram, sumRange, depolarizingKraus, mat2, conj_eq_star, h0, h1, hims] <;>
    linear_combination h - (c1 * c1) * him

/-- … which holds over ℂ for `c0 = √(1-3p/4)`, `c1 = √(p/4)` and every rate `p ∈ [0,1]` (indeed `p ≤ 4/3`). -/
theorem depolarizing_tp_complex (p : ℝ) (hp0 : 0 ≤ p) (hp1 : p ≤ 1) (i j : ℕ) (hi : i < 2) (hj : j < 2) :
    krausGram 4 2 (depolarizingKraus Complex.I ((√(1 - 3 * p / 4) : ℝ) : ℂ) ((√(p / 4) : ℝ) : ℂ)) i j
      = if i = j then 1 else 0 := by
  refine depolarizing_tp _ _ _ Complex.I_mul_I (Complex.conj_I) (Complex.conj_ofReal _) (Complex.conj_ofReal _) ?_ i j hi hj
  rw [← Complex.ofReal_mul, ← Complex.ofReal_mul, Real.mul_self_sqrt (by linarith), Real.mul_self_sqrt (by linarith)]
  push_cast; ring

/-- amplitude damping: `Σ K†K = 1` whenever `c0² + c1² = 1` … -/
theorem amplitude_damping_tp (c0 c1 : R) (h0 : star c0 = c0) (h1 : star c1 = c1) (h : c0 * c0 + c1 * c1 = 1) (i j : ℕ)
    (hi : i < 2) (hj : j < 2) : krausGram 2 2 (amplitudeDampingKraus c0 c1) i j = if i = j then 1 else 0 := by
  interval_cases i <;> interval_cases j <;>
    simp [krausGram, sumRange, amplitudeDampingKraus, mat2, conj_eq_star, h0, h1] <;> linear_combination h

/-- … which holds for `c0 = √(1-p)`, `c1 = √p` and every rate `p ∈ [0,1]`. -/
theorem amplitude_damping_tp_real (p : ℝ) (hp0 : 0 ≤ p) (hp1 : p ≤ 1) (i j : ℕ) (hi : i < 2) (hj : j < 2) :
    krausGram 2 2 (amplitudeDampingKraus (√(1 - p)) (√p)) i j = if i = j then 1 else 0 :=
  amplitude_damping_tp _ _ (star_trivial _) (star_trivial _)
    (by rw [Real.mul_self_sqrt (by linarith), Real.mul_self_sqrt hp0]; ring) i j hi hj

/-! ## the Bloch map (`choi_op_to_bloch_map`), on top of the Gell-Mann theorems of C16 -/

section bloch
open Numqi.Gellmann Matrix

/-- **`choi_op_to_bloch_map` returns the affine map of Bloch vectors**: for every `dim_in, dim_out ≥ 1`, every Hermitian
Choi operator `C` (Hermiticity-preserving map, in particular every channel), every Hermitian input `ρ` of trace one and every
component `ν`: `r(Φρ)_ν = Σ_μ A[ν,μ]·r(ρ)_μ + b_ν`, where `r = dm_to_gellmann_basis`, `Φρ = apply_choi_op(C, ρ)` and
`(A, b) = choi_op_to_bloch_map(C)`.  Scalars: any `Sin`, `Sout` satisfying the relations of the exact square roots for
`din`, `dout` (ℂ with the real roots: `C16.exists_valid_complex`). -/
theorem bloch_map_affine {din dout : ℕ} (Sin Sout : Scalars R) (hSin : Sin.Valid din) (hSout : Sout.Valid dout)
    (hdin : 1 ≤ din) (hdout : 1 ≤ dout) (C ρ : ℕ → ℕ → R) (hC : ∀ x y, star (C x y) = C y x)
    (hρH : (Matrix.of (fun i j : Fin din => ρ i.val j.val))ᴴ = Matrix.of (fun i j : Fin din => ρ i.val j.val))
    (hρtr : ∑ l : Fin din, ρ l.val l.val = 1) {ν : ℕ} (hν : ν < dout * dout - 1) :
    (dmToVec Sout dout (fun a b : Fin dout => applyChoi din dout C ρ a.val b.val) false).getD ν 0
      = (∑ μ ∈ range (din * din - 1),
          blochA Sin Sout din dout C ν μ * (dmToVec Sin din (fun i j : Fin din => ρ i.val j.val) false).getD μ 0)
        + blochB Sin Sout din dout C ν :=
  bloch_affine Sin Sout hSin hSout hdin hdout C ρ hρH hρtr
    (fun μ ν' hμ hν' => blochX_real Sin Sout hSin hSout hdin hdout C hC μ ν' hμ hν') hν

/-- the complex-linear core without any Hermiticity assumption: every Gell-Mann coefficient of the output is the stated
combination of the coefficients of the input (before `.real`) -/
theorem bloch_map_coefficients {din dout : ℕ} (Sin Sout : Scalars R) (hSin : Sin.Valid din) (hSout : Sout.Valid dout)
    (hdin : 1 ≤ din) (hdout : 1 ≤ dout) (C ρ : ℕ → ℕ → R) {ν : ℕ} (hν : ν < dout * dout) :
    (analysis Sout dout (fun a b : Fin dout => applyChoi din dout C ρ a.val b.val)).getD ν 0
      = ∑ μ ∈ range (din * din), ((analysis Sin din (fun i j : Fin din => ρ i.val j.val)).getD μ 0 * 2)
          * blochX Sout dout (blochTmp1 Sin din dout C) μ ν :=
  coef_applyChoi Sin Sout hSin hSout hdin hdout C ρ hν

/-- the Choi operator of any Kraus set satisfies the Hermiticity hypothesis of `bloch_map_affine` -/
theorem bloch_hypothesis_of_kraus (N dout : ℕ) (K : ℕ → ℕ → ℕ → R) (x y : ℕ) :
    star (krausToChoi N dout K x y) = krausToChoi N dout K y x := choi_hermitian N dout K x y

/-- non-vacuity: valid scalars exist over ℂ for every pair of dimensions -/
example : ∃ Sin Sout : Scalars ℂ, Sin.Valid 3 ∧ Sout.Valid 5 :=
  ⟨complexScalars 3, complexScalars 5, C16.exists_valid_complex (by norm_num), C16.exists_valid_complex (by norm_num)⟩

end bloch

/-! ## ranges at the eigenvalue level (the `eigvalsh` / `eigh` contract: the spectrum is a probability vector)

`entropySpec`, `fidelitySpec`, `relEntropySpec` are what `get_von_neumann_entropy`, `get_fidelity`, `get_relative_entropy` compute
after the eigen-decomposition; for commuting (simultaneously diagonal) states that is the whole function.  The statements are
for the exact clipping level `eps = 0`; the code clips at machine epsilon (`entropy_clipped_nonneg` covers the lower bound
with clipping).  **The data-processing inequalities for non-commuting states remain probe-only.** -/

section spectral
open Real

/-- **`0 ≤ S(ρ) ≤ log d`** for every probability vector of eigenvalues. -/
theorem entropy_range {d : ℕ} (hd : 0 < d) (p : Fin d → ℝ) (hp : ∀ i, 0 ≤ p i) (hsum : ∑ i, p i = 1) :
    0 ≤ entropySpec 0 (List.ofFn p) ∧ entropySpec 0 (List.ofFn p) ≤ Real.log d := by
  rw [entropySpec_zero p hp]
  exact ⟨entropy_nonneg' p hp hsum, entropy_le_log' hd p hp hsum⟩

/-- the lower bound survives the clipping `maximum(EVL, eps)` of the code (any `0 ≤ eps ≤ 1`, eigenvalues `≤ 1`) -/
theorem entropy_clipped_nonneg (eps : ℝ) (heps0 : 0 ≤ eps) (heps1 : eps ≤ 1) (evl : List ℝ) (h1 : ∀ x ∈ evl, x ≤ 1) :
    0 ≤ entropySpec eps evl := by
  unfold entropySpec
  rw [listSum_eq, neg_nonneg]
  induction evl with
  | nil => simp
  | cons x l ih =>
    rw [List.map_cons, List.sum_cons]
    have hl := ih (fun y hy => h1 y (List.mem_cons_of_mem _ hy))
    have hx : max x eps * Real.log (max x eps) ≤ 0 := by
      have h0 : 0 ≤ max x eps := le_max_of_le_right heps0
      have h1' : max x eps ≤ 1 := max_le (h1 x List.mem_cons_self) heps1
      have := negMulLog_nonneg h0 h1'
      rw [negMulLog] at this; linarith
    have hx' : Analytic.max x eps * Analytic.log (Analytic.max x eps) ≤ 0 := hx
    linarith

/-- **fidelity of commuting states** is `(Σ √(p_i q_i))²`, hence **symmetric** … -/
theorem fidelity_commuting_symm {d : ℕ} (p q : Fin d → ℝ) (hp : ∀ i, 0 ≤ p i) (hq : ∀ i, 0 ≤ q i) :
    fidelitySpec (List.ofFn p) (List.ofFn q) = (∑ i, √(p i) * √(q i)) ^ 2 ∧
    fidelitySpec (List.ofFn p) (List.ofFn q) = fidelitySpec (List.ofFn q) (List.ofFn p) := by
  refine ⟨fidelitySpec_eq p q hp hq, ?_⟩
  rw [fidelitySpec_eq p q hp hq, fidelitySpec_eq q p hq hp]
  congr 1
  exact sum_congr rfl fun i _ => mul_comm _ _

/-- … and **in `[0,1]`** for probability vectors (Cauchy–Schwarz). -/
theorem fidelity_commuting_range {d : ℕ} (p q : Fin d → ℝ) (hp : ∀ i, 0 ≤ p i) (hq : ∀ i, 0 ≤ q i)
    (hsp : ∑ i, p i = 1) (hsq : ∑ i, q i = 1) :
    0 ≤ fidelitySpec (List.ofFn p) (List.ofFn q) ∧ fidelitySpec (List.ofFn p) (List.ofFn q) ≤ 1 := by
  rw [fidelitySpec_eq p q hp hq]
  have h0 : 0 ≤ ∑ i, √(p i) * √(q i) := sum_nonneg fun i _ => mul_nonneg (Real.sqrt_nonneg _) (Real.sqrt_nonneg _)
  have h1 := bc_le_one p q hp hq hsp hsq
  exact ⟨sq_nonneg _, by nlinarith⟩

/-- **relative entropy of commuting states is non-negative** (Gibbs' inequality), full-rank second argument. -/
theorem relative_entropy_commuting_nonneg {d : ℕ} (p q : Fin d → ℝ) (hp : ∀ i, 0 ≤ p i) (hq : ∀ i, 0 < q i)
    (hsp : ∑ i, p i = 1) (hsq : ∑ i, q i = 1) : 0 ≤ relEntropySpec 0 (List.ofFn p) (List.ofFn q) := by
  rw [relEntropySpec_eq p q hp fun i => (hq i).le]
  calc (0 : ℝ) = ∑ i, (p i - q i) := by rw [sum_sub_distrib, hsp, hsq, sub_self]
    _ ≤ _ := sum_le_sum fun i _ => gibbs_term (p i) (q i) (hp i) (hq i)

/-! ### trace distance and Rényi entropy (spectral level), classical data processing

`get_trace_distance` / `get_Renyi_entropy` after their `eigvalsh` call are `traceDistSpec` / `renyiSpec`.  **Contractivity**, the
second half of the property, is proved here for commuting states under classical channels: a channel that maps the common
eigenbasis of `ρ`, `σ` onto a common eigenbasis acts on the spectra as a column-stochastic matrix `M` (`pushforward M`), and then
trace distance does not increase, fidelity does not decrease, relative entropy does not increase.  **For non-commuting states the
data-processing inequalities remain probe-only.** -/

/-- **trace distance of commuting states**: `Σ|p_i − q_i|/2`, symmetric, zero on equal arguments, in `[0, 1]`. -/
theorem trace_distance_commuting_range {d : ℕ} (p q : Fin d → ℝ) (hp : ∀ i, 0 ≤ p i) (hq : ∀ i, 0 ≤ q i)
    (hsp : ∑ i, p i = 1) (hsq : ∑ i, q i = 1) :
    traceDistComm (List.ofFn p) (List.ofFn q) = (∑ i, |p i - q i|) / 2 ∧
    traceDistComm (List.ofFn p) (List.ofFn q) = traceDistComm (List.ofFn q) (List.ofFn p) ∧
    traceDistComm (List.ofFn p) (List.ofFn p) = 0 ∧
    0 ≤ traceDistComm (List.ofFn p) (List.ofFn q) ∧ traceDistComm (List.ofFn p) (List.ofFn q) ≤ 1 := by
  rw [traceDistComm_eq p q, traceDistComm_eq q p, traceDistComm_eq p p]
  refine ⟨rfl, ?_, by simp, td_nonneg p q, td_le_one p q hp hq hsp hsq⟩
  congr 1
  exact sum_congr rfl fun i _ => abs_sub_comm _ _

/-- **trace distance does not increase** under a classical channel (column-stochastic `M`), for all real vectors. -/
theorem trace_distance_classical_contractive {d e : ℕ} (M : Fin e → Fin d → ℝ) (hM : ColStochastic M) (p q : Fin d → ℝ) :
    traceDistComm (List.ofFn (pushforward M p)) (List.ofFn (pushforward M q)) ≤ traceDistComm (List.ofFn p) (List.ofFn q) := by
  rw [traceDistComm_eq, traceDistComm_eq]
  exact div_le_div_of_nonneg_right (td_mono M hM p q) (by norm_num)

/-- **fidelity does not decrease** under a classical channel (Cauchy–Schwarz row by row). -/
theorem fidelity_classical_monotone {d e : ℕ} (M : Fin e → Fin d → ℝ) (hM : ColStochastic M) (p q : Fin d → ℝ)
    (hp : ∀ i, 0 ≤ p i) (hq : ∀ i, 0 ≤ q i) :
    fidelitySpec (List.ofFn p) (List.ofFn q) ≤ fidelitySpec (List.ofFn (pushforward M p)) (List.ofFn (pushforward M q)) := by
  rw [fidelitySpec_eq p q hp hq, fidelitySpec_eq _ _ (pushforward_nonneg hM hp) (pushforward_nonneg hM hq)]
  have h0 : 0 ≤ ∑ i, √(p i) * √(q i) := sum_nonneg fun i _ => mul_nonneg (Real.sqrt_nonneg _) (Real.sqrt_nonneg _)
  exact pow_le_pow_left₀ h0 (bc_mono M hM p q hp hq) 2

/-- **relative entropy does not increase** under a classical channel (log-sum inequality), full-rank second argument. -/
theorem relative_entropy_classical_monotone {d e : ℕ} (M : Fin e → Fin d → ℝ) (hM : ColStochastic M) (p q : Fin d → ℝ)
    (hp : ∀ i, 0 ≤ p i) (hq : ∀ i, 0 < q i) :
    relEntropySpec 0 (List.ofFn (pushforward M p)) (List.ofFn (pushforward M q)) ≤ relEntropySpec 0 (List.ofFn p) (List.ofFn q) := by
  rw [relEntropySpec_eq p q hp (fun i => (hq i).le),
    relEntropySpec_eq _ _ (pushforward_nonneg hM hp) (pushforward_nonneg hM fun i => (hq i).le)]
  exact kl_mono M hM p q hp hq

/-- a classical channel maps probability vectors to probability vectors -/
theorem classical_channel_preserves_simplex {d e : ℕ} (M : Fin e → Fin d → ℝ) (hM : ColStochastic M) (p : Fin d → ℝ)
    (hp : ∀ i, 0 ≤ p i) (hsum : ∑ i, p i = 1) : (∀ i, 0 ≤ pushforward M p i) ∧ ∑ i, pushforward M p i = 1 :=
  ⟨pushforward_nonneg hM hp, by rw [pushforward_sum hM, hsum]⟩

/-- extension of a `Fin`-indexed matrix / vector to `ℕ` indices (zero outside), the indexing of the channel model -/
noncomputable def natM {d e : ℕ} (M : Fin e → Fin d → ℝ) (i j : ℕ) : ℝ := if h : i < e ∧ j < d then M ⟨i, h.1⟩ ⟨j, h.2⟩ else 0
noncomputable def natV {d : ℕ} (p : Fin d → ℝ) (j : ℕ) : ℝ := if h : j < d then p ⟨j, h⟩ else 0

private theorem natM_nonneg {d e : ℕ} {M : Fin e → Fin d → ℝ} (hM : ColStochastic M) (i j : ℕ) : 0 ≤ natM M i j := by
  unfold natM; split
  · exact hM.1 _ _
  · exact le_refl _

/-- **the classical channels of the monotonicity theorems are channels of the Kraus model**: `apply_kraus_op` with the
measure-and-prepare Kraus set `K_(i,j) = √M_ij |i⟩⟨j|` maps the diagonal state `diag(p)` to the diagonal state `diag(pushforward M p)`
(`applyKraus` is the model of `numqi.channel.apply_kraus_op`, tied by op `apk`). -/
theorem applyKraus_classical_channel {d e : ℕ} (M : Fin e → Fin d → ℝ) (hM : ColStochastic M) (p : Fin d → ℝ) (a b : Fin e) :
    applyKraus (e * d) d (classicalKraus d (natM M)) (fun i j => if i = j then natV p i else 0) a b
      = if a = b then pushforward M p a else 0 := by
  rw [applyKraus_classical d e (natM M) (natM_nonneg hM) (natV p) a b b.2]
  by_cases hab : a = b
  · subst hab
    rw [if_pos rfl, if_pos rfl]
    unfold pushforward
    rw [← Fin.sum_univ_eq_sum_range (fun j => natM M a j * natV p j) d]
    refine sum_congr rfl fun j _ => ?_
    simp [natM, natV, a.2, j.2]
  · rw [if_neg (fun h => hab (Fin.ext h)), if_neg hab]

/-- … and that Kraus set is **trace preserving** exactly because the columns of `M` sum to one: `Σ_s K_s† K_s = 1` -/
theorem classical_channel_trace_preserving {d e : ℕ} (M : Fin e → Fin d → ℝ) (hM : ColStochastic M) (i j : Fin d) :
    krausGram (e * d) e (classicalKraus d (natM M)) i j = if i = j then 1 else 0 := by
  rw [krausGram_classical d e (natM M) (natM_nonneg hM) i j j.2]
  by_cases hij : i = j
  · subst hij
    rw [if_pos rfl, if_pos rfl, ← hM.2 i, ← Fin.sum_univ_eq_sum_range (fun a => natM M a i) e]
    refine sum_congr rfl fun a _ => ?_
    simp [natM, a.2, i.2]
  · rw [if_neg (fun h => hij (Fin.ext h)), if_neg hij]

/-- **`0 ≤ S_α(ρ) ≤ log d`** for every order `α > 0`, `α ≠ 1` and every probability vector of eigenvalues. -/
theorem renyi_range {d : ℕ} (hd : 0 < d) (α : ℝ) (h0 : 0 < α) (hne : α ≠ 1) (p : Fin d → ℝ) (hp : ∀ i, 0 ≤ p i)
    (hsum : ∑ i, p i = 1) :
    0 ≤ renyiSpec α (List.ofFn p) ∧ renyiSpec α (List.ofFn p) ≤ Real.log d := by
  rw [renyiSpec_eq α p hp]
  exact renyi_range' hd α h0 hne p hp hsum

/-- the eigenvalue clip `maximum(EVL, 0)` of the code: round-off negative eigenvalues of a low-rank state count as zero (without it a
negative eigenvalue raised to a fractional power is NaN; guards against the defect `renyi-entropy-nan` repaired in numqi commit c3f38eb) -/
theorem renyi_clip (α : ℝ) (evl : List ℝ) : renyiSpec α evl = renyiSpec α (evl.map fun x => max x 0) := by
  unfold renyiSpec
  rw [List.map_map]
  congr 3
  apply List.map_congr_left
  intro x _
  show (max x 0) ^ α = (max (max x 0) 0) ^ α
  rw [max_eq_left (le_max_right x 0)]

/-- non-vacuity: a column-stochastic matrix that is not a permutation -/
example : ColStochastic (fun (_ : Fin 2) (_ : Fin 3) => (1 / 2 : ℝ)) := ⟨fun _ _ => by norm_num, fun _ => by simp⟩

/-- non-vacuity of the spectral hypotheses -/
example : ∃ p : Fin 2 → ℝ, (∀ i, 0 ≤ p i) ∧ ∑ i, p i = 1 := ⟨fun _ => 1 / 2, fun _ => by norm_num, by simp⟩

end spectral

/-! ## `super_op_to_kraus_op`, the `zero_eps` cut, purity -/

/-- **Kraus operators recovered from a super-operator implement it**: `super_op_to_kraus_op(S)` hands `superToChoi S` to `eigh`; given
the `eigh` contract for that matrix on the columns kept after the cut, the returned Kraus set acts as `apply_super_op(S, ·)`. -/
theorem kraus_of_super (din dout N0 N : ℕ) (V : ℕ → ℕ → R) (w : ℕ → R) (S ρ : ℕ → ℕ → R)
    (hC : ∀ x y, superToChoi din dout S x y = ∑ s ∈ range N, (V x (N0 + s) * w (N0 + s)) * star (V y (N0 + s) * w (N0 + s)))
    (a b : ℕ) (ha : a < dout) (hb : b < dout) :
    applyKraus N din (choiToKraus dout N0 V w) ρ a b = applySuper din dout S ρ a b := by
  rw [← applyChoi_eq_applyKraus N din dout _ ρ a b ha hb, ← applyChoi_superToChoi din dout S ρ a b ha hb]
  simp only [applyChoi, sumRange_eq_sum]
  exact sum_congr rfl fun i _ => sum_congr rfl fun j _ => by
    rw [kraus_of_choi dout N0 N V w (superToChoi din dout S) hC]

/-- the integer cut `x ≤ 0` the exact tie uses is the code's `EVL < zero_eps` for every threshold in `(0, 1]` -/
theorem cutCount_eq_below (eps : ℚ) (h0 : 0 < eps) (h1 : eps ≤ 1) (evl : List ℤ) :
    cutCount evl = cutCountBelow (fun x e => decide (x < e)) eps (evl.map (Int.cast : ℤ → ℚ)) := by
  have key : ∀ x : ℤ, decide (x ≤ 0) = decide ((x : ℚ) < eps) := by
    intro x
    rw [decide_eq_decide]
    constructor
    · intro h; have : (x : ℚ) ≤ 0 := by exact_mod_cast h
      linarith
    · intro h
      by_contra hx
      have h2 : (1 : ℤ) ≤ x := by omega
      have : (1 : ℚ) ≤ x := by exact_mod_cast h2
      linarith
  unfold cutCount cutCountBelow
  induction evl with
  | nil => rfl
  | cons x l ih =>
    simp only [List.map_cons, List.filter_cons, key x]
    split <;> simp [ih]

/-- the cut keeps exactly the last `n − N0` entries of an ascending eigenvalue list: every kept eigenvalue is `≥ eps` -/
theorem cutCountBelow_sorted (eps : ℚ) (evl : List ℚ) (hs : evl.Pairwise (· ≤ ·)) (k : ℕ) (hk : k < evl.length)
    (hcut : cutCountBelow (fun x e => decide (x < e)) eps evl ≤ k) : eps ≤ evl[k] := by
  unfold cutCountBelow at hcut
  simp only at hcut
  by_contra hlt
  rw [not_le] at hlt
  -- every entry up to position k is below eps, so at least k+1 entries are counted
  have hall : ∀ i (hi : i < evl.length), i ≤ k → evl[i] < eps := fun i hi hik => by
    rcases Nat.lt_or_eq_of_le hik with h | h
    · exact lt_of_le_of_lt (List.pairwise_iff_getElem.1 hs i k hi hk h) hlt
    · subst h; exact hlt
  have hsub : (evl.take (k + 1)).filter (fun x => decide (x < eps)) = evl.take (k + 1) := by
    rw [List.filter_eq_self]
    intro x hx
    obtain ⟨i, hi, rfl⟩ := List.getElem_of_mem hx
    rw [List.length_take] at hi
    rw [List.getElem_take]
    simpa using hall i (by omega) (by omega)
  have hlen : k + 1 ≤ (evl.filter fun x => decide (x < eps)).length := by
    have h1 : ((evl.take (k + 1)).filter fun x => decide (x < eps)).length ≤ (evl.filter fun x => decide (x < eps)).length :=
      (List.Sublist.filter _ (List.take_sublist _ _)).length_le
    rw [hsub, List.length_take] at h1
    omega
  omega

/-- on a Hermitian matrix (the documented domain of `get_purity`) `vdot(ρ,ρ)` is `tr(ρ·ρ)` — the alternative kept as a comment in the source -/
theorem purity_hermitian (n : ℕ) (ρ : ℕ → ℕ → R) (hH : ∀ i j, star (ρ j i) = ρ i j) :
    purity n ρ = ∑ i ∈ range n, ∑ j ∈ range n, ρ i j * ρ j i := by
  simp only [purity, sumRange_eq_sum, conj_eq_star]
  exact sum_congr rfl fun i _ => sum_congr rfl fun j _ => by rw [hH j i, mul_comm]

/-- bookkeeping: **purity** is `tr(ρ† ρ)` (order of summation) -/
theorem purity_eq_trace (n : ℕ) (ρ : ℕ → ℕ → R) :
    purity n ρ = ∑ j ∈ range n, ∑ i ∈ range n, star (ρ i j) * ρ i j := by
  simp only [purity, sumRange_eq_sum, conj_eq_star]
  exact sum_comm

/-- non-vacuity: the index hypotheses are satisfiable and the maps are not constant (ℤ with trivial star) -/
example : krausToChoi 1 2 (fun _ a i => ((10 * a + i + 1 : ℕ) : ℤ)) (1 * 2 + 1) (0 * 2 + 1) = 12 * 11 := by
  simp [krausToChoi, sumRange, conj_eq_star]

end Numqi.C12
