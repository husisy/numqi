/-
C08 (wrapper rows) — `PauliOperator.from_index / from_str / from_F2 / __len__ / __str__`, `get_pauli_group` and the `with_sign=False`
paths are corollaries of the round-trip theorems of `NumqiProps/C08.lean`.

Model: `NumqiModel/PauliWrap.lean` (executed by `Driver/C08Wrap.lean`, ops `pofindex pofstr pofF2 pstr pgroup ofindexns toindexns`).
-/
import NumqiProps.C08
import NumqiModel.PauliWrap

namespace Numqi.C08
open Numqi Numqi.Pauli

variable {n : Nat}

/-! ### F2 lists -/

theorem toF2List_length (p : Pauli n) : p.toF2List.length = 2 * n + 2 := by
  simp [Pauli.toF2List]; omega

theorem toF2List_get0 (p : Pauli n) : p.toF2List.getD 0 false = p.s0 := by simp [Pauli.toF2List]
theorem toF2List_get1 (p : Pauli n) : p.toF2List.getD 1 false = p.s1 := by simp [Pauli.toF2List]

theorem toF2List_getX (p : Pauli n) (i : Nat) (hi : i < n) : p.toF2List.getD (2 + i) false = p.x ⟨i, hi⟩ := by
  unfold Pauli.toF2List
  have e : 2 + i = i + 1 + 1 := by omega
  rw [e]
  simp only [List.getD_eq_getElem?_getD, List.cons_append, List.nil_append, List.getElem?_cons_succ]
  rw [List.getElem?_append_left (by simpa using hi)]
  simp [hi]

theorem toF2List_getZ (p : Pauli n) (i : Nat) (hi : i < n) : p.toF2List.getD (2 + n + i) false = p.z ⟨i, hi⟩ := by
  unfold Pauli.toF2List
  have e : 2 + n + i = (n + i) + 1 + 1 := by omega
  rw [e]
  simp only [List.getD_eq_getElem?_getD, List.cons_append, List.nil_append, List.getElem?_cons_succ]
  rw [List.getElem?_append_right (by simp)]
  simp [hi]

/-- `PauliOperator(F2).F2 = F2`: reading the bit list into the structure and back is the identity on lists of length `2n+2` -/
theorem toF2List_ofF2List (l : List Bool) (hl : l.length = 2 * n + 2) : (ofF2List n l).toF2List = l := by
  have hlen := toF2List_length (ofF2List n l)
  apply List.ext_getElem (by rw [hlen, hl])
  intro k h1 h2
  have key : ∀ (L : List Bool) (j : Nat) (hj : j < L.length), L[j] = L.getD j false := fun L j hj => by
    simp [List.getD_eq_getElem?_getD, List.getElem?_eq_getElem hj]
  rw [key _ k h1, key _ k h2]
  rcases k with _ | _ | k
  · rw [toF2List_get0]; rfl
  · rw [toF2List_get1]; rfl
  · by_cases hk : k < n
    · have e : k + 1 + 1 = 2 + k := by omega
      rw [e, toF2List_getX _ k hk]; rfl
    · obtain ⟨i, rfl⟩ : ∃ i, k = n + i := ⟨k - n, by omega⟩
      have hi : i < n := by omega
      have e : n + i + 1 + 1 = 2 + n + i := by omega
      rw [e, toF2List_getZ _ i hi]; rfl

theorem ofF2List_toF2List (p : Pauli n) : ofF2List n p.toF2List = p := by
  obtain ⟨s0, s1, x, z⟩ := p
  have h0 := toF2List_get0 (⟨s0, s1, x, z⟩ : Pauli n)
  have h1 := toF2List_get1 (⟨s0, s1, x, z⟩ : Pauli n)
  have hx : (fun i : Fin n => (⟨s0, s1, x, z⟩ : Pauli n).toF2List.getD (2 + i.val) false) = x := by
    funext i; exact toF2List_getX _ i.val i.isLt
  have hz : (fun i : Fin n => (⟨s0, s1, x, z⟩ : Pauli n).toF2List.getD (2 + n + i.val) false) = z := by
    funext i; exact toF2List_getZ _ i.val i.isLt
  simp only [ofF2List, h0, h1, hx, hz]

/-! ### `PauliOperator.from_index`, `from_str`, `from_F2`, `__len__` -/

/-- **`from_index` rejects exactly the indices outside `[0, 4^n)`** -/
theorem from_index_rejects (n : Nat) (i : Int) : fromIndex? n i = none ↔ (i < 0 ∨ 4 ^ n ≤ i.toNat) := by
  unfold fromIndex?
  split
  · rename_i h; simp only [reduceCtorEq, false_iff]; omega
  · rename_i h; simp only [true_iff]; omega

/-- **`from_index(i, n)` is the sign-free operator whose index is `i` and whose string is the base-4 digits of `i`** -/
theorem from_index_spec (n i : Nat) (h : i < 4 ^ n) :
    fromIndex? n (i : Int) = some (ofIndex n i) ∧ (ofIndex n i).toIndex = i ∧ (ofIndex n i).toStr = (indexToSyms n i, 0)
    ∧ (ofIndex n i).len = n := by
  refine ⟨?_, toIndex_ofIndex i h, ?_, rfl⟩
  · unfold fromIndex?; rw [if_pos ⟨Int.natCast_nonneg i, by simpa using h⟩]; simp
  · exact toStr_ofStr _ _ (indexToSyms_length n i) (indexToSyms_lt n i) (by norm_num)

/-- distinct indices give distinct operators -/
theorem from_index_injective (n i j : Nat) (hi : i < 4 ^ n) (hj : j < 4 ^ n) (h : ofIndex n i = ofIndex n j) : i = j := by
  rw [← toIndex_ofIndex i hi, ← toIndex_ofIndex j hj, h]

/-- **`from_str(s, i^e)` has string `s` and sign `i^e`** (every sign, every string over `IXYZ`) -/
theorem from_str_spec (n : Nat) (syms : List Nat) (e : Nat) (hlen : syms.length = n) (hs : ∀ s ∈ syms, s < 4) (he : e < 4) :
    (fromStr n syms e).toStr = (syms, e) ∧ (fromStr n syms e).toIndex = symsToIndex syms := by
  have h := toStr_ofStr syms e hlen hs he
  exact ⟨h, by unfold Pauli.toIndex fromStr; rw [h]⟩

/-- **`from_F2(a)`** accepts exactly the even lengths `≥ 2`, has `len = len(a)/2 − 1` qubits and `.F2 = a` -/
theorem from_F2_spec (l : List Bool) :
    (fromF2? l = none ↔ ¬ (l.length % 2 = 0 ∧ 2 ≤ l.length))
    ∧ ∀ m (p : Pauli m), fromF2? l = some ⟨m, p⟩ → l.length = 2 * m + 2 ∧ p.len = m ∧ p.toF2List = l := by
  unfold fromF2?
  constructor
  · split <;> simp_all
  · intro m p h
    split at h
    · rename_i hc
      simp only [Option.some.injEq] at h
      have hm : l.length / 2 - 1 = m := congrArg Sigma.fst h
      subst hm
      have hp : ofF2List (l.length / 2 - 1) l = p := eq_of_heq (Sigma.mk.inj h).2
      have hl : l.length = 2 * (l.length / 2 - 1) + 2 := by omega
      exact ⟨hl, rfl, by rw [← hp]; exact toF2List_ofF2List l hl⟩
    · cases h

/-- … and every operator is `from_F2` of its own bit list -/
theorem from_F2_toF2List (p : Pauli n) : fromF2? p.toF2List = some ⟨n, p⟩ := by
  unfold fromF2?
  have hl := toF2List_length p
  rw [if_pos (by omega)]
  have hn : p.toF2List.length / 2 - 1 = n := by omega
  congr 1
  refine Sigma.ext hn ?_
  have : ∀ (m : Nat) (hm : m = n), HEq (ofF2List m p.toF2List) p := by
    intro m hm; subst hm; exact heq_of_eq (ofF2List_toF2List p)
  exact this _ hn

/-! ### `__str__` -/

/-- the printed prefix determines the sign -/
theorem signPrefix_injective (e e' : Nat) (h : signPrefix e = signPrefix e') : e % 4 = e' % 4 := by
  unfold signPrefix at h
  have h1 : e % 4 < 4 := Nat.mod_lt _ (by norm_num)
  have h2 : e' % 4 < 4 := Nat.mod_lt _ (by norm_num)
  generalize e % 4 = a at *
  generalize e' % 4 = b at *
  interval_cases a <;> interval_cases b <;> first | rfl | (revert h; decide)

/-! ### `get_pauli_group` -/

/-- **`get_pauli_group(n, 'str')` enumerates every index exactly once, in index order**: `4^n` entries, entry `i` is the string of
index `i` (whose index is `i`), there are no repetitions, and every string over `IXYZ` of length `n` occurs -/
theorem group_str_enumerates (n : Nat) :
    (groupStr n).length = 4 ^ n
    ∧ (∀ i, i < 4 ^ n → (groupStr n).getD i [] = indexToSyms n i ∧ symsToIndex ((groupStr n).getD i []) = i)
    ∧ (groupStr n).Nodup
    ∧ ∀ syms : List Nat, syms.length = n → (∀ s ∈ syms, s < 4) → syms ∈ groupStr n := by
  refine ⟨by simp [groupStr], ?_, ?_, ?_⟩
  · intro i hi
    have e : (groupStr n).getD i [] = indexToSyms n i := by
      simp [groupStr, List.getD_eq_getElem?_getD, hi]
    rw [e]; exact ⟨rfl, symsToIndex_indexToSyms n i hi⟩
  · unfold groupStr
    refine (List.nodup_map_iff_inj_on List.nodup_range).2 ?_
    intro i hi j hj h
    rw [← symsToIndex_indexToSyms n i (List.mem_range.1 hi), ← symsToIndex_indexToSyms n j (List.mem_range.1 hj), h]
  · intro syms hlen hs
    refine List.mem_map.2 ⟨symsToIndex syms, List.mem_range.2 ?_, ?_⟩
    · have := symsToIndex_lt syms hs; rwa [hlen] at this
    · have := indexToSyms_symsToIndex syms hs; rwa [hlen] at this

/-- **`get_pauli_group(n, 'str_to_index')`** maps every listed string to its own index (`pauli_str_to_index`), positions `0 … 4^n−1` -/
theorem group_str_to_index (n : Nat) (s : List Nat) (k : Nat) (h : (s, k) ∈ groupStrToIndex n) :
    k < 4 ^ n ∧ s = indexToSyms n k ∧ symsToIndex s = k := by
  unfold groupStrToIndex at h
  rw [List.mem_zipIdx_iff_getElem?] at h
  have hk : k < (groupStr n).length := by
    by_contra hc; rw [List.getElem?_eq_none (by omega)] at h; cases h
  have hk' : k < 4 ^ n := by simpa [groupStr] using hk
  have e := ((group_str_enumerates n).2.1 k hk').1
  rw [List.getD_eq_getElem?_getD, h, Option.getD_some] at e
  have e' : s = indexToSyms n k := e
  exact ⟨hk', e', by rw [e']; exact symsToIndex_indexToSyms n k hk'⟩

/-- **`get_pauli_group(n)[i]`** (the Kronecker product of the factors of string `i`) is the matrix of the operator `from_index(i)` -/
theorem group_numpy (n i : Nat) (b' b : Bits n) : groupMatExp n i b' b = (ofIndex n i).matExp b' b :=
  fullMatrixExp_eq_matExp _ _ _

/-! ### `with_sign=False` -/

/-- **index → F2 (no sign bits) → index is the identity** on `[0, 4^n)`, and the F2 form has `2n` bits -/
theorem index_nosign_roundtrip (n i : Nat) (h : i < 4 ^ n) :
    ∃ l, ofIndexNoSign? n (i : Int) = some l ∧ l.length = 2 * n ∧ toIndexNoSign n l = i := by
  have h1 := (from_index_spec n i h).1
  refine ⟨(ofIndex n i).toF2List.drop 2, by unfold ofIndexNoSign?; rw [h1]; rfl, by rw [List.length_drop, toF2List_length]; omega, ?_⟩
  -- two zero sign bits in front of `x ++ z` make the bit list of the same operator with sign `+1`, and the index ignores the sign
  have e : false :: false :: (ofIndex n i).toF2List.drop 2
      = (⟨false, false, (ofIndex n i).x, (ofIndex n i).z⟩ : Pauli n).toF2List := rfl
  unfold toIndexNoSign
  rw [e, ofF2List_toF2List]
  exact toIndex_ofIndex i h

/-! ### non-vacuity -/
example : (fromIndex? 2 7).map (fun p => p.toF2List) = some [false, false, true, false, false, true] := by decide
example : fromIndex? 2 16 = none ∧ fromIndex? 2 (-1) = none := by decide
example : groupStr 1 = [[0], [1], [2], [3]] ∧ (groupStrToIndex 1).map (·.2) = [0, 1, 2, 3] := by decide
example : reprStr (ofF2List 1 [false, false, true, true]) = "-iY [0,0,1,1]" := by decide

end Numqi.C08
