/-
C04 — hand-written backward passes return the true gradient.

Every hand-written rule is the adjoint of a map that is linear in the state and linear/affine in the gate entries, so
"equals the derivative" is an exact algebraic identity.  The statements hold over every commutative star-ring `R`
(hence ℂ), for every number of qubits, every gate size, every duplicate-free target tuple (any order), every control
set and every gate list.  Convention (torch's): a real loss `L` changes by `dL = Re ⟪grad_z, dz⟫`,
`⟪u, v⟫ = Σ conj(u)·v`; all identities below hold even before taking real parts, except the Knill–Laflamme rule whose
forward value is sesquilinear in the same variable (there `z + star z = 2·Re z` is used).

The Sylvester rule of the PSD square root (`_torch_op.py`) is an identity over a field instead.  The file ends with the
flat-parameter bridge of `optimize/_internal.py`, the index maps of `CircuitTorchWrapper._setup` and the instances for the executed
carriers `ℤ[i]`, `ℚ[i]`.  The gate application model (`applyGate`, `applyControlled`) is the one of property C03; shared lemmas are
in `NumqiProofs/Backward*.lean`.
-/
import NumqiProofs.Backward
import NumqiProofs.BackwardDual
import NumqiProofs.BackwardCarrier
import Mathlib.Data.Complex.Basic

namespace Numqi.C04
open Numqi Numqi.Backward Function Matrix Finset

attribute [local instance] starConj

variable {R : Type} [CommRing R] [StarRing R] {n k n' : Nat}

/-! ## one gate (`apply_gate_grad`, `state.py:95-125`) -/

/-- **The gate rule is the adjoint of `(δU, δψ) ↦ E(δU)ψ + E(U)δψ`**: for every cotangent `g` and every direction,
`⟪g, E(δU)ψ + E(U)δψ⟫ = ⟪op_grad, δU⟫ + ⟪q0_grad', δψ⟫`, where `(·, q0_grad', op_grad) = applyGateGrad U t (conj ψ_out) g`
is computed from the conjugated **output** state as the code does; `U` unitary is what makes the un-applied
`q0_conj` equal to `conj ψ` (a hypothesis that cannot be dropped: `unapply_needs_unitarity`). -/
theorem applyGate_vjp {t : Fin k → Fin n} (ht : Injective t) (U : MatK k R) (hU : Uᴴ * U = 1)
    (ψ g δψ : Vec n R) (δU : Mat k R) :
    let out := applyGateGrad U t (conjVec (applyGate U t ψ)) g
    out.1 = conjVec ψ ∧
    vdot g (fun x => applyGate δU t ψ x + applyGate U t δψ x)
      = (∑ a, ∑ b, star (out.2.2 a b) * δU a b) + vdot out.2.1 δψ := by
  intro out
  have h1 : out.1 = conjVec ψ := unapply_gate ht U hU ψ
  refine ⟨h1, ?_⟩
  have h2 : out.2.2 = opGrad t g (conjVec ψ) := by
    show opGrad t g out.1 = _; rw [h1]
  rw [vdot_add_right, vdot_applyGate_op, vdot_applyGate ht U, h2]
  rfl

/-- the two halves separately, without any unitarity assumption, when the rule is fed the true `conj ψ_in`
(this is what the exact correspondence run exercises on arbitrary integer matrices) -/
theorem applyGate_vjp_parts {t : Fin k → Fin n} (ht : Injective t) (U : MatK k R) (ψ g δψ : Vec n R) (δU : Mat k R) :
    vdot g (applyGate δU t ψ) = (∑ a, ∑ b, star (opGrad t g (conjVec ψ) a b) * δU a b) ∧
    vdot g (applyGate U t δψ) = vdot (applyGate (daggerMat U) t g) δψ :=
  ⟨vdot_applyGate_op t δU g ψ, vdot_applyGate ht U g δψ⟩

/-- **`unapply` is correct only if the gate is an isometry on the register** (the converse is `unapply_gate`): if `E(Uᵀ) conj(E(U)ψ) = conj ψ` for every `ψ` (one
target qubit set, `t = id`) then `U†U = 1`.  So the sweep silently assumes unitary gates. -/
theorem unapply_needs_unitarity (U : MatK k R)
    (h : ∀ ψ : Vec k R, applyGate (transposeMat U) id (conjVec (applyGate U id ψ)) = conjVec ψ) : Uᴴ * U = 1 := by
  have hid : Injective (id : Fin k → Fin k) := injective_id
  have key : ∀ ψ : Vec k R, (Uᴴ * U).mulVec ψ = ψ := by
    intro ψ
    have h1 := h ψ
    have h2 := applyGate_transpose_conj (id : Fin k → Fin k) U (applyGate U id ψ)
    have h3 : conjVec (applyGate (daggerMat U) id (applyGate U id ψ)) = conjVec ψ := h2.symm.trans h1
    have h4 : applyGate (daggerMat U) id (applyGate U id ψ) = ψ := by
      have := congrArg conjVec h3; rwa [conjVec_conjVec, conjVec_conjVec] at this
    have e1 := C03.applyGate_eq_embed hid U ψ
    have e2 := C03.applyGate_eq_embed hid (daggerMat U) (applyGate U id ψ)
    have e3 := C03.embed_mul hid Uᴴ U
    rw [e2, e1, Matrix.mulVec_mulVec] at h4
    have hemb : ∀ W : MatK k R, (Matrix.of (embed W (id : Fin k → Fin k)) : MatK k R) = W := C03.embed_id
    rw [daggerMat_eq, ← e3, hemb] at h4
    exact h4
  ext x y
  have := congrFun (key (fun z => if z = y then 1 else 0)) x
  simpa [Matrix.mulVec, dotProduct, Matrix.one_apply] using this

/-! ## one controlled gate (`apply_control_n_gate_grad`, `state.py:168-208`) -/

/-- **The controlled rule is the adjoint of the controlled gate** (affine in `U`: only the control-on block depends on it). -/
theorem applyControlled_vjp {isCtrl : Fin n → Bool} {rest : Fin n' → Fin n} {tNew : Fin k → Fin n'}
    (hrest : Injective rest) (htn : Injective tNew) (hfree : ∀ i, isCtrl i = false ↔ ∃ m, rest m = i)
    (U : MatK k R) (hU : Uᴴ * U = 1) (ψ g δψ : Vec n R) (δU : Mat k R) :
    let out := applyControlledGrad U isCtrl rest tNew (conjVec (applyControlled U isCtrl rest tNew ψ)) g
    out.1 = conjVec ψ ∧
    vdot g (fun x => (if ctrlOn isCtrl x then applyGate δU tNew (slice rest ψ) (x.sel rest) else 0)
                      + applyControlled U isCtrl rest tNew δψ x)
      = (∑ a, ∑ b, star (out.2.2 a b) * δU a b) + vdot out.2.1 δψ := by
  intro out
  have h1 : out.1 = conjVec ψ := unapply_controlled hrest htn hfree U hU ψ
  refine ⟨h1, ?_⟩
  have h2 : out.2.2 = opGrad tNew (slice rest g) (slice rest (conjVec ψ)) := by
    show opGrad tNew (slice rest g) (slice rest out.1) = _; rw [h1]
  rw [vdot_add_right, vdot_applyControlled_op tNew hrest hfree, vdot_applyControlled hrest htn hfree U, h2]
  rfl

omit [StarRing R] in
/-- the map whose adjoint is taken really is the change of the controlled gate: exact expansion, no remainder in `U` -/
theorem applyControlled_affine (isCtrl : Fin n → Bool) (rest : Fin n' → Fin n) (tNew : Fin k → Fin n')
    (U δU : Mat k R) (ψ : Vec n R) (x : Bits n) :
    applyControlled (fun a b => U a b + δU a b) isCtrl rest tNew ψ x
      = applyControlled U isCtrl rest tNew ψ x
        + (if ctrlOn isCtrl x then applyGate δU tNew (slice rest ψ) (x.sel rest) else 0) := by
  simp only [applyControlled]
  split
  · rw [applyGate_add_left]; rfl
  · simp

omit [StarRing R] in
/-- exact second-order expansion of a gate: the first-order part is what the derivative `dforward` uses -/
theorem applyGate_expansion (t : Fin k → Fin n) (U δU : Mat k R) (ψ δψ : Vec n R) (x : Bits n) :
    applyGate (fun a b => U a b + δU a b) t (fun y => ψ y + δψ y) x
      = applyGate U t ψ x + (applyGate δU t ψ x + applyGate U t δψ x) + applyGate δU t δψ x := by
  rw [applyGate_add_left, applyGate_add_right, applyGate_add_right]; ring

/-! ## the reverse sweep (`_CircuitFunction.backward`, `_torch_utils.py:44-78`) -/

/-- **The sweep returns the vector–Jacobian product of the whole circuit**, by induction over the gate list:
for every gate list whose entries are well-formed and unitary at `Θ`, every cotangent `g_out` and every direction `(δΘ, δψ)`:
the un-applied state is `conj ψ₀`, and
`Σ_slots ⟪grad[slot], δΘ[slot]⟫ + ⟪q0_grad, δψ⟫ = ⟪g_out, d forward(Θ,ψ₀)[δΘ,δψ]⟫`.
Gates sharing a slot (shared parameters) contribute the **sum** of their operator gradients (`+=`); gates with a constant
array contribute nothing; `G0` is the initial content of the gradient buffers (zeros in the code). -/
theorem reverseSweep_vjp (K S : ℕ) (Θ δΘ : Params R) (gates : List (PGate n R))
    (hwf : ∀ g ∈ gates, g.WF) (hun : ∀ g ∈ gates, g.IsUnitary Θ) (hr : ∀ g ∈ gates, g.InRange K S)
    (ψ0 δψ gout : Vec n R) (G0 : Params R) :
    let out := backward Θ gates (conjVec (forward Θ gates ψ0), gout, G0)
    out.1 = conjVec ψ0 ∧
    pairing K S out.2.2 δΘ + vdot out.2.1 δψ = pairing K S G0 δΘ + vdot gout (dforward Θ δΘ gates ψ0 δψ) :=
  sweep_vjp K S Θ δΘ gates hwf hun hr ψ0 δψ gout G0

/-! ## `kind='custom'` gates (`GroverOracle`, `FractionalGroverOracle`; `query/_gradient_model.py:47-105`)

`PGate.custom src diag` multiplies the entries selected by `diag` by the scalar of its source (`-1` for `GroverOracle`, row
`ind_torch` of the stacked tensor `fractional_grover_oracle` for a trainable `FractionalGroverOracle`).  The sweep theorems
above and below quantify over gate lists that contain such gates; the three statements here guard against the defect
`circuit-grad:custom-gate` repaired in numqi commit 3270353: the slot of a trainable custom gate must receive `op_grad`. -/

/-- **The custom-gate rule is the adjoint of `(δa, δψ) ↦ diag(δa)ψ + diag(a)δψ`**, computed from the conjugated output state as
the code does; `|a|² = 1` is what makes the un-applied `q0_conj` equal to `conj ψ`. -/
theorem customGate_vjp (a : R) (ha : star a * a = 1) (d : Bits n → Bool) (ψ g δψ : Vec n R) (δa : R) :
    let out := customGrad a d (conjVec (customApply a d ψ)) g
    out.1 = conjVec ψ ∧
    vdot g (fun x => (if d x then ψ x * δa else 0) + customApply a d δψ x)
      = star (scalarOf out.2.2) * δa + vdot out.2.1 δψ := by
  intro out
  have h1 : out.1 = conjVec ψ := unapply_custom a ha d ψ
  refine ⟨h1, ?_⟩
  have h2 : scalarOf out.2.2 = sumBits n fun x => if d x then conjVec ψ x * g x else 0 := by
    show (sumBits n fun x => if d x then out.1 x * g x else 0) = _; rw [h1]
  rw [vdot_add_right, h2, vdot_custom_op, ← vdot_customApply]
  rfl

/-- **The slot of a trainable custom gate accumulates `op_grad`** (and nothing else changes): one step of the backward loop on
`PGate.custom (.param s) diag` adds `Σ_diag q0_conj'·q0_grad` to entry `(0, s)` of the gradient buffers — the statement an
`ind_gate_to_info` entry without `ind_torch` cannot satisfy (`custom_as_constant_drops_gradient`). -/
theorem custom_slot_accumulates (Θ G : Params R) (s : ℕ) (d : Bits n → Bool) (qc g : Vec n R) :
    let out := (PGate.custom (Src.param s) d).back Θ (qc, g, G)
    scalarOf (out.2.2 0 s) = scalarOf (G 0 s) + scalarOf (customGrad (scalarOf (Θ 0 s)) d qc g).2.2 ∧
    ∀ k s', ¬ (k = 0 ∧ s' = s) → out.2.2 k s' = G k s' := by
  intro out
  refine ⟨?_, fun k s' h => addAt_other G 0 s _ k s' h⟩
  show scalarOf (addAt G 0 s _ 0 s) = _
  rw [addAt_same]
  rfl

/-- the same gate read as a constant (no `ind_torch` in the info table) has the same forward value and state cotangent
but leaves every gradient buffer untouched — so by `custom_single_gate_gradient` its slot gradient is wrong whenever the true
derivative is non-zero. -/
theorem custom_as_constant_drops_gradient (Θ G : Params R) (s : ℕ) (d : Bits n → Bool) (qc g ψ : Vec n R) :
    (PGate.custom (Src.fixed (Θ 0 s)) d).apply Θ ψ = (PGate.custom (Src.param s) d).apply Θ ψ ∧
    ((PGate.custom (Src.fixed (Θ 0 s)) d).back Θ (qc, g, G)).2.1 = ((PGate.custom (Src.param s) d).back Θ (qc, g, G)).2.1 ∧
    ((PGate.custom (Src.fixed (Θ 0 s)) d).back Θ (qc, g, G)).2.2 = G := ⟨rfl, rfl, rfl⟩

/-- **one trainable custom gate**: starting from zero buffers, the scalar the sweep stores in the gate's slot, paired with `δa`,
is the cotangent paired with the derivative of the output in the direction `δa`. -/
theorem custom_single_gate_gradient (Θ : Params R) (s : ℕ) (d : Bits n → Bool)
    (hun : star (scalarOf (Θ 0 s)) * scalarOf (Θ 0 s) = 1) (ψ gout : Vec n R) (δa : R) :
    let out := backward Θ [PGate.custom (Src.param s) d] (conjVec (forward Θ [PGate.custom (Src.param s) d] ψ), gout,
      fun _ _ _ _ => 0)
    star (scalarOf (out.2.2 0 s)) * δa = vdot gout (fun x => if d x then ψ x * δa else 0) := by
  intro out
  have h := customGate_vjp (scalarOf (Θ 0 s)) hun d ψ gout (fun _ => 0) δa
  obtain ⟨_, h2⟩ := h
  have hz : customApply (scalarOf (Θ 0 s)) d (fun _ : Bits n => (0 : R)) = fun _ => 0 := by
    funext x; simp [customApply]
  have h0 : ∀ v : Vec n R, vdot v (fun _ : Bits n => (0 : R)) = 0 := fun v => vdot_zero_right v
  simp only [hz, add_zero, h0] at h2
  rw [h2]
  have hacc := (custom_slot_accumulates Θ (fun _ _ _ _ => (0 : R)) s d
    (conjVec (forward Θ [PGate.custom (Src.param s) d] ψ)) gout).1
  have : scalarOf (out.2.2 0 s) = scalarOf (customGrad (scalarOf (Θ 0 s)) d (conjVec (customApply (scalarOf (Θ 0 s)) d ψ)) gout).2.2 := by
    have e : out = (PGate.custom (Src.param s) d).back Θ
        (conjVec (forward Θ [PGate.custom (Src.param s) d] ψ), gout, fun _ _ _ _ => 0) := rfl
    rw [e, hacc]
    simp only [scalarOf, zero_add]
    rfl
  rw [this]

/-! ## `inner_product_grad` (`state.py:260-269`) and the row stacking of `CircuitTorchWrapper.forward` -/

/-- **`inner_product_grad` is the adjoint of `c = vdot(q0, q1)`**: `c` is antilinear in `q0` and linear in `q1`, so with torch's
convention (`dL = Re⟪grad, dz⟫`) the `q0` half appears conjugated:
`conj(c_grad)·(⟪δq0, q1⟫ + ⟪q0, δq1⟫) = conj ⟪q0_grad, δq0⟫ + ⟪q1_grad, δq1⟫`; the real parts of both sides are `dL`. -/
theorem innerProductGrad_vjp (q0 q1 δq0 δq1 : Vec n R) (c : R) :
    star c * (vdot δq0 q1 + vdot q0 δq1)
      = star (vdot (innerProductGrad q0 q1 c).1 δq0) + vdot (innerProductGrad q0 q1 c).2 δq1 := by
  simp only [innerProductGrad, vdot_eq, conj, star_sum, mul_add, mul_sum]
  rw [← sum_add_distrib, ← sum_add_distrib]
  refine sum_congr rfl fun x _ => ?_
  simp only [star_mul', star_star]
  ring

/-- the stacked tensor row that `_setup` assigns to a gate (`slotOf`) is, in the concatenation built by
`CircuitTorchWrapper.forward` (`stackTags`), the row of that gate's own parameters -/
theorem forward_stacking_matches_setup (gs : List GateDesc) (i : ℕ) (hi : i < gs.length) (nm : String) (r : ℕ)
    (h : slotOf gs i = some (nm, r)) :
    (stackTags gs nm)[r]? = some (if gs[i].placeholder then (true, i) else (false, gs[i].objId)) := by
  unfold slotOf at h
  rw [List.getElem?_eq_getElem hi] at h
  simp only at h
  unfold stackTags
  by_cases hp : gs[i].placeholder = true
  · rw [if_pos hp] at h
    simp only [Option.some.injEq, Prod.mk.injEq] at h
    obtain ⟨hn, hr⟩ := h
    subst hn
    rw [if_pos hp, ← hr, List.getElem?_append_right (by simp)]
    simp only [List.length_map, Nat.add_sub_cancel, List.getElem?_map]
    rw [getElem?_idxOf_self _ _ (mem_placeholderPositions gs _ i hi hp rfl)]
    rfl
  · rw [if_neg hp] at h
    by_cases ht : gs[i].trainable = true
    · rw [if_pos ht] at h
      simp only [Option.some.injEq, Prod.mk.injEq] at h
      obtain ⟨hn, hr⟩ := h
      subst hn
      have hm := mem_firstComeIds gs gs[i].name gs[i] (List.getElem_mem hi) ht (by simpa using hp) rfl
      have hlt : (firstComeIds gs gs[i].name).idxOf gs[i].objId < (firstComeIds gs gs[i].name).length :=
        List.idxOf_lt_length_iff.2 hm
      rw [if_neg hp, ← hr, List.getElem?_append_left (by simpa using hlt)]
      simp only [List.getElem?_map]
      rw [getElem?_idxOf_self _ _ hm]
      rfl
    · rw [if_neg ht] at h; exact absurd h (by simp)

/-! ## the derivative is the genuine one: ε-coefficient over the dual numbers `R[ε]/(ε²)` -/

/-- **`dforward` is the derivative of the whole circuit map**: run the *same* forward pass over the dual numbers at the
perturbed point `(Θ + ε·δΘ, ψ + ε·δψ)` (constant gate arrays unperturbed); its ε⁰-coefficient is the forward value and its
ε-coefficient is `dforward` — for every gate list, with shared slots entering as often as they are used. -/
theorem dforward_is_dual_derivative (Θ δΘ : Params R) (gates : List (PGate n R)) (ψ δψ : Vec n R) (x : Bits n) :
    (forward (dualParams Θ δΘ) (gates.map PGate.lift) (fun y => dualOf (ψ y) (δψ y)) x).fst = forward Θ gates ψ x ∧
    (forward (dualParams Θ δΘ) (gates.map PGate.lift) (fun y => dualOf (ψ y) (δψ y)) x).snd
      = dforward Θ δΘ gates ψ δψ x := by
  have h := forward_dual Θ δΘ gates (fun y => dualOf (ψ y) (δψ y)) x
  simpa only [fst_dualOf, snd_dualOf] using h

/-- **The reverse sweep returns the gradient of the circuit map** — no product rule assumed: for every cotangent `g_out` and
every perturbation family `(δΘ, δψ)`,
`Σ_slots ⟪grad[slot], δΘ[slot]⟫ + ⟪q0_grad, δψ⟫ = ⟪g_out, D F[δΘ,δψ]⟫`, where `D F[δ]` is *defined* as the ε-coefficient of
`F(Θ + ε δΘ, ψ + ε δψ)` computed in `R[ε]/(ε²)`. -/
theorem reverseSweep_gradient (K S : ℕ) (Θ δΘ : Params R) (gates : List (PGate n R))
    (hwf : ∀ g ∈ gates, g.WF) (hun : ∀ g ∈ gates, g.IsUnitary Θ) (hr : ∀ g ∈ gates, g.InRange K S)
    (ψ0 δψ gout : Vec n R) (G0 : Params R) :
    let out := backward Θ gates (conjVec (forward Θ gates ψ0), gout, G0)
    pairing K S out.2.2 δΘ + vdot out.2.1 δψ
      = pairing K S G0 δΘ
        + vdot gout (fun x => (forward (dualParams Θ δΘ) (gates.map PGate.lift) (fun y => dualOf (ψ0 y) (δψ y)) x).snd) := by
  intro out
  have h := (sweep_vjp K S Θ δΘ gates hwf hun hr ψ0 δψ gout G0).2
  have e : (fun x => (forward (dualParams Θ δΘ) (gates.map PGate.lift) (fun y => dualOf (ψ0 y) (δψ y)) x).snd)
      = dforward Θ δΘ gates ψ0 δψ := funext fun x => (dforward_is_dual_derivative Θ δΘ gates ψ0 δψ x).2
  rw [e]; exact h

/-! ## what the driver executes is what the theorems are about (array-level folds = modelled folds) -/

section driver
variable {α : Type} [Add α] [Mul α] [Zero α] [Conj α]

/-- the driver's forward loop (`forwardA`: tabulate after every gate) computes `forward` -/
theorem driver_forward_eq (Θ : Params α) (gates : List (PGate n α)) (a : Array α) :
    lookup (n := n) (forwardA Θ gates a) = forward Θ gates (lookup a) := forwardA_eq Θ gates a

/-- **the driver's reverse sweep (`backwardA`: states and gradient buffers as flat arrays) computes `backward`**, the subject of
`reverseSweep_vjp` / `reverseSweep_gradient`.  Guard: the slot of every parametrised gate is a key of the gradient table
(the driver rejects the op otherwise, `PGate.coveredB`), so no gradient can be dropped silently. -/
theorem driver_backward_eq (Θ : Params α) (gates : List (PGate n α)) (init : StA α) (hc : ∀ g ∈ gates, g.Covered init.2.2) :
    absSt (n := n) (backwardA Θ gates init) = backward Θ gates (absSt init) := (backwardA_eq Θ gates init hc).1

omit [Add α] [Mul α] [Zero α] [Conj α] in
theorem driver_guard_iff (tab : ParamTable α) (g : PGate n α) : g.coveredB tab = true ↔ g.Covered tab := by
  cases g with
  | unitary src _ | control src _ _ _ | custom src _ =>
    cases src with
    | fixed U => simp [PGate.coveredB, PGate.Covered]
    | param s0 => simp only [PGate.coveredB, PGate.Covered, List.any_eq_true, Bool.and_eq_true, beq_iff_eq]

/-- the driver's tabulated Sylvester loop computes `sylvBackward` (subject of `sqrtm_repeat_vjp`) on the `m × m` block -/
theorem driver_sylvester_eq [Div α] [DecidableEq α] (m : ℕ) (V : ℕ → ℕ → α) (r : ℕ) (s : ℕ → α) (G : Array α) (i j : ℕ)
    (hi : i < m) (hj : j < m) : ofTab m (sylvBackwardA m V r s G) i j = sylvBackward m V r s (ofTab m G) i j :=
  sylvBackwardA_eq m V r s G i j hi hj

end driver

/-- the model's slot of a gate (`Src.param (repSlot …)`) identifies exactly the gates that `_setup` sends to the same
`(name, row)` of the stacked tensors -/
theorem repSlot_canonical (gs : List GateDesc) (i j : ℕ) (hi : i < gs.length) (p q : String × ℕ)
    (h1 : slotOf gs i = some p) (h2 : slotOf gs j = some q) : repSlot gs i = repSlot gs j ↔ p = q := by
  unfold repSlot
  rw [h1, h2]
  simp only
  constructor
  · intro h
    have hfi : ∃ a, (List.range gs.length).find? (fun j => slotOf gs j == some p) = some a := by
      rw [← Option.isSome_iff_exists, List.find?_isSome]
      exact ⟨i, List.mem_range.2 hi, by simp [h1]⟩
    obtain ⟨a, ha⟩ := hfi
    have hb := h ▸ ha
    have e1 := List.find?_some ha
    have e2 := List.find?_some hb
    simp only [beq_iff_eq] at e1 e2
    exact Option.some.inj (e1.symm.trans e2)
  · rintro rfl; rfl

/-! ## Knill–Laflamme inner product (`qec/_internal.py:150-189`) -/

/-- **The Knill–Laflamme backward is the adjoint of the (sesquilinear) forward map**: with
`y[i,j] = ⟪q_i, O q_j⟫` and `dy[i,j] = ⟪dq_i, O q_j⟫ + ⟪q_i, O dq_j⟫`,
`Re Σ_ij conj(G_ij)·dy_ij = Re Σ_i ⟪grad_i, dq_i⟫` (stated as `z + star z` on both sides), where `grad` is what the code
accumulates: `conj(G) @ (O q) + Gᵀ @ (O† q)`, `O†` being applied as the reversed list of `op.T.conj()`. -/
theorem kl_vjp (L : ℕ) (ops : List (Op n R)) (hwf : ∀ g ∈ ops, g.WF) (hm : ∀ g ∈ ops, NoMeasure g)
    (q dq : ℕ → Vec n R) (G : ℕ → ℕ → R) :
    let S := ∑ i ∈ range L, ∑ j ∈ range L,
      star (G i j) * (vdot (dq i) (applySeq ops (q j)) + vdot (q i) (applySeq ops (dq j)))
    let T := ∑ i ∈ range L, vdot (klBackward L ops (dagRev ops) q G i) (dq i)
    T + star T = S + star S := by
  intro S T
  have hO : ∀ v, applySeq ops v = (circuitMatrix ops).mulVec v := applySeq_eq ops hwf
  have hOd : ∀ v, applySeq (dagRev ops) v = (circuitMatrix ops)ᴴ.mulVec v := fun v => by
    rw [applySeq_eq _ (dagRev_wf ops hwf), circuitMatrix_dagRev ops hwf hm]
  have := kl_adjoint L (circuitMatrix ops) q dq G
  simp only at this
  have hS : S = ∑ i ∈ range L, ∑ j ∈ range L, star (G i j) *
      (vdot (dq i) ((circuitMatrix ops).mulVec (q j)) + vdot (q i) ((circuitMatrix ops).mulVec (dq j))) := by
    simp only [S, hO]
  have hT : T = ∑ i ∈ range L, vdot (fun x =>
      (∑ j ∈ range L, star (G i j) * (circuitMatrix ops).mulVec (q j) x)
        + (∑ j ∈ range L, G j i * (circuitMatrix ops)ᴴ.mulVec (q j) x)) (dq i) := by
    have hkl : ∀ i, klBackward L ops (dagRev ops) q G i = fun x =>
        (∑ j ∈ range L, star (G i j) * (circuitMatrix ops).mulVec (q j) x)
          + (∑ j ∈ range L, G j i * (circuitMatrix ops)ᴴ.mulVec (q j) x) := by
      intro i; funext x
      unfold klBackward
      rw [sumRange_eq_sum, sumRange_eq_sum]
      simp only [hO, hOd]; rfl
    simp only [T, hkl]
  rw [hS, hT]; exact this

/-- **the Knill–Laflamme differential is derived, not postulated**: run the same `klForward` over the dual numbers at `q + ε·dq`
(operators ε-free); its ε-coefficient is `⟪dq_i, O q_j⟫ + ⟪q_i, O dq_j⟫`, its ε⁰-coefficient the forward value. -/
theorem kl_differential_dual (L : ℕ) (ops : List (Op n R)) (q dq : ℕ → Vec n R) (i j : ℕ) :
    (klForward L (ops.map Op.liftD) (fun i x => dualOf (q i x) (dq i x)) i j).fst = klForward L ops q i j ∧
    (klForward L (ops.map Op.liftD) (fun i x => dualOf (q i x) (dq i x)) i j).snd
      = vdot (dq i) (applySeq ops (q j)) + vdot (q i) (applySeq ops (dq j)) := by
  unfold klForward
  have h := vdot_dual (fun x => dualOf (q i x) (dq i x)) (applySeq (ops.map Op.liftD) (fun x => dualOf (q j x) (dq j x)))
  have e1 : (fun x => (applySeq (ops.map Op.liftD) (fun x => dualOf (q j x) (dq j x)) x).fst) = applySeq ops (q j) :=
    funext fun x => by rw [(applySeq_dual ops _ x).1]; simp only [fst_dualOf]
  have e2 : (fun x => (applySeq (ops.map Op.liftD) (fun x => dualOf (q j x) (dq j x)) x).snd) = applySeq ops (dq j) :=
    funext fun x => by rw [(applySeq_dual ops _ x).2]; simp only [snd_dualOf]
  simp only [fst_dualOf, snd_dualOf, e1, e2] at h
  refine ⟨h.1, ?_⟩
  rw [h.2, add_comm]

/-- **the Knill–Laflamme backward returns the gradient of `klForward`**: `Re Σ_ij conj(G_ij)·D y_ij[dq] = Re Σ_i ⟪grad_i, dq_i⟫`
with `D y[dq]` *defined* as the ε-coefficient of `klForward` over `R[ε]/(ε²)`. -/
theorem kl_gradient (L : ℕ) (ops : List (Op n R)) (hwf : ∀ g ∈ ops, g.WF) (hm : ∀ g ∈ ops, NoMeasure g)
    (q dq : ℕ → Vec n R) (G : ℕ → ℕ → R) :
    let S := ∑ i ∈ range L, ∑ j ∈ range L,
      star (G i j) * (klForward L (ops.map Op.liftD) (fun i x => dualOf (q i x) (dq i x)) i j).snd
    let T := ∑ i ∈ range L, vdot (klBackward L ops (dagRev ops) q G i) (dq i)
    T + star T = S + star S := by
  intro S T
  have h := kl_vjp L ops hwf hm q dq G
  simp only at h
  have e : S = ∑ i ∈ range L, ∑ j ∈ range L,
      star (G i j) * (vdot (dq i) (applySeq ops (q j)) + vdot (q i) (applySeq ops (dq j))) := by
    simp only [S]
    refine sum_congr rfl fun i _ => sum_congr rfl fun j _ => ?_
    rw [(kl_differential_dual L ops q dq i j).2]
  rw [e]; exact h

/-- the forward value the backward pass differentiates: `klForward` is `⟪q_i, O q_j⟫` -/
theorem klForward_eq (L : ℕ) (ops : List (Op n R)) (hwf : ∀ g ∈ ops, g.WF) (q : ℕ → Vec n R) (i j : ℕ) :
    klForward L ops q i j = vdot (q i) ((circuitMatrix ops).mulVec (q j)) := by
  rw [klForward, applySeq_eq ops hwf]

/-! ## PSD square root: Sylvester rule (`_torch_op.py:28-58`) -/

section sylvester
variable {F : Type} [Field F] [StarRing F] [DecidableEq F] {m : ℕ}

/-- **singular inputs, the `tmp1[ind_zero…] = 0` branch**: when some roots are zero (guard: two *different* roots never sum to
zero, i.e. at most one zero root for non-negative roots) the rule solves `S X + X S = G − V·K·V†`, `K` the zero-root diagonal of
`V†GV` (one zero root `z`: `V K V† = P G P`, `P` the kernel projector).  With two zero roots the code computes `0/0` (inf/NaN). -/
theorem sylvester_singular_solves (V G : ℕ → ℕ → F) (s : ℕ → F)
    (hV1 : (toMat m V)ᴴ * toMat m V = 1) (hV2 : toMat m V * (toMat m V)ᴴ = 1)
    (hoff : ∀ a b, a < m → b < m → a ≠ b → s a + s b ≠ 0) (hdiag : ∀ a, a < m → s a ≠ 0 → s a + s a ≠ 0) :
    specMat m V s * toMat m (sylvStep m V s G) + toMat m (sylvStep m V s G) * specMat m V s
      = toMat m G - toMat m V * kernelDiag m V G s * (toMat m V)ᴴ := by
  set Vm := toMat m V with hVm
  set D : Matrix (Fin m) (Fin m) F := Matrix.diagonal (fun a : Fin m => s a.val) with hD
  set M : Matrix (Fin m) (Fin m) F :=
    toMat m (fun a b => if a = b ∧ s a = 0 then 0 else rotateIn m V G a b / (s a + s b)) with hM
  have hX : toMat m (sylvStep m V s G) = Vm * M * Vmᴴ := toMat_rotateOut V _
  have hDM : D * M + M * D = Vmᴴ * toMat m G * Vm - kernelDiag m V G s := by
    rw [← toMat_rotateIn]
    ext a b
    simp only [hD, hM, kernelDiag, Matrix.add_apply, Matrix.sub_apply, Matrix.diagonal_mul, Matrix.mul_diagonal, toMat,
      Matrix.of_apply]
    by_cases hz : a.val = b.val ∧ s a.val = 0
    · rw [if_pos hz, if_pos hz]; simp
    · rw [if_neg hz, if_neg hz, sub_zero]
      have hne : s a.val + s b.val ≠ 0 := by
        by_cases hab : a.val = b.val
        · rw [← hab]; exact hdiag a.val a.isLt (fun h0 => hz ⟨hab, h0⟩)
        · exact hoff a.val b.val a.isLt b.isLt hab
      field_simp
  calc specMat m V s * toMat m (sylvStep m V s G) + toMat m (sylvStep m V s G) * specMat m V s
      = Vm * (D * M + M * D) * Vmᴴ := by
        rw [hX, specMat, conj_mul_conj hV1, conj_mul_conj hV1, Matrix.mul_add, Matrix.add_mul]
    _ = (Vm * Vmᴴ) * toMat m G * (Vm * Vmᴴ) - Vm * kernelDiag m V G s * Vmᴴ := by
        rw [hDM]; simp only [Matrix.mul_sub, Matrix.sub_mul, Matrix.mul_assoc]
    _ = _ := by rw [hV2]; simp

/-- **the code's formula solves the Sylvester equation** `S X + X S = G` for `S = V diag(s) V†` (the computed square root),
`V` unitary, provided `s_a + s_b ≠ 0` for all pairs (with two zero roots the code divides by zero: inf/NaN, outside the
differentiable domain). -/
theorem sylvester_solves (V G : ℕ → ℕ → F) (s : ℕ → F)
    (hV1 : (toMat m V)ᴴ * toMat m V = 1) (hV2 : toMat m V * (toMat m V)ᴴ = 1)
    (hs : ∀ a b, a < m → b < m → s a + s b ≠ 0) :
    (toMat m V * Matrix.diagonal (fun a : Fin m => s a.val) * (toMat m V)ᴴ) * toMat m (sylvStep m V s G)
      + toMat m (sylvStep m V s G) * (toMat m V * Matrix.diagonal (fun a : Fin m => s a.val) * (toMat m V)ᴴ)
      = toMat m G := by
  have h0 : kernelDiag m V G s = 0 := by
    ext a b
    exact if_neg fun h => hs a.val a.val a.isLt a.isLt (by rw [h.2, add_zero])
  have h := sylvester_singular_solves V G s hV1 hV2 (fun a b ha hb _ => hs a b ha hb) (fun a ha _ => hs a a ha ha)
  rwa [h0, Matrix.mul_zero, Matrix.zero_mul, sub_zero] at h

/-- **the solution is the gradient of the square root**: for Hermitian `S` (real roots), `A = S·S`, `δA = δS·S + S·δS`:
`⟪G, δS⟫ = ⟪X, δA⟫` with `X` the output of one pass of the backward rule. -/
theorem sylvester_vjp (V G : ℕ → ℕ → F) (s : ℕ → F)
    (hV1 : (toMat m V)ᴴ * toMat m V = 1) (hV2 : toMat m V * (toMat m V)ᴴ = 1)
    (hs : ∀ a b, a < m → b < m → s a + s b ≠ 0) (hreal : ∀ a, star (s a) = s a) (δS : Matrix (Fin m) (Fin m) F) :
    let S := toMat m V * Matrix.diagonal (fun a : Fin m => s a.val) * (toMat m V)ᴴ
    let X := toMat m (sylvStep m V s G)
    Matrix.trace ((toMat m G)ᴴ * δS) = Matrix.trace (Xᴴ * (δS * S + S * δS)) := by
  intro S X
  exact sylvester_adjoint S X (toMat m G) δS (specMat_hermitian V s hreal) (sylvester_solves V G s hV1 hV2 hs)

/-- **repeated square roots (`repeat` passes, induction on `repeat`)**: the output of `_torch_psd_sqrtm_backward_repeat` is the VJP
of `repeat` successive squarings `S ↦ S² ↦ S⁴ ↦ …` (`dchain` is the chain of differentials `δ ↦ δ·S + S·δ`), provided no pass
divides by zero (`SylvGuard`) and the roots are real; `sqrtm_chain_is_squaring` identifies the operators of the chain. -/
theorem sqrtm_repeat_vjp (V : ℕ → ℕ → F) (hV1 : (toMat m V)ᴴ * toMat m V = 1) (hV2 : toMat m V * (toMat m V)ᴴ = 1)
    (r : ℕ) (s : ℕ → F) (hreal : ∀ a, star (s a) = s a) (hg : SylvGuard m r s) (G : ℕ → ℕ → F)
    (δ : Matrix (Fin m) (Fin m) F) :
    Matrix.trace ((toMat m G)ᴴ * δ) = Matrix.trace ((toMat m (sylvBackward m V r s G))ᴴ * dchain m V r s δ) := by
  induction r generalizing s G δ with
  | zero => rfl
  | succ r ih =>
    have h0 : ∀ a b, a < m → b < m → s a + s b ≠ 0 := by
      intro a b ha hb; have := hg 0 (Nat.succ_pos r) a b ha hb; simpa using this
    have hg' : SylvGuard m r (fun a => s a * s a) := by
      intro j hj a b ha hb
      have := hg (j + 1) (Nat.succ_lt_succ hj) a b ha hb
      rw [pow_succ 2 j, Nat.mul_comm, pow_mul, pow_mul] at this
      simpa [sq] using this
    have hreal' : ∀ a, star (s a * s a) = s a * s a := fun a => by rw [star_mul', hreal]
    have step := sylvester_adjoint (specMat m V s) (toMat m (sylvStep m V s G)) (toMat m G) δ
      (specMat_hermitian V s hreal) (sylvester_solves V G s hV1 hV2 h0)
    rw [step]
    exact ih (fun a => s a * s a) hreal' hg' (sylvStep m V s G) (δ * specMat m V s + specMat m V s * δ)

/-- **on a rank-deficient input the returned gradient is the VJP restricted to the range**: exact for every perturbation `δS`
without kernel–kernel component (`(V†·δS·V)_zz = 0` on the zero roots) — the directions in which `√·` is differentiable there. -/
theorem sylvester_singular_vjp (V G : ℕ → ℕ → F) (s : ℕ → F)
    (hV1 : (toMat m V)ᴴ * toMat m V = 1) (hV2 : toMat m V * (toMat m V)ᴴ = 1)
    (hoff : ∀ a b, a < m → b < m → a ≠ b → s a + s b ≠ 0) (hdiag : ∀ a, a < m → s a ≠ 0 → s a + s a ≠ 0)
    (hreal : ∀ a, star (s a) = s a) (δS : Matrix (Fin m) (Fin m) F)
    (hδ : ∀ a : Fin m, s a.val = 0 → ((toMat m V)ᴴ * δS * toMat m V) a a = 0) :
    Matrix.trace ((toMat m G)ᴴ * δS)
      = Matrix.trace ((toMat m (sylvStep m V s G))ᴴ * (δS * specMat m V s + specMat m V s * δS)) := by
  have hsolve := sylvester_singular_solves V G s hV1 hV2 hoff hdiag
  have hadj := sylvester_adjoint (specMat m V s) (toMat m (sylvStep m V s G)) _ δS (specMat_hermitian V s hreal) hsolve
  rw [← hadj, Matrix.conjTranspose_sub, Matrix.sub_mul, Matrix.trace_sub]
  have hzero : Matrix.trace ((toMat m V * kernelDiag m V G s * (toMat m V)ᴴ)ᴴ * δS) = 0 := by
    set W := (toMat m V)ᴴ * δS * toMat m V with hW
    have e : Matrix.trace ((toMat m V * kernelDiag m V G s * (toMat m V)ᴴ)ᴴ * δS)
        = Matrix.trace ((kernelDiag m V G s)ᴴ * W) := by
      rw [Matrix.conjTranspose_mul, Matrix.conjTranspose_mul, Matrix.conjTranspose_conjTranspose, hW]
      simp only [Matrix.mul_assoc]
      rw [Matrix.trace_mul_comm]
      simp only [Matrix.mul_assoc]
    rw [e, Matrix.trace]
    refine Finset.sum_eq_zero fun a _ => ?_
    rw [Matrix.diag_apply, Matrix.mul_apply]
    refine Finset.sum_eq_zero fun b _ => ?_
    rw [Matrix.conjTranspose_apply]
    have hK : kernelDiag m V G s b a = if b.val = a.val ∧ s b.val = 0 then rotateIn m V G b.val a.val else 0 := rfl
    rw [hK]
    by_cases hz : b.val = a.val ∧ s b.val = 0
    · have hab : b = a := Fin.ext hz.1
      subst hab
      rw [hδ b hz.2, mul_zero]
    · rw [if_neg hz, star_zero, zero_mul]
  rw [hzero, sub_zero]

omit [DecidableEq F] in
/-- **the differential of the square root is unique**: under the guard `δS ↦ δS·S + S·δS` is injective, so the `δS` paired with
`G` in `sylvester_vjp` is *the* derivative of `A ↦ S` in the direction `δA` (implicit differentiation of `S·S = A`). -/
theorem sqrtm_differential_unique (V : ℕ → ℕ → F) (s : ℕ → F)
    (hV1 : (toMat m V)ᴴ * toMat m V = 1) (hV2 : toMat m V * (toMat m V)ᴴ = 1)
    (hs : ∀ a b, a < m → b < m → s a + s b ≠ 0) (δ δ' : Matrix (Fin m) (Fin m) F)
    (h : δ * specMat m V s + specMat m V s * δ = δ' * specMat m V s + specMat m V s * δ') : δ = δ' := by
  have := sylvester_unique_aux V s hV1 hV2 hs (δ - δ') (by
    rw [Matrix.sub_mul, Matrix.mul_sub]; rw [sub_add_sub_comm, h, sub_self])
  exact sub_eq_zero.1 this

omit [DecidableEq F] in
theorem sqrtm_chain_is_squaring (V : ℕ → ℕ → F) (hV1 : (toMat m V)ᴴ * toMat m V = 1) (s : ℕ → F) :
    specMat m V s * specMat m V s = specMat m V (fun a => s a * s a) := by
  rw [specMat, conj_mul_conj hV1, Matrix.diagonal_mul_diagonal, specMat]

omit [StarRing F] in
/-- repeated square roots: one more pass first solves with the stored roots, then continues with their squares -/
theorem sylvBackward_succ (V : ℕ → ℕ → F) (r : ℕ) (s : ℕ → F) (G : ℕ → ℕ → F) [Conj F] :
    sylvBackward m V (r + 1) s G = sylvBackward m V r (fun a => s a * s a) (sylvStep m V s G) := rfl

end sylvester

/-! ## the forward map of the PSD square root (`_torch_psd_sqrtm_forward_repeat`), eigenvalue level -/

section sqrtmforward
open Channel
variable {m : ℕ}

/-- **forward map**: given the `eigh` contract (`V` unitary, real eigenvalues `ev`) the returned matrix is `V·diag(sqrt_EVL)·V†`
with the saved roots `sqrt_EVL = storedRoots r ev`; one more square root squares back to the previous one, and with no root at all
(`r = 0`) it is `V·diag(max(0,ev))·V†` — equal to the input `A = V·diag(ev)·V†` for PSD `A`.  So the saved `(sqrt_EVL, EVC)` are
exactly the `(s, V)` of `sylvester_vjp` / `sqrtm_repeat_vjp`, and `δA = δS·S + S·δS` is the differential of *this* chain
(`squaring_dual`). -/
theorem sqrtm_forward_chain (V : ℕ → ℕ → ℂ) (hV1 : (toMat m V)ᴴ * toMat m V = 1) (ev : ℕ → ℝ) (r : ℕ) :
    toMat m (psdSqrtmForward m V r (fun a => (ev a : ℂ))) = specMat m V (storedRoots r (fun a => (ev a : ℂ))) ∧
    toMat m (psdSqrtmForward m V (r + 1) (fun a => (ev a : ℂ))) * toMat m (psdSqrtmForward m V (r + 1) (fun a => (ev a : ℂ)))
      = toMat m (psdSqrtmForward m V r (fun a => (ev a : ℂ))) ∧
    ((∀ a, 0 ≤ ev a) → toMat m (psdSqrtmForward m V 0 (fun a => (ev a : ℂ))) = specMat m V (fun a => (ev a : ℂ))) ∧
    (∀ a, star (storedRoots r (fun a => (ev a : ℂ)) a) = storedRoots r (fun a => (ev a : ℂ)) a) := by
  refine ⟨toMat_psdForward V r _, ?_, ?_, fun a => storedRoots_star r ev a⟩
  · rw [toMat_psdForward, toMat_psdForward, sqrtm_chain_is_squaring V hV1]
    congr 1
    funext a; exact storedRoots_sq r ev a
  · intro hev
    rw [toMat_psdForward]
    congr 1
    funext a; exact storedRoots_zero ev hev a

/-- `δA = δS·S + S·δS` is the ε-coefficient of `(S + ε·δS)²` over the dual numbers (and `S·S` the ε⁰-coefficient) -/
theorem squaring_dual {R : Type} [CommRing R] (S δS : Matrix (Fin m) (Fin m) R) :
    (∀ a b, (((Matrix.of fun a b => dualOf (S a b) (δS a b)) * (Matrix.of fun a b => dualOf (S a b) (δS a b))
        : Matrix (Fin m) (Fin m) (DualNumber R)) a b).fst = (S * S) a b) ∧
    (∀ a b, (((Matrix.of fun a b => dualOf (S a b) (δS a b)) * (Matrix.of fun a b => dualOf (S a b) (δS a b))
        : Matrix (Fin m) (Fin m) (DualNumber R)) a b).snd = (δS * S + S * δS) a b) := by
  refine ⟨fun a b => ?_, fun a b => ?_⟩
  · simp only [Matrix.mul_apply, Matrix.of_apply, TrivSqZeroExt.fst_sum, TrivSqZeroExt.fst_mul, fst_dualOf]
  · simp only [Matrix.mul_apply, Matrix.add_apply, Matrix.of_apply, TrivSqZeroExt.snd_sum, snd_mul', fst_dualOf, snd_dualOf,
      Finset.sum_add_distrib]
    rw [add_comm]

end sqrtmforward

/-! ## flat-parameter bridge (`optimize/_internal.py:8-40`) -/

/-- **`set_model_flat_parameter ∘ get_model_flat_parameter = id`**: cutting the concatenation at the cumulative sizes
returns every parameter, in sorted-name order (the order of the gradient vector, too: same function). -/
theorem flatBridge_roundtrip {β : Type} (ps : List (String × List β)) :
    unflatten ((sortByName ps).map fun p => (p.1, p.2.length)) (flatten ps) = sortByName ps :=
  unflatten_flatMap (sortByName ps)

/-- the sorted order is a permutation of the parameters and is ascending in the names -/
theorem flatBridge_order {β : Type} (ps : List (String × List β)) :
    (sortByName ps).Perm ps ∧ (sortByName ps).Pairwise fun a b => ¬ b.1 < a.1 :=
  ⟨sortByName_perm ps, sortByName_sorted ps⟩

/-! ## gradient hand-off to the optimiser (`hf_model_wrapper`, `minimize`) -/

/-- **`get ∘ set = id` on flat vectors**: after `set_model_flat_parameter(model, θ)` the flat parameter vector is `θ` again — in
particular the vector `scipy` optimises over and the vector of `get_model_flat_grad` / `hf_model_wrapper` index the same
coordinates (distinct parameter names; `θ` of the right length). -/
theorem handoff_get_set {β : Type} (ps : ParamList β) (θ : List β)
    (hdist : (trainable ps).Pairwise fun a b => a.1 < b.1)
    (hlen : θ.length = ((trainable ps).map fun p => p.2.length).sum) :
    (sortByName (setFlat ps θ)).flatMap (·.2) = θ := by
  have hn : (setFlat ps θ).Pairwise fun a b => a.1 < b.1 := by
    have h1 := unflatten_names ((trainable ps).map fun p => (p.1, p.2.length)) θ
    have h2 : ((setFlat ps θ).map (·.1)).Pairwise (· < ·) := by
      rw [setFlat, h1, List.map_map]
      exact (List.pairwise_map.2 hdist)
    exact List.pairwise_map.1 h2
  rw [sortByName_of_sorted _ hn, setFlat]
  apply flatMap_unflatten
  rw [hlen, List.map_map]; rfl

/-- **`set ∘ get = id`**: writing back the flat vector that was read changes nothing. -/
theorem handoff_set_get {β : Type} (ps : ParamList β) : setFlat ps (getFlat ps) = trainable ps :=
  unflatten_flatMap (trainable ps)

/-- parameters with `requires_grad=False` are skipped consistently: they never enter the flat vectors … -/
theorem handoff_trainable_only {β : Type} (ps : ParamList β) (q : String × List β) (hq : q ∈ trainable ps) :
    ∃ p ∈ ps, p.2.1 = true ∧ q = (p.1, p.2.2) := by
  have := (sortByName_perm _).mem_iff.1 hq
  rw [List.mem_map] at this
  obtain ⟨p, hp, rfl⟩ := this
  rw [List.mem_filter] at hp
  exact ⟨p, hp.1, hp.2, rfl⟩

/-- … and `set_model_flat_parameter` leaves them untouched. -/
theorem handoff_frozen_untouched {β : Type} (ps : ParamList β) (θ : List β) (p : String × Bool × List β) (hp : p ∈ ps)
    (hf : p.2.1 = false) : p ∈ afterSet ps θ := by
  unfold afterSet
  rw [List.mem_map]
  exact ⟨p, hp, by simp [hf]⟩

/-! ## `CircuitTorchWrapper._setup`: the index maps (`_torch_utils.py:101-156`) -/

/-- **`ind_gate_to_ind_torch` addresses distinct rows**: two different gates read the same row of the same stacked gate tensor
only if both are trainable, non-placeholder gates that are the same object (a shared parameter) — so the `+=` of the sweep
sums exactly the contributions of one shared parameter. -/
theorem setup_rows_injective (gs : List GateDesc) (i j : ℕ) (hi : i < gs.length) (hj : j < gs.length) (p : String × ℕ)
    (h1 : slotOf gs i = some p) (h2 : slotOf gs j = some p) :
    i = j ∨ (gs[i].placeholder = false ∧ gs[j].placeholder = false ∧ gs[i].objId = gs[j].objId) := by
  have e := (forward_stacking_matches_setup gs i hi p.1 p.2 h1).symm.trans (forward_stacking_matches_setup gs j hj p.1 p.2 h2)
  rw [Option.some.injEq] at e
  cases hpi : gs[i].placeholder <;> cases hpj : gs[j].placeholder <;> simp [hpi, hpj] at e
  · exact Or.inr ⟨rfl, rfl, e⟩
  · exact Or.inl e

/-- conversely, a re-used trainable gate object (same name, same object) reads the same row every time -/
theorem setup_rows_shared (gs : List GateDesc) (i j : ℕ) (hi : i < gs.length) (hj : j < gs.length)
    (hn : gs[i].name = gs[j].name) (ho : gs[i].objId = gs[j].objId)
    (hpi : gs[i].placeholder = false) (hpj : gs[j].placeholder = false)
    (hti : gs[i].trainable = true) (htj : gs[j].trainable = true) : slotOf gs i = slotOf gs j := by
  unfold slotOf
  rw [List.getElem?_eq_getElem hi, List.getElem?_eq_getElem hj]
  simp [hpi, hpj, hti, htj, hn, ho]

/-! ## the executed carriers are instances of the classes the theorems quantify over -/

/-- `GInt = ℤ[i]` (the carrier of the exact tie) is a commutative star-ring whose `star` is the executed `conj`
(instances in `NumqiProofs/BackwardCarrier.lean`, built from the operations of `NumqiModel/Scalar.lean`) -/
theorem carrier_gint_star (a : GInt) : star a = (⟨a.re, -a.im⟩ : GInt) := rfl

/-- `QI = ℚ[i]` is a field whose division is the one `Driver/C04.lean` executes in `sylv` / `sylvf` (`x / 0 = 0`); the driver
additionally refuses (`nan`) any input for which a pass would divide by a zero sum of two different roots (`sylvDividesAll`) -/
theorem carrier_qi_division (a b : QI) :
    a / b = (⟨(a.re * b.re + a.im * b.im) / QI.normSq b, (a.im * b.re - a.re * b.im) / QI.normSq b⟩ : QI) := rfl

/-- the ring-generic sweep theorem at the executed carrier (instantiation check) -/
example (K S : ℕ) (Θ δΘ : Params GInt) (gates : List (PGate 3 GInt))
    (hwf : ∀ g ∈ gates, g.WF) (hun : ∀ g ∈ gates, g.IsUnitary Θ) (hr : ∀ g ∈ gates, g.InRange K S)
    (ψ0 δψ gout : Vec 3 GInt) (G0 : Params GInt) :=
  reverseSweep_vjp K S Θ δΘ gates hwf hun hr ψ0 δψ gout G0

/-- the field-generic Sylvester theorem at the executed carrier -/
example (V G : ℕ → ℕ → QI) (s : ℕ → QI) (hV1 : (toMat 3 V)ᴴ * toMat 3 V = 1) (hV2 : toMat 3 V * (toMat 3 V)ᴴ = 1)
    (hs : ∀ a b, a < 3 → b < 3 → s a + s b ≠ 0) := sylvester_solves V G s hV1 hV2 hs

/-! ## non-vacuity -/

/-- the hypotheses of the gate theorems are satisfiable: the `X` matrix on one qubit is unitary over ℤ -/
example : ∃ U : MatK 1 ℤ, Uᴴ * U = 1 ∧ U ≠ 1 := by
  refine ⟨Matrix.of fun a b => if a 0 = b 0 then 0 else 1, ?_, ?_⟩
  · ext x y
    simp only [Matrix.mul_apply, Matrix.conjTranspose_apply, Matrix.of_apply, Matrix.one_apply, star_trivial]
    rw [Finset.sum_eq_single (fun _ => !(x 0))]
    · have hx : ∀ z : Bits 1, (z = x) ↔ z 0 = x 0 := fun z =>
        ⟨fun h => by rw [h], fun h => funext fun i => by rw [Fin.eq_zero i]; exact h⟩
      by_cases hxy : x = y
      · subst hxy; cases h : x 0 <;> simp [h]
      · have : ¬ x 0 = y 0 := fun e => hxy (((hx y).2 e.symm).symm)
        cases h : x 0 <;> cases h' : y 0 <;> simp_all
    · intro z _ hz
      have : z 0 = x 0 := by
        by_contra hne
        apply hz; funext i; rw [Fin.eq_zero i]
        cases h : z 0 <;> cases h' : x 0 <;> simp_all
      simp [this]
    · intro h; exact absurd (Finset.mem_univ _) h
  · intro h
    have := congrFun (congrFun h (fun _ => false)) (fun _ => false)
    simp at this

end Numqi.C04
