/-
C10 (validity): the generators of `numqi/random/_internal.py` that are *compositions* — Kronecker products, outer products,
permutation sums, coefficient placement — of already validated pieces.  As in `NumqiProps/C10.lean` (part B) every theorem is about a
model constant of `NumqiModel/RandNorm.lean` that `Driver/C10.lean` executes on the raw draws / LAPACK outputs captured from the
real generator (`nz bip | pdm | sep | sepp | onb | chan | hermsym | qcms | abk`, `harness/c10.py:validity_tie`), at `K = ℂ`.
The outputs of `np.linalg.qr`, of `to_special_orthogonal_exp` (C01) and of the nested generators (`rand_density_matrix`,
`rand_haar_state`: `density_matrix_valid`, `haar_state_unit`) enter as hypotheses — their contracts, not the conclusions.
-/
import NumqiProofs.RandNormAbk
import Mathlib.Tactic

namespace Numqi.C10
open Matrix Numqi.RandNorm Numqi.FinGroup
open scoped ComplexOrder Numqi.RandNorm

/-- `ret[:,None] * ret.conj()` of a unit vector (`rand_bipartite_state(return_dm=True)`): trace one, positive semidefinite, rank at most one -/
theorem pure_dm_valid (n : Nat) (v : Nat → ℂ) (h : normSq n v = 1) :
    (toMat n n (pureDm v)).trace = 1 ∧ (toMat n n (pureDm v)).PosSemidef ∧ (toMat n n (pureDm v)).rank ≤ 1 := by
  refine ⟨by rw [trace_pureDm, h], ?_, ?_⟩
  · rw [toMat_pureDm]; exact Matrix.posSemidef_vecMulVec_self_star _
  · rw [toMat_pureDm]; exact Matrix.rank_vecMulVec_le _ _

/-- **`rand_bipartite_state(dimA, dimB, k)`**: with the `qr` contract for the two factors (orthonormal columns: `Q0ᴴQ0 = 1`, `Q1ᴴQ1 = 1` on the
`k` leading columns) and a non-zero coefficient draw, the returned vector has norm one and Schmidt rank at most `k` (rank of its `dA × dB`
coefficient matrix) -/
theorem bipartite_state_valid (dA dB k : Nat) (Q0 Q1 : Nat → Nat → ℂ) (c : Nat → ℂ)
    (h0 : (toMat dA k Q0)ᴴ * toMat dA k Q0 = 1) (h1 : (toMat dB k Q1)ᴴ * toMat dB k Q1 = 1) (hc : normSq k c ≠ 0) :
    normSq (dA * dB) (bipartiteOut dB k Q0 Q1 c) = 1 ∧
      (Matrix.of fun (a : Fin dA) (b : Fin dB) => bipartiteOut dB k Q0 Q1 c (a.val * dB + b.val)).rank ≤ k := by
  refine ⟨normSq_bipartite dA dB k Q0 Q1 c h0 h1 hc, ?_⟩
  rw [bipartite_factor, Matrix.mul_assoc]
  refine (Matrix.rank_mul_le_left _ _).trans ?_
  simpa using Matrix.rank_le_card_width (toMat dA k Q0)

/-- … and with `return_dm=True` a density matrix of rank at most one -/
theorem bipartite_dm_valid (dA dB k : Nat) (Q0 Q1 : Nat → Nat → ℂ) (c : Nat → ℂ)
    (h0 : (toMat dA k Q0)ᴴ * toMat dA k Q0 = 1) (h1 : (toMat dB k Q1)ᴴ * toMat dB k Q1 = 1) (hc : normSq k c ≠ 0) :
    (toMat (dA * dB) (dA * dB) (pureDm (bipartiteOut dB k Q0 Q1 c))).trace = 1 ∧
      (toMat (dA * dB) (dA * dB) (pureDm (bipartiteOut dB k Q0 Q1 c))).PosSemidef :=
  let h := pure_dm_valid _ _ (bipartite_state_valid dA dB k Q0 Q1 c h0 h1 hc).1
  ⟨h.1, h.2.1⟩

/-- **`rand_separable_dm`**: for non-negative weights (not all zero) and density matrices `A_i`, `B_i` the returned matrix has trace one, is
positive semidefinite, and so is its partial transpose on the second factor (PPT) -/
theorem separable_dm_valid (k dA dB : Nat) (hdB : 0 < dB) (p : Nat → ℝ) (A B : Nat → Nat → Nat → ℂ) (hp : ∀ i, i < k → 0 ≤ p i)
    (hs : ∑ j : Fin k, p j.val ≠ 0)
    (hA : ∀ i, i < k → (toMat dA dA (A i)).trace = 1 ∧ (toMat dA dA (A i)).PosSemidef)
    (hB : ∀ i, i < k → (toMat dB dB (B i)).trace = 1 ∧ (toMat dB dB (B i)).PosSemidef) :
    (toMat (dA * dB) (dA * dB) (sepMix k dB (fun i => (p i : ℂ)) A B)).trace = 1 ∧
      (toMat (dA * dB) (dA * dB) (sepMix k dB (fun i => (p i : ℂ)) A B)).PosSemidef ∧
      (toMat (dA * dB) (dA * dB) fun x y =>
        sepMix k dB (fun i => (p i : ℂ)) A B (x / dB * dB + y % dB) (y / dB * dB + x % dB)).PosSemidef := by
  refine ⟨sepMix_trace k dA dB p A B hs (fun i hi => (hA i hi).1) (fun i hi => (hB i hi).1),
    sepMix_posSemidef k dA dB p A B hp (fun i hi => (hA i hi).2) (fun i hi => (hB i hi).2), ?_⟩
  have : (fun x y => sepMix k dB (fun i => (p i : ℂ)) A B (x / dB * dB + y % dB) (y / dB * dB + x % dB))
      = sepMix k dB (fun i => (p i : ℂ)) A (fun i a b => B i b a) := by
    funext x y; exact sepMix_partialTranspose k dB hdB _ A B x y
  rw [this]
  refine sepMix_posSemidef k dA dB p A _ hp (fun i hi => (hA i hi).2) fun i hi => ?_
  have : toMat dB dB (fun a b => B i b a) = (toMat dB dB (B i))ᵀ := by ext a b; simp [toMat]
  rw [this]; exact (hB i hi).2.transpose

/-- `pure_term=True`: the same matrix with `A_i = |u_i⟩⟨u_i|`, `B_i = |v_i⟩⟨v_i|` (unit vectors from `rand_haar_state`) -/
theorem separable_dm_pure_valid (k dA dB : Nat) (hdB : 0 < dB) (p : Nat → ℝ) (u v : Nat → Nat → ℂ) (hp : ∀ i, i < k → 0 ≤ p i)
    (hs : ∑ j : Fin k, p j.val ≠ 0) (hu : ∀ i, i < k → normSq dA (u i) = 1) (hv : ∀ i, i < k → normSq dB (v i) = 1) :
    sepMixPure k dB (fun i => (p i : ℂ)) u v = sepMix k dB (fun i => (p i : ℂ)) (fun i => pureDm (u i)) (fun i => pureDm (v i)) ∧
      (toMat (dA * dB) (dA * dB) (sepMixPure k dB (fun i => (p i : ℂ)) u v)).trace = 1 ∧
      (toMat (dA * dB) (dA * dB) (sepMixPure k dB (fun i => (p i : ℂ)) u v)).PosSemidef := by
  have e : sepMixPure k dB (fun i => (p i : ℂ)) u v = sepMix k dB (fun i => (p i : ℂ)) (fun i => pureDm (u i)) (fun i => pureDm (v i)) := by
    funext x y; exact sepMixPure_eq k dB _ u v x y
  have h := separable_dm_valid k dA dB hdB p (fun i => pureDm (u i)) (fun i => pureDm (v i)) hp hs
    (fun i hi => ⟨(pure_dm_valid dA (u i) (hu i hi)).1, (pure_dm_valid dA (u i) (hu i hi)).2.1⟩)
    (fun i hi => ⟨(pure_dm_valid dB (v i) (hv i hi)).1, (pure_dm_valid dB (v i) (hv i hi)).2.1⟩)
  rw [e]; exact ⟨rfl, h.1, h.2.1⟩

/-- **`rand_orthonormal_matrix_basis`**: with the contract of `to_special_orthogonal_exp` (every `U q o` unitary; C01 `soExp`), the `o`-th
block of the result (`num_qudit ≥ 1` qudits of dimension `d`) consists of `d^nq` Hermitian, mutually orthogonal idempotents of trace one
(rank-one projectors) that sum to the identity: the projectors of an orthonormal product basis -/
theorem orthonormal_basis_valid (d nq : Nat) (hnq : 1 ≤ nq) (U : Nat → Nat → Nat → Nat → ℂ)
    (hU : ∀ q o, toMat d d (U q o) * (toMat d d (U q o))ᴴ = 1 ∧ (toMat d d (U q o))ᴴ * toMat d d (U q o) = 1) (o : Nat) :
    IsRes (d ^ nq) (onbOut d nq U o) := by
  have h := isRes_foldl d ((List.range (nq - 1)).map fun q => onbBasis (U (q + 1)) o) d (onbBasis (U 0) o)
    (isRes_onbBasis d (U 0) (hU 0) o) (by
      intro Q hQ
      simp only [List.mem_map] at hQ
      obtain ⟨q, _, rfl⟩ := hQ
      exact isRes_onbBasis d (U (q + 1)) (hU (q + 1)) o)
  have e : d * d ^ ((List.range (nq - 1)).map fun q => onbBasis (U (q + 1)) o).length = d ^ nq := by
    rw [List.length_map, List.length_range, ← pow_succ']
    congr 1; omega
  rw [e] at h
  exact h

/-- the returned stack is these blocks one after the other, after the identity if `with_I` -/
theorem orthonormal_basis_stack (d nq : Nat) (U : Nat → Nat → Nat → Nat → ℂ) (t c j : Nat) :
    onbFlat d nq false U t c j = onbOut d nq U (t / d ^ nq) (t % d ^ nq) c j ∧
      onbFlat d nq true U 0 c j = (if c = j then 1 else 0) ∧
      onbFlat d nq true U (t + 1) c j = onbFlat d nq false U t c j := by
  simp [onbFlat]

/-- **`rand_channel_matrix_space`** (and `rand_hermitian_matrix(eig=None)`, which is `hermSym`): the first matrix is the identity, all are Hermitian -/
theorem channel_matrix_space_valid (Z : Nat → Nat → Nat → ℂ) (t i j : Nat) :
    chanSpace Z 0 i j = (if i = j then 1 else 0) ∧ conj (chanSpace Z t i j) = chanSpace Z t j i := by
  refine ⟨by simp [chanSpace], ?_⟩
  unfold chanSpace
  split
  · by_cases h : i = j <;> simp [h, conj_eq_star, eq_comm]
  · exact hermSym_conj _ i j

/-- **`rand_quantum_channel_matrix_subspace`**: for real rows `t` of the captured special orthogonal matrix and the real scalars of
`gellmann.py`, the matrices of the symmetric block are real symmetric, those of the antisymmetric block real antisymmetric, and in the complex
case Hermitian -/
theorem channel_matrix_subspace_valid (S : Gellmann.Scalars ℂ) (hS : RealScalars S) (d : Nat) (t : Nat → ℂ) (ht : ∀ p, star (t p) = t p)
    (r c : Fin d) :
    (qcmsSym S d t r c = qcmsSym S d t c r ∧ star (qcmsSym S d t r c) = qcmsSym S d t r c) ∧
      (qcmsAnti S d t r c = - qcmsAnti S d t c r ∧ star (qcmsAnti S d t r c) = qcmsAnti S d t r c) ∧
      star (qcmsHerm S d t r c) = qcmsHerm S d t c r := by
  obtain ⟨h1, h2, h3⟩ := qcmsCoeff_real d t ht
  exact ⟨synthesis_real_sym S hS d _ h1 r c, synthesis_imag_antisym S hS d _ h2 r c, synthesis_hermitian S hS d _ h3 r c⟩

/-- **`rand_ABk_density_matrix`**: for a raw draw `G` with `tr(G Gᴴ) ≠ 0` the result has trace one, is positive semidefinite, and is invariant
under every simultaneous permutation `σ` of the `k` copies of `B` in the row and the column index (a permutation-symmetric extension) -/
theorem abk_density_matrix_valid (dA dB k : Nat) (hdB : 0 < dB) (G : Nat → Nat → ℂ)
    (htr : traceN (dA * dB ^ k) (gram (dA * dB ^ k) G) ≠ 0) :
    (toMat (dA * dB ^ k) (dA * dB ^ k) (abkSym dA dB k G)).trace = 1 ∧
      (toMat (dA * dB ^ k) (dA * dB ^ k) (abkSym dA dB k G)).PosSemidef ∧
      ∀ σ ∈ perms k, ∀ x y, abkSym dA dB k G (permIdx dB k σ x) (permIdx dB k σ y) = abkSym dA dB k G x y :=
  ⟨abkSym_trace dA dB k hdB G htr, abkSym_posSemidef dA dB k hdB G, fun _ hσ x y => abkSym_invariant dA dB k hdB G hσ x y⟩

/-- what `permIdx` does: it keeps the `A` index and moves the digit (copy) at position `m` to position `σ[m]` -/
theorem permIdx_spec (dB k : Nat) (hdB : 0 < dB) {σ : List Nat} (hσ : σ ∈ perms k) (x : Nat) :
    permIdx dB k σ x / dB ^ k = x / dB ^ k ∧
      digits dB k (permIdx dB k σ x % dB ^ k) = scatter σ (digits dB k (x % dB ^ k)) := by
  obtain ⟨h1, h2⟩ := permIdx_parts dB k hdB (mem_perms.1 hσ) x
  exact ⟨h1, by rw [h2, digits_undigits_scatter dB k hdB (mem_perms.1 hσ)]⟩

/-- `rand_density_matrix(dim, k)`: the rank is at most `k` (the raw draw is `dim × k`) -/
theorem density_matrix_rank_le (n k : Nat) (G : Nat → Nat → ℂ) : (toMat n n (densityMatrix n k G)).rank ≤ k := by
  rw [toMat_densityMatrix, ← Matrix.smul_mul]
  refine (Matrix.rank_mul_le_left _ _).trans ?_
  simpa using Matrix.rank_le_card_width (((toMat n k G * (toMat n k G)ᴴ).trace)⁻¹ • toMat n k G)

/-- `rand_choi_op`: the returned operator is `(1 ⊗ T)ᴴ (G Gᴴ) (1 ⊗ T) = H Hᴴ` with `H = (1 ⊗ T)ᴴ G`, hence positive semidefinite (in particular Hermitian) for every `T`, `G`
(`choi_valid` in `C10.lean` is the trace-preserving half) -/
theorem choi_posSemidef (din dout r : Nat) (G T : Nat → Nat → ℂ) :
    (toMat (din * dout) (din * dout) (choiOut din dout r G T)).PosSemidef := by
  rw [funext fun x => funext fun y => choiOut_eq_gram din dout r G T x y, toMat_gram]
  exact Matrix.posSemidef_self_mul_conjTranspose _

/-- `rand_hermitian_matrix(eig=(a,b))`: with `V` unitary (C01) and the uniform draws `a ≤ λ_i ≤ b`, `a·1 ≤ V diag(λ) Vᴴ ≤ b·1`: the spectrum lies in `[a, b]` -/
theorem hermitian_eig_range (n : Nat) (V : Nat → Nat → ℂ) (lam : Nat → ℝ) (a b : ℝ) (hV : toMat n n V * (toMat n n V)ᴴ = 1)
    (hl : ∀ i, i < n → a ≤ lam i ∧ lam i ≤ b) :
    (toMat n n (hermEig n V fun i => (lam i : ℂ)) - (a : ℂ) • (1 : Matrix (Fin n) (Fin n) ℂ)).PosSemidef ∧
      ((b : ℂ) • (1 : Matrix (Fin n) (Fin n) ℂ) - toMat n n (hermEig n V fun i => (lam i : ℂ))).PosSemidef := by
  unfold hermEig
  rw [toMat_specMat]
  set W := toMat n n V
  -- `c·1 = W diag(c) Wᴴ`, so both differences are `W diag(·) Wᴴ` with a non-negative diagonal
  have hc : ∀ c : ℂ, c • (1 : Matrix (Fin n) (Fin n) ℂ) = W * Matrix.diagonal (fun _ => c) * Wᴴ := fun c => by
    rw [← Matrix.smul_one_eq_diagonal, Matrix.mul_smul, Matrix.smul_mul, Matrix.mul_one, hV]
  rw [hc a, hc b, ← Matrix.sub_mul, ← Matrix.mul_sub, ← Matrix.sub_mul, ← Matrix.mul_sub, Matrix.diagonal_sub, Matrix.diagonal_sub]
  constructor
  · refine (Matrix.PosSemidef.diagonal fun i => ?_).mul_mul_conjTranspose_same W
    exact sub_nonneg.2 (Complex.real_le_real.2 (hl i.val i.isLt).1)
  · refine (Matrix.PosSemidef.diagonal fun i => ?_).mul_mul_conjTranspose_same W
    exact sub_nonneg.2 (Complex.real_le_real.2 (hl i.val i.isLt).2)

/-! non-vacuity of the hypotheses: the computational basis is a resolution; the identity is unitary -/
example : IsRes 3 (compBasis (K := ℂ)) := isRes_compBasis 3
example : scatter [1, 2, 0] [7, 8, 9] = [9, 7, 8] := by decide
example : permIdx 2 2 [1, 0] 1 = 2 ∧ permIdx 2 2 [1, 0] 6 = 5 := by decide

end Numqi.C10
