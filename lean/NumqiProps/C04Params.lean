/-
C04 (angles) — the gradient with respect to the *angles*: `θ ↦ U(θ)` composed with the reverse sweep.

`NumqiProps/C04.lean` proves that the reverse sweep returns the exact dual-number derivative of the circuit map with
respect to the gate *matrices*.  What the optimiser receives is the derivative with respect to the angles, obtained by
torch autograd through the gate constructors `hf0(θ)` (`numqi/gate/_internal.py`, torch branch — the same formulas as
the numpy branch modelled in `NumqiModel/Gates.lean`).  Here:

* the derivative of a parametrised gate is *defined* as the ε-coefficient of the **same constructor** evaluated over the
  dual numbers `R[ε]/(ε²)` at the dual angle pair `(c − ε κ s, s + ε κ c)` (`κ` = chain factor, ½ for half angles);
  it equals the arrays `Gates.drx …` the driver evaluates (`rx_dual` …) and the closed forms `−iκ·G·gate(θ)`
  (`drx_closed` …);
* `angle_gradient`: for a circuit whose parametrised slots are vocabulary constructors of angles `θ_j` (shared angles
  allowed, inside one slot and across slots; placeholder parameters are just angles supplied from outside), pairing the
  operator gradients delivered by the reverse sweep with `dGate_slot/dθ_j` gives the ε-coefficient of
  `⟪g, F(θ + ε e_j)⟫` — the true partial derivative.

`R` is any commutative star ring; `I` any element (the closed forms need `I*I = -1`).
-/
import NumqiProps.C04
import NumqiProps.C03Gates

namespace Numqi.C04
open Numqi Numqi.Backward Numqi.C03 Function Matrix Finset TrivSqZeroExt

set_option linter.unnecessarySeqFocus false
variable {R : Type} [CommRing R]

/-! ### dual angle pairs -/

/-- the pair of the angle moved by `ε·dir`: `(c, s) ↦ (c − ε κ dir s, s + ε κ dir c)` -/
def CS.dual (κ dir : R) (p : CS R) : CS (DualNumber R) :=
  ⟨inl p.c + inr (-(κ * dir * p.s)), inl p.s + inr (κ * dir * p.c)⟩

/-- the dual pair stays on the circle: it is the pair of a (dual) angle -/
theorem CS.dual_norm (κ dir : R) (p : CS R) (hp : p.c * p.c + p.s * p.s = 1) :
    (CS.dual κ dir p).c * (CS.dual κ dir p).c + (CS.dual κ dir p).s * (CS.dual κ dir p).s = 1 := by
  apply TrivSqZeroExt.ext
  · simp [CS.dual, hp]
  · simp [CS.dual]; ring

/-! ### the ε-coefficient of each constructor is the derivative array the driver evaluates -/

theorem rx_dual (I κ : R) (h : CS R) :
    (Gates.rx (inl I) (CS.dual κ 1 h)).map fst = Gates.rx I h ∧
    (Gates.rx (inl I) (CS.dual κ 1 h)).map snd = Gates.drx I κ h := by
  constructor <;> simp [Gates.rx, Gates.drx, CS.dual]

theorem ry_dual (κ : R) (h : CS R) :
    (Gates.ry (CS.dual κ 1 h)).map fst = Gates.ry h ∧
    (Gates.ry (CS.dual κ 1 h)).map snd = Gates.dry κ h := by
  constructor <;> simp [Gates.ry, Gates.dry, CS.dual]

theorem rz_dual (I κ : R) (h : CS R) :
    (Gates.rz (inl I) (CS.dual κ 1 h)).map fst = Gates.rz I h ∧
    (Gates.rz (inl I) (CS.dual κ 1 h)).map snd = Gates.drz I κ h := by
  constructor <;> simp [Gates.rz, Gates.drz, CS.dual]

theorem rzz_dual (I κ : R) (h : CS R) :
    (Gates.rzz (inl I) (CS.dual κ 1 h)).map fst = Gates.rzz I h ∧
    (Gates.rzz (inl I) (CS.dual κ 1 h)).map snd = Gates.drzz I κ h := by
  constructor <;> simp [Gates.rzz, Gates.drzz, CS.dual]


/-- a pair that does not move -/
def CS.const (p : CS R) : CS (DualNumber R) := ⟨inl p.c, inl p.s⟩

/-- the three partial derivatives of `u3(θ, φ, λ)`: perturb one pair, keep the other two -/
theorem u3_dual_theta (I κ : R) (h ph la : CS R) :
    (Gates.u3 (inl I) (CS.dual κ 1 h) (CS.const ph) (CS.const la)).map fst = Gates.u3 I h ph la ∧
    (Gates.u3 (inl I) (CS.dual κ 1 h) (CS.const ph) (CS.const la)).map snd = Gates.du3Theta I κ h ph la := by
  constructor <;> simp [Gates.u3, Gates.du3Theta, CS.dual, CS.const]

theorem u3_dual_phi (I : R) (hI : I * I = -1) (h ph la : CS R) :
    (Gates.u3 (inl I) (CS.const h) (CS.dual 1 1 ph) (CS.const la)).map fst = Gates.u3 I h ph la ∧
    (Gates.u3 (inl I) (CS.const h) (CS.dual 1 1 ph) (CS.const la)).map snd = Gates.du3Phi I h ph la := by
  constructor
  · simp [Gates.u3, CS.dual, CS.const]
  · simp [Gates.u3, Gates.du3Phi, CS.dual, CS.const]
    constructor
    · linear_combination (-(h.s * ph.s) : R) * hI
    · linear_combination (-(h.c * (la.c + I * la.s) * ph.s) : R) * hI

theorem u3_dual_lambda (I : R) (hI : I * I = -1) (h ph la : CS R) :
    (Gates.u3 (inl I) (CS.const h) (CS.const ph) (CS.dual 1 1 la)).map fst = Gates.u3 I h ph la ∧
    (Gates.u3 (inl I) (CS.const h) (CS.const ph) (CS.dual 1 1 la)).map snd = Gates.du3Lambda I h ph la := by
  constructor
  · simp [Gates.u3, CS.dual, CS.const]
  · simp [Gates.u3, Gates.du3Lambda, CS.dual, CS.const]
    constructor
    · linear_combination (-(h.s * la.s) : R) * hI
    · linear_combination (-(h.c * (ph.c + I * ph.s) * la.s) : R) * hI

/-! ### closed forms: `d/dθ gate(θ) = −iκ · G · gate(θ)` with `G` the generator (`κ = ½`: `−(i/2)·G·gate`) -/

theorem drx_closed {I : R} (hI : I * I = -1) (κ : R) (h : CS R) :
    flatMat 2 (Gates.drx I κ h) = (-(I * κ)) • (flatMat 2 (Gates.X : Array R) * flatMat 2 (Gates.rx I h)) := by
  simp only [Gates.drx, Gates.X, Gates.rx, flatMat_two_mul, flatMat_two_smul]
  refine flatMat_two_congr ?_ ?_ ?_ ?_
  · linear_combination (-(κ * h.s)) * hI
  · ring
  · ring
  · linear_combination (-(κ * h.s)) * hI

theorem dry_closed {I : R} (hI : I * I = -1) (κ : R) (h : CS R) :
    flatMat 2 (Gates.dry κ h) = (-(I * κ)) • (flatMat 2 (Gates.Y I) * flatMat 2 (Gates.ry h)) := by
  simp only [Gates.dry, Gates.Y, Gates.ry, flatMat_two_mul, flatMat_two_smul]
  refine flatMat_two_congr ?_ ?_ ?_ ?_
  · linear_combination (-(κ * h.s)) * hI
  · linear_combination (-(κ * h.c)) * hI
  · linear_combination (κ * h.c) * hI
  · linear_combination (-(κ * h.s)) * hI

theorem drz_closed {I : R} (hI : I * I = -1) (κ : R) (h : CS R) :
    flatMat 2 (Gates.drz I κ h) = (-(I * κ)) • (flatMat 2 (Gates.Z : Array R) * flatMat 2 (Gates.rz I h)) := by
  simp only [Gates.drz, Gates.Z, Gates.rz, flatMat_two_mul, flatMat_two_smul]
  refine flatMat_two_congr ?_ ?_ ?_ ?_
  · linear_combination (-(κ * h.s)) * hI
  · ring
  · ring
  · linear_combination (-(κ * h.s)) * hI

theorem drzz_closed {I : R} (hI : I * I = -1) (κ : R) (h : CS R) :
    flatMat 4 (Gates.drzz I κ h) = (-(I * κ)) • (flatMat 4 (Gates.ZZ : Array R) * flatMat 4 (Gates.rzz I h)) := by
  have hm : -(κ * h.s) - I * (κ * h.c) = -(I * κ) * (1 * (h.c - I * h.s)) := by
    linear_combination (-(κ * h.s)) * hI
  have hp : -(κ * h.s) + I * (κ * h.c) = -(I * κ) * (-1 * (h.c + I * h.s)) := by
    linear_combination (-(κ * h.s)) * hI
  simp only [Gates.drzz, Gates.ZZ, Gates.rzz, flatMat_four_diag_mul, flatMat_four_diag_smul, hm, hp]


/-! ### circuits whose parametrised slots are constructors of angles -/

section families
variable {α : Type} [Zero α] [One α] [Add α] [Sub α] [Mul α] [Neg α]

/-- double-angle pair (generic in the scalar type): the full-angle pair of a half-angle pair -/
def CS.dbl (p : CS α) : CS α := ⟨p.c * p.c - p.s * p.s, p.c * p.s + p.s * p.c⟩

/-- the parametrised constructors of the vocabulary (`crx…cu3` use the same arrays inside a control entry) -/
inductive Fam where
  | rx | ry | rz | rzz | u3
deriving DecidableEq

/-- the constructor applied to the **half-angle pairs** of its angles (`u3(θ,φ,λ)`: the phases use the doubled pairs) —
one definition, instantiated at `R` (the value) and at `R[ε]` (value + derivative) -/
def Fam.array (I : α) : Fam → List (CS α) → Array α
  | .rx, [h] => Gates.rx I h
  | .ry, [h] => Gates.ry h
  | .rz, [h] => Gates.rz I h
  | .rzz, [h] => Gates.rzz I h
  | .u3, [h, hp, hl] => Gates.u3 I h (CS.dbl hp) (CS.dbl hl)
  | _, _ => #[]

/-- which constructor of which angles fills slot `(k, s)` of the stacked gate tensors; the same angle index may occur in
several slots and several times in one slot (shared parameters) -/
abbrev SlotSpec := (k : ℕ) → ℕ → Option (Fam × List ℕ)

/-- the gate tensors `Θ(θ)` handed to the circuit function -/
def paramsOf (I : α) (spec : SlotSpec) (θ : ℕ → CS α) : Params α :=
  fun k s => match spec k s with
    | some (f, js) => lookupMat (f.array I (js.map θ))
    | none => fun _ _ => 0

end families

/-- the angles `θ + ε·e_j0` as dual half-angle pairs (`κ` = chain factor of the half angle, ½) -/
def dualAngles (κ : R) (j0 : ℕ) (θ : ℕ → CS R) : ℕ → CS (DualNumber R) :=
  fun j => CS.dual κ (if j = j0 then 1 else 0) (θ j)

private theorem getD_map_fst (a : Array (DualNumber R)) (i : ℕ) : (a.getD i 0).fst = (a.map fst).getD i 0 := by
  simp only [Array.getD_eq_getD_getElem?, Array.getElem?_map]
  cases a[i]? <;> simp

private theorem dual_fst_c (κ d : R) (p : CS R) : (CS.dual κ d p).c.fst = p.c := by simp [CS.dual]
private theorem dual_fst_s (κ d : R) (p : CS R) : (CS.dual κ d p).s.fst = p.s := by simp [CS.dual]

/-- the value part of every constructor at dual angles is the constructor at the angles -/
theorem famArray_fst (I κ : R) (j0 : ℕ) (θ : ℕ → CS R) (f : Fam) (js : List ℕ) :
    (f.array (inl I) (js.map (dualAngles κ j0 θ))).map fst = f.array I (js.map θ) := by
  cases f <;> rcases js with _ | ⟨j1, _ | ⟨j2, _ | ⟨j3, _ | _⟩⟩⟩ <;>
    simp [Fam.array, Gates.rx, Gates.ry, Gates.rz, Gates.rzz, Gates.u3, CS.dbl, dualAngles, dual_fst_c, dual_fst_s]

/-- `Θ(θ + ε e_j0) = Θ(θ) + ε · ∂Θ/∂θ_j0`: the dual gate tensors are the dual-number pair (value, ε-coefficient) -/
theorem paramsOf_dual (I κ : R) (j0 : ℕ) (spec : SlotSpec) (θ : ℕ → CS R) :
    dualParams (paramsOf I spec θ) (fun k s a b => (paramsOf (inl I) spec (dualAngles κ j0 θ) k s a b).snd)
      = paramsOf (inl I) spec (dualAngles κ j0 θ) := by
  funext k s a b
  have hfst : (paramsOf (inl I) spec (dualAngles κ j0 θ) k s a b).fst = paramsOf I spec θ k s a b := by
    unfold paramsOf
    cases h : spec k s with
    | none => simp
    | some fj =>
      obtain ⟨f, js⟩ := fj
      simp only [lookupMat]
      rw [getD_map_fst, famArray_fst]
  simp only [dualParams, dualOf, ← hfst]
  exact TrivSqZeroExt.inl_fst_add_inr_snd_eq _

variable [StarRing R] {n : ℕ}

/-- **`angle_gradient`** — the derivative with respect to an angle.  Let the parametrised slots of the gate list be vocabulary
constructors of the angles `θ` (`spec`; shared angles allowed; a placeholder parameter is an angle supplied from outside),
`Θ = Θ(θ)` the gate tensors, `grad` the operator gradients returned by the reverse sweep for the cotangent `g_out`, and
`∂Θ/∂θ_j0` the ε-coefficient of the constructors at `θ + ε e_j0`.  Then
`Σ_slots ⟪grad[slot], ∂Θ[slot]/∂θ_j0⟫ = ⟪g_out, ε-coefficient of F(θ + ε e_j0)⟫`,
the right-hand side being the **same forward pass** run over `R[ε]/(ε²)` with the constructors evaluated at the dual
angles — the true partial derivative (its real part is what torch hands to the optimiser). -/
theorem angle_gradient (I κ : R) (K S : ℕ) (spec : SlotSpec) (θ : ℕ → CS R) (j0 : ℕ) (gates : List (PGate n R))
    (hwf : ∀ g ∈ gates, g.WF) (hun : ∀ g ∈ gates, g.IsUnitary (paramsOf I spec θ)) (hr : ∀ g ∈ gates, g.InRange K S)
    (ψ0 gout : Vec n R) :
    let Θ := paramsOf I spec θ
    let Θε := paramsOf (inl I) spec (dualAngles κ j0 θ)
    let out := backward Θ gates (conjVec (forward Θ gates ψ0), gout, fun _ _ _ _ => 0)
    pairing K S out.2.2 (fun k s a b => (Θε k s a b).snd)
      = vdot gout (fun x => (forward Θε (gates.map PGate.lift) (fun y => inl (ψ0 y)) x).snd) := by
  intro Θ Θε out
  have h := reverseSweep_gradient K S Θ (fun k s a b => (Θε k s a b).snd) gates hwf hun hr ψ0 (fun _ => 0) gout
    (fun _ _ _ _ => 0)
  have hd : dualParams Θ (fun k s a b => (Θε k s a b).snd) = Θε := paramsOf_dual I κ j0 spec θ
  have h0 : vdot out.2.1 (fun _ : Bits n => (0 : R)) = 0 := by
    simp [vdot, sumBits_eq_sum]
  have hp0 : pairing K S (fun _ _ _ _ => (0 : R)) (fun k s a b => (Θε k s a b).snd) = 0 := by
    simp [pairing]
  have hin : (fun y => dualOf (ψ0 y) ((fun _ => (0 : R)) y)) = fun y => (inl (ψ0 y) : DualNumber R) := by
    funext y; simp [dualOf]
  have h' : pairing K S out.2.2 (fun k s a b => (Θε k s a b).snd) + vdot out.2.1 (fun _ : Bits n => (0 : R))
      = pairing K S (fun _ _ _ _ => (0 : R)) (fun k s a b => (Θε k s a b).snd)
        + vdot gout (fun x => (forward (dualParams Θ (fun k s a b => (Θε k s a b).snd)) (gates.map PGate.lift)
            (fun y => dualOf (ψ0 y) ((fun _ => (0 : R)) y)) x).snd) := h
  rw [hd, hin, h0, hp0, add_zero, zero_add] at h'
  exact h'


/-! ### what `∂Θ[slot]/∂θ_j0` is, slot by slot -/

omit [StarRing R] in
/-- the ε-coefficient of a slot is the ε-coefficient of its constructor's array -/
theorem slot_derivative (I κ : R) (j0 : ℕ) (spec : SlotSpec) (θ : ℕ → CS R) (k s : ℕ) (f : Fam) (js : List ℕ)
    (hs : spec k s = some (f, js)) (a b : Bits k) :
    (paramsOf (inl I) spec (dualAngles κ j0 θ) k s a b).snd
      = lookupMat ((f.array (inl I) (js.map (dualAngles κ j0 θ))).map snd) a b := by
  unfold paramsOf
  rw [hs]
  simp only [lookupMat, Array.getD_eq_getD_getElem?, Array.getElem?_map]
  cases (Fam.array (inl I) f (js.map (dualAngles κ j0 θ)))[a.toNat * 2 ^ k + b.toNat]? <;> simp

omit [StarRing R] in
/-- an `rx(θ_j0)` slot: `∂Θ/∂θ_j0` is the array `Gates.drx` the driver evaluates (`= −iκ·X·rx(θ_j0)`) -/
theorem slot_derivative_rx (I κ : R) (j0 : ℕ) (spec : SlotSpec) (θ : ℕ → CS R) (k s : ℕ)
    (hs : spec k s = some (Fam.rx, [j0])) (a b : Bits k) :
    (paramsOf (inl I) spec (dualAngles κ j0 θ) k s a b).snd = lookupMat (Gates.drx I κ (θ j0)) a b := by
  rw [slot_derivative I κ j0 spec θ k s _ _ hs]
  have : (Fam.array (inl I) Fam.rx ([j0].map (dualAngles κ j0 θ))).map snd = Gates.drx I κ (θ j0) := by
    simp only [Fam.array, List.map_cons, List.map_nil, dualAngles, if_true]
    exact (rx_dual I κ (θ j0)).2
  rw [this]

omit [StarRing R] in
/-- a slot that does not use `θ_j0` has derivative zero (nothing leaks between parameters) -/
theorem slot_derivative_unused (I κ : R) (j0 : ℕ) (spec : SlotSpec) (θ : ℕ → CS R) (k s : ℕ) (f : Fam) (js : List ℕ)
    (hs : spec k s = some (f, js)) (hj : j0 ∉ js) (a b : Bits k) :
    (paramsOf (inl I) spec (dualAngles κ j0 θ) k s a b).snd = 0 := by
  rw [slot_derivative I κ j0 spec θ k s f js hs]
  have hconst : js.map (dualAngles κ j0 θ) = js.map (fun j => CS.const (θ j)) := by
    apply List.map_congr_left
    intro j hjm
    have : j ≠ j0 := fun e => hj (e ▸ hjm)
    simp [dualAngles, this, CS.dual, CS.const]
  rw [hconst]
  have hz : (Fam.array (inl I) f (js.map fun j => CS.const (θ j))).map snd
      = (Fam.array (inl I) f (js.map fun j => CS.const (θ j))).map (fun _ => (0 : R)) := by
    cases f <;> rcases js with _ | ⟨j1, _ | ⟨j2, _ | ⟨j3, _ | _⟩⟩⟩ <;>
      simp [Fam.array, Gates.rx, Gates.ry, Gates.rz, Gates.rzz, Gates.u3, CS.dbl, CS.const]
  rw [hz]
  simp only [lookupMat, Array.getD_eq_getD_getElem?, Array.getElem?_map]
  cases (Fam.array (inl I) f (js.map fun j => CS.const (θ j)))[a.toNat * 2 ^ k + b.toNat]? <;> simp

/-! ### the unitarity hypothesis of `angle_gradient` holds for constructor slots -/

theorem CS.dbl_valid {p : CS R} (hp : p.Valid) : (CS.dbl p).Valid := by
  refine ⟨?_, ?_, ?_⟩
  · simp [CS.dbl, hp.real_c, hp.real_s]
  · simp [CS.dbl, hp.real_c, hp.real_s]
  · simp only [CS.dbl]
    have h := hp.norm
    have : (p.c * p.c - p.s * p.s) * (p.c * p.c - p.s * p.s) + (p.c * p.s + p.s * p.c) * (p.c * p.s + p.s * p.c)
        = (p.c * p.c + p.s * p.s) * (p.c * p.c + p.s * p.s) := by ring
    rw [this, h, mul_one]

def Fam.qubits : Fam → ℕ
  | .rzz => 2
  | _ => 1
def Fam.arity : Fam → ℕ
  | .u3 => 3
  | _ => 1

/-- a slot filled by a constructor of valid angle pairs holds a unitary matrix (so `hun` of `angle_gradient` is automatic
for parametrised gates) -/
theorem paramsOf_unitary {I : R} (hI : ImagUnit I) (spec : SlotSpec) (θ : ℕ → CS R) (hθ : ∀ j, (θ j).Valid)
    (s : ℕ) (f : Fam) (js : List ℕ) (hs : spec f.qubits s = some (f, js)) (hlen : js.length = f.arity) :
    IsUnitaryMat (Matrix.of (paramsOf I spec θ f.qubits s)) := by
  unfold IsUnitaryMat
  rw [← Matrix.star_eq_conjTranspose, ← Matrix.mem_unitaryGroup_iff']
  unfold paramsOf
  rw [hs]
  cases f <;> rcases js with _ | ⟨j1, _ | ⟨j2, _ | ⟨j3, _ | _⟩⟩⟩ <;> simp [Fam.arity] at hlen <;>
    simp only [Fam.array, List.map_cons, List.map_nil, Fam.qubits]
  · exact lookupMat_unitary (d := 2) (k := 1) rfl _ (rx_unitary hI (hθ j1))
  · exact lookupMat_unitary (d := 2) (k := 1) rfl _ (ry_unitary (hθ j1))
  · exact lookupMat_unitary (d := 2) (k := 1) rfl _ (rz_unitary hI (hθ j1))
  · exact lookupMat_unitary (d := 4) (k := 2) rfl _ (rzz_unitary hI (hθ j1))
  · exact lookupMat_unitary (d := 2) (k := 1) rfl _
      (u3_unitary hI (hθ j1) (CS.dbl_valid (hθ j2)) (CS.dbl_valid (hθ j3)))

/-! ### non-vacuity -/

/-- the dual pair of the half angle with `κ = ½` over `ℚ`: angle pair (3/5, 4/5) moves by ε·(−2/5, 3/10) -/
example : (CS.dual (1/2 : ℚ) 1 ⟨3/5, 4/5⟩).c = inl (3/5) + inr (-(2/5)) ∧
    (CS.dual (1/2 : ℚ) 1 ⟨3/5, 4/5⟩).s = inl (4/5) + inr (3/10) := by
  constructor <;> simp [CS.dual] <;> norm_num

/-- a slot specification with a shared angle: slot 0 is `rx(θ_0)`, slot 1 is `u3(θ_0, θ_1, θ_0)` -/
example : ∃ spec : SlotSpec, spec 1 0 = some (Fam.rx, [0]) ∧ spec 1 1 = some (Fam.u3, [0, 1, 0]) :=
  ⟨fun k s => if k = 1 ∧ s = 0 then some (Fam.rx, [0]) else if k = 1 ∧ s = 1 then some (Fam.u3, [0, 1, 0]) else none,
    by simp, by simp⟩

end Numqi.C04
