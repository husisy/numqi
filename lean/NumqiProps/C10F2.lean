/-
C10 (validity of the F2 random generators, `numqi/random/_spf2.py`) through the theorems of C07, C08, C09.

The generators are deterministic post-processings of raw draws; the models (`SpF2.randSpF2`, `Clifford.randCliffordGroup`,
`Clifford.randPauliPost`) take the raw draws as arguments (the harnesses `c07.py` / `c09.py` feed the *same* raw draws to
the real functions through scripted `random.Random` / `numpy.random.Generator` objects).  The statements hold for
**every** raw draw.
-/
import NumqiProofs.CliffordRand
import NumqiProps.C08
import NumqiProps.C09

namespace Numqi.C10F2
open Numqi Numqi.Clifford

/-- **`rand_SpF2` (`_spf2.py:32-58`) is symplectic for every draw**: the tuple entries are drawn with
`rng.randint(0, base-1)`, i.e. in range, and the matrix is `from_int_tuple` of that tuple (C09 `fromIntTuple_mem_Sp`);
moreover `to_int_tuple` recovers the drawn tuple (`return_kind='int_tuple-matrix'` is consistent). -/
theorem rand_SpF2_valid (rawTuple : List (Nat × Nat)) (hr : SpF2.inRange rawTuple = true) :
    SpF2.isSp rawTuple.length (SpF2.randSpF2 rawTuple) = true ∧
      SpF2.toIntTuple rawTuple.length (SpF2.randSpF2 rawTuple) = some rawTuple :=
  C09.rand_SpF2_valid rawTuple hr

/-- **`rand_Clifford_group` (`_spf2.py:61-76`) returns `(r, S)` with `S` symplectic for every draw**, for any raw phase
bits `r` … -/
theorem rand_Clifford_group_valid (n rawBits : Nat) (rawTuple : List (Nat × Nat)) (hlen : rawTuple.length = n)
    (hr : SpF2.inRange rawTuple = true) : (randCliffordGroup n rawBits rawTuple).colSp = true :=
  randCliffordGroup_colSp n rawBits rawTuple hlen hr

/-- … hence it acts on the Pauli group as a phase-exact automorphism (C07 `apply_hom`) -/
theorem rand_Clifford_group_automorphism (n rawBits : Nat) (rawTuple : List (Nat × Nat)) (hlen : rawTuple.length = n)
    (hr : SpF2.inRange rawTuple = true) (a b : PauliB) :
    applyOnPauli (mulB n a b) (randCliffordGroup n rawBits rawTuple) =
      mulB n (applyOnPauli a (randCliffordGroup n rawBits rawTuple))
        (applyOnPauli b (randCliffordGroup n rawBits rawTuple)) :=
  apply_mulB (randCliffordGroup n rawBits rawTuple) (randCliffordGroup_colSp n rawBits rawTuple hlen hr) a b

section pauli
variable {n : Nat} {R : Type} [CommRing R] [StarRing R]

/-- flipping the sign bit `s0` negates the matrix -/
theorem mat_flip_s0 {I : R} (hI : I * I = -1) (p : Pauli n) :
    C08.mat I { p with s0 := !p.s0 } = - C08.mat I p := by
  ext b' b
  rw [Matrix.neg_apply, C08.mat_apply hI, C08.mat_apply hI]
  by_cases h : b' = Bits.xor b p.x
  · simp only [h, if_true, Pauli.phaseExp]
    have h2 : I ^ 2 = -1 := by rw [pow_two, hI]
    cases p.s0 <;> simp [pow_add, h2]
  · simp [h]

/-- **`rand_pauli(is_hermitian=True)` returns a Hermitian operator for every raw draw** (C08 `hermitian_iff`) -/
theorem rand_pauli_hermitian {I : R} (hI : I * I = -1) (hs : star I = -I) (h2 : (1 : R) ≠ -1) (raw : Pauli n) :
    (C08.mat I (randPauliPost (some true) raw)).conjTranspose = C08.mat I (randPauliPost (some true) raw) := by
  rw [C08.hermitian_iff hI hs h2]
  simp [randPauliPost, Pauli.hermitianFlag]

/-- **`rand_pauli(is_hermitian=False)` returns an anti-Hermitian operator for every raw draw** -/
theorem rand_pauli_antihermitian {I : R} (hI : I * I = -1) (hs : star I = -I) (raw : Pauli n) :
    (C08.mat I (randPauliPost (some false) raw)).conjTranspose = - C08.mat I (randPauliPost (some false) raw) := by
  rw [C08.mat_conjTranspose hI hs, ← mat_flip_s0 hI]
  congr 1
  simp only [randPauliPost, Pauli.inv]
  congr 1
  generalize Bits.dotN raw.x raw.z = A
  rcases Nat.mod_two_eq_zero_or_one A with h | h <;> cases raw.s0 <;> simp [h] <;> omega

/-- `rand_pauli(is_hermitian=None)` returns the raw draw; only `F2[1]` is ever changed -/
theorem rand_pauli_only_s1 (req : Option Bool) (raw : Pauli n) :
    (randPauliPost req raw).s0 = raw.s0 ∧ (randPauliPost req raw).x = raw.x ∧ (randPauliPost req raw).z = raw.z ∧
      randPauliPost none raw = raw := by
  rcases req with _ | _ | _ <;> simp [randPauliPost]

end pauli

/-! non-vacuity -/
example : SpF2.inRange [(2, 1), (14, 7)] = true := by decide
example : (randCliffordGroup 1 3 [(2, 1)]).colSp = true := by decide
/-- raw draw `+X`, request anti-Hermitian: `F2[1]` is set (`iX`) -/
example : (randPauliPost (some false) (Pauli.ofF2List 1 [false, false, true, false])).toF2List
    = [false, true, true, false] := by decide

end Numqi.C10F2
