/-
C20 — matrix-subspace decomposition is exact and rank certificates are sound.

Property theorems with their proofs (shared lemmas: `NumqiProofs/MatrixSpace*.lean`).
All statements are about the constants of `NumqiModel/MatrixSpace.lean` that `Driver/C20.lean` executes and about
the comparison operators regenerated from the source (`NumqiModel/Generated/Thresholds20.lean`) — those theorems live in
`NumqiProps/C20Decision.lean`, so that a change of the generated data cannot take the theorems of this file down.
External routines enter as hypotheses ("contracts"): svd/eigh (orthonormal output), eigvalsh/eigsh (Rayleigh bound),
`minimize_scalar` (returns a value of its objective), `eigvalsh` of the Gram matrix (0 for a singular PSD matrix).
-/
import NumqiProofs.MatrixSpaceLemmas
import NumqiProofs.MatrixSpaceMinors
import NumqiProofs.MatrixSpaceCombos
import NumqiProofs.MatrixSpaceLevel2
import NumqiProofs.MatrixSpaceTripartite
import NumqiProofs.MatrixSpaceTripartite2
import NumqiProofs.MatrixSpaceDense
import NumqiProofs.MatrixSpaceOrth
import NumqiProofs.MatrixSpaceGellmann
import NumqiProofs.MatrixSpaceChain
import Mathlib.Data.List.Sort
import Mathlib.Data.Real.Basic

namespace Numqi.C20
open Numqi Numqi.MatrixSpace Finset

/-! ## 1. index layer: the tables of the hierarchy, for every size -/

/-- `get_antisymmetric_basis_index(dim, r)[2]` has `C(dim, r)` columns. -/
theorem antisymIndex_length (d r : Nat) : (antisymIndex d r).length = d.choose r := by
  simp [antisymIndex, combos_length]

/-- **sorted and complete**: the columns are exactly the strictly increasing `r`-tuples below `dim` … -/
theorem antisymIndex_mem_iff (d r : Nat) (x : List Nat) :
    x ∈ antisymIndex d r ↔ x.Pairwise (· < ·) ∧ (∀ i ∈ x, i < d) ∧ x.length = r := by
  unfold antisymIndex
  rw [mem_combos]
  constructor
  · rintro ⟨hs, hl⟩
    exact ⟨List.pairwise_lt_range.sublist hs, fun i hi => List.mem_range.1 (hs.subset hi), hl⟩
  · rintro ⟨hp, hm, hl⟩
    refine ⟨?_, hl⟩
    have hnd : x.Nodup := hp.imp (fun h => Nat.ne_of_lt h)
    exact List.sublist_of_subperm_of_pairwise (hnd.subperm fun i hi => List.mem_range.2 (hm i hi)) hp List.pairwise_lt_range

/-- … each exactly once. -/
theorem antisymIndex_nodup (d r : Nat) : (antisymIndex d r).Nodup :=
  combos_nodup List.nodup_range r

/-- `get_symmetric_basis_index(dim, r)[2]` has `C(dim+r-1, r)` columns. -/
theorem symIndex_length (d r : Nat) : (symIndex d r).length = Nat.multichoose d r := by
  simp [symIndex, combosRep_length]

/-- the linear system of `has_rank_hierarchical_method(·, rank, k)` on `N` generators has
`multichoose N (rank-1+k)` vectors (`TAlpha.shape[0]`). -/
theorem hierarchyIndices_length (N rank k : Nat) :
    (hierarchyIndices N rank k).length = Nat.multichoose N (rank - 1 + k) := by
  simp [hierarchyIndices, combosRep_length]

/-- **sorted and complete**, symmetric side: the multi-indices of the linear system are exactly the non-decreasing tuples of
generator labels below `N` -/
theorem hierarchyIndices_mem_iff (N rank k : Nat) (x : List Nat) :
    x ∈ hierarchyIndices N rank k ↔ x.length = rank - 1 + k ∧ x.Pairwise (· ≤ ·) ∧ ∀ i ∈ x, i < N :=
  mem_combosRep_range N (rank - 1 + k) x

/-- and the columns of `get_symmetric_basis_index(dim, r)[2]` are the non-decreasing `r`-tuples below `dim` -/
theorem symIndex_mem_iff (d r : Nat) (x : List Nat) :
    x ∈ symIndex d r ↔ x.length = r ∧ x.Pairwise (· ≤ ·) ∧ ∀ i ∈ x, i < d :=
  mem_combosRep_range d r x

/-! ## 2. structure classes: dimension counts and index shuffles, all sizes -/

/-- the coordinate length used in each branch equals the dimension of the structured space:
`n(n+1)/2` (symmetric, over ℝ or ℂ), `mn`, `n²` (Hermitian over ℝ), `n(n+1)` (complex symmetric over ℝ),
`2mn` (complex over ℝ). -/
theorem coordLen_closed_form (m n : Nat) :
    coordLen .R_T n m = n * (n + 1) / 2 ∧ coordLen .C_T n m = n * (n + 1) / 2
    ∧ coordLen .R m n = m * n ∧ coordLen .C m n = m * n ∧ coordLen .C_H n m = n * n
    ∧ coordLen .R_cT n m = n * (n + 1) ∧ coordLen .R_c m n = 2 * m * n := by
  have h := nOff_add_self n
  have h2 := sq_sub_two_nOff n
  have h3 : n * (n + 1) / 2 * 2 = n * (n + 1) := Nat.div_mul_cancel (Nat.even_mul_succ_self n).two_dvd
  refine ⟨?_, ?_, rfl, rfl, rfl, ?_, rfl⟩
  · simp only [coordLen, h2]; exact h
  · simp only [coordLen, h2]; exact h
  · simp only [coordLen, h2]; omega

/-- **dimensions add up**: a rank-`k` basis and the complement returned for it fill the structured space. -/
theorem dims_add_up (coord k : Nat) (hk : k ≤ coord) : k + complementCount coord k = coord := by
  unfold complementCount; split <;> omega

/-- coordinate selection ∘ zero-block embedding = id (the round trip of every symmetric branch) … -/
theorem symSelect_symEmbed {α : Type} [Zero α] (n : Nat) (x : List α) (h : x.length = nOff n + n) :
    symSelect n (symEmbed n x) = x :=
  MatrixSpace.symSelect_symEmbed n x (by omega)

/-- … and embedding ∘ selection = id on coordinate vectors whose antisymmetric block vanishes
(what `assert np.abs(aA).max() < zero_eps` checks). -/
theorem symEmbed_symSelect {α : Type} [Zero α] (n : Nat) (v : List α) (hlen : v.length = n * n)
    (hz : (v.drop (nOff n)).take (nOff n) = List.replicate (nOff n) 0) :
    symEmbed n (symSelect n v) = v := by
  refine MatrixSpace.symEmbed_symSelect n v ?_ hz
  have := two_mul_nOff n
  have : n * (n - 1) ≤ n * n := Nat.mul_le_mul_left _ (Nat.sub_le _ _)
  omega

/-- real/imag stacking of the complex-symmetric-over-ℝ branch is undone by `x[:, :h] + 1j*x[:, h:]`. -/
theorem rcTUnstack_rcTStack {α : Type} [Zero α] (n : Nat) (vre vim : List α)
    (hre : vre.length = n * n) (him : vim.length = n * n)
    (hzr : (vre.drop (nOff n)).take (nOff n) = List.replicate (nOff n) 0)
    (hzi : (vim.drop (nOff n)).take (nOff n) = List.replicate (nOff n) 0) :
    rcTUnstack n (rcTStack n vre vim) = (vre, vim) := by
  have h2 := two_mul_nOff n
  have hle : n * (n - 1) ≤ n * n := Nat.mul_le_mul_left _ (Nat.sub_le _ _)
  have hsq := sq_sub_two_nOff n
  have hh : (n * n + n) / 2 = nOff n + n := by
    have := nOff_add_self n; rw [this]; congr 1
  have hl : (symSelect n vre).length = (n * n + n) / 2 := by
    rw [hh]; simp only [symSelect, List.length_append, List.length_take, List.length_drop, hre]
    omega
  unfold rcTUnstack rcTStack
  simp only
  rw [← hl, List.take_left, List.drop_left]
  rw [symEmbed_symSelect n vre hre hzr, symEmbed_symSelect n vim him hzi]

/-- `concatenate([re, im], axis=2).reshape(2·N1·N2)` is undone by `reshape(N1, 2·N2)` + column split. -/
theorem rcUnflatten_rcFlatten {α : Type} [Zero α] (N1 N2 : Nat) (re im : Nat → Nat → α) (a b : Nat)
    (ha : a < N1) (hb : b < N2) :
    (rcUnflatten N1 N2 (rcFlatten N1 N2 re im)).1 a b = re a b
    ∧ (rcUnflatten N1 N2 (rcFlatten N1 N2 re im)).2 a b = im a b := by
  unfold rcUnflatten rcFlatten
  constructor
  · have := getD_flatMap_range (0 : α) N1 (2 * N2) (fun a b => if b < N2 then re a b else im a (b - N2)) a b ha (by omega)
    simp only at this ⊢
    rw [this, if_pos hb]
  · have := getD_flatMap_range (0 : α) N1 (2 * N2) (fun a b => if b < N2 then re a b else im a (b - N2)) a (N2 + b) ha (by omega)
    simp only at this ⊢
    rw [Nat.add_assoc, this, if_neg (by omega)]
    congr 1; omega

/-- **the block form keeps orthogonality and gives one common norm**: for the real `(2N1)×(2N2)` matrices
`np.block([[r,-i],[i,r]])`, `⟨X, Y⟩_F = 2·Re tr(A†B)`.  So a family that is orthonormal for `Re tr(A†B)` is returned as a
mutually orthogonal family of common squared norm 2. -/
theorem blockRealify_inner {R : Type} [CommRing R] (N1 N2 : Nat) (re im re' im' : Nat → Nat → R) :
    ∑ p ∈ range (2 * N1), ∑ q ∈ range (2 * N2),
        blockRealify N1 N2 re im p q * blockRealify N1 N2 re' im' p q
      = 2 * ∑ a ∈ range N1, ∑ b ∈ range N2, (re a b * re' a b + im a b * im' a b) := by
  rw [two_mul, two_mul]; exact MatrixSpace.blockRealify_inner N1 N2 re im re' im'

/-! ## 3. the real rank-one detector -/

section rankone
variable {R : Type} [CommRing R]

/-- **for real product vectors the partial transpose is invisible**: `⟨u⊗v|M^Γ|u⊗v⟩ = ⟨u⊗v|M|u⊗v⟩`, all dimensions. -/
theorem quadForm_ptB (dA dB : Nat) (f : Nat → Nat → Nat → Nat → R) (u v : Nat → R) :
    quadForm dA dB (ptB f) u v = quadForm dA dB f u v :=
  quad4_ptB_prod dA dB f u v

/-- hence along the whole segment `p·M + (1-p)·M^Γ` the value on a real product vector does not depend on `p`. -/
theorem quadForm_mixPT (dA dB : Nat) (p : R) (f : Nat → Nat → Nat → Nat → R) (u v : Nat → R) :
    quadForm dA dB (mixPT p f) u v = quadForm dA dB f u v := by
  unfold quadForm
  rw [quad4_mixPT, quad4_ptB_prod]; ring

/-- `projector = Bᵀ B`: its quadratic form is the sum of squared overlaps with the basis matrices. -/
theorem quad4_projector (dA dB K : Nat) (B : Nat → Nat → Nat → R) (x : Nat → Nat → R) :
    quad4 dA dB (projector K B) x = ∑ k ∈ range K, (∑ a ∈ range dA, ∑ b ∈ range dB, B k a b * x a b) ^ 2 := by
  rw [quad4_pairs]
  simp only [projector_eq]
  have := quad_gram (range dA ×ˢ range dB) (range K) (fun k (p : Nat × Nat) => B k p.1 p.2) (fun p => x p.1 p.2)
  rw [this]
  exact sum_congr rfl fun k _ => by rw [Finset.sum_product]

/-- **`real_rank_one_bound`**: if the span of the orthonormal real basis `B_0..B_{K-1}` contains the rank-one matrix `u vᵀ`
of Frobenius norm one, then `⟨u⊗v|(p·P + (1-p)·P^Γ)|u⊗v⟩ = 1` for the projector `P` and **every** `p`. -/
theorem rank_one_bound (dA dB K : Nat) (B : Nat → Nat → Nat → R) (u v : Nat → R) (c : Nat → R) (p : R)
    (hspan : ∀ a < dA, ∀ b < dB, u a * v b = ∑ k ∈ range K, c k * B k a b)
    (horth : ∀ k < K, ∀ l < K, ∑ a ∈ range dA, ∑ b ∈ range dB, B k a b * B l a b = if k = l then 1 else 0)
    (hnorm : ∑ a ∈ range dA, ∑ b ∈ range dB, (u a * v b) ^ 2 = 1) :
    quadForm dA dB (mixPT p (projector K B)) u v = 1 := by
  rw [quadForm_mixPT]
  unfold quadForm
  rw [quad4_projector]
  have hP := parseval_span (range dA ×ˢ range dB) (range K) (fun k (q : Nat × Nat) => B k q.1 q.2)
    (fun q => u q.1 * v q.2) c
    (by intro q hq; rw [Finset.mem_product, Finset.mem_range, Finset.mem_range] at hq; exact hspan _ hq.1 _ hq.2)
    (by intro k hk l hl; rw [Finset.sum_product]; exact horth k (Finset.mem_range.1 hk) l (Finset.mem_range.1 hl))
  rw [Finset.sum_product] at hP
  calc ∑ k ∈ range K, (∑ a ∈ range dA, ∑ b ∈ range dB, B k a b * (u a * v b)) ^ 2
      = ∑ k ∈ range K, c k ^ 2 := by
        refine sum_congr rfl fun k hk => ?_
        have := hP.1 k hk
        rw [Finset.sum_product] at this
        rw [this]
    _ = 1 := by rw [← hP.2, hnorm]

end rankone

/-- **the exact value of `upper_bound` is at least 1** whenever the real subspace contains a rank-one element.
Contracts: `lam p` bounds the Rayleigh quotient of `p·P+(1-p)·P^Γ` from above (`eigvalsh(...)[-1]` / `eigsh(which='LA')`),
and `minimize_scalar` returns a value `lam p₀` of its objective. -/
theorem rank_one_upper_bound_ge_one (dA dB K : Nat) (B : Nat → Nat → Nat → ℝ) (u v c : Nat → ℝ)
    (hspan : ∀ a < dA, ∀ b < dB, u a * v b = ∑ k ∈ range K, c k * B k a b)
    (horth : ∀ k < K, ∀ l < K, ∑ a ∈ range dA, ∑ b ∈ range dB, B k a b * B l a b = if k = l then 1 else 0)
    (hnorm : ∑ a ∈ range dA, ∑ b ∈ range dB, (u a * v b) ^ 2 = 1)
    (lam : ℝ → ℝ) (upper_bound : ℝ)
    (heig : ∀ p : ℝ, ∀ x : Nat → Nat → ℝ, ∑ a ∈ range dA, ∑ b ∈ range dB, x a b ^ 2 = 1 →
      quad4 dA dB (mixPT p (projector K B)) x ≤ lam p)
    (hmin : ∃ p₀, upper_bound = lam p₀) : 1 ≤ upper_bound := by
  obtain ⟨p₀, rfl⟩ := hmin
  have h1 := rank_one_bound dA dB K B u v c p₀ hspan horth hnorm
  have h2 := heig p₀ (fun a b => u a * v b) hnorm
  unfold quadForm at h1
  linarith

/-! ## 4. decision layer: `NumqiProps/C20Decision.lean` (the only file that imports the generated comparisons) -/

/-! ## 5. numerical range -/

/-- `y†(wA + w̄A†)y = w·y†Ay + conj(w·y†Ay)`, any size, any commutative star ring. -/
theorem rayleigh_hermPart {R : Type} [CommRing R] [StarRing R] (n : Nat) (w : R) (A : Nat → Nat → R) (y : Nat → R) :
    rayleigh n (hermPart w A) y = w * rayleigh n A y + star (w * rayleigh n A y) :=
  MatrixSpace.rayleigh_hermPart n w A y

/-- **`numerical_range_support`**: let `x` be the vector returned by the eigen-solver for
`H = (e^{iθ}A + e^{-iθ}A†)/2` (`w = e^{iθ}/2`), with the `eigh`/`eigsh` contract that `x` maximises the Rayleigh quotient of `H`
over unit vectors.  Then the returned point `z = x†Ax` attains the support function of the numerical range in direction θ:
`Re(2w·y†Ay) ≤ Re(2w·z)` for every unit `y`. -/
theorem numerical_range_support (n : Nat) (w : ℂ) (A : Nat → Nat → ℂ) (x : Nat → ℂ)
    (heig : ∀ y : Nat → ℂ, ∑ i ∈ range n, Complex.normSq (y i) = 1 →
      (rayleigh n (hermPart w A) y).re ≤ (rayleigh n (hermPart w A) x).re)
    (y : Nat → ℂ) (hy : ∑ i ∈ range n, Complex.normSq (y i) = 1) :
    (2 * w * rayleigh n A y).re ≤ (2 * w * rayleigh n A x).re := by
  have h := heig y hy
  rw [rayleigh_hermPart, rayleigh_hermPart] at h
  have e : ∀ z : ℂ, (z + star z).re = (2 * z).re := by
    intro z; simp [Complex.add_re, Complex.mul_re]; ring
  rw [e, e] at h
  simpa [mul_assoc] using h

/-! ## 6. the hierarchy at level `k = 1`: polarised minors -/

section hierarchy
variable {R : Type} [CommRing R]

/-- the table checks hold for every minor size the property's range (matrices up to 5×5) can reach -/
theorem tablesOK_le_five (q : ℕ) (h1 : 1 ≤ q) (h5 : q ≤ 5) : TablesOK q :=
  tablesOK_of_check (tablesCheck_le_five q (by omega) h1)

/-- **the model of `tensor2d_project_to_antisym_basis` is the polarised minor map**: for a sorted multi-index `INDEX` of
length `q ≤ 5`, every entry of the (`q!`-scaled) output — the coset-reduced sum over the rows of
`permutation_with_antisymmetric_factor(INDEX)` — equals the full signed double sum over `S_q × S_q`. All matrix sizes. -/
theorem antisymProject_eq_polMinor {q : ℕ} (h1 : 1 ≤ q) (h5 : q ≤ 5) (mats : ℕ → ℕ → ℕ → R)
    (INDEX rows cols : List ℕ) (hlen : INDEX.length = q) (hs : INDEX.Pairwise (· ≤ ·)) :
    polMinorScaled mats INDEX (antisymFactorTable INDEX) (antisymFactorTableInt q) rows cols
      = polMinor (fun m : Fin q => mats (INDEX.getD m.val 0)) (fun i => rows.getD i.val 0) (fun i => cols.getD i.val 0) :=
  polMinorScaled_sorted (tablesOK_le_five q h1 h5) mats INDEX rows cols hlen h1 hs

/-- with all arguments equal it is `q!` times the `q × q` minor -/
theorem polMinor_diag (q : ℕ) (M : ℕ → ℕ → R) (I J : Fin q → ℕ) :
    polMinor (fun _ => M) I J = (q.factorial : R) * (subMat M I J).det :=
  MatrixSpace.polMinor_diag M I J

/-- **linear relation among the vectors of the `k = 1` system**, any `q` whose tables pass the check: if the `q × q` minor of
`M = Σ_i c_i S_i` on rows `rows`, columns `cols` vanishes, the corresponding entries of the model's vectors
`v_α = q!·tensor2d_project_to_antisym_basis(S, α)` (α the sorted multi-index of `t`) satisfy `Σ_t (∏_m c_{t m}) · v_{α(t)} = 0`.
Grouping equal multi-indices, the coefficient of `v_{(i,…,i)}` is `c_i^q`, so the relation is non-trivial when `c ≠ 0`. -/
theorem hierarchy_k1_relation_of_tables {q N : ℕ} (hT : TablesOK q) (hq : 0 < q) (c : Fin N → R)
    (mats : ℕ → ℕ → ℕ → R) (rows cols : List ℕ)
    (hminor : (subMat (fun r s => ∑ i : Fin N, c i * mats i.val r s)
        (fun i : Fin q => rows.getD i.val 0) (fun i => cols.getD i.val 0)).det = 0) :
    ∑ t : Fin q → Fin N, (∏ m, c (t m)) *
        polMinorScaled mats (sortedIndex t) (antisymFactorTable (sortedIndex t)) (antisymFactorTableInt q) rows cols = 0 := by
  rw [← polMinor_dependence c (fun i => mats i.val) _ _ hminor]
  refine Finset.sum_congr rfl fun t _ => ?_
  rw [polMinorScaled_sorted hT mats _ rows cols (sortedIndex_length t) hq (sortedIndex_sorted t)]
  congr 1
  rw [sortedIndex_comp]
  exact polMinor_perm (fun m' : Fin q => mats (t m').val) _ _ (Tuple.sort t)

/-- the multi-indices occurring in the relation are sorted tuples of generator labels of length `q` -/
theorem sortedIndex_spec {q N : ℕ} (t : Fin q → Fin N) :
    (sortedIndex t).length = q ∧ (sortedIndex t).Pairwise (· ≤ ·) ∧ ∀ i ∈ sortedIndex t, i < N :=
  ⟨sortedIndex_length t, sortedIndex_sorted t, sortedIndex_lt t⟩

/-- so every multi-index occurring in the relation labels a vector of the model's `k = 1` family -/
theorem sortedIndex_mem_hierarchyIndices {q N : ℕ} (hq : 0 < q) (t : Fin q → Fin N) :
    sortedIndex t ∈ hierarchyIndices N q 1 := by
  rw [hierarchyIndices_mem_iff]
  exact ⟨by rw [sortedIndex_length]; omega, sortedIndex_sorted t, sortedIndex_lt t⟩

/-- **`hierarchy_sound`, level `k = 1`, minors up to `5 × 5`** (everything reachable with matrices up to 5×5): if a
combination `M = Σ_i c_i S_i` has rank `≤ r` — it factors as `X·Y` through `r` columns — and `q = r+1 ≤ 5`, then on every
choice of `q` rows and `q` columns the vectors of the linear system of `has_rank_hierarchical_method(S, rank = q, k = 1)` satisfy
the linear relation above.  Hence the Gram matrix `matAAT` is singular whenever the subspace contains a non-zero element of
rank `< rank`; with the `eigvalsh` contract and `hierarchyCert_sound` the positive answer is not issued. -/
theorem hierarchy_sound_k1_le_five {K : Type} [Field K] {q r N dA dB : ℕ} (hr : r < q) (h5 : q ≤ 5)
    (c : Fin N → K) (mats : ℕ → ℕ → ℕ → K)
    (X : ℕ → Fin r → K) (Y : Fin r → ℕ → K)
    (hrank : ∀ a < dA, ∀ b < dB, ∑ i : Fin N, c i * mats i.val a b = ∑ s : Fin r, X a s * Y s b)
    (rows cols : List ℕ) (hrows : rows ∈ antisymIndex dA q) (hcols : cols ∈ antisymIndex dB q) :
    ∑ t : Fin q → Fin N, (∏ m, c (t m)) *
        polMinorScaled mats (sortedIndex t) (antisymFactorTable (sortedIndex t)) (antisymFactorTableInt q) rows cols = 0 := by
  have hq : 0 < q := by omega
  exact hierarchy_k1_relation_of_tables (tablesOK_le_five q hq h5) hq c mats rows cols
    (subMat_det_eq_zero hr _ X Y hrank rows cols hrows hcols)

/-- the statement for every minor size: it holds as soon as the (decidable) table check `TablesOK q` does, which the kernel
has evaluated for `q ≤ 5` only — **named gap**: `TablesOK q` for `q ≥ 6` (matrices larger than the property's range). -/
def HierarchySoundK1.Statement : Prop :=
  ∀ (K : Type) [Field K] (q r N dA dB : ℕ), r < q →
    ∀ (c : Fin N → K) (mats : ℕ → ℕ → ℕ → K) (X : ℕ → Fin r → K) (Y : Fin r → ℕ → K),
      (∀ a < dA, ∀ b < dB, ∑ i : Fin N, c i * mats i.val a b = ∑ s : Fin r, X a s * Y s b) →
      ∀ rows ∈ antisymIndex dA q, ∀ cols ∈ antisymIndex dB q,
        ∑ t : Fin q → Fin N, (∏ m, c (t m)) *
          polMinorScaled mats (sortedIndex t) (antisymFactorTable (sortedIndex t)) (antisymFactorTableInt q) rows cols = 0

/-- the statement reduces to the table check -/
theorem hierarchySoundK1_of_tables (h : ∀ q, 0 < q → TablesOK q) : HierarchySoundK1.Statement := by
  intro K _ q r N dA dB hr c mats X Y hrank rows hrows cols hcols
  have hq : 0 < q := by omega
  exact hierarchy_k1_relation_of_tables (h q hq) hq c mats rows cols (subMat_det_eq_zero hr _ X Y hrank rows cols hrows hcols)

end hierarchy

/-! ## 7. the hierarchy at level `k = 2`, and the statement for every level -/

section level2
variable {R : Type} [CommRing R]

/-- the sub-tuple enumeration `combinations(range(q+1), q)` leaves out every position exactly once, `q ≤ 5` (kernel-evaluated) -/
theorem subsetsOK_le_five (q : ℕ) (h1 : 1 ≤ q) (h5 : q ≤ 5) : SubsetsOK q := MatrixSpace.subsetsOK_le_five q h1 h5

/-- **the model's level-2 vector entry is the full symmetrised form** `Σ_m polMinor(generators without slot m)[rows, cols] ·
S_m[K]`, for every sorted multi-index of length `q+1`, `q ≤ 5`, all matrix sizes and any number of generators (including the
`len(np_list) == 1` shortcut of `project_to_symmetric_basis`). -/
theorem hierVecEntry_level2_eq {q N : ℕ} (h1 : 1 ≤ q) (h5 : q ≤ 5) (mats : ℕ → ℕ → ℕ → R) (dB : ℕ)
    (INDEX rows cols : List ℕ) (K : ℕ) (hlen : INDEX.length = q + 1) (hs : INDEX.Pairwise (· ≤ ·)) (hlt : ∀ i ∈ INDEX, i < N) :
    hierVecEntry mats dB N q INDEX rows cols [K]
      = polW (fun m : Fin (q + 1) => mats (INDEX.getD m.val 0)) (fun i => rows.getD i.val 0) (fun i => cols.getD i.val 0)
          (K / dB) (K % dB) :=
  hierVecEntry_level2 (tablesOK_le_five q h1 h5) (subsetsOK_le_five q h1 h5) h1 mats dB INDEX rows cols K hlen hs hlt

/-- **level-2 relation among the vectors of `has_rank_hierarchical_method(·, rank = q, hierarchy_k = 2)`**: if the `q × q`
minor of `M = Σ_i c_i S_i` on `rows`, `cols` vanishes then, for every symmetric index `K`,
`Σ_t (∏_m c_{t m}) · v_{α(t)}[rows, cols, K] = 0` (`t` over all `(q+1)`-tuples of generator labels, `α(t)` its sorted multi-index);
the coefficient of `v_{(i,…,i)}` is `c_i^{q+1}`. Holds for every `q` whose tables pass the checks. -/
theorem hierarchy_k2_relation_of_tables {q N : ℕ} (hT : TablesOK q) (hS : SubsetsOK q) (hq : 0 < q) (c : Fin N → R)
    (mats : ℕ → ℕ → ℕ → R) (dB : ℕ) (rows cols : List ℕ) (K : ℕ)
    (hminor : (subMat (fun r s => ∑ i : Fin N, c i * mats i.val r s)
        (fun i : Fin q => rows.getD i.val 0) (fun i => cols.getD i.val 0)).det = 0) :
    ∑ t : Fin (q + 1) → Fin N, (∏ m, c (t m)) * hierVecEntry mats dB N q (sortedIndex t) rows cols [K] = 0 := by
  rw [← polW_dependence c (fun i => mats i.val) _ _ (K / dB) (K % dB) hminor]
  refine Finset.sum_congr rfl fun t _ => ?_
  rw [hierVecEntry_level2 hT hS hq mats dB _ rows cols K (sortedIndex_length t) (sortedIndex_sorted t) (sortedIndex_lt t)]
  congr 1
  rw [sortedIndex_comp]
  exact polW_perm (fun m' : Fin (q + 1) => mats (t m').val) _ _ _ _ (Tuple.sort t)

/-- **`hierarchy_sound`, level `k = 2`, minors up to `5 × 5`**: a combination of rank `≤ r` (`q = r+1 ≤ 5`) forces the level-2
relation on every choice of rows, columns and symmetric index. -/
theorem hierarchy_sound_k2_le_five {K' : Type} [Field K'] {q r N dA dB : ℕ} (hr : r < q) (h5 : q ≤ 5)
    (c : Fin N → K') (mats : ℕ → ℕ → ℕ → K') (X : ℕ → Fin r → K') (Y : Fin r → ℕ → K')
    (hrank : ∀ a < dA, ∀ b < dB, ∑ i : Fin N, c i * mats i.val a b = ∑ s : Fin r, X a s * Y s b)
    (rows cols : List ℕ) (hrows : rows ∈ antisymIndex dA q) (hcols : cols ∈ antisymIndex dB q) (K : ℕ) :
    ∑ t : Fin (q + 1) → Fin N, (∏ m, c (t m)) * hierVecEntry mats dB N q (sortedIndex t) rows cols [K] = 0 := by
  have hq : 0 < q := by omega
  exact hierarchy_k2_relation_of_tables (tablesOK_le_five q hq h5) (subsetsOK_le_five q hq h5) hq c mats dB rows cols K
    (subMat_det_eq_zero hr _ X Y hrank rows cols hrows hcols)

/-- the relation for **every level `k ≥ 1` and every minor size** (`n = q + k - 1` slots, symmetric index `K` of length `k-1`):
the model of the whole vector family is `hierVecEntry` (tied exactly to the implementation for `k ≤ 4`); proved above for
`k = 1` (`hierarchy_sound_k1_le_five`, `K = []`) and `k = 2` (`hierarchy_sound_k2_le_five`), `q ≤ 5`.
**Named gap**: `k ≥ 3` (needs the transversal property of the symmetric table for tuples of length `k-1 ≥ 2` and the
partition of the slots into a `q`-subset and its complement as an equivalence), and `q ≥ 6`. -/
def HierarchySoundLevelK.Statement : Prop :=
  ∀ (F : Type) [Field F] (q r k N dA dB : ℕ), r < q → 1 ≤ k →
    ∀ (c : Fin N → F) (mats : ℕ → ℕ → ℕ → F) (X : ℕ → Fin r → F) (Y : Fin r → ℕ → F),
      (∀ a < dA, ∀ b < dB, ∑ i : Fin N, c i * mats i.val a b = ∑ s : Fin r, X a s * Y s b) →
      ∀ rows ∈ antisymIndex dA q, ∀ cols ∈ antisymIndex dB q, ∀ K ∈ symPartKeys N (dA * dB) (k - 1),
        ∑ t : Fin (q + (k - 1)) → Fin N, (∏ m, c (t m)) * hierVecEntry mats dB N q (sortedIndex t) rows cols K = 0

end level2

/-! ## 7b. the dense (anti)symmetric bases (`get_antisymmetric_basis`, `get_symmetric_basis`; ops `asbasis`, `symbasis`) -/

section dense

/-- the dense bases have `C(d,r)` resp. multichoose`(d,r)` rows, every `d`, `r` -/
theorem denseBases_row_counts (d r : ℕ) :
    (antisymBasisDense d r).length = d.choose r ∧ (symBasisDense d r).length = Nat.multichoose d r :=
  ⟨(antisymBasisDense_length d r).trans (antisymIndex_length d r), (symBasisDense_length d r).trans (symIndex_length d r)⟩

/-- **the dense bases are orthonormal**: in the signed-square encoding every antisymmetric row has entries `0, ±1` with `r!` non-zero
ones (the implementation's entries are `±1/√r!`: unit norm), every symmetric row sums to `r!` (`Σ entry² = Σ ∏count!/r! = 1`), and
distinct rows have disjoint supports.  Full statement for all `d`, `r`; proved below for the sizes the kernel evaluates. -/
def DenseBasesOrthonormal.Statement : Prop :=
  (∀ d r : ℕ, 0 < r → r ≤ d → AntisymDenseOK d r) ∧ (∀ d r : ℕ, 0 < r → 0 < d → SymDenseOK d r)

/-- `DenseBasesOrthonormal.Statement` for `d ≤ 5, r ≤ 3` (antisymmetric; `r = 2` is what `is_ABC_completely_entangled_subspace` uses
for its four projectors, up to local dimension 5) and `d ≤ 4, r ≤ 3` (symmetric) -/
theorem denseBasesOrthonormal_partial :
    (∀ d ∈ List.range 6, ∀ r ∈ List.range 4, 0 < r → r ≤ d → AntisymDenseOK d r) ∧
    (∀ d ∈ List.range 5, ∀ r ∈ List.range 4, 0 < r → 0 < d → SymDenseOK d r) :=
  ⟨antisymDense_small, symDense_small⟩

end dense

/-! ## 8. the tripartite test at level 1 -/

section tripartite
variable {R : Type} [CommRing R]

/-- the two matricisations are the plain row-major reshapes `(a, b·dC + c)` and `(a·dB + b, c)` of the `(dA,dB,dC)` tensor -/
theorem matricisations_apply (dB dC : ℕ) (T : ℕ → ℕ → ℕ → R) (a b c : ℕ) (hb : b < dB) (hc : c < dC) :
    matA_BC dC T a (b * dC + c) = T a b c ∧ matAB_C dB T (a * dB + b) c = T a b c :=
  ⟨matA_BC_apply dC T a b c hc, matAB_C_apply dB T a b c hb⟩

/-- both cuts vanish on a product tensor -/
theorem abcEntry_product (dB dC : ℕ) (x y z : ℕ → R) (a b c a' b' c' : ℕ) :
    abcEntry dB dC (fun a b c => x a * y b * z c) (fun a b c => x a * y b * z c) a b c a' b' c' = 0 :=
  MatrixSpace.abcEntry_product dB dC x y z a b c a' b' c'

/-- **soundness of `is_ABC_completely_entangled_subspace` at level 1**: if the span of the generators `S_i` contains a product
vector `Σ_i c_i S_i = x ⊗ y ⊗ z`, the vectors `v_{(i,j)}` (`i ≤ j`) of its linear system satisfy, entry by entry,
`Σ_{i,j} c_i c_j v_{(min(i,j), max(i,j))} = 0` — a non-trivial relation (coefficient `c_i²` on `v_{(i,i)}`), so the Gram matrix
`TAlphaBeta` has a kernel vector (`gram_has_kernel`) and, with the `eigvalsh` contract and `hierarchyCert_sound`, the positive
answer is not issued. All local dimensions. -/
theorem abc_sound_k1 {N : ℕ} (dB dC : ℕ) (c : Fin N → R) (S : Fin N → ℕ → ℕ → ℕ → R) (x y z : ℕ → R)
    (hprod : ∀ a b e, ∑ i, c i * S i a b e = x a * y b * z e) (a b e a' b' e' : ℕ) :
    ∑ i, ∑ j, c i * c j * abcEntry dB dC (S (min i j)) (S (max i j)) a b e a' b' e' = 0 := by
  have h0 := MatrixSpace.abcEntry_product dB dC x y z a b e a' b' e'
  have hfun : (fun a b e => ∑ i, c i * S i a b e) = fun a b e => x a * y b * z e := by
    funext a b e; exact hprod a b e
  rw [← hfun, abcEntry_bilinear] at h0
  rw [← h0]
  refine Finset.sum_congr rfl fun i _ => Finset.sum_congr rfl fun j _ => ?_
  rcases le_total i j with h | h
  · rw [min_eq_left h, max_eq_right h]
  · rw [min_eq_right h, max_eq_left h, abcEntry_symm]

/-- **the model's level-2 vector entry of the tripartite test is the symmetrised form** `Σ_m (A|BC + AB|C)(generators without slot m) ·
T_m[K]` (`abcW`), for every multi-index of length 3, all local dimensions, any number of generators (including the `len(np_list) == 1`
shortcut of `project_to_symmetric_basis`).  `abcLevelEntry` is what op `abcveck` executes. -/
theorem abcLevelEntry_level2_eq {N : ℕ} (dB dC : ℕ) (T : ℕ → ℕ → ℕ → ℕ → R) (INDEX : List ℕ) (a b c a' b' c' K : ℕ)
    (hlen : INDEX.length = 3) (hlt : ∀ i ∈ INDEX, i < N) :
    abcLevelEntry dB dC N T INDEX a b c a' b' c' [K]
      = abcW dB dC (fun m : Fin 3 => T (INDEX.getD m.val 0)) a b c a' b' c' K :=
  abcLevelEntry_level2 dB dC T INDEX a b c a' b' c' K hlen hlt

/-- **soundness of `is_ABC_completely_entangled_subspace` at level 2** (`hierarchy_k = 2`): if the span of the generators contains a
product vector `Σ_i c_i S_i = x ⊗ y ⊗ z`, the vectors `v_α` (`α` a sorted triple of generator labels) of its linear system satisfy, entry
by entry, `Σ_t (∏_m c_{t m}) · v_{α(t)} = 0` (`t` over all triples of labels, `α(t)` the sorted triple); the coefficient of `v_{(i,i,i)}` is
`c_i³`, so the relation is non-trivial and the Gram matrix `TAlphaBeta` is singular (`gram_has_kernel`, `certificate_not_issued`).
All local dimensions, any number of generators. -/
theorem abc_sound_k2 {N : ℕ} (dB dC : ℕ) (c : Fin N → R) (S : ℕ → ℕ → ℕ → ℕ → R) (x y z : ℕ → R)
    (hprod : ∀ a b e, ∑ i : Fin N, c i * S i.val a b e = x a * y b * z e) (a b e a' b' e' K : ℕ) :
    ∑ t : Fin 3 → Fin N, (∏ m, c (t m)) * abcLevelEntry dB dC N S (sortedIndex t) a b e a' b' e' [K] = 0 := by
  rw [← abcW_dependence dB dC c (fun i => S i.val) x y z hprod a b e a' b' e' K]
  refine Finset.sum_congr rfl fun t _ => ?_
  rw [abcLevelEntry_level2 dB dC S _ a b e a' b' e' K (sortedIndex_length t) (sortedIndex_lt t)]
  congr 1
  rw [sortedIndex_comp]
  exact abcW_perm dB dC (fun m' : Fin 3 => S (t m').val) a b e a' b' e' K (Tuple.sort t)

/-- the relation for **every level `k ≥ 1`** of the tripartite test (`n = 1 + k` slots, symmetric index `K` of length `k - 1`): the model
of the vector family is `abcLevelEntry` (tied exactly to the implementation for `k ≤ 3`, thorough tier `k ≤ 4`); proved above for `k = 1`
(`abc_sound_k1`) and `k = 2` (`abc_sound_k2`).  **Named gap**: `k ≥ 3` (same obstacle as `HierarchySoundLevelK.Statement`: the
transversal property of the symmetric table for tuples of length `k - 1 ≥ 2`). -/
def AbcSoundLevelK.Statement : Prop :=
  ∀ (F : Type) [Field F] (k N dA dB dC : ℕ), 1 ≤ k →
    ∀ (c : Fin N → F) (S : ℕ → ℕ → ℕ → ℕ → F) (x y z : ℕ → F),
      (∀ a b e, ∑ i : Fin N, c i * S i.val a b e = x a * y b * z e) →
      ∀ a b e a' b' e', ∀ K ∈ symPartKeys N (dA * dB * dC) (k - 1),
        ∑ t : Fin (1 + k) → Fin N, (∏ m, c (t m)) * abcLevelEntry dB dC N S (sortedIndex t) a b e a' b' e' K = 0

/-- **a linear relation among the vectors gives a kernel vector of the Gram matrix** on which both certificates decide
(`matAAT = T Tᴴ`, `TAlphaBeta`): `Σ_α d_α G[α,β] = 0` for every `β`. -/
theorem gram_has_kernel {F : Type} [CommRing F] [StarRing F] {ι κ : Type} [Fintype ι] [Fintype κ]
    (v : ι → κ → F) (d : ι → F) (hrel : ∀ x, ∑ α, d α * v α x = 0) (β : ι) :
    ∑ α, d α * ∑ x, v α x * star (v β x) = 0 :=
  gram_kernel_of_relation v d hrel β

end tripartite

/-! ## 9. `get_matrix_orthogonal_basis`: the three claims of the property from the `svd` / `eigh` contracts -/

section orth

/-- **`eigh` contract ⇒ complement ⟂ basis**: for orthonormal rows `V`, an eigenvector of `1 - VᵀV̄` for the eigenvalue 1
(a column of `EVC[:, N0:]`) is orthogonal to every row of `V` (`get_vector_orthogonal_basis`, `_misc.py:72-73`). -/
theorem complement_orth_of_eigen {F : Type} [Field F] [StarRing F] {L k : ℕ} (V : Fin k → Fin L → F)
    (hV : ∀ i j, dotS (V i) (V j) = if i = j then 1 else 0) (w : Fin L → F)
    (heig : ∀ p, w p - ∑ j, V j p * dotS (V j) w = w p) (l : Fin k) : dotS (V l) w = 0 :=
  MatrixSpace.complement_orth_of_eigen V hV w heig l

/-- **every branch**: if the map `Φ` from coordinate rows back to matrices is linear over the base field and multiplies inner
products by `κ`, then from the `svd` contract (rows `V` orthonormal, same span as the coordinate rows `X` of the input) and the
`eigh` contract (`W ⟂ V`): (1) the returned basis is mutually orthogonal with common squared norm `κ`; (2) it spans exactly the
span of the input; (3) the returned complement is orthogonal to the basis and to the input.  (`dims_add_up` is the count.)
For the Gell-Mann branches (`R_T`, `C_T`, `C_H`, `R_cT`) `Φ` is `gellmann_basis_to_matrix` after the zero-block embedding
(`symSelect_symEmbed`, `symEmbed_symSelect`: mutually inverse, the embedding only inserts zeros) with `κ = 2`
(`gellmann_synthesis_isometry`; instantiated for `C_H` in `orth_basis_C_H`), `κ = 4` after the block form. -/
theorem orth_basis_claims {F : Type} [Field F] [StarRing F] {E : Type} [AddCommGroup E] [Module F E] {L N0 k c : ℕ}
    (ip : E → E → F) (Φ : (Fin L → F) →ₗ[F] E) (κ : F) (hiso : ∀ x y, ip (Φ x) (Φ y) = κ * dotS x y)
    (X : Fin N0 → Fin L → F) (V : Fin k → Fin L → F) (W : Fin c → Fin L → F)
    (hV : ∀ i j, dotS (V i) (V j) = if i = j then 1 else 0)
    (hspan : Submodule.span F (Set.range V) = Submodule.span F (Set.range X))
    (hWV : ∀ i j, dotS (W i) (V j) = 0) :
    (∀ i j, ip (Φ (V i)) (Φ (V j)) = if i = j then κ else 0)
    ∧ Submodule.span F (Set.range fun i => Φ (V i)) = Submodule.span F (Set.range fun i => Φ (X i))
    ∧ (∀ i j, ip (Φ (W i)) (Φ (V j)) = 0) ∧ (∀ i j, ip (Φ (W i)) (Φ (X j)) = 0) :=
  MatrixSpace.orth_basis_claims ip Φ κ hiso X V W hV hspan hWV

/-- **branches `R` and `C`** (`x.reshape(N1,N2)`, any field: ℝ or ℂ): orthonormal basis (`κ = 1`), same span, orthogonal complement -/
theorem orth_basis_R_C {F : Type} [Field F] [StarRing F] {m n N0 k c : ℕ}
    (X : Fin N0 → Fin (m * n) → F) (V : Fin k → Fin (m * n) → F) (W : Fin c → Fin (m * n) → F)
    (hV : ∀ i j, dotS (V i) (V j) = if i = j then 1 else 0)
    (hspan : Submodule.span F (Set.range V) = Submodule.span F (Set.range X))
    (hWV : ∀ i j, dotS (W i) (V j) = 0) :
    (∀ i j, frob (reshapeL m n (V i)) (reshapeL m n (V j)) = if i = j then 1 else 0)
    ∧ Submodule.span F (Set.range fun i => reshapeL m n (V i)) = Submodule.span F (Set.range fun i => reshapeL m n (X i))
    ∧ (∀ i j, frob (reshapeL m n (W i)) (reshapeL m n (V j)) = 0)
    ∧ (∀ i j, frob (reshapeL m n (W i)) (reshapeL m n (X j)) = 0) :=
  MatrixSpace.orth_basis_claims (E := Fin m → Fin n → F) (frob (m := m) (n := n)) (reshapeL m n) 1
    (fun x y => reshapeL_iso x y) X V W hV hspan hWV

/-- **branch `R_c`** (complex matrices over ℝ, returned in the `np.block([[r,-i],[i,r]])` form built by the model's
`rcUnflatten` / `blockRealify`): mutually orthogonal with the common squared norm 2, same span, orthogonal complement -/
theorem orth_basis_R_c {N1 N2 N0 k c : ℕ}
    (X : Fin N0 → Fin (N1 * (N2 + N2)) → ℝ) (V : Fin k → Fin (N1 * (N2 + N2)) → ℝ) (W : Fin c → Fin (N1 * (N2 + N2)) → ℝ)
    (hV : ∀ i j, dotS (V i) (V j) = if i = j then 1 else 0)
    (hspan : Submodule.span ℝ (Set.range V) = Submodule.span ℝ (Set.range X))
    (hWV : ∀ i j, dotS (W i) (V j) = 0) :
    (∀ i j, frob (realifyL N1 N2 (V i)) (realifyL N1 N2 (V j)) = if i = j then 2 else 0)
    ∧ Submodule.span ℝ (Set.range fun i => realifyL N1 N2 (V i)) = Submodule.span ℝ (Set.range fun i => realifyL N1 N2 (X i))
    ∧ (∀ i j, frob (realifyL N1 N2 (W i)) (realifyL N1 N2 (V j)) = 0)
    ∧ (∀ i j, frob (realifyL N1 N2 (W i)) (realifyL N1 N2 (X j)) = 0) :=
  MatrixSpace.orth_basis_claims (E := Fin (N1 + N1) → Fin (N2 + N2) → ℝ) (frob (m := N1 + N1) (n := N2 + N2)) (realifyL N1 N2) 2
    (fun x y => realifyL_iso x y) X V W hV hspan hWV

/-- `realifyL` is the model's code path: its entries are `blockRealify ∘ rcUnflatten` of the coordinate row -/
theorem realifyL_apply {N1 N2 : ℕ} (x : Fin (N1 * (N2 + N2)) → ℝ) (p : Fin (N1 + N1)) (q : Fin (N2 + N2)) :
    realifyL N1 N2 x p q
      = blockRealify N1 N2 (rcUnflatten N1 N2 (List.ofFn x)).1 (rcUnflatten N1 N2 (List.ofFn x)).2 p.val q.val := rfl

/-- **`gellmann_basis_to_matrix` doubles inner products** (`κ = 2`): `tr(AᴴB) = 2·Σ_p conj(a_p) b_p` for the matrices synthesised
from the coordinate vectors `a`, `b` — from C16 (`parseval_half`, `analysis_synthesis`), any commutative `*`-ring with valid
scalars, every `d ≥ 1`.  This is the `hiso` of `orth_basis_claims` for the four Gell-Mann branches (the zero-block embedding of
`R_T`/`C_T`/`R_cT` only inserts zeros into the coordinate vector, §2). -/
theorem gellmann_synthesis_isometry {R : Type} [CommRing R] [StarRing R] {d : ℕ} (S : Gellmann.Scalars R) (hS : S.Valid d)
    (hd : 1 ≤ d) (a b : ℕ → R) :
    Matrix.trace ((Matrix.of (Gellmann.synthesis S d a)).conjTranspose * Matrix.of (Gellmann.synthesis S d b))
      = 2 * ∑ p ∈ range (d * d), star (a p) * b p :=
  synthesis_isometry S hS hd a b

/-- **branch `C_H`** (Hermitian matrices over ℝ, `gellmann_basis_to_matrix` of real coordinate rows, form `Re tr(AᴴB)`):
mutually orthogonal with common squared norm 2, same span over ℝ, orthogonal complement -/
theorem orth_basis_C_H {d N0 k c : ℕ} (hd : 1 ≤ d)
    (X : Fin N0 → Fin (d * d) → ℝ) (V : Fin k → Fin (d * d) → ℝ) (W : Fin c → Fin (d * d) → ℝ)
    (hV : ∀ i j, dotS (V i) (V j) = if i = j then 1 else 0)
    (hspan : Submodule.span ℝ (Set.range V) = Submodule.span ℝ (Set.range X))
    (hWV : ∀ i j, dotS (W i) (V j) = 0) :
    (∀ i j, (Matrix.trace ((synthL d hd (V i)).conjTranspose * synthL d hd (V j))).re = if i = j then 2 else 0)
    ∧ Submodule.span ℝ (Set.range fun i => synthL d hd (V i)) = Submodule.span ℝ (Set.range fun i => synthL d hd (X i))
    ∧ (∀ i j, (Matrix.trace ((synthL d hd (W i)).conjTranspose * synthL d hd (V j))).re = 0)
    ∧ (∀ i j, (Matrix.trace ((synthL d hd (W i)).conjTranspose * synthL d hd (X j))).re = 0) :=
  MatrixSpace.orth_basis_claims (E := Matrix (Fin d) (Fin d) ℂ)
    (fun A B => (Matrix.trace (A.conjTranspose * B)).re) (synthL d hd) 2 (fun x y => synthL_iso d hd x y) X V W hV hspan hWV

end orth

/-! ## 10. the soundness chain, link by link -/

section chain
open Matrix
open scoped ComplexOrder

/-- **(i) the relation is non-trivial**: grouping the tuples by their sorted multi-index, the relation reads
`Σ_α groupedCoef(α)·v_α = 0` … -/
theorem relation_grouped {R : Type} [CommRing R] {n N : ℕ} (c : Fin N → R) (g : List ℕ → R) :
    ∑ t : Fin n → Fin N, (∏ m, c (t m)) * g (sortedIndex t)
      = ∑ α ∈ (univ : Finset (Fin n → Fin N)).image sortedIndex, groupedCoef (n := n) c α * g α :=
  MatrixSpace.relation_grouped c g

/-- … and the coefficient of `v_{(i,…,i)}` is `c_i^n` — non-zero in a field as soon as `c_i ≠ 0`; `(i,…,i)` is one of the multi-indices. -/
theorem groupedCoef_const {R : Type} [CommRing R] {n N : ℕ} (c : Fin N → R) (i : Fin N) :
    groupedCoef (n := n) c (List.replicate n i.val) = c i ^ n
      ∧ List.replicate n i.val ∈ (univ : Finset (Fin n → Fin N)).image sortedIndex :=
  ⟨MatrixSpace.groupedCoef_const c i, replicate_mem_image i⟩

/-- the Gram matrix `G[α,β] = Σ_x v_α[x]·conj v_β[x]` of a family is positive semidefinite -/
theorem gramOf_posSemidef {ι κ : Type} [Fintype ι] [Fintype κ] [DecidableEq ι] (v : ι → κ → ℂ) : (gramOf v).PosSemidef :=
  MatrixSpace.gramOf_posSemidef v

/-- **(ii) singular ⇒ the exact decision quantity is 0**: if the family satisfies a linear relation with a non-zero coefficient
vector `d`, the smallest eigenvalue of its Gram matrix — `eigvalsh` contract: `lam` is an attained lower bound of the Rayleigh
quotient — is 0. -/
theorem gram_lambda_min_zero {ι κ : Type} [Fintype ι] [Fintype κ] [DecidableEq ι] (v : ι → κ → ℂ) (d : ι → ℂ)
    (hrel : ∀ x, ∑ α, d α * v α x = 0) (hd : d ≠ 0) (lam : ℝ)
    (hmin : ∀ y : ι → ℂ, lam * (star y ⬝ᵥ y).re ≤ (star y ⬝ᵥ (gramOf v *ᵥ y)).re)
    (hatt : ∃ y : ι → ℂ, star y ⬝ᵥ (gramOf v *ᵥ y) = (lam : ℂ)) : lam = 0 :=
  MatrixSpace.gram_lambda_min_zero v d hrel hd lam hmin hatt

end chain

/-! ## non-vacuity -/

/-- the hypotheses of `rank_one_bound` are satisfiable: the span of `E₀₀` (2×2) contains `e₀e₀ᵀ` -/
example : quadForm 2 2 (mixPT (3 : ℚ) (projector 1 fun _ a b => if a = 0 ∧ b = 0 then 1 else 0))
    (fun a => if a = 0 then 1 else 0) (fun b => if b = 0 then 1 else 0) = 1 := by
  refine rank_one_bound 2 2 1 _ _ _ (fun _ => 1) 3 ?_ ?_ ?_
  · intro a ha b hb; interval_cases a <;> interval_cases b <;> simp
  · intro k hk l hl; interval_cases k; interval_cases l; simp [Finset.sum_range_succ]
  · simp

/-- level-2 entry on concrete data: generators `E₀₀+E₁₁`, `E₀₁`; multi-index (0,0,1), rows/cols (0,1), K = 1 -/
example : hierVecEntry (fun k i j => if k = 0 then (if i = j then (1 : ℤ) else 0) else (if i = 0 ∧ j = 1 then 1 else 0)) 2 2 2
    [0, 0, 1] [0, 1] [0, 1] [1] = 2 := by decide

example : antisymIndex 4 2 = [[0, 1], [0, 2], [0, 3], [1, 2], [1, 3], [2, 3]] := by decide

example : symSelect 2 [1, 0, 3, 4] = [1, 3, 4] ∧ symEmbed 2 [1, 3, 4] = ([1, 0, 3, 4] : List Int) := by decide

end Numqi.C20
