/-
C15 — kernel-evaluated facts about the exact Clebsch–Gordan model `cgSq` (Racah's formula, the model tied to
`get_clebsch_gordan_coeffient`), and the rational 2×2 rotation.  Kept in a separate file because the `decide +kernel`
proofs take about a minute.
-/
import NumqiProofs.LieCG
import Mathlib.Tactic

namespace Numqi.C15
open Numqi.Lie

/-- The two tests are evaluated as one conjunction because they read the same rows `cgRow`, which the kernel then computes once.
The row test is symmetric in the two labels (`cgRowTest_comm`), so it is run on half of the pairs. -/
private theorem cg_tables_le8 :
    ∀ a < 9, ∀ b < 9, a + b ≤ 8 → (allUpper (cgRowTest a b) (cgLabels a b) && cgSquaresNormalised a b) = true := by
  decide +kernel

/-- **squares of the Clebsch–Gordan coefficients**: every row `(j,m)` has `Σ C² = 1` and for every `(m1,m2)` the squares over `j`
sum to one (completeness) — all `(j1_double, j2_double)` with `j1_double + j2_double ≤ 8`, exact rational arithmetic -/
theorem cg_squares_normalised : ∀ a < 9, ∀ b < 9, a + b ≤ 8 → cgSquaresNormalised a b = true :=
  fun a ha b hb h => (Bool.and_eq_true_iff.mp (cg_tables_le8 a ha b hb h)).2

/-- **orthonormality of the Clebsch–Gordan rows** `Σ_{m1 m2} C(j m|m1 m2) C(j' m'|m1 m2) = δ δ` for all `j1_double + j2_double ≤ 8`:
exact test `cgRowsOrthonormal` (each product is `±√(r r')`, written as `c·√f` with `r r' = (t/q)²·f` by `sqfreeDecomp` — `sqfreeDecomp_spec`,
every `N` —, rational coefficients added per radicand `f`).  The grouping argument (`Σ_f c_f √f` equals the target if every group
coefficient does — valid for any decomposition, square-free or not) is the only step not formalised. -/
theorem cg_rows_orthonormal_partial : ∀ a < 9, ∀ b < 9, a + b ≤ 8 → cgRowsOrthonormal a b = true :=
  fun a ha b hb h => cgRowsOrthonormal_of_allUpper a b (Bool.and_eq_true_iff.mp (cg_tables_le8 a ha b hb h)).1

/-- full statement (every pair of spins); open — tied and probed for `j1 + j2 ≤ 6` -/
def ClebschGordanOrthonormal.Statement : Prop := ∀ a b : ℕ, cgRowsOrthonormal a b = true ∧ cgSquaresNormalised a b = true

/-- **irreducible tensor operators** (`get_irreducible_tensor_operator(S_double)`, model `tensorOpTable`): every component `T^k_q` has squared
Hilbert–Schmidt norm `S_double + 1`, `S_double ≤ 6` -/
theorem tensorOp_normalised : ∀ S < 7, tensorOpNormalised S = true := by decide +kernel

/-- invariant of the trial division `sqfreeGo` (every fuel, every start): the returned `(t', f)` satisfies `t'²·f = t²·N` -/
theorem sqfreeGo_spec : ∀ (fuel d N t : ℕ), (sqfreeGo fuel d N t).1 * (sqfreeGo fuel d N t).1 * (sqfreeGo fuel d N t).2 = t * t * N := by
  intro fuel
  induction fuel with
  | zero => intro d N t; simp [sqfreeGo]
  | succ fuel ih =>
    intro d N t
    simp only [sqfreeGo]
    split_ifs with h1 h2
    · rfl
    · rw [ih]
      have hd : d * d ∣ N := Nat.dvd_of_mod_eq_zero h2
      calc t * d * (t * d) * (N / (d * d)) = t * t * (d * d * (N / (d * d))) := by ring
        _ = t * t * N := by rw [Nat.mul_div_cancel' hd]
    · exact ih _ _ _

/-- **the decomposition used by the orthonormality test is a decomposition, for every `N`**: `N = t²·f`.  This is all the soundness of
`surdSumIs` needs ("every group coefficient equals its target ⇒ the sum equals the target" holds for any way of writing the radicands
as `t²·f`); that `f` is moreover square-free (it is, once the fuel `N + 64` suffices for the trial division) matters only for the
completeness of the test and is not claimed. -/
theorem sqfreeDecomp_spec (N : ℕ) : (sqfreeDecomp N).1 * (sqfreeDecomp N).1 * (sqfreeDecomp N).2 = N := by
  unfold sqfreeDecomp
  split_ifs with h
  · simp [h]
  · rw [sqfreeGo_spec]; ring

/-- **`get_rational_orthogonal2_matrix(m, n)` is a rotation**: `[[x, y], [-y, x]]` with `x² + y² = 1`, for all integers with `(m,n) ≠ (0,0)` -/
theorem rationalOrthogonal2_rotation (m n : ℤ) (h : m ≠ 0 ∨ n ≠ 0) :
    ∃ x y : ℚ, rationalOrthogonal2 m n = [x, y, -y, x] ∧ x * x + y * y = 1 := by
  have hc : ((m : ℚ) * m + n * n) ≠ 0 := by
    have h1 : (0 : ℚ) ≤ (m : ℚ) * m := mul_self_nonneg _
    have h2 : (0 : ℚ) ≤ (n : ℚ) * n := mul_self_nonneg _
    rcases h with h | h
    · have : (0 : ℚ) < (m : ℚ) * m := by positivity
      linarith
    · have : (0 : ℚ) < (n : ℚ) * n := by positivity
      linarith
  refine ⟨2 * m * n / ((m : ℚ) * m + n * n), ((m : ℚ) * m - n * n) / ((m : ℚ) * m + n * n), rfl, ?_⟩
  rw [div_mul_div_comm, div_mul_div_comm, ← add_div, div_eq_one_iff_eq (mul_ne_zero hc hc)]; ring

end Numqi.C15
