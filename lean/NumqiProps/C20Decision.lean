/-
C20 — decision layer: the comparisons of the three rank certificates as regenerated from the source by `harness/c20.py` (translate)
into `NumqiModel/Generated/Thresholds20.lean`.  This is the only theorem file that imports the generated data: if the source changes
so that a statement below fails to elaborate, only these theorems are lost; `NumqiProps/C20.lean` does not depend on the generated data.
-/
import NumqiProps.C20
import NumqiModel.Generated.Thresholds20

namespace Numqi.C20
open Numqi Numqi.MatrixSpace Matrix Finset
open Numqi.Generated.Thresholds20

/-- **the translator recognised the decision shape of all three certificates** (`measured OP affine(zero_eps)` after semantic
normalisation: negations pushed to the comparison, constants folded, names resolved).  For an unrecognised shape the translator emits
`…Known := false` and a certificate that is never issued, the driver answers `unknown` (broken tie), and this obligation fails —
never a wrong model. -/
theorem decisionShapesRecognised : rankOneCertKnown = true ∧ hierarchyCertKnown = true ∧ abcCertKnown = true := by decide

/-- **the rank-one certificate is sound up to the slack `zero_eps`**: if the exact bound is `≥ 1` (previous theorem) and the
computed one is within `δ ≤ zero_eps` of it, "no rank-one element" is *not* issued.  With the pre-repair comparison
`upper_bound < 1` this statement is false for every `δ > 0` (it fails to elaborate if the source is reverted). -/
theorem rankOneCert_sound (computed exact δ zero_eps : ℝ) (hexact : 1 ≤ exact)
    (hround : |computed - exact| ≤ δ) (hslack : δ ≤ zero_eps) : rankOneCert computed zero_eps = false := by
  have := abs_le.1 hround
  simp only [rankOneCert, decide_eq_false_iff_not, not_lt]
  linarith [this.1]

/-- the default slack is positive -/
theorem rankOneCert_default_slack_pos :
    rankOneCertEpsNeg = false ∧ 0 < (rankOneCertEpsNum : ℚ) / rankOneCertEpsDen := by
  refine ⟨rfl, ?_⟩; norm_num [rankOneCertEpsNum, rankOneCertEpsDen]

/-- **the decision quantity of both Gram-matrix certificates is the smallest eigenvalue** (`np.linalg.eigvalsh(G)[0]`), as recorded by
the translator from the source.  Fail-safe: any other routine left of `> zero_eps` — in particular partial-pivot LU pivots, which are
not rank revealing (the defect repaired in numqi commit 561406a) — is translated to another `DecisionKind` and this obligation fails to
elaborate; the concrete failing inputs are the regression corpus `corpus/C20/*.json`. -/
theorem decisionIsRankRevealing :
    hierarchyCertKind = DecisionKind.smallestEigenvalue ∧ abcCertKind = DecisionKind.smallestEigenvalue := by decide

/-- **the Gram-matrix certificates are sound up to their slack.**  Contract (only available for the kind
`smallestEigenvalue`): the computed decision quantity is within `δ` of the exact smallest eigenvalue `lamMin` of the Gram matrix;
for a linearly dependent family `lamMin = 0` (`gram_lambda_min_zero`); if `δ ≤ zero_eps` — **hypothesis, not provable: adequacy of
the absolute threshold against the rounding of `eigvalsh`** — the certificate is not issued.  (The kind hypothesis `_hkind` is not used by
the proof: it is a convention that ties the contract `|computed − λ_min| ≤ δ` to the routine found in the source; the logical guard is the
separate obligation `decisionIsRankRevealing`; the translator grants that kind only to the smallest entry of
`numpy/scipy.linalg.eigvalsh(G)` / `eigh(G)[0]` with `G` a name bound exactly once at top level, while the harness ties `G` by value to the
model's Gram matrix.) -/
theorem hierarchyCert_sound (computed lamMin δ zero_eps : ℝ)
    (_hkind : hierarchyCertKind = DecisionKind.smallestEigenvalue ∧ abcCertKind = DecisionKind.smallestEigenvalue)
    (hsing : lamMin = 0) (hround : |computed - lamMin| ≤ δ) (hslack : δ ≤ zero_eps) :
    hierarchyCert computed zero_eps = false ∧ abcCert computed zero_eps = false := by
  subst hsing
  have := abs_le.1 hround
  simp only [hierarchyCert, abcCert, decide_eq_false_iff_not, not_lt, gt_iff_lt]
  constructor <;> linarith [this.2]

/-- the same with the kind obligation discharged for the source as it stands -/
theorem hierarchyCert_sound_current (computed lamMin δ zero_eps : ℝ) (hsing : lamMin = 0)
    (hround : |computed - lamMin| ≤ δ) (hslack : δ ≤ zero_eps) :
    hierarchyCert computed zero_eps = false ∧ abcCert computed zero_eps = false :=
  hierarchyCert_sound computed lamMin δ zero_eps decisionIsRankRevealing hsing hround hslack

theorem hierarchyCert_default_slack_pos :
    hierarchyCertEpsNeg = false ∧ 0 < (hierarchyCertEpsNum : ℚ) / hierarchyCertEpsDen
    ∧ abcCertEpsNeg = false ∧ 0 < (abcCertEpsNum : ℚ) / abcCertEpsDen := by
  refine ⟨rfl, ?_, rfl, ?_⟩ <;> norm_num [hierarchyCertEpsNum, hierarchyCertEpsDen, abcCertEpsNum, abcCertEpsDen]

/-- **the chain closed**: a family with a non-trivial linear relation is never certified, given the `eigvalsh` contract and the
rounding bound `|computed − λ_min| ≤ δ ≤ zero_eps` (the one hypothesis that is about floating point; the regression corpus holds the
inputs on which a decision by LU pivots violates it). -/
theorem certificate_not_issued {ι κ : Type} [Fintype ι] [Fintype κ] [DecidableEq ι] (v : ι → κ → ℂ) (d : ι → ℂ)
    (hrel : ∀ x, ∑ α, d α * v α x = 0) (hd : d ≠ 0) (lam : ℝ)
    (hmin : ∀ y : ι → ℂ, lam * (star y ⬝ᵥ y).re ≤ (star y ⬝ᵥ (gramOf v *ᵥ y)).re)
    (hatt : ∃ y : ι → ℂ, star y ⬝ᵥ (gramOf v *ᵥ y) = (lam : ℂ))
    (computed δ zero_eps : ℝ) (hround : |computed - lam| ≤ δ) (hslack : δ ≤ zero_eps) :
    hierarchyCert computed zero_eps = false ∧ abcCert computed zero_eps = false :=
  hierarchyCert_sound_current computed lam δ zero_eps (MatrixSpace.gram_lambda_min_zero v d hrel hd lam hmin hatt) hround hslack

/-- the certificate is issued for a bound well below one, and withheld at one -/
example : rankOneCert (1/2 : ℚ) (1/10000000) = true ∧ rankOneCert (1 : ℚ) (1/10000000) = false := by
  constructor <;> simp [rankOneCert] <;> norm_num

end Numqi.C20
