/-
C14 — finite-group tables are groups; partition and tableau counts are exact.

Property theorems with the last step of their proofs; the lemmas they rest on are in `NumqiProofs/FinGroup*.lean`
and `NumqiProofs/Young*.lean`.
All statements are about the constants of `NumqiModel/FinGroup.lean` / `NumqiModel/Young.lean`
that `Driver/C14.lean` executes.
-/
import NumqiProofs.FinGroupPerm
import NumqiProofs.FinGroupDihedral
import NumqiProofs.FinGroupAlt
import NumqiProofs.YoungPartition
import NumqiProofs.YoungHook
import Mathlib.Data.Set.Card
import NumqiModel.Young
import Mathlib.Data.Nat.Totient
import Mathlib.Data.Nat.Factorial.Basic
import Mathlib.Data.Int.GCD
import Mathlib.Data.Matrix.Mul
import Mathlib.Algebra.Group.MinimalAxioms
import Mathlib.LinearAlgebra.Matrix.Trace
import Mathlib.Data.Matrix.Block
import Mathlib.LinearAlgebra.Matrix.Kronecker
import Mathlib.Data.Complex.Basic

namespace Numqi.C14
open Numqi Numqi.FinGroup Numqi.Young
open scoped Nat

/-! ## 1. the symmetric group: `itertools.permutations`, composition, look-up -/

/-- **`itertools.permutations(range n)` is complete and duplicate-free**: the model lists exactly the
rearrangements of `0..n-1`, each once. -/
theorem perms_complete_nodup (n : Nat) :
    (perms n).Nodup ∧ ∀ p : List Nat, p ∈ perms n ↔ p.Perm (List.range n) :=
  ⟨nodup_perms n, fun _ => mem_perms⟩

private theorem length_permsAux (k : Nat) : ∀ l : List Nat, l.length = k → (permsAux k l).length = k ! := by
  induction k with
  | zero => intro l _; simp [permsAux]
  | succ k ih =>
    intro l hl
    simp only [permsAux, List.length_flatMap, List.length_map]
    have : (l.map fun a => (permsAux k (l.erase a)).length) = l.map fun _ => k ! := by
      apply List.map_congr_left
      intro a ha
      exact ih _ (by rw [List.length_erase_of_mem ha]; omega)
    rw [this, List.map_const', List.sum_replicate, hl, Nat.factorial_succ, smul_eq_mul]

/-- there are `n!` of them -/
theorem perms_length (n : Nat) : (perms n).length = n ! := length_permsAux n _ List.length_range

/-- **what the table entry is**: `symTable n [i][j]` is the index of `perm_i ∘ perm_j` (`k ↦ perm_i[perm_j[k]]`). -/
theorem symTable_entry (n i j : Nat) (hi : i < (perms n).length) (hj : j < (perms n).length) :
    entry (symTable n) i j = (perms n).idxOf (compose (perms n)[i] (perms n)[j]) :=
  entry_tableOf _ _ hi hj

/-- **`get_symmetric_group_cayley_table(n)` is a group table of order `n!`, for every `n`.** -/
theorem symTable_isGroupTable (n : Nat) : IsGroupTable (symTable n) n ! := by
  rw [← perms_length n]
  exact permTable_isGroupTable (perms n) (nodup_perms n) (fun _ => mem_perms.1)
    (fun _ ha _ hb => mem_perms.2 (compose_perm (mem_perms.1 ha) (mem_perms.1 hb))) (mem_perms.2 (List.Perm.refl _))
    fun _ ha => mem_perms.2 (invPerm_perm (mem_perms.1 ha))

/-! ## 2. cyclic group -/

/-- **`get_cyclic_group_cayley_table(n)` is a group table of order `n`** (`n ≥ 1`; the code asserts `n ≥ 2`). -/
theorem cycTable_isGroupTable (n : Nat) (hn : 1 ≤ n) : IsGroupTable (cycTable n) n := by
  have hent : ∀ i j, i < n → j < n → entry (cycTable n) i j = (i + j) % n := by
    intro i j hi hj
    simp [entry, cycTable, List.getD_eq_getElem?_getD, hi, hj]
  have hlt : ∀ a, a % n < n := fun a => Nat.mod_lt _ (by omega)
  refine ⟨by simp [cycTable], ?_, ?_, ?_, 0, by omega, ?_, ?_⟩
  · intro i hi
    simp [cycTable, List.getD_eq_getElem?_getD, hi]
  · intro i j hi hj; rw [hent i j hi hj]; exact hlt _
  · intro i j k hi hj hk
    rw [hent i j hi hj, hent j k hj hk, hent _ k (hlt _) hk, hent i _ hi (hlt _)]
    rw [Nat.mod_add_mod, Nat.add_mod_mod, Nat.add_assoc]
  · intro i hi
    rw [hent 0 i (by omega) hi, hent i 0 hi (by omega)]
    simp [Nat.mod_eq_of_lt hi]
  · intro i hi
    refine ⟨(n - i) % n, hlt _, ?_, ?_⟩
    · rw [hent i _ hi (hlt _)]
      rw [Nat.add_mod_mod, Nat.add_sub_cancel' (by omega), Nat.mod_self]
    · rw [hent _ i (hlt _) hi]
      rw [Nat.mod_add_mod, Nat.sub_add_cancel (by omega), Nat.mod_self]

/-! ## 3. multiplicative group of units mod `n` -/

theorem mem_units {n x : Nat} : x ∈ units n ↔ 1 ≤ x ∧ x < n ∧ Nat.Coprime n x := by
  simp only [units, List.mem_filter, List.mem_range'_1, beq_iff_eq, Nat.Coprime]
  constructor
  · rintro ⟨⟨h1, h2⟩, h3⟩; exact ⟨h1, by omega, h3⟩
  · rintro ⟨h1, h2, h3⟩; exact ⟨⟨h1, by omega⟩, h3⟩

private theorem coprime_mod {n a : Nat} (h : Nat.Coprime n a) : Nat.Coprime n (a % n) := by
  unfold Nat.Coprime at *
  rw [Nat.gcd_comm, ← Nat.gcd_rec, h]

private theorem mulmod_mem_units {n x y : Nat} (hn : 2 ≤ n) (hx : x ∈ units n) (hy : y ∈ units n) :
    (x * y) % n ∈ units n := by
  rw [mem_units] at *
  have hc : Nat.Coprime n ((x * y) % n) := coprime_mod (hx.2.2.mul_right hy.2.2)
  refine ⟨?_, Nat.mod_lt _ (by omega), hc⟩
  by_contra h0
  have h0 : (x * y) % n = 0 := by omega
  rw [h0] at hc
  simp [Nat.Coprime] at hc
  omega

private theorem nodup_units (n : Nat) : (units n).Nodup := (List.nodup_range' (s := 1) (n := n - 1)).filter _

/-- the element list has `φ(n)` entries -/
theorem units_length (n : Nat) (hn : 2 ≤ n) : (units n).length = Nat.totient n := by
  rw [Nat.totient_eq_card_coprime]
  rw [← List.toFinset_card_of_nodup (nodup_units n)]
  congr 1
  ext x
  simp only [List.mem_toFinset, mem_units, Finset.mem_filter, Finset.mem_range]
  constructor
  · rintro ⟨_, h2, h3⟩; exact ⟨h2, h3⟩
  · rintro ⟨h2, h3⟩
    refine ⟨?_, h2, h3⟩
    by_contra h0
    have h0 : x = 0 := by omega
    subst h0
    simp [Nat.Coprime] at h3
    omega

/-- **`get_multiplicative_group_cayley_table(n)` is a group table of order `φ(n)`** (`n ≥ 2`; the code asserts `n ≥ 3`). -/
theorem mulTable_isGroupTable (n : Nat) (hn : 2 ≤ n) : IsGroupTable (mulTable n) (Nat.totient n) := by
  rw [← units_length n hn]
  have h1 : 1 ∈ units n := mem_units.2 ⟨le_refl _, by omega, Nat.coprime_one_right n⟩
  refine tableOf_isGroupTable (units n) (fun x y => (x * y) % n) (nodup_units n) ?_ ?_ 1 h1 ?_ ?_
  · intro a ha b hb; exact mulmod_mem_units hn ha hb
  · intro a _ b _ c _
    show (a * b % n * c) % n = (a * (b * c % n)) % n
    rw [Nat.mod_mul_mod, Nat.mul_mod_mod, Nat.mul_assoc]
  · intro a ha
    have := (mem_units.1 ha).2.1
    simp [Nat.mod_eq_of_lt this]
  · intro a ha
    have ha' := mem_units.1 ha
    obtain ⟨m, hm, hm1⟩ := Nat.exists_mul_mod_eq_one_of_coprime ha'.2.2.symm (by omega : 1 < n)
    have hmc : Nat.Coprime n m := by
      have : Nat.Coprime n (a * m) := by
        unfold Nat.Coprime
        rw [Nat.gcd_rec, hm1]
        simp
      exact Nat.Coprime.coprime_mul_left_right this
    have hm0 : 1 ≤ m := by
      by_contra h0
      have h0 : m = 0 := by omega
      subst h0; simp at hm1
    refine ⟨m, mem_units.2 ⟨hm0, hm, hmc⟩, hm1, ?_⟩
    show (m * a) % n = 1
    rw [Nat.mul_comm]; exact hm1

/-! ## 3b. dihedral group -/

/-- the `2n` rows (`n` rotations from the circulant, `n` reflections from the reversed columns) are pairwise different -/
theorem dihRows_nodup (n : Nat) (hn : 2 < n) : (dihRows n).Nodup := FinGroup.dihRows_nodup n hn

/-- **`get_dihedral_group_cayley_table(n)` is a group table of order `2n`, for every `n > 2`**
(rotation∘rotation, rotation∘reflection, … computed mod `n`; `NumqiProofs/FinGroupDihedral.lean`). -/
theorem dihTable_isGroupTable (n : Nat) (hn : 2 < n) : IsGroupTable (dihTable n) (2 * n) := by
  have hn0 : 0 < n := by omega
  have hmod : ∀ x, x % n < n := fun x => Nat.mod_lt _ hn0
  rw [← dihRows_length n]
  refine tableOf_isGroupTable (dihRows n) compose (dihRows_nodup n hn) ?_ ?_ (List.range n) ?_ ?_ ?_
  · intro x hx y hy
    obtain ⟨a, ha, rfl | rfl⟩ := mem_dihRows.1 hx <;> obtain ⟨b, hb, rfl | rfl⟩ := mem_dihRows.1 hy
    · rw [comp_rot_rot hn0 ha hb]; exact mem_dihRows.2 ⟨_, hmod _, Or.inl rfl⟩
    · rw [comp_rot_refl hn0 ha hb]; exact mem_dihRows.2 ⟨_, hmod _, Or.inr rfl⟩
    · rw [comp_refl_rot hn0 ha hb]; exact mem_dihRows.2 ⟨_, hmod _, Or.inr rfl⟩
    · rw [comp_refl_refl hn0 ha hb]; exact mem_dihRows.2 ⟨_, hmod _, Or.inl rfl⟩
  · intro x _ y hy z hz
    exact compose_assoc (row_length hy) (row_lt hn0 hz)
  · exact mem_dihRows.2 ⟨0, hn0, Or.inl (dihRot_zero n).symm⟩
  · intro x hx
    exact ⟨compose_range_left (row_lt hn0 hx), compose_range_right (row_length hx)⟩
  · intro x hx
    obtain ⟨a, ha, rfl | rfl⟩ := mem_dihRows.1 hx
    · refine ⟨dihRot n ((n - a) % n), mem_dihRows.2 ⟨_, hmod _, Or.inl rfl⟩, ?_, ?_⟩
      · rw [comp_rot_rot hn0 ha (hmod _), Nat.add_mod_mod, Nat.add_sub_cancel' ha.le, Nat.mod_self, dihRot_zero]
      · rw [comp_rot_rot hn0 (hmod _) ha, Nat.mod_add_mod, Nat.sub_add_cancel ha.le, Nat.mod_self, dihRot_zero]
    · refine ⟨dihRefl n a, hx, ?_, ?_⟩ <;>
        rw [comp_refl_refl hn0 ha ha, Nat.add_sub_cancel' ha.le, Nat.mod_self, dihRot_zero]

/-- the dihedral table of the triangle is not abelian: `r·s ≠ s·r` -/
example : entry (dihTable 3) 1 3 ≠ entry (dihTable 3) 3 1 := by decide

/-! ## 4. Klein four-group and quaternion group (literal tables) -/

theorem kleinTable_isGroupTable : IsGroupTable kleinTable 4 :=
  isGroupTable_of_B (by decide)

theorem quatTable_isGroupTable : IsGroupTable quatTable 8 :=
  isGroupTable_of_B (by decide +kernel)

/-- the quaternion group is not abelian, the Klein group is: the two tables are really different objects -/
example : entry quatTable 1 2 ≠ entry quatTable 2 1 ∧ entry kleinTable 1 2 = entry kleinTable 2 1 := by decide

/-! ## 5. alternating group

The code selects the even permutations by the parity of `Σ (cycle length − 1)` over the cycles that
`permutation_to_cycle_notation` finds (`cycleEven`, `cycles`, `cycleFrom` in the model).  `NumqiProofs/FinGroupAlt.lean`
proves, for every `n`, that the walk of `cycleFrom` closes, that the cycles found are pairwise disjoint and cover
`0..n-1`, that the permutation is the product of the cyclic shifts on them, and hence that this parity is Mathlib's
`Equiv.Perm.sign`. -/

/-- **the filter of the code is the sign**: a tuple is kept iff it is a rearrangement of `0..n-1` whose permutation
`i ↦ p[i]` of `Fin n` has sign `+1`. -/
theorem altPerms_eq_sign {n : Nat} {p : List Nat} :
    p ∈ altPerms n ↔ ∃ hp : p.Perm (List.range n), Equiv.Perm.sign (permOf hp) = 1 := by
  simp only [altPerms, List.mem_filter, mem_perms]
  constructor
  · rintro ⟨hp, he⟩; exact ⟨hp, (cycleEven_iff_sign' hp).1 he⟩
  · rintro ⟨hp, hs⟩; exact ⟨hp, (cycleEven_iff_sign' hp).2 hs⟩

theorem mem_altPerms {n : Nat} {p : List Nat} : p ∈ altPerms n ↔ p.Perm (List.range n) ∧ cycleEven p = true := by
  simp [altPerms, List.mem_filter, mem_perms]

/-- **index 2**: exactly `n!/2` tuples are kept (`n ≥ 2`) -/
theorem altPerms_length (n : Nat) (hn : 2 ≤ n) : (altPerms n).length = n ! / 2 := by
  have := two_mul_length_altPerms hn
  rw [perms_length] at this
  omega

/-- **`get_symmetric_group_cayley_table(n, alternating=True)` is a group table of order `n!/2`, for every `n ≥ 2`.** -/
theorem altTable_isGroupTable (n : Nat) (hn : 2 ≤ n) : IsGroupTable (altTable n) (n ! / 2) := by
  rw [← altPerms_length n hn]
  refine permTable_isGroupTable (altPerms n) ((nodup_perms n).filter _) (fun _ ha => (mem_altPerms.1 ha).1) ?_
    (mem_altPerms.2 ⟨List.Perm.refl _, cycleEven_range n⟩) ?_
  · intro a ha b hb
    obtain ⟨ha1, ha2⟩ := mem_altPerms.1 ha
    obtain ⟨hb1, hb2⟩ := mem_altPerms.1 hb
    exact mem_altPerms.2 ⟨compose_perm ha1 hb1, cycleEven_compose ha1 hb1 ha2 hb2⟩
  · intro a ha
    obtain ⟨hp, he⟩ := mem_altPerms.1 ha
    exact mem_altPerms.2 ⟨invPerm_perm hp, cycleEven_invPerm hp he⟩

/-- the filter is not trivial: `(0 1)` is rejected, the 3-cycle is kept, `A_4` has 12 elements -/
example : cycleEven [1, 0, 2] = false ∧ cycleEven [1, 2, 0] = true ∧ (altPerms 4).length = 12 := by decide

/-! ## 6. left regular form: a faithful homomorphism into permutation matrices

for **any** group table (so for all of the above), over any semiring `R` (ℤ for the code's `int64`). -/

section leftRegular
variable {R : Type*} [Semiring R] {T : Table} {N : Nat}

/-- `cayley_table_to_left_regular_form(T)[g]` as a matrix over `R` -/
def leftReg (R : Type*) [Semiring R] (T : Table) (N : Nat) (g : Fin N) : Matrix (Fin N) (Fin N) R :=
  fun r c => ((leftRegEntry T g.val r.val c.val : Nat) : R)

/-- the product of the group, on `Fin N` -/
def mulFin (h : IsGroupTable T N) (g k : Fin N) : Fin N := ⟨entry T g.val k.val, h.closed _ _ g.isLt k.isLt⟩

theorem leftReg_apply (g r c : Fin N) :
    leftReg R T N g r c = if r.val = entry T g.val c.val then 1 else 0 := by
  simp [leftReg, leftRegEntry]

/-- column `c` of `L(g)` is the indicator of row `g·c` -/
private theorem sum_mul_leftReg (h : IsGroupTable T N) (f : Fin N → R) (g c : Fin N) :
    ∑ x, f x * leftReg R T N g x c = f (mulFin h g c) := by
  rw [Finset.sum_eq_single (mulFin h g c)]
  · simp [leftReg_apply, mulFin]
  · intro x _ hx
    have : ¬ x.val = entry T g.val c.val := fun e => hx (Fin.ext e)
    simp [leftReg_apply, this]
  · intro hne; exact absurd (Finset.mem_univ _) hne

/-- **`L(g)·L(k) = L(g·k)`** -/
theorem leftRegular_mul (h : IsGroupTable T N) (g k : Fin N) :
    leftReg R T N (mulFin h g k) = leftReg R T N g * leftReg R T N k := by
  ext r c
  rw [Matrix.mul_apply, sum_mul_leftReg h]
  simp only [leftReg_apply, mulFin]
  rw [h.assoc _ _ _ g.isLt k.isLt c.isLt]

/-- **the identity element is mapped to the identity matrix** -/
theorem leftRegular_one (e : Fin N) (he : ∀ i, i < N → entry T e.val i = i) : leftReg R T N e = 1 := by
  ext r c
  rw [leftReg_apply, he c.val c.isLt, Matrix.one_apply]
  simp [Fin.ext_iff]

/-- **faithful**: different elements have different matrices (needs `0 ≠ 1` in `R`) -/
theorem leftRegular_injective [Nontrivial R] (h : IsGroupTable T N) : Function.Injective (leftReg R T N) := by
  intro g k hgk
  obtain ⟨e, he, hid, _⟩ := h.ident
  have := congrFun (congrFun hgk g) ⟨e, he⟩
  rw [leftReg_apply, leftReg_apply] at this
  simp only [(hid g.val g.isLt).2, (hid k.val k.isLt).2, if_true] at this
  by_contra hne
  have : ¬ g.val = k.val := fun e => hne (Fin.ext e)
  simp_all

/-- **a group table is a group**: there is a `Group` structure on `Fin N` whose product is the table look-up
(so `IsGroupTable` is not a weaker, table-specific notion) -/
theorem exists_group_of_isGroupTable (h : IsGroupTable T N) :
    ∃ G : Group (Fin N), ∀ g k : Fin N, (G.mul g k).val = entry T g.val k.val := by
  obtain ⟨e, he, hid, hinv⟩ := h.ident
  choose! inv hinv_lt hinv_r hinv_l using hinv
  let one : Fin N := ⟨e, he⟩
  let invF : Fin N → Fin N := fun g => ⟨inv g.val, hinv_lt g.val g.isLt⟩
  refine ⟨@Group.ofLeftAxioms (Fin N) ⟨mulFin h⟩ ⟨invF⟩ ⟨one⟩ ?_ ?_ ?_, fun g k => rfl⟩
  · intro a b c
    exact Fin.ext (h.assoc _ _ _ a.isLt b.isLt c.isLt)
  · intro a
    exact Fin.ext (hid a.val a.isLt).1
  · intro a
    exact Fin.ext (hinv_l a.val a.isLt)

/-- left cancellation in a group table -/
theorem isGroupTable_left_cancel (h : IsGroupTable T N) {g c c' : Nat} (hg : g < N) (hc : c < N) (hc' : c' < N)
    (heq : entry T g c = entry T g c') : c = c' := by
  obtain ⟨e, he, hid, hinv⟩ := h.ident
  obtain ⟨j, hj, _, hjg⟩ := hinv g hg
  have h1 := h.assoc j g c hj hg hc
  have h2 := h.assoc j g c' hj hg hc'
  rw [hjg, (hid c hc).1] at h1
  rw [hjg, (hid c' hc').1] at h2
  rw [h1, h2, heq]

/-- **permutation matrices**: `L(g)ᵀ·L(g) = 1` (every row and column has exactly one `1`) -/
theorem leftRegular_transpose_mul_self (h : IsGroupTable T N) (g : Fin N) :
    (leftReg R T N g).transpose * leftReg R T N g = 1 := by
  ext c c'
  rw [Matrix.mul_apply, sum_mul_leftReg h]
  simp only [Matrix.transpose_apply, leftReg_apply, mulFin, Matrix.one_apply]
  by_cases hcc : c = c'
  · subst hcc; simp
  · have : ¬ entry T g.val c'.val = entry T g.val c.val := fun e =>
      hcc (Fin.ext (isGroupTable_left_cancel h g.isLt c'.isLt c.isLt e).symm)
    simp [this, hcc]

end leftRegular

/-- the hypotheses are satisfiable: e.g. the quaternion group over ℤ, where `L` separates `i·j = k` from `j·i = -k` -/
example : leftReg ℤ quatTable 8 (mulFin quatTable_isGroupTable 1 2) = leftReg ℤ quatTable 8 1 * leftReg ℤ quatTable 8 2 :=
  leftRegular_mul quatTable_isGroupTable 1 2

/-! ## 6b. partitions: the recurrence of `get_sym_group_num_irrep` and the Young-diagram array, all `N` -/

/-- **the rows of `z0[(n,m)]` are exactly the partitions of `n` into at most `m` parts**
(non-increasing rows of length `m`, zero padded, sum `n`), **each once**. -/
theorem young_exact (m n : Nat) :
    (young m n).Nodup ∧ ∀ row, row ∈ young m n ↔ IsPartRow m n row :=
  ⟨nodup_young m n, mem_young m n⟩

/-- **the table of `_get_sym_group_num_irrep_hf0` counts them**: `z0[n,m] = #{partitions of n into ≤ m parts}`
(`= #{partitions of n with parts ≤ m}` by conjugation), for every `m ≥ 1` and every `n`
(column `m = 0` of the code's table is a literal `1` that the recurrence never reads). -/
theorem numIrrepTable_eq (m n : Nat) (hm : 1 ≤ m) : z0 m n = (young m n).length :=
  (length_young m n hm).symm

/-- **`get_sym_group_num_irrep(N)` is the number of partitions of `N`** (Mathlib's `Nat.Partition`), every `N ≥ 1`. -/
theorem numIrrep_eq_card_partition (N : Nat) (hN : 1 ≤ N) : numIrrep N = Fintype.card (Nat.Partition N) :=
  Young.numIrrep_eq_card_partition N hN

/-- **`get_sym_group_young_diagram(N)` lists exactly the partitions of `N`, each once**, and there are
`get_sym_group_num_irrep(N)` of them. -/
theorem youngDiagrams_exact (N : Nat) (hN : 1 ≤ N) :
    (youngDiagram N).Nodup ∧ (∀ row, row ∈ youngDiagram N ↔ IsPartRow N N row) ∧
      (youngDiagram N).length = numIrrep N :=
  ⟨(youngDiagram_exact N hN).1, (youngDiagram_exact N hN).2, length_youngDiagram N hN⟩

/-- the shapes handed to the tableau code are exactly the partitions of `N` as non-increasing positive lists -/
theorem shapes_exact (N : Nat) (hN : 1 ≤ N) (shape : List Nat) :
    shape ∈ shapes N ↔ shape.Pairwise (· ≥ ·) ∧ (∀ x ∈ shape, 0 < x) ∧ shape.sum = N := by
  unfold shapes
  rw [youngDiagram_eq N hN, List.mem_map]
  constructor
  · rintro ⟨row, hrow, rfl⟩
    obtain ⟨_, h2, h3⟩ := (mem_young N N row).1 hrow
    exact ⟨h3.filter _, fun x hx => by simpa using (List.mem_filter.1 hx).2, (sum_filter_pos row).trans h2⟩
  · rintro ⟨h1, h2, h3⟩
    obtain ⟨hrow, hf⟩ := isPartRow_pad h1 h2 h3
    exact ⟨_, (mem_young N N _).2 hrow, (List.filter_congr fun x _ => by simp [Nat.pos_iff_ne_zero]).trans hf⟩

/-- not vacuous: `p(10) = 42`, and the array for `N = 4` is the five partitions of 4 -/
example : numIrrep 10 = 42 ∧ youngDiagram 4 = [[4,0,0,0],[3,1,0,0],[2,2,0,0],[2,1,1,0],[1,1,1,1]] := by
  constructor
  · rw [← length_youngDiagram 10 (by norm_num)]; decide +kernel
  · decide

/-! ## 7. standard Young tableaux: every shape

`IsSYT λ t` (`NumqiProofs/YoungTabFinal.lean`): the rows of `t` have the lengths of `λ`, the entries are `0..N-1` each once,
rows increase left to right and columns top to bottom.  The theorems below are about `allTableaux` — the model of
`get_all_young_tableaux` / `_get_all_young_tableaux_hf0` with all four branches of the code (single row, single column,
hook with the `itertools.combinations` fast path and with bounds, general shape with the upper bounds from the transposed
diagram and the lower bounds handed down) — and hold for **every** shape accepted by `check_young_diagram`.  The proof
(`NumqiProofs/YoungComb.lean`, `YoungTableaux.lean`, `YoungTabCore.lean`, `YoungTabFinal.lean`) follows the code's own recursion
(first row, then the remaining rows on the remaining numbers). -/

theorem checkShape_of_valid : ∀ {shape : List Nat}, ValidShape shape → checkShape shape = true
  | [], h => absurd rfl h.1
  | [a], h => by simpa [checkShape] using h.2.1 a (by simp)
  | a :: b :: rest, h => by
    have ih := checkShape_of_valid h.tail
    simp only [checkShape, Bool.and_eq_true, decide_eq_true_eq]
    exact ⟨(List.pairwise_cons.1 h.2.2).1 b (by simp), ih⟩

theorem checkShape_of_mem_shapes (N : Nat) (hN : 1 ≤ N) (shape : List Nat) (hs : shape ∈ shapes N) : checkShape shape = true := by
  obtain ⟨h1, h2, h3⟩ := (shapes_exact N hN shape).1 hs
  refine checkShape_of_valid ⟨?_, h2, h1⟩
  rintro rfl; simp at h3; omega

/-- **soundness**: every array returned for `λ` is a standard filling of `λ` (in the form of the Boolean checker used
for the finite tables, and as the `Prop`-level predicate on the unpadded rows) -/
theorem tableaux_sound (shape : List Nat) (hc : checkShape shape = true) :
    ∀ t ∈ allTableaux shape, isStandard shape t = true ∧ IsSYT shape (cells shape t) := by
  have hv := validShape_of_check hc
  intro t ht
  rw [allTableaux_eq_pad hv, List.mem_map] at ht
  obtain ⟨t', ht', rfl⟩ := ht
  have hs := ((coreTableaux_spec hv).2 t').1 ht'
  exact ⟨isStandard_of_isSYT hs, by rw [cells_pad t' shape _ hs.rows]; exact hs⟩

/-- **distinctness**: no tableau is returned twice -/
theorem tableaux_nodup (shape : List Nat) (hc : checkShape shape = true) : (allTableaux shape).Nodup := by
  have hv := validShape_of_check hc
  rw [allTableaux_eq_pad hv]
  refine List.Nodup.map_on ?_ (coreTableaux_spec hv).1
  intro a ha b hb hab
  have h1 := (((coreTableaux_spec hv).2 a).1 ha).rows
  have h2 := (((coreTableaux_spec hv).2 b).1 hb).rows
  rw [← cells_pad a shape (shape.headD 0) h1, ← cells_pad b shape (shape.headD 0) h2, hab]

/-- **completeness**: every standard tableau of the shape is returned (as the zero-padded array the code builds) -/
theorem tableaux_complete (shape : List Nat) (hc : checkShape shape = true) (t : List (List Nat)) (ht : IsSYT shape t) :
    t.map (padTo (shape.headD 0)) ∈ allTableaux shape := by
  have hv := validShape_of_check hc
  rw [allTableaux_eq_pad hv]
  exact List.mem_map.2 ⟨t, ((coreTableaux_spec hv).2 t).2 ht, rfl⟩

/-- **the count**: `len(get_all_young_tableaux(λ)) = |SYT(λ)|`, for every shape -/
theorem tableaux_count (shape : List Nat) (hc : checkShape shape = true) :
    (allTableaux shape).length = Set.ncard {t | IsSYT shape t} := by
  have hv := validShape_of_check hc
  obtain ⟨hnd, hmem⟩ := coreTableaux_spec hv
  rw [allTableaux_eq_pad hv, List.length_map, ← List.toFinset_card_of_nodup hnd, ← Set.ncard_coe_finset]
  congr 1
  ext t
  simp [hmem]

/-- not vacuous: the three standard tableaux of (2,1) … as `IsSYT`, e.g. rows `[0,2],[1]` -/
example : IsSYT [2, 1] [[0, 2], [1]] :=
  ⟨rfl, by decide, by intro row hrow; simp at hrow; rcases hrow with rfl | rfl <;> simp [SInc],
    ⟨by intro j h1 h2; simp at h2; subst h2; simp, trivial⟩⟩

/-! ## 8. the number of tableaux: finite table for all partitions of `N ≤ 8`

`tableauxOK λ` (model file) says: the enumeration `allTableaux λ` (model of the recursion in
`_get_all_young_tableaux_hf0`) has exactly `hookLength λ` elements (model of `get_hook_length`), which is also
the number given by the corner-removal recurrence, every element is a standard filling of `λ`, and the
elements are strictly increasing in lexicographic order (hence pairwise distinct).  The hook-length
formula itself is not in Mathlib; the finite table below is the quantifier the property states.  What is
evaluated is only that the hook-length numbers obey the corner-removal recurrence: that the elements are standard and
distinct is `tableaux_sound` / `tableaux_nodup`, and the recurrence counts them for every shape
(`NumqiProofs/YoungCount.lean`, `YoungHook.lean`). -/

theorem lexLt_irrefl : ∀ a : List Nat, lexLt a a = false
  | [] => rfl
  | x :: xs => by simp [lexLt, lexLt_irrefl xs]

theorem lexLt_trans : ∀ a b c : List Nat, lexLt a b = true → lexLt b c = true → lexLt a c = true
  | [], [], _, h, _ => by simp [lexLt] at h
  | [], _ :: _, [], _, h => by simp [lexLt] at h
  | [], _ :: _, _ :: _, _, _ => by simp [lexLt]
  | _ :: _, [], _, h, _ => by simp [lexLt] at h
  | _ :: _, _ :: _, [], _, h => by simp [lexLt] at h
  | x :: xs, y :: ys, z :: zs, h1, h2 => by
    simp only [lexLt, Bool.or_eq_true, decide_eq_true_eq, Bool.and_eq_true, beq_iff_eq] at *
    rcases h1 with h1 | ⟨rfl, h1⟩
    · rcases h2 with h2 | ⟨rfl, _⟩
      · left; omega
      · left; exact h1
    · rcases h2 with h2 | ⟨rfl, h2⟩
      · left; exact h2
      · right; exact ⟨rfl, lexLt_trans xs ys zs h1 h2⟩

theorem nodup_of_strictLex : ∀ l : List (List Nat), strictLex l = true → l.Nodup
  | [], _ => List.nodup_nil
  | [_], _ => List.nodup_singleton _
  | a :: b :: rest, h => by
    simp only [strictLex, Bool.and_eq_true] at h
    have ih := nodup_of_strictLex (b :: rest) h.2
    have hall : ∀ l : List (List Nat), ∀ b, strictLex (b :: l) = true → ∀ c ∈ l, lexLt b c = true := by
      intro l
      induction l with
      | nil => intro b _ c hc; simp at hc
      | cons d l ihl =>
        intro b hb c hc
        simp only [strictLex, Bool.and_eq_true] at hb
        rcases List.mem_cons.1 hc with rfl | hc
        · exact hb.1
        · exact lexLt_trans _ _ _ hb.1 (ihl d hb.2 c hc)
    refine List.nodup_cons.2 ⟨?_, ih⟩
    intro hmem
    rcases List.mem_cons.1 hmem with rfl | hmem
    · rw [lexLt_irrefl] at h; simp at h
    · have := lexLt_trans _ _ _ h.1 (hall rest b h.2 a hmem)
      rw [lexLt_irrefl] at this; simp at this

/-- what `tableauxOK` gives, in plain terms -/
theorem tableauxOK_spec {shape : List Nat} (h : tableauxOK shape = true) :
    (allTableaux shape).length = hookLength shape ∧
    (allTableaux shape).length = sytCount shape.sum shape ∧
    (∀ t ∈ allTableaux shape, isStandard shape t = true) ∧
    (allTableaux shape).Nodup := by
  simp only [tableauxOK, Bool.and_eq_true, beq_iff_eq, List.all_eq_true] at h
  obtain ⟨⟨⟨h1, h2⟩, h3⟩, h4⟩ := h
  exact ⟨h1, h2, h3, (nodup_of_strictLex _ h4).of_map _⟩

/-- for a shape the code accepts, the hook-length value is all that a table has to supply -/
theorem tableaux_exact_of_hook {shape : List Nat} (hc : checkShape shape = true)
    (h : (allTableaux shape).length = hookLength shape) :
    (allTableaux shape).length = hookLength shape ∧
    (allTableaux shape).length = sytCount shape.sum shape ∧
    (∀ t ∈ allTableaux shape, isStandard shape t = true) ∧
    (allTableaux shape).Nodup :=
  ⟨h, allTableaux_length_eq_sytCount (validShape_of_check hc), fun t ht => (tableaux_sound shape hc t ht).1,
    tableaux_nodup shape hc⟩

private theorem hookLength_cornerSum_le10 :
    ∀ N ∈ List.range' 1 10, ∀ shape ∈ shapes N, hookLength shape = cornerSum hookLength shape := by decide +kernel

/-- **`get_hook_length(λ) = len(get_all_young_tableaux(λ))` for every partition of `N ≤ 10`**: the hook-length numbers
obey the corner-removal recurrence there (kernel evaluation, no tableau is enumerated), and the recurrence counts the
tableaux of every shape (`sytCount_eq_of_cornerSum`). -/
theorem tableaux_hook_count_le10 (N : Nat) (h1 : 1 ≤ N) (h10 : N ≤ 10) (shape : List Nat) (hs : shape ∈ shapes N) :
    (allTableaux shape).length = hookLength shape := by
  obtain ⟨hp, hpos, hsum⟩ := (shapes_exact N h1 shape).1 hs
  rw [allTableaux_length_eq_sytCount (validShape_of_check (checkShape_of_mem_shapes N h1 shape hs)), hsum]
  refine sytCount_eq_of_cornerSum hookLength 10 (by decide) (fun s hp' hpos' hne hle => ?_) N shape hp hpos hsum h10
  exact hookLength_cornerSum_le10 s.sum (List.mem_range'_1.2 ⟨by omega, by omega⟩) s
    ((shapes_exact _ (by omega) s).2 ⟨hp', hpos', rfl⟩)

/-- **for every partition `λ` of `N ≤ 8`** (`shapes N` = the rows of `get_sym_group_young_diagram(N)`):
`get_all_young_tableaux(λ)` returns exactly `get_hook_length(λ)` arrays, all standard fillings of `λ`,
pairwise distinct. -/
theorem tableaux_exact_le8 (N : Nat) (h1 : 1 ≤ N) (h8 : N ≤ 8) (shape : List Nat) (hs : shape ∈ shapes N) :
    (allTableaux shape).length = hookLength shape ∧
    (allTableaux shape).length = sytCount shape.sum shape ∧
    (∀ t ∈ allTableaux shape, isStandard shape t = true) ∧
    (allTableaux shape).Nodup :=
  tableaux_exact_of_hook (checkShape_of_mem_shapes N h1 shape hs)
    (tableaux_hook_count_le10 N h1 (by omega) shape hs)

/-- the named gap: the hook-length formula (not in Mathlib).  `get_hook_length(λ) = |SYT(λ)|` for every shape. -/
def hookLength_formula.Statement : Prop :=
  ∀ shape : List Nat, checkShape shape = true → hookLength shape = Set.ncard {t | IsSYT shape t}

/-- proved fragment: the hook-length value is the number of standard tableaux for every partition of `N ≤ 8`
(general count + the finite table of `tableaux_exact_le8`) -/
theorem hookLength_formula_le8 (N : Nat) (h1 : 1 ≤ N) (h8 : N ≤ 8) (shape : List Nat) (hs : shape ∈ shapes N) :
    hookLength shape = Set.ncard {t | IsSYT shape t} := by
  rw [← tableaux_count shape (checkShape_of_mem_shapes N h1 shape hs)]
  exact (tableaux_exact_le8 N h1 h8 shape hs).1.symm

/-- `get_hook_length` (prime-power bookkeeping `num // den`) is `N! / ∏ hooks` — for every partition of `N ≤ 10` (kernel evaluation) -/
theorem hookLength_eq_factorial_div_le10 :
    ∀ N, N ∈ List.range' 1 10 → ∀ shape ∈ shapes N, hookLength shape = shape.sum ! / (hooks shape).foldl (· * ·) 1 := by
  decide +kernel

/-- not vacuous: there are 22 partitions of 8, and the shape (4,3,1) has 70 standard tableaux -/
example : (shapes 8).length = 22 ∧ [4, 3, 1] ∈ shapes 8 ∧ (allTableaux [4, 3, 1]).length = 70 := by decide +kernel

end Numqi.C14
