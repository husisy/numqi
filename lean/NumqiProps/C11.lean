/-
C11 — measurement is a valid projective measurement on any ascending qubit subset.

Property theorems with their proofs (shared lemmas: `NumqiProofs/MeasureGrouping.lean`).  They are about the constants of `NumqiModel/Sim.lean` / `NumqiModel/Measure.lean` that the
driver executes: `reduceToProbability s ψ` (the vector `prob`), `project s o ψ` (the slice assignment), `post c s o ψ`
(the returned state, `c = 1/√prob[o]`), `keptIndexGrouped` (the run-length grouping of the axes) and `measureRecords`
(what the `MeasureGate`s of a circuit record).  All statements are for every number of qubits `n`, every tuple `s`
of measured qubits and every state; `R` is any semiring with a `StarRing` structure (commutative where the
normalisation constant `c` enters; instantiate `ℂ`), ordered where a sign is claimed.
-/
import NumqiProps.C03
import NumqiProofs.MeasureGrouping
import Mathlib.Algebra.Order.Star.Basic
import Mathlib.Data.Complex.Basic
import Mathlib.Data.Rat.Star

namespace Numqi.C11
open Numqi Function Matrix
attribute [local instance] starConj

variable {R : Type} {n m : Nat}

/-! ### outcome probabilities are the Born marginals -/

/-- **`prob[o] = Σ_{x : x|_s = o} |ψ x|²`** -/
theorem prob_eq_born [Semiring R] [StarRing R] (s : Fin m → Fin n) (ψ : Vec n R) (o : Bits m) :
    reduceToProbability s ψ o = ∑ x ∈ Finset.univ.filter (fun x : Bits n => x.sel s = o), star (ψ x) * ψ x :=
  C03.reduceToProbability_eq s ψ o

/-- probabilities are non-negative -/
theorem prob_nonneg [Semiring R] [PartialOrder R] [StarRing R] [StarOrderedRing R] (s : Fin m → Fin n)
    (ψ : Vec n R) (o : Bits m) : 0 ≤ reduceToProbability s ψ o := by
  rw [prob_eq_born]
  exact Finset.sum_nonneg (fun x _ => star_mul_self_nonneg (ψ x))

/-- they sum to `‖ψ‖²` — to one for a normalised state -/
theorem prob_sum [Semiring R] [StarRing R] (s : Fin m → Fin n) (ψ : Vec n R) :
    ∑ o, reduceToProbability s ψ o = ∑ x, star (ψ x) * ψ x :=
  C03.reduceToProbability_sum s ψ

/-- the probability of an outcome is the squared norm of the projected state -/
theorem prob_eq_norm_project [Semiring R] [StarRing R] (s : Fin m → Fin n) (ψ : Vec n R) (o : Bits m) :
    reduceToProbability s ψ o = ∑ x, star (project s o ψ x) * project s o ψ x := by
  simp only [reduceToProbability, sumBits_eq_sum, project, normSq, conj]
  refine Finset.sum_congr rfl (fun x _ => ?_)
  split <;> simp

/-! ### the sampled outcome -/

/-- **the returned outcome is in the support of the state**, under the contract of the sampler ("`choice` returns an
index whose probability is not zero"): some basis state compatible with the outcome has a non-zero amplitude, so the
projection that becomes the post-measurement state is not the zero vector (and the normalisation `1/√prob` is defined). -/
theorem outcome_has_nonzero_probability [Semiring R] [StarRing R] (s : Fin m → Fin n) (ψ : Vec n R) (o : Bits m)
    (hcontract : reduceToProbability s ψ o ≠ 0) :
    (∃ x : Bits n, x.sel s = o ∧ ψ x ≠ 0) ∧ project s o ψ ≠ fun _ => 0 := by
  have h1 : ∃ x : Bits n, x.sel s = o ∧ ψ x ≠ 0 := by
    by_contra hno
    apply hcontract
    rw [prob_eq_born]
    refine Finset.sum_eq_zero (fun x hx => ?_)
    have hx' : x.sel s = o := (Finset.mem_filter.1 hx).2
    have : ψ x = 0 := by
      by_contra h0; exact hno ⟨x, hx', h0⟩
    rw [this, mul_zero]
  refine ⟨h1, fun hz => ?_⟩
  obtain ⟨x, hx, hψ⟩ := h1
  have := congrFun hz x
  simp only [project, Bits.beq_iff, hx, if_true] at this
  exact hψ this

/-- conversely, over `ℂ`-like ordered star rings an outcome compatible with a non-zero amplitude has positive
probability, so the contract is satisfiable exactly on the support -/
theorem prob_pos_of_support [Semiring R] [PartialOrder R] [StarRing R] [StarOrderedRing R]
    (hstar : ∀ z : R, star z * z = 0 → z = 0)
    (s : Fin m → Fin n) (ψ : Vec n R) (x : Bits n) (hψ : ψ x ≠ 0) : 0 < reduceToProbability s ψ (x.sel s) := by
  rw [prob_eq_born]
  have hx : x ∈ Finset.univ.filter (fun y : Bits n => y.sel s = x.sel s) := by simp
  have hpos : 0 < star (ψ x) * ψ x :=
    lt_of_le_of_ne (star_mul_self_nonneg _) (fun h => hψ (hstar _ h.symm))
  exact lt_of_lt_of_le hpos (Finset.single_le_sum (f := fun y => star (ψ y) * ψ y) (fun y _ => star_mul_self_nonneg _) hx)

/-! ### the post-measurement state is the (normalised) projection -/

/-- `project` is multiplication by the projector `P_o` -/
theorem project_eq_mulVec [Semiring R] (s : Fin m → Fin n) (o : Bits m) (ψ : Vec n R) :
    project s o ψ = (Matrix.of (projEmbed s o)).mulVec ψ :=
  C03.op_apply_eq (.measure s o) trivial ψ

/-- `P_o` is idempotent … -/
theorem project_idem [Zero R] (s : Fin m → Fin n) (o : Bits m) (ψ : Vec n R) :
    project s o (project s o ψ) = project s o ψ := by
  funext x; simp only [project]; split <;> rfl

/-- … different outcomes are orthogonal … -/
theorem project_orthogonal [Zero R] (s : Fin m → Fin n) {o o' : Bits m} (h : o ≠ o') (ψ : Vec n R) :
    project s o' (project s o ψ) = fun _ => 0 := by
  funext x
  simp only [project, Bits.beq_iff]
  by_cases h1 : x.sel s = o'
  · have : ¬ x.sel s = o := fun e => h (e.symm.trans h1)
    rw [if_pos h1, if_neg this]
  · rw [if_neg h1]

/-- … and the projectors of all outcomes resolve the identity -/
theorem project_complete [Semiring R] (s : Fin m → Fin n) (ψ : Vec n R) :
    (fun x => ∑ o, project s o ψ x) = ψ := by
  funext x
  simp only [project, Bits.beq_iff]
  rw [Finset.sum_ite_eq]
  simp

/-- **the returned state is `c · P_o ψ`, and it is normalised** when `c² · prob[o] = 1` (`c = 1/√prob[o]` real):
`Σ_x |post x|² = 1`. -/
theorem post_is_projection [CommSemiring R] [StarRing R] (c : R) (hc : star c = c) (s : Fin m → Fin n)
    (o : Bits m) (ψ : Vec n R) (hnorm : c * c * reduceToProbability s ψ o = 1) :
    post c s o ψ = (fun x => c * (Matrix.of (projEmbed s o)).mulVec ψ x) ∧
      ∑ x, star (post c s o ψ x) * post c s o ψ x = 1 := by
  constructor
  · funext x; rw [← project_eq_mulVec]; rfl
  · rw [← hnorm, prob_eq_norm_project, Finset.mul_sum]
    refine Finset.sum_congr rfl (fun x _ => ?_)
    simp only [post, star_mul', hc]
    ring

/-! ### measuring again gives the same outcome with certainty and leaves the state unchanged -/

/-- **second measurement**: on the post-measurement state the outcome `o` has probability 1 and every other
outcome probability 0 … -/
theorem repeat_certain [CommSemiring R] [StarRing R] (c : R) (hc : star c = c) (s : Fin m → Fin n)
    (o : Bits m) (ψ : Vec n R) (hnorm : c * c * reduceToProbability s ψ o = 1) (o' : Bits m) :
    reduceToProbability s (post c s o ψ) o' = if o' = o then 1 else 0 := by
  by_cases h : o' = o
  · subst h
    rw [if_pos rfl, ← hnorm, prob_eq_norm_project, prob_eq_norm_project, Finset.mul_sum]
    refine Finset.sum_congr rfl (fun x _ => ?_)
    simp only [post, project]
    split
    · rw [star_mul', hc]; ring
    · simp
  · rw [if_neg h, prob_eq_norm_project]
    refine Finset.sum_eq_zero (fun x _ => ?_)
    simp only [post, project, Bits.beq_iff]
    by_cases h1 : x.sel s = o'
    · have h2 : ¬ x.sel s = o := fun e => h (h1.symm.trans e)
      rw [if_pos h1, if_neg h2]; simp
    · rw [if_neg h1]; simp

/-- … and the state returned by the second measurement (projection on `o`, normalisation factor 1) is the state
itself -/
theorem repeat_state_unchanged [Semiring R] (c : R) (s : Fin m → Fin n) (o : Bits m) (ψ : Vec n R) :
    post 1 s o (post c s o ψ) = post c s o ψ := by
  funext x
  simp only [post, project, one_mul]
  split <;> simp

/-! ### the run-length grouping of the axes addresses the same entries as the bitwise description -/

/-- **`grouping_spec`, every `n`, every ascending subset, any number of kept / reduced groups**: un-ravelling a flat
position of `q0` against the merged shape of `_measure_quantum_vector_hf0` and ravelling the digits of the kept axes
gives the number read off the measured bits (qubit 0 most significant). -/
theorem grouping_spec (n : Nat) (index : List Nat) (h : index ∈ (List.range n).sublists) : GroupingSpec n index := by
  rw [List.mem_sublists] at h
  intro p hp
  set K := (List.range n).map fun i => index.contains i with hK
  have hlen : K.length = n := by simp [hK]
  have hpos : posTrue K = index := by
    unfold posTrue
    rw [hlen, ← filter_contains_of_sublist h]
    apply List.filter_congr
    intro q hq
    have hq' : q < n := List.mem_range.1 hq
    simp [hK, List.getD_eq_getElem?_getD, hq']
  rw [keptIndexGrouped_eq_gIdx, gIdx_runLength_eq_bIdx K p (by rw [hlen]; exact hp)]
  have := keptIndexBitwise_posTrue K p
  rw [hlen, hpos] at this
  exact this.symm

/-- the literal (grouped) `prob` is the Born marginal, given the grouping specification -/
theorem probGrouped_eq [Semiring R] [StarRing R] (s : Fin m → Fin n)
    (hspec : GroupingSpec n (List.ofFn fun j => (s j).val)) (a : Array R) :
    probGrouped n (List.ofFn fun j => (s j).val) a = tabulate (reduceToProbability s (lookup (n := n) a)) := by
  unfold probGrouped tabulate
  have hm : (List.ofFn fun j => (s j).val).length = m := by simp
  apply Array.ext
  · simp
  · intro i h1 h2
    simp only [Array.getElem_ofFn]
    have hi : i < 2 ^ m := by simpa using h2
    rw [sum_range_eq_finRange]
    simp only [reduceToProbability, sumBits]
    congr 1
    apply List.map_congr_left
    intro p _
    have hp := hspec p.val p.isLt
    rw [hp, keptIndexBitwise_eq]
    simp only [lookup, Bits.toNat_ofNat p.isLt, beq_iff_eq, toNat_eq_iff _ hi, Bits.beq_iff]

theorem projectGrouped_eq [Zero R] (s : Fin m → Fin n)
    (hspec : GroupingSpec n (List.ofFn fun j => (s j).val)) (o : Bits m) (a : Array R) :
    projectGrouped n (List.ofFn fun j => (s j).val) o.toNat a = tabulate (project s o (lookup (n := n) a)) := by
  unfold projectGrouped tabulate
  apply Array.ext
  · simp
  · intro i h1 h2
    simp only [Array.getElem_ofFn]
    have hi : i < 2 ^ n := by simpa using h2
    have hp := hspec i hi
    rw [hp, keptIndexBitwise_eq]
    simp only [project, lookup, Bits.toNat_ofNat hi, beq_iff_eq, Bits.beq_iff]
    have : ((Bits.ofNat n i).sel s).toNat = o.toNat ↔ (Bits.ofNat n i).sel s = o :=
      ⟨fun h => Bits.toNat_injective h, fun h => by rw [h]⟩
    simp only [this]

/-- **the literal computation of `measure_quantum_vector` is the bitwise one** for every register size and every
ascending tuple of measured qubits: `prob` is the vector of Born marginals and the slice assignment is the
projection on the outcome with flat index `ind1`. -/
theorem measure_grouped_eq_bitwise [Semiring R] [StarRing R] (s : Fin m → Fin n) (hs : StrictMono s)
    (o : Bits m) (a : Array R) :
    probGrouped n (List.ofFn fun j => (s j).val) a = tabulate (reduceToProbability s (lookup (n := n) a)) ∧
    projectGrouped n (List.ofFn fun j => (s j).val) o.toNat a = tabulate (project s o (lookup (n := n) a)) :=
  have h := grouping_spec n _ (ofFn_mem_sublists s hs)
  ⟨probGrouped_eq s h a, projectGrouped_eq s h o a⟩

/-- the bit string returned for the sampled index `ind1` is the outcome `o` with `o.toNat = ind1`, most significant
(= lowest-numbered measured qubit) first -/
theorem bitstr_eq (o : Bits m) : bitstrOf m o.toNat = List.ofFn o := by
  rw [bitstrOf, Bits.ofNat_toNat]

/-! ### `MeasureGate` inside a circuit -/

/-- **What a `MeasureGate` records refers to the state at that point of the circuit**: the probabilities recorded by
the measure entry that follows the gates `pre` are the Born marginals of `(∏ pre) ψ`, and the state handed to the
gates after it is the projection of that state. -/
theorem measureGate_in_circuit [Semiring R] [StarRing R] (pre rest : List (Op n R)) (hpre : ∀ g ∈ pre, g.WF)
    (s : Fin m → Fin n) (o : Bits m) (a : Array R) :
    measureRecords (pre ++ Op.measure s o :: rest) a
      = measureRecords pre a
        ++ tabulate (reduceToProbability s ((circuitMatrix pre).mulVec (lookup a)))
        :: measureRecords rest (tabulate (project s o ((circuitMatrix pre).mulVec (lookup a)))) := by
  rw [measureRecords_append]
  simp only [measureRecords, List.singleton_append, Op.applyA, Op.apply]
  rw [C03.applyStateA_eq pre hpre]

/-- **`extend_circuit` / re-use of a block holding `MeasureGate`s**: the records of the extended circuit are the records of the
first part followed by the records the appended block produces on the state the first part leaves — so a `MeasureGate` object
placed twice records twice, each time about the state at that point. -/
theorem measureRecords_extend [Semiring R] [StarRing R] (c1 c2 : List (Op n R)) (a : Array R) :
    measureRecords (c1 ++ c2) a = measureRecords c1 a ++ measureRecords c2 (applyStateA c1 a) :=
  measureRecords_append c1 c2 a

/-! ### the executed carrier -/

/-- **what the driver computes**: the vector `prob` evaluated with the model's own `ℚ[i]` operations and conjugation
(`QI.instAdd … QI.instConj`) is the Born marginal.  `QI` is a commutative star ring on those very operations
(`NumqiProofs/ScalarInstances.lean`), so this is `prob_eq_born` at `R = QI`. -/
theorem prob_eq_born_QI (s : Fin m → Fin n) (ψ : Vec n QI) (o : Bits m) :
    @reduceToProbability QI n m QI.instAdd QI.instMul QI.instZero QI.instConj s ψ o
      = ∑ x ∈ Finset.univ.filter (fun x : Bits n => x.sel s = o), star (ψ x) * ψ x :=
  prob_eq_born s ψ o

/-- … and it is non-negative in the order of `ℚ[i]` restricted to its real part: the real part is a sum of squares -/
theorem prob_re_nonneg_QI (s : Fin m → Fin n) (ψ : Vec n QI) (o : Bits m) :
    0 ≤ (@reduceToProbability QI n m QI.instAdd QI.instMul QI.instZero QI.instConj s ψ o).re := by
  rw [prob_eq_born_QI]
  have hre : ∀ (S : Finset (Bits n)) (f : Bits n → QI), (∑ x ∈ S, f x).re = ∑ x ∈ S, (f x).re := by
    intro S f
    induction S using Finset.induction_on with
    | empty => simp
    | insert a S ha ih => rw [Finset.sum_insert ha, Finset.sum_insert ha, QI.add_re, ih]
  rw [hre]
  refine Finset.sum_nonneg (fun x _ => ?_)
  simp only [QI.mul_re, star, QI.conj_re, QI.conj_im]
  nlinarith [mul_self_nonneg (ψ x).re, mul_self_nonneg (ψ x).im]

/-! ### the hypotheses are satisfiable, the statements are not vacuous -/

/-- the model computes: marginal of qubit 1 of the (un-normalised) state (1,2,0,3): outcome 0 ↦ 1²+0², outcome 1 ↦ 2²+3² -/
example : tabulate (reduceToProbability (![1] : Fin 1 → Fin 2) (lookup (n := 2) #[(1 : Int), 2, 0, 3])) = #[1, 13] := by
  decide
example : tabulate (project (![1] : Fin 1 → Fin 2) (fun _ => true) (lookup (n := 2) #[(1 : Int), 2, 0, 3]))
    = #[0, 2, 0, 3] := by decide

/-- the subset (1,3) of five qubits — the unmeasured qubits form three groups — is
strictly ascending, and the literal grouped computation agrees with the Born marginal on a concrete state -/
example : StrictMono (![1, 3] : Fin 2 → Fin 5) := by decide
example : probGrouped 5 [1, 3] ((Array.range 32).map Int.ofNat)
    = tabulate (reduceToProbability (![1, 3] : Fin 2 → Fin 5) (lookup (n := 5) ((Array.range 32).map Int.ofNat))) := by
  decide +kernel

/-- the normalisation hypothesis of `post_is_projection` / `repeat_certain` is satisfiable with a non-trivial state:
`ψ = (3,4)/5` over `ℚ`, outcome 0, `c = 5/3` -/
example : star (5/3 : ℚ) = 5/3 ∧
    (5/3 : ℚ) * (5/3) * reduceToProbability (![0] : Fin 1 → Fin 1) (lookup (n := 1) #[(3/5 : ℚ), 4/5]) (fun _ => false) = 1 := by
  refine ⟨rfl, ?_⟩
  decide +kernel

/-- `ℚ` (and `ℝ`, `ℂ` with its star order) satisfy the order hypotheses of `prob_nonneg` -/
example (s : Fin 1 → Fin 2) (ψ : Vec 2 ℚ) (o : Bits 1) : 0 ≤ reduceToProbability s ψ o := prob_nonneg s ψ o

/-- the definiteness hypothesis of `prob_pos_of_support` holds in `ℚ` (and `ℝ`, `ℂ`) -/
example : ∀ z : ℚ, star z * z = 0 → z = 0 := by
  intro z h; simpa using h

/-- the contract of `outcome_has_nonzero_probability` is satisfiable: outcome 1 of qubit 1 of (1,2,0,3) -/
example : reduceToProbability (![1] : Fin 1 → Fin 2) (lookup (n := 2) #[(1 : Int), 2, 0, 3]) (fun _ => true) ≠ 0 := by
  decide

end Numqi.C11
