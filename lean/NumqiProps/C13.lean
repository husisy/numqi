/-
C13 — two-qubit measures agree with each other; the convex-roof ansatz bounds from above.

Property theorems (algebra, all sizes). The scalar layer over ℝ (ranges, monotonicity, zero sets, guard totality of the
closed forms as functions of the concurrence) depends on the regenerated guard flags and lives in
`NumqiProofs/DecisionC13.lean`.
-/
import NumqiProofs.EntangleSpin
import Mathlib.Analysis.SpecialFunctions.Log.NegMulLog
import Mathlib.Analysis.Convex.Jensen
import Mathlib.Algebra.Order.Chebyshev
import Mathlib.Tactic
import Mathlib.LinearAlgebra.Matrix.Determinant.Basic
import Mathlib.LinearAlgebra.Matrix.Adjugate
import Mathlib.LinearAlgebra.Matrix.Trace
import Mathlib.LinearAlgebra.Matrix.Kronecker
import Mathlib.LinearAlgebra.UnitaryGroup
import Mathlib.Data.Complex.Basic
import Mathlib.LinearAlgebra.Matrix.Notation

namespace Numqi.C13
open Numqi Numqi.Ent Matrix
open scoped Kronecker

variable {R : Type} [CommRing R] [StarRing R]

/-! ## every parameter value is a pure-state decomposition -/

/-- **upper-bound theorem on the model's flat arrays** (matrix form: `ensemble_decomposition` in `NumqiProofs/EntangleSpin.lean`): `Σ_α ψ_α[k] conj ψ_α[k'] = Σ_j S[k,j] conj S[k',j]` for the ensemble
`ψ_α = ensembleVec …` that the models contract, whenever the Stiefel matrix is an isometry. -/
theorem ensembleVec_decomposition (num rank : Nat) (S X : Nat → R)
    (hX : ∀ j < rank, ∀ l < rank, sumRange num (fun al => X (al * rank + j) * conj (X (al * rank + l))) = if j = l then 1 else 0)
    (k k' : Nat) :
    sumRange num (fun al => ensembleVec rank S X al k * conj (ensembleVec rank S X al k'))
      = sumRange rank fun j => S (k * rank + j) * conj (S (k' * rank + j)) := by
  simp only [ensembleVec, conj_eq_star, sumRange_eq_sum, star_sum, star_mul'] at hX ⊢
  simp only [Finset.sum_mul_sum]
  rw [Finset.sum_comm]
  refine Finset.sum_congr rfl fun j hj => ?_
  rw [Finset.sum_comm]
  have : ∀ l ∈ Finset.range rank, (∑ al ∈ Finset.range num, S (k * rank + j) * X (al * rank + j) * (star (S (k' * rank + l)) * star (X (al * rank + l))))
      = S (k * rank + j) * star (S (k' * rank + l)) * (if j = l then 1 else 0) := by
    intro l hl
    rw [← hX j (Finset.mem_range.1 hj) l (Finset.mem_range.1 hl), Finset.mul_sum]
    refine Finset.sum_congr rfl fun al _ => by ring
  rw [Finset.sum_congr rfl this]
  simp only [mul_ite, mul_one, mul_zero, Finset.sum_ite_eq, hj, if_true]

/-- **the contraction the EOF / concurrence / linear-entropy models evaluate is the reduced state of each ensemble
member**: for `dimA ≤ dimB`, `contract_expr(X, conj X)[α,a,a'] = Σ_b ψ_α[a,b] conj ψ_α[a',b]`; otherwise the reduced state on B. -/
theorem ensembleRdm_eq (dimA dimB rank : Nat) (S X : Nat → R) (al p q : Nat) :
    ensembleRdm dimA dimB rank S X al p q =
      if dimA ≤ dimB then
        sumRange dimB fun b => ensembleVec rank S X al (flat [dimA, dimB] [p, b]) * conj (ensembleVec rank S X al (flat [dimA, dimB] [q, b]))
      else
        sumRange dimA fun a => ensembleVec rank S X al (flat [dimA, dimB] [a, p]) * conj (ensembleVec rank S X al (flat [dimA, dimB] [a, q])) := by
  have hf : ∀ a b j, flat [dimA, dimB, rank] [a, b, j] = flat [dimA, dimB] [a, b] * rank + j := by
    intro a b j; simp [flat, prodL]; ring
  unfold ensembleRdm
  split_ifs
  all_goals
    simp only [ensembleVec, conj_eq_star, sumRange_eq_sum, star_sum, star_mul', hf, Finset.sum_mul_sum]
    exact Finset.sum_congr rfl fun b _ => Finset.sum_congr rfl fun j _ => Finset.sum_congr rfl fun l _ => by ring

omit [StarRing R] in
/-- **the GME model's contraction is the overlap of each ensemble member with a product vector** -/
theorem gmeOverlap_eq (dims : List Nat) (rank : Nat) (S X : Nat → R) (psi : Nat → Nat → R) (al : Nat) :
    gmeOverlap dims rank S X psi al = sumRange (prodL dims) fun k => ensembleVec rank S X al k *
      ((List.range dims.length).foldl (fun acc x => acc * psi x (al * dims.getD x 1 + (unflat dims k).getD x 0)) 1) := by
  simp only [gmeOverlap, ensembleVec, sumRange_eq_sum, Finset.sum_mul]

/-! ## pure states -/

/-- **pure-state concurrence of two qubits is `2|det ψ|`**: for a normalised `2×2` amplitude matrix the radicand of
`get_concurrence_pure` equals `(2|det ψ|)² = 4 · det ψ · conj(det ψ)`. -/
theorem concPureRadicand_two_qubit (ψ : Nat → Nat → R)
    (hn : ψ 0 0 * star (ψ 0 0) + ψ 0 1 * star (ψ 0 1) + ψ 1 0 * star (ψ 1 0) + ψ 1 1 * star (ψ 1 1) = 1) :
    concPureRadicand 2 2 ψ = 4 * ((ψ 0 0 * ψ 1 1 - ψ 0 1 * ψ 1 0) * star (ψ 0 0 * ψ 1 1 - ψ 0 1 * ψ 1 0)) := by
  simp only [concPureRadicand, sumRange, conj_eq_star, lt_irrefl, if_false, List.range_succ, List.range_zero, List.nil_append,
    List.map_cons, List.map_nil, List.sum_cons, List.sum_nil, List.cons_append, add_zero, star_add, star_mul', star_star, star_sub]
  linear_combination (-2 * (1 + (ψ 0 0 * star (ψ 0 0) + ψ 0 1 * star (ψ 0 1) + ψ 1 0 * star (ψ 1 0) + ψ 1 1 * star (ψ 1 1)))) * hn

/-! ## the spin flip and local unitaries -/

private theorem flipSign_zero {A : Type} [One A] [Neg A] : (flipSign 0 : A) = -1 := if_pos (by decide)
private theorem flipSign_one {A : Type} [One A] [Neg A] : (flipSign 1 : A) = 1 := if_neg (by decide)
private theorem flipSign_two {A : Type} [One A] [Neg A] : (flipSign 2 : A) = 1 := if_neg (by decide)
private theorem flipSign_three {A : Type} [One A] [Neg A] : (flipSign 3 : A) = -1 := if_pos (by decide)

private theorem star_flipSign (i : Nat) : star (flipSign i : R) = flipSign i := by
  unfold flipSign
  split_ifs
  · rw [star_neg, star_one]
  · rw [star_one]

/-- **`z0 = (tmp0[:,None]*tmp0) * rho[::-1,::-1].conj()` is `(σy⊗σy) ρ* (σy⊗σy)`** -/
theorem spinFlip_eq (ρ : Matrix (Fin 4) (Fin 4) ℂ) :
    (Matrix.of fun i j : Fin 4 => spinFlip (fun r c => if h : r < 4 ∧ c < 4 then ρ ⟨r, h.1⟩ ⟨c, h.2⟩ else 0) i j)
      = sigmaYY * ρ.map star * sigmaYY := by
  ext i j
  have hi : 3 - (i : Nat) = i.rev := by rw [Fin.val_rev]; omega
  have hj : 3 - (j : Nat) = j.rev := by rw [Fin.val_rev]; omega
  rw [sigmaYY_mul_mul, Matrix.of_apply, spinFlip, hi, hj, dif_pos ⟨i.rev.isLt, j.rev.isLt⟩]
  rfl


/-- the model's spin flip as a map on 4×4 complex matrices -/
def modelFlip (ρ : Matrix (Fin 4) (Fin 4) ℂ) : Matrix (Fin 4) (Fin 4) ℂ :=
  Matrix.of fun i j : Fin 4 => spinFlip (fun r c => if h : r < 4 ∧ c < 4 then ρ ⟨r, h.1⟩ ⟨c, h.2⟩ else 0) i j

/-- the flat index `2a+b` of the model -/
abbrev e4 : Fin 2 × Fin 2 ≃ Fin 4 := finProdFinEquiv

/-- `U ⊗ V` on the flat index `2a+b` of the model -/
def kron4 (U V : Matrix (Fin 2) (Fin 2) ℂ) : Matrix (Fin 4) (Fin 4) ℂ :=
  (U ⊗ₖ V).submatrix e4.symm e4.symm

/-- **local-unitary covariance of the model's spin flip**: `spinFlip (W ρ Wᴴ) = W (spinFlip ρ) Wᴴ` for `W = U⊗V`, `U,V ∈ U(2)`, on the
constant `spinFlip` that `get_concurrence_2qubit`'s model executes; hence `ρρ̃ ↦ W(ρρ̃)Wᴴ` is a similarity. -/
theorem spinFlip_model_local_unitary (U V : Matrix (Fin 2) (Fin 2) ℂ) (hU : U * Uᴴ = 1) (hV : V * Vᴴ = 1)
    (ρ : Matrix (Fin 4) (Fin 4) ℂ) :
    modelFlip (kron4 U V * ρ * (kron4 U V)ᴴ) = kron4 U V * modelFlip ρ * (kron4 U V)ᴴ := by
  have hY : sigmaYY = (sigmaY ⊗ₖ sigmaY).submatrix e4.symm e4.symm := by
    ext i j
    rw [Matrix.submatrix_apply, Matrix.kroneckerMap_apply, ← sigmaYY_eq_kron, Equiv.apply_symm_apply, Equiv.apply_symm_apply]
  have hρ : ρ = (ρ.submatrix e4 e4).submatrix e4.symm e4.symm := by
    rw [Matrix.submatrix_submatrix, Equiv.self_comp_symm, Matrix.submatrix_id_id]
  unfold modelFlip kron4
  rw [spinFlip_eq, spinFlip_eq, hY]
  conv_lhs => rw [hρ]
  conv_rhs => rw [hρ]
  simp only [Matrix.submatrix_mul_equiv, ← Matrix.submatrix_map, Matrix.conjTranspose_submatrix]
  exact congrArg (fun M => M.submatrix e4.symm e4.symm) (kron_spinFlip_local_unitary U V hU hV (ρ.submatrix e4 e4))


/-! ## pure states: the mixed-state formulas reduce to the pure-state ones -/

/-- `ρ = ψψᴴ` on flat indices -/
def pureRho (ψ : Nat → R) : Nat → Nat → R := fun r c => ψ r * conj (ψ c)

/-- the spin-flipped vector `ψ̃ = (σy⊗σy) ψ*` -/
def flipVec (ψ : Nat → R) : Nat → R := fun i => flipSign i * conj (ψ (3 - i))

/-- `det ψ` of the 2×2 amplitude matrix `ψ[2a+b]` -/
def det2 (ψ : Nat → R) : R := ψ 0 * ψ 3 - ψ 1 * ψ 2

private theorem spinFlip_pureRho (ψ : Nat → R) : spinFlip (pureRho ψ) = pureRho (flipVec ψ) := by
  funext i j
  simp only [spinFlip, pureRho, flipVec, conj_eq_star, star_mul', star_star, star_flipSign]
  ring

/-- **spin flip of a pure state is the pure state of the flipped vector** -/
theorem spinFlip_pure (ψ : Nat → R) (i j : Fin 4) : spinFlip (pureRho ψ) i j = pureRho (flipVec ψ) i j := by
  rw [spinFlip_pureRho]

private theorem sumRange_four {M : Type} [AddCommMonoid M] (f : Nat → M) : sumRange 4 f = f 0 + f 1 + f 2 + f 3 := by
  simp only [sumRange_succ, sumRange_zero, zero_add]

private theorem flipVec_zero (ψ : Nat → R) : flipVec ψ 0 = -star (ψ 3) := by
  rw [flipVec, flipSign_zero, neg_one_mul]; rfl
private theorem flipVec_one (ψ : Nat → R) : flipVec ψ 1 = star (ψ 2) := by
  rw [flipVec, flipSign_one, one_mul]; rfl
private theorem flipVec_two (ψ : Nat → R) : flipVec ψ 2 = star (ψ 1) := by
  rw [flipVec, flipSign_two, one_mul]; rfl
private theorem flipVec_three (ψ : Nat → R) : flipVec ψ 3 = -star (ψ 0) := by
  rw [flipVec, flipSign_three, neg_one_mul]; rfl

/-- `⟨ψ|ψ̃⟩ = -2·conj(det ψ)` -/
theorem overlap_flipVec (ψ : Nat → R) : sumRange 4 (fun k => conj (ψ k) * flipVec ψ k) = -2 * star (det2 ψ) := by
  simp only [sumRange_four, flipVec_zero, flipVec_one, flipVec_two, flipVec_three, det2, conj_eq_star, star_sub, star_mul']
  ring

/-- `⟨ψ̃|ψ⟩ = -2·det ψ` -/
private theorem overlap_flipVec_left (ψ : Nat → R) : sumRange 4 (fun k => conj (flipVec ψ k) * ψ k) = -2 * det2 ψ := by
  simp only [sumRange_four, flipVec_zero, flipVec_one, flipVec_two, flipVec_three, det2, conj_eq_star, star_neg, star_star]
  ring

/-- rank-one matrices multiply to a rank-one matrix: `(u vᴴ)(x yᴴ) = ⟨v|x⟩ u yᴴ` -/
private theorem matMul_rankOne (n : Nat) (u v x y : Nat → R) :
    matMul n (fun r c => u r * conj (v c)) (fun r c => x r * conj (y c))
      = fun i j => (sumRange n (fun k => conj (v k) * x k) * u i) * conj (y j) := by
  funext i j
  simp only [matMul, sumRange_eq_sum, Finset.sum_mul]
  exact Finset.sum_congr rfl fun k _ => by ring

/-- **`R = ρ ρ̃` of a pure state is rank one**: `R = ⟨ψ|ψ̃⟩ · ψ ψ̃ᴴ` -/
theorem pure_R_rankOne (ψ : Nat → R) (i j : Fin 4) :
    matMul 4 (pureRho ψ) (spinFlip (pureRho ψ)) i j = (-2 * star (det2 ψ)) * (ψ i * conj (flipVec ψ j)) := by
  rw [spinFlip_pureRho]
  unfold pureRho
  simp only [matMul_rankOne, overlap_flipVec, mul_assoc]

/-- its trace is `4·det ψ·conj(det ψ) = (2|det ψ|)²` … -/
theorem pure_R_trace (ψ : Nat → R) :
    sumRange 4 (fun i => (-2 * star (det2 ψ)) * (ψ i * conj (flipVec ψ i))) = 4 * (det2 ψ * star (det2 ψ)) := by
  have h := overlap_flipVec_left ψ
  simp only [sumRange_four] at h ⊢
  linear_combination (-2 * star (det2 ψ)) * h

/-- … and `R² = (tr R)·R`: the only possibly non-zero eigenvalue of `R` is `(2|det ψ|)²` -/
theorem pure_R_sq (ψ : Nat → R) (i j : Nat) :
    matMul 4 (fun r c => (-2 * star (det2 ψ)) * (ψ r * conj (flipVec ψ c))) (fun r c => (-2 * star (det2 ψ)) * (ψ r * conj (flipVec ψ c))) i j
      = (4 * (det2 ψ * star (det2 ψ))) * ((-2 * star (det2 ψ)) * (ψ i * conj (flipVec ψ j))) := by
  have h := overlap_flipVec_left ψ
  simp only [matMul, sumRange_four] at h ⊢
  linear_combination ((-2 * star (det2 ψ)) ^ 2 * ψ i * conj (flipVec ψ j)) * h

/-- **the matrix handed to `eigvalsh` for a pure state** (`sqrt_rho = ρ` because `ρ² = ρ` for a unit vector; the identity
holds for every `ψ`): `ρ ρ̃ ρ = (2|det ψ|)² · ρ`. -/
theorem concurrenceArg_pure (ψ : Nat → R) (i j : Fin 4) :
    concurrenceArg (pureRho ψ) (pureRho ψ) i j = (4 * (det2 ψ * star (det2 ψ))) * pureRho ψ i j := by
  rw [concurrenceArg, spinFlip_pureRho]
  unfold pureRho
  simp only [matMul_rankOne, overlap_flipVec, overlap_flipVec_left]
  ring

/-- a unit vector's projector is idempotent, so it is its own positive square root (the `eigh` contract for pure states) -/
theorem pureRho_idem (ψ : Nat → R) (hn : sumRange 4 (fun k => conj (ψ k) * ψ k) = 1) (i j : Nat) :
    matMul 4 (pureRho ψ) (pureRho ψ) i j = pureRho ψ i j := by
  unfold pureRho
  simp only [matMul_rankOne, hn, one_mul]

/-- eigen-structure of `t·ψψᴴ`: `ψ` is an eigenvector with eigenvalue `t‖ψ‖²`, everything orthogonal to `ψ` is in the kernel -/
theorem rankOne_eigen (t : R) (ψ v : Nat → R) (r : Nat) :
    sumRange 4 (fun c => (t * pureRho ψ r c) * v c) = (t * sumRange 4 (fun c => conj (ψ c) * v c)) * ψ r := by
  simp only [sumRange_eq_sum, pureRho, Finset.mul_sum, Finset.sum_mul]
  exact Finset.sum_congr rfl fun c _ => by ring

/-- the reduced state `T = ψᴴψ` of a two-qubit pure state (as in `get_concurrence_pure` / `get_eof_pure`) has trace `‖ψ‖²` and
determinant `det ψ·conj(det ψ)`: its eigenvalues (Schmidt weights) are the roots of `x² − ‖ψ‖² x + |det ψ|²` -/
theorem schmidt_trace_det (ψ : Nat → R) :
    let T : Nat → Nat → R := fun i j => sumRange 2 fun a => conj (ψ (2 * a + i)) * ψ (2 * a + j)
    T 0 0 + T 1 1 = sumRange 4 (fun k => conj (ψ k) * ψ k) ∧ T 0 0 * T 1 1 - T 0 1 * T 1 0 = det2 ψ * star (det2 ψ) := by
  simp only [sumRange_succ, sumRange_zero, zero_add, det2, conj_eq_star, star_sub, star_mul']
  constructor <;> ring


omit [StarRing R] in
/-- **product states**: for `ψ = a ⊗ b` (`ψ[2i+j] = a_i b_j`) the amplitude determinant vanishes … -/
private theorem det2_product (a b : Nat → R) : det2 (fun k => a (k / 2) * b (k % 2)) = 0 := by
  simp only [det2]; ring

/-- … hence the matrix handed to `eigvalsh` by `get_concurrence_2qubit` for the pure product state `aaᴴ ⊗ bbᴴ` is the zero matrix
(`R = ρρ̃` has `tr R = 0`, `R² = 0`): its spectrum is `(0,0,0,0)`, the read-out (`woottersReadout_zero`) is concurrence 0, and
`eof_zero`, `gme_eq_zero_iff` give EOF = GME = 0 — "finite and zero" on pure product states, modulo the `eigvalsh` contract. -/
theorem concurrenceArg_product (a b : Nat → R) (i j : Fin 4) :
    concurrenceArg (pureRho fun k => a (k / 2) * b (k % 2)) (pureRho fun k => a (k / 2) * b (k % 2)) i j = 0 := by
  rw [concurrenceArg_pure, det2_product, zero_mul, mul_zero, zero_mul]

/-! ## Bell-diagonal states -/

/-- a Bell-diagonal state with self-conjugate (real) weights is its own spin flip -/
theorem bellDiag_spinFlip (p : Nat → R) (hp : ∀ i, star (p i) = p i) (i j : Fin 4) :
    spinFlip (bellDiag2 p) i j = bellDiag2 p i j := by
  fin_cases i <;> fin_cases j <;> simp [spinFlip, flipSign, bellDiag2, conj_eq_star, hp]

omit [StarRing R] in
/-- Bell-diagonal matrices multiply weight-wise: `B(a)·B(b) = 2·B(ab)` -/
theorem bellDiag2_matMul (a b : Nat → R) (i j : Fin 4) :
    matMul 4 (bellDiag2 a) (bellDiag2 b) i j = 2 * bellDiag2 (fun k => a k * b k) i j := by
  rw [matMul, sumRange_four]
  fin_cases i <;> fin_cases j <;> simp [bellDiag2] <;> ring

omit [StarRing R] in
private theorem matMul4_congr {A A' B B' : Nat → Nat → R} (hA : ∀ i k : Fin 4, A i k = A' i k) (hB : ∀ k j : Fin 4, B k j = B' k j)
    (i j : Fin 4) : matMul 4 A B i j = matMul 4 A' B' i j := by
  simp only [matMul, sumRange_eq_sum_fin, hA, hB]

/-- **the argument of `eigvalsh` for a Bell-diagonal state**: with `sqrt_rho = ½·B(s)`, `ρ = ½·B(p)` (`B = bellDiag2`)
one gets `½·B(s·p·s)`; division-free: `B(s)·spinFlip(B(p))·B(s) = 4·B(s p s)`. For `s_i = √p_i` this is `B(p²)`. -/
theorem concurrenceArg_bellDiag (s p : Nat → R) (hp : ∀ i, star (p i) = p i) (i j : Fin 4) :
    concurrenceArg (bellDiag2 s) (bellDiag2 p) i j = 4 * bellDiag2 (fun k => s k * p k * s k) i j := by
  have h1 : ∀ i k : Fin 4, matMul 4 (bellDiag2 s) (spinFlip (bellDiag2 p)) i k = 2 * bellDiag2 (fun k => s k * p k) i k := by
    intro i k
    rw [matMul4_congr (fun _ _ => rfl) (bellDiag_spinFlip p hp), bellDiag2_matMul]
  rw [concurrenceArg, matMul4_congr (A' := fun i k => 2 * bellDiag2 (fun k => s k * p k) i k) h1 (fun _ _ => rfl)]
  have h2 := bellDiag2_matMul (fun k => s k * p k) s i j
  simp only [matMul, sumRange_four] at h2 ⊢
  linear_combination 2 * h2

omit [StarRing R] in
/-- `B(q)` is diagonal in the Bell basis: `B(q)·bellVec_i = 2 q_{σ(i)}·bellVec_i` with `σ = (0,1,2,3)` for the state itself -/
theorem bellDiag2_mulVec_bellVec (q : Nat → R) (i r : Fin 4) :
    sumRange 4 (fun c => bellDiag2 q r c * bellVec i c) = 2 * q i * bellVec i r := by
  rw [sumRange_four]
  fin_cases i <;> fin_cases r <;> simp [bellDiag2, bellVec] <;> ring


/-! ## every loss is a convex combination of member values in range -/

private theorem gramNat_bounds (m n : Nat) (amp : Nat → Nat → ℂ) :
    let T : Nat → Nat → ℂ := fun p q => sumRange n fun b => amp p b * conj (amp q b)
    let tr := sumRange m fun a => T a a
    let pur := sumRange m fun a => sumRange m fun b => T a b * conj (T a b)
    tr.im = 0 ∧ pur.im = 0 ∧ 0 ≤ tr.re ∧ pur.re ≤ tr.re ^ 2 ∧ tr.re ^ 2 ≤ m * pur.re := by
  intro T tr pur
  let A : Matrix (Fin m) (Fin n) ℂ := Matrix.of fun p b => amp p b
  have hT : ∀ p q : Fin m, T p q = (A * Aᴴ) p q := by
    intro p q
    simp only [T, sumRange_eq_sum_fin, conj_eq_star]
    rw [Matrix.mul_apply]
    rfl
  have htr : tr = ((∑ i : Fin m, ∑ b : Fin n, ‖A i b‖ ^ 2 : ℝ) : ℂ) := by
    simp only [tr, T, sumRange_eq_sum_fin, conj_eq_star, A]
    push_cast
    refine Finset.sum_congr rfl fun i _ => Finset.sum_congr rfl fun b _ => ?_
    rw [Complex.star_def, Complex.mul_conj']
    rfl
  have hpur : pur = ((∑ i : Fin m, ∑ j : Fin m, ‖(A * Aᴴ) i j‖ ^ 2 : ℝ) : ℂ) := by
    simp only [pur, sumRange_eq_sum_fin, conj_eq_star]
    push_cast
    refine Finset.sum_congr rfl fun i _ => Finset.sum_congr rfl fun j _ => ?_
    rw [hT, Complex.star_def, Complex.mul_conj']
  have h1 := gram_purity_le A
  have h2 := gram_purity_ge A
  rw [Fintype.card_fin] at h2
  rw [htr, hpur]
  simp only [Complex.ofReal_im, Complex.ofReal_re, true_and]
  exact ⟨Finset.sum_nonneg fun _ _ => Finset.sum_nonneg fun _ _ => by positivity, h1, h2⟩

/-- **trace and purity of the reduced states that the models contract** (`prob = einsum(rdm,[0,1,1])`, `purity = contract_expr1(rdm, conj rdm)`,
on the constants `ensembleRdm`, `ensemblePurity`): both are real, `0 ≤ p`, and `p²/m ≤ purity ≤ p²` with `m = min(dimA,dimB)` — exactly the
hypotheses of `concMember_range` / `linentMember_range`, for every ensemble member `α`, every `S`, `X` and all sizes. -/
theorem ensembleRdm_purity_bounds (dimA dimB rank : Nat) (S X : Nat → ℂ) (al : Nat) :
    let m := if dimA ≤ dimB then dimA else dimB
    let p := sumRange m fun a => ensembleRdm dimA dimB rank S X al a a
    let pur := ensemblePurity m (fun al a b => ensembleRdm dimA dimB rank S X al a b) al
    p.im = 0 ∧ pur.im = 0 ∧ 0 ≤ p.re ∧ pur.re ≤ p.re ^ 2 ∧ p.re ^ 2 ≤ m * pur.re := by
  by_cases h : dimA ≤ dimB
  · simp only [h, if_true, ensemblePurity, ensembleRdm_eq, if_true]
    exact gramNat_bounds dimA dimB fun p b => ensembleVec rank S X al (flat [dimA, dimB] [p, b])
  · simp only [h, if_false, ensemblePurity, ensembleRdm_eq, if_false]
    exact gramNat_bounds dimB dimA fun p a => ensembleVec rank S X al (flat [dimA, dimB] [a, p])

/-- **the GME model's overlap with a unit product vector is at most the member's weight** (on the constant `gmeOverlap`):
`|out_α|² ≤ Σ_k |ψ_α[k]|² = p_α`, so each member of the GME loss `p_α − |out_α|²` lies in `[0, p_α]`. -/
theorem gmeOverlap_sq_le (dims : List Nat) (rank : Nat) (S X : Nat → ℂ) (psi : Nat → Nat → ℂ) (al : Nat)
    (hφ : ∑ k : Fin (prodL dims), ‖(List.range dims.length).foldl
      (fun acc x => acc * psi x (al * dims.getD x 1 + (unflat dims k).getD x 0)) 1‖ ^ 2 = 1) :
    ‖gmeOverlap dims rank S X psi al‖ ^ 2 ≤ ∑ k : Fin (prodL dims), ‖ensembleVec rank S X al k‖ ^ 2 := by
  rw [gmeOverlap_eq, sumRange_eq_sum_fin]
  exact overlap_sq_le _ _ hφ


/-! ## options: canonical-polyadic rank > 1, `_sqrt_rho` from the `eigh` output -/

omit [StarRing R] in
/-- **GME model with `CPrank > 1`**: the contraction is the overlap of each ensemble member with the canonical-polyadic vector
`Φ_α = Σ_c coeff[α,c] ⊗_x psi_x[α,c]` (`cpVec`) -/
theorem gmeOverlapCP_eq (dims : List Nat) (rank cp : Nat) (S X coeff : Nat → R) (psi : Nat → Nat → R) (al : Nat) :
    gmeOverlapCP dims rank cp S X coeff psi al
      = sumRange (prodL dims) fun k => ensembleVec rank S X al k * cpVec dims cp coeff psi al k := by
  simp only [gmeOverlapCP, ensembleVec, cpVec, sumRange_eq_sum, Finset.sum_mul, Finset.mul_sum]
  refine Finset.sum_congr rfl fun k _ => ?_
  rw [Finset.sum_comm]
  refine Finset.sum_congr rfl fun j _ => Finset.sum_congr rfl fun c _ => by ring

/-- **the normalisation contraction `contract_psi_psi` is the squared norm of the canonical-polyadic vector**, for every dimension list, every
number of parties and every `CPrank` (the product over parties is exchanged with the sum over multi-indices: `sum_prod_unflat`).  The driver
executes `cpNormSq` / `cpVec` for >= 2 parties (ops `cpnorm`, `gmeovcp`); additionally probed (`model-gme:cp-normalisation`: the vectors
returned by `get_state()` have unit norm to 1e-9). -/
theorem cpNormSq_eq_norm (dims : List Nat) (cp : Nat) (coeff : Nat → ℂ) (psi : Nat → Nat → ℂ) (al : Nat) (hc : ∀ t, star (coeff t) = coeff t) :
    cpNormSq dims cp coeff psi (fun x t => star (psi x t)) al
      = sumRange (prodL dims) fun k => cpVec dims cp coeff psi al k * star (cpVec dims cp coeff psi al k) := by
  simp only [cpNormSq, cpVec, sumRange_eq_sum, foldl_range_mul, star_sum, star_mul', hc, star_prod]
  have hr : ∀ k ∈ Finset.range (prodL dims),
      (∑ c ∈ Finset.range cp, coeff (al * cp + c) * ∏ x ∈ Finset.range dims.length, psi x ((al * cp + c) * dims.getD x 1 + (unflat dims k).getD x 0))
        * (∑ c' ∈ Finset.range cp, coeff (al * cp + c') * ∏ x ∈ Finset.range dims.length, star (psi x ((al * cp + c') * dims.getD x 1 + (unflat dims k).getD x 0)))
      = ∑ c ∈ Finset.range cp, ∑ c' ∈ Finset.range cp, coeff (al * cp + c) * coeff (al * cp + c') *
          ∏ x ∈ Finset.range dims.length, (psi x ((al * cp + c) * dims.getD x 1 + (unflat dims k).getD x 0)
            * star (psi x ((al * cp + c') * dims.getD x 1 + (unflat dims k).getD x 0))) := by
    intro k _
    rw [Finset.sum_mul_sum]
    refine Finset.sum_congr rfl fun c _ => Finset.sum_congr rfl fun c' _ => ?_
    rw [Finset.prod_mul_distrib]; ring
  rw [Finset.sum_congr rfl hr]
  conv_rhs => rw [Finset.sum_comm]
  refine Finset.sum_congr rfl fun c _ => ?_
  rw [Finset.sum_comm]
  refine Finset.sum_congr rfl fun c' _ => ?_
  rw [← Finset.mul_sum]
  congr 1
  exact (sum_prod_unflat dims (fun x i => psi x ((al * cp + c) * dims.getD x 1 + i) * star (psi x ((al * cp + c') * dims.getD x 1 + i)))).symm

/-- the executed two-party instance (`dims = [dA, dB]`, the smallest the driver accepts) -/
theorem cpNormSq_eq_norm_two_party (dA dB cp : Nat) (coeff : Nat → ℂ) (psi : Nat → Nat → ℂ) (al : Nat) (hc : ∀ t, star (coeff t) = coeff t) :
    cpNormSq [dA, dB] cp coeff psi (fun x t => star (psi x t)) al
      = sumRange (dA * dB) fun k => cpVec [dA, dB] cp coeff psi al k * star (cpVec [dA, dB] cp coeff psi al k) := by
  rw [cpNormSq_eq_norm [dA, dB] cp coeff psi al hc]; simp [prodL]

/-- **`_sqrt_rho` is a square root of the truncated spectral sum**: if `S[k,j] = v[k,j]·s_j` with real scales `s_j·s_j = λ_j`
(`sqrtRhoScale`, theorem `sqrtRhoScale_sq` in `DecisionC13.lean`) then `Σ_j S[k,j] conj S[k',j] = Σ_j λ_j v[k,j] conj v[k',j]` — the hypothesis
`ρ = S Sᴴ` of `ensembleVec_decomposition`, given the `eigh` contract `ρ = Σ_j λ_j v_j v_jᴴ` over the kept eigenpairs -/
theorem sqrtRho_gram (rank : Nat) (v : Nat → Nat → R) (s lam : Nat → R) (hs : ∀ j, star (s j) = s j) (hsq : ∀ j, s j * s j = lam j) (k k' : Nat) :
    sumRange rank (fun j => (v k j * s j) * conj (v k' j * s j)) = sumRange rank fun j => lam j * (v k j * conj (v k' j)) := by
  simp only [sumRange_eq_sum, conj_eq_star, star_mul', hs]
  refine Finset.sum_congr rfl fun j _ => ?_
  rw [← hsq j]; ring

/-! ## the hypotheses are satisfiable, the statements are not vacuous -/

/-- an isometry exists for every size (the identity) -/
example : (1 : Matrix (Fin 3) (Fin 3) ℂ)ᴴ * 1 = 1 := by simp

/-- … and the decomposition theorem then applies to any `S` -/
example (S : Matrix (Fin 4) (Fin 3) ℂ) : (S * (1 : Matrix (Fin 3) (Fin 3) ℂ)ᵀ) * (S * (1 : Matrix (Fin 3) (Fin 3) ℂ)ᵀ)ᴴ = S * Sᴴ :=
  ensemble_decomposition S 1 (by simp)

/-- a product state is normalised and has concurrence 0, the Bell-type amplitude `diag(3/5, 4/5)` has radicand `(24/25)²` -/
example : concPureRadicand 2 2 (fun a b => if a = 0 ∧ b = 0 then (1 : ℂ) else 0) = 0 := by
  rw [concPureRadicand_two_qubit _ (by simp)]; simp

example : concPureRadicand 2 2 (fun a b => if a = b then (if a = 0 then (3 / 5 : ℂ) else 4 / 5) else 0) = (24 / 25) ^ 2 := by
  rw [concPureRadicand_two_qubit _ (by simp; norm_num)]; simp; norm_num

/-- `σ_y` itself is unitary, so the invariance identity applies to it -/
example : sigmaY * sigmaY.map star * sigmaY = star sigmaY.det • sigmaY :=
  sigmaY_conj_unitary sigmaY (by rw [sigmaY_conjTranspose, sigmaY_mul_self])

/-- the spin flip of the model on a concrete matrix: only the anti-diagonal reflection with signs -/
example : (List.range 4).map (fun i => (List.range 4).map fun j => spinFlip (fun r c => (⟨4 * r + c, r⟩ : GInt)) i j)
    = [[⟨15, -3⟩, ⟨-14, 3⟩, ⟨-13, 3⟩, ⟨12, -3⟩], [⟨-11, 2⟩, ⟨10, -2⟩, ⟨9, -2⟩, ⟨-8, 2⟩], [⟨-7, 1⟩, ⟨6, -1⟩, ⟨5, -1⟩, ⟨-4, 1⟩],
       [⟨3, 0⟩, ⟨-2, 0⟩, ⟨-1, 0⟩, ⟨0, 0⟩]] := by decide

end Numqi.C13
