/-
C18 — catalogue constructors return the objects they name.

Property theorems with their proofs (shared lemmas: `NumqiProofs/Catalogue*.lean`).  Density matrices: `K` is any linearly ordered
field (instantiate `ℝ`); a matrix given by the entry function `M` on an index type `ι` is *positive semidefinite* when its
quadratic form `qform M x = Σ_{p q} x_p M_{pq} x_q` is non-negative for every `x` (for a real symmetric matrix this is
`Matrix.PosSemidef`).
-/
import NumqiProofs.Catalogue
import NumqiProofs.CatalogueExplicit
import NumqiProofs.CatalogueKets
import NumqiProofs.CataloguePovm
import NumqiProofs.CatalogueUpb
import NumqiProofs.CatalogueCheb
import NumqiProofs.CatalogueGenShifts
import NumqiProofs.CatalogueSixparam
import NumqiProofs.CatalogueUpbTables
import NumqiProofs.CatalogueMeasures
import NumqiProofs.CatalogueEprobe9
import Mathlib.Analysis.SpecialFunctions.Trigonometric.Basic

set_option linter.unusedSectionVars false

namespace Numqi.C18
open Numqi.Catalogue Finset

variable {K : Type} [Field K] [LinearOrder K] [IsStrictOrderedRing K]

/-! ## Werner, isotropic, maximally mixed — every `d`, whole parameter range -/

/-- the Werner matrix on the index type `Fin d × Fin d` -/
def wernerM (d : ℕ) (a : K) (p q : Fin d × Fin d) : K := werner d a p.1 p.2 q.1 q.2
def isotropicM (d : ℕ) (a : K) (p q : Fin d × Fin d) : K := isotropic d a p.1 p.2 q.1 q.2

theorem werner_symm (d : ℕ) (a : K) (p q : Fin d × Fin d) : wernerM d a p q = wernerM d a q p := by
  simp only [wernerM, werner]
  rw [delta_comm (p.1 : ℕ), delta_comm (p.2 : ℕ) (q.2 : ℕ), delta_comm (p.1 : ℕ) (q.2 : ℕ), delta_comm (p.2 : ℕ) (q.1 : ℕ)]
  ring

/-- **Werner: trace one** whenever the normalisation `d² - dα` is non-zero (in particular for `d ≥ 2`, `α ≤ 1`). -/
theorem werner_trace (d : ℕ) (a : K) (hN : (d : K) * d - d * a ≠ 0) : ∑ p, wernerM d a p p = 1 := by
  simp only [wernerM, werner, Fintype.sum_prod_type, ← Finset.sum_div]
  rw [div_eq_one_iff_eq hN]
  have : ∀ i j : Fin d, (delta (i : ℕ) (i : ℕ) * delta (j : ℕ) (j : ℕ) - a * (delta (i : ℕ) (j : ℕ) * delta (j : ℕ) (i : ℕ)) : K)
      = 1 - a * (delta (i : ℕ) (j : ℕ) * delta (i : ℕ) (j : ℕ)) := fun i j => by
    simp [delta, eq_comm]
  simp only [this, Finset.sum_sub_distrib, ← Finset.mul_sum, sum_delta_left]
  simp [delta, Finset.card_univ]
  ring

theorem werner_qform (d : ℕ) (a : K) (x : Fin d × Fin d → K) :
    qform (wernerM d a) x = (Ssum x - a * Tsum x) / ((d : K) * d - d * a) := by
  have e : wernerM d a = fun p q : Fin d × Fin d =>
      (1 / ((d : K) * d - d * a)) * ((delta (p.1 : ℕ) (q.1 : ℕ) * delta (p.2 : ℕ) (q.2 : ℕ) : K)
        + (-a) * (delta (p.1 : ℕ) (q.2 : ℕ) * delta (p.2 : ℕ) (q.1 : ℕ))) := by
    funext p q; simp only [wernerM, werner]; ring
  rw [e, qform_smul, qform_add, qform_smul, qform_id, qform_swap]; ring

/-- **Werner: positive semidefinite on the whole range `α ∈ [-1, 1]`, every `d`** (projector decomposition
`1 - αS = (1-α)P₊ + (1+α)P₋` with `P± = (1 ± S)/2`). -/
theorem werner_psd (d : ℕ) (a : K) (h1 : -1 ≤ a) (h2 : a ≤ 1) (x : Fin d × Fin d → K) : 0 ≤ qform (wernerM d a) x := by
  rw [werner_qform]
  have hp := S_add_smul_T_nonneg 1 (one_mul 1) x
  have hm := S_add_smul_T_nonneg (-1) (by norm_num) x
  have hnum : 0 ≤ Ssum x - a * Tsum x := by nlinarith
  have hd : (0 : K) ≤ d := Nat.cast_nonneg d
  have hden : 0 ≤ (d : K) * d - d * a := by
    have e : (d : K) * d - d * a = d * (d - a) := by ring
    rw [e]
    rcases Nat.eq_zero_or_pos d with h | h
    · simp [h]
    · have : (1 : K) ≤ d := by exact_mod_cast h
      exact mul_nonneg hd (by linarith)
  exact div_nonneg hnum hden

theorem isotropic_symm (d : ℕ) (a : K) (p q : Fin d × Fin d) : isotropicM d a p q = isotropicM d a q p := by
  simp only [isotropicM, isotropic]
  rw [delta_comm (p.1 : ℕ) (q.1 : ℕ), delta_comm (p.2 : ℕ) (q.2 : ℕ)]
  ring

/-- **Isotropic: trace one** for every `d ≥ 1`, every `α`. -/
theorem isotropic_trace (d : ℕ) (hd : d ≠ 0) (a : K) : ∑ p, isotropicM d a p p = 1 := by
  have hdK : (d : K) ≠ 0 := Nat.cast_ne_zero.mpr hd
  simp only [isotropicM, isotropic, Fintype.sum_prod_type]
  have : ∀ i j : Fin d, ((1 - a) / ((d : K) * d) * (delta (i : ℕ) (i : ℕ) * delta (j : ℕ) (j : ℕ))
      + a / d * (delta (i : ℕ) (j : ℕ) * delta (i : ℕ) (j : ℕ)) : K)
      = (1 - a) / ((d : K) * d) + a / d * (delta (i : ℕ) (j : ℕ) * delta (i : ℕ) (j : ℕ)) := fun i j => by
    simp [delta]
  simp only [this, Finset.sum_add_distrib, ← Finset.mul_sum, sum_delta_left]
  simp [delta, Finset.card_univ]
  field_simp
  ring

theorem isotropic_qform (d : ℕ) (a : K) (x : Fin d × Fin d → K) :
    qform (isotropicM d a) x = (1 - a) / ((d : K) * d) * Ssum x + a / d * (Dsum x * Dsum x) := by
  have e : isotropicM d a = fun p q : Fin d × Fin d =>
      ((1 - a) / ((d : K) * d)) * (delta (p.1 : ℕ) (q.1 : ℕ) * delta (p.2 : ℕ) (q.2 : ℕ) : K)
        + (a / d) * (delta (p.1 : ℕ) (p.2 : ℕ) * delta (q.1 : ℕ) (q.2 : ℕ)) := by
    funext p q; simp only [isotropicM, isotropic]
  rw [e, qform_add, qform_smul, qform_smul, qform_id, qform_diag]

/-- **Isotropic: positive semidefinite on the whole range `α ∈ [-1/(d²-1), 1]`, every `d ≥ 2`**, lower end point included
(projector decomposition on `|Φ⟩⟨Φ|` and its complement; Cauchy–Schwarz for `(Σ x_ii)² ≤ d Σ x_ij²`). -/
theorem isotropic_psd (d : ℕ) (hd : 2 ≤ d) (a : K) (h1 : -1 / ((d : K) * d - 1) ≤ a) (h2 : a ≤ 1)
    (x : Fin d × Fin d → K) : 0 ≤ qform (isotropicM d a) x := by
  rw [isotropic_qform]
  have hd1 : (1 : K) < d := by exact_mod_cast hd
  have hdd : (0 : K) < (d : K) * d - 1 := sub_pos.2 (one_lt_mul_of_le_of_lt hd1.le hd1)
  have ht : 0 ≤ 1 + a * ((d : K) * d - 1) := by
    rw [div_le_iff₀ hdd] at h1
    exact neg_le_iff_add_nonneg'.1 h1
  -- the form is linear in `a`: a combination of its values `D²/d` at `a = 1` and `(d·S - D²)/(d(d²-1))` at the lower end point
  have key : (1 - a) / ((d : K) * d) * Ssum x + a / d * (Dsum x * Dsum x)
      = ((1 - a) * (d * Ssum x - Dsum x * Dsum x) + (1 + a * ((d : K) * d - 1)) * (Dsum x * Dsum x)) / ((d : K) * d * d) := by
    have hd0 : (d : K) ≠ 0 := (zero_lt_one.trans hd1).ne'
    field_simp
    ring
  rw [key]
  exact div_nonneg (add_nonneg (mul_nonneg (sub_nonneg.2 h2) (sub_nonneg.2 (Dsum_sq_le x))) (mul_nonneg ht (mul_self_nonneg _)))
    (by positivity)

/-- **`maximally_mixed_state(d)` has trace one** (`d ≥ 1`; the size is `d²`). -/
theorem maxMixed_trace (d : ℕ) (hd : d ≠ 0) : ∑ r : Fin (d * d), (maxMixed d (r : ℕ) (r : ℕ) : K) = 1 := by
  have hdK : (d : K) ≠ 0 := Nat.cast_ne_zero.mpr hd
  simp [maxMixed, delta, Finset.card_univ]
  field_simp

/-! ## Horodecki 2×4 / 3×3 bound entangled families and the two-qutrit family — whole range, end points included

`rt` stands for `np.sqrt(1 - b*b)`: any `rt` with `rt² = 1 - b²` (the sign is irrelevant for these statements). -/

theorem horodecki3x3_symm (a rt : K) (r c : Fin 9) : h33M a rt r c = h33M a rt c r :=
  horodecki3x3_comm 8 16 2 a rt r c

theorem horodecki3x3_trace (a rt : K) (ha : 0 ≤ a) : ∑ r, h33M a rt r r = 1 := by
  have h1 : (8 * a + 1) ≠ 0 := by positivity
  have h2 : (16 * a + 2) ≠ 0 := by positivity
  simp [h33M, horodecki3x3, Fin.sum_univ_succ]
  field_simp
  ring

/-- **Horodecki 3×3: positive semidefinite for every `a ∈ [0,1]`** -/
theorem horodecki3x3_psd (a rt : K) (ha : 0 ≤ a) (hrt : rt * rt = 1 - a * a) (x : Fin 9 → K) :
    0 ≤ qform (h33M a rt) x := by
  rw [h33_qform a rt ha]
  have h3 := block2_nonneg ha hrt (x 6) (x 8)
  simp only [← sq] at h3 ⊢
  refine div_nonneg (add_nonneg (add_nonneg ?_ ?_) h3) ?_ <;> positivity

/-- **Horodecki 3×3: PPT for every `a ∈ [0,1]`** -/
theorem horodecki3x3_ppt (a rt : K) (ha : 0 ≤ a) (hrt : rt * rt = 1 - a * a) (x : Fin 9 → K) :
    0 ≤ qform (h33PT a rt) x := by
  rw [h33PT_qform a rt ha]
  have h3 := block2_nonneg ha hrt (x 8) (x 6)
  simp only [← sq] at h3 ⊢
  refine div_nonneg (add_nonneg (add_nonneg (add_nonneg (add_nonneg ?_ ?_) ?_) ?_) h3) ?_ <;> positivity

theorem horodecki2x4_symm (b rt : K) (r c : Fin 8) : h24M b rt r c = h24M b rt c r :=
  horodecki2x4_comm 7 14 2 b rt r c

theorem horodecki2x4_trace (b rt : K) (hb : 0 ≤ b) : ∑ r, h24M b rt r r = 1 := by
  have h1 : (7 * b + 1) ≠ 0 := by positivity
  have h2 : (14 * b + 2) ≠ 0 := by positivity
  simp [h24M, horodecki2x4, Fin.sum_univ_succ]
  field_simp
  ring

/-- **Horodecki 2×4: positive semidefinite for every `b ∈ [0,1]`** -/
theorem horodecki2x4_psd (b rt : K) (hb : 0 ≤ b) (hrt : rt * rt = 1 - b * b) (x : Fin 8 → K) :
    0 ≤ qform (h24M b rt) x := by
  rw [h24_qform b rt hb]
  have h3 := block2_nonneg hb hrt (x 4) (x 7)
  simp only [← sq] at h3 ⊢
  refine div_nonneg (add_nonneg (add_nonneg (add_nonneg (add_nonneg ?_ ?_) ?_) ?_) h3) ?_ <;> positivity

/-- **Horodecki 2×4: PPT for every `b ∈ [0,1]`** -/
theorem horodecki2x4_ppt (b rt : K) (hb : 0 ≤ b) (hrt : rt * rt = 1 - b * b) (x : Fin 8 → K) :
    0 ≤ qform (h24PT b rt) x := by
  rw [h24PT_qform b rt hb]
  have h3 := block2_nonneg hb hrt (x 7) (x 4)
  simp only [← sq] at h3 ⊢
  refine div_nonneg (add_nonneg (add_nonneg (add_nonneg (add_nonneg ?_ ?_) ?_) ?_) h3) ?_ <;> positivity

theorem antoine_symm (q : K) (r c : Fin 9) : antoineM q r c = antoineM q c r :=
  antoine_comm (5/2) 21 2 q r c

theorem antoine_trace (q : K) : ∑ r, antoineM q r r = 1 := by
  simp [antoineM, antoine, Fin.sum_univ_succ]
  field_simp
  ring

/-- **`get_2qutrit_Antoine2022(q)`: positive semidefinite on the whole range `|q| ≤ 5/2`** -/
theorem antoine_psd (q : K) (h1 : -(5/2) ≤ q) (h2 : q ≤ 5/2) (x : Fin 9 → K) : 0 ≤ qform (antoineM q) x := by
  rw [antoine_qform]
  have hm : 0 ≤ 5/2 - q := by linarith
  have hp : 0 ≤ 5/2 + q := by linarith
  simp only [← sq]
  positivity

/-- … and **PPT on the documented PPT range `|q| ≤ 3/2`** -/
theorem antoine_ppt (q : K) (h1 : -(3/2) ≤ q) (h2 : q ≤ 3/2) (x : Fin 9 → K) : 0 ≤ qform (antoinePT q) x := by
  rw [antoinePT_qform]
  have hp : (0 : K) < 5/2 + q := by linarith
  have hm : (0 : K) < 5/2 - q := by linarith
  have hq : 0 ≤ (3/2 - q) * (3/2 + q) := mul_nonneg (sub_nonneg.2 h2) (neg_le_iff_add_nonneg'.1 h1)
  have hpm : 4 ≤ (5/2 - q) * (5/2 + q) := by linarith
  have hmp : 4 ≤ (5/2 + q) * (5/2 - q) := by rwa [mul_comm]
  have b1 := block2_nonneg' hm hpm (x 1) (x 3)
  have b2 := block2_nonneg' hp hmp (x 2) (x 6)
  have b3 := block2_nonneg' hm hpm (x 5) (x 7)
  simp only [← sq] at b1 b2 b3 ⊢
  refine div_nonneg (add_nonneg (add_nonneg (add_nonneg ?_ b1) b2) b3) ?_ <;> positivity

/-! ## the remaining public constructors / closed forms -/

/-- **`Wtype(coeff)` is a normalised ket** (real coefficients): `Σ_x ket(x)² = 1` whenever `nrm = ‖coeff‖ ≠ 0` -/
theorem Wtype_norm {F : Type} [Field F] (coeff : List F) (nrm : F) (h0 : nrm ≠ 0)
    (hn : nrm * nrm = ∑ k ∈ Finset.range coeff.length, coeff.getD k 0 * coeff.getD k 0) :
    ∑ x ∈ Finset.range (2 ^ coeff.length), ketWtype coeff nrm x * ketWtype coeff nrm x = 1 :=
  ketWtype_norm_sq coeff nrm h0 hn

/-- **`get_qubit_dicke_state_GME(n,k) ∈ [0,1)`** for every `n ≥ 1`, `0 ≤ k ≤ n` -/
theorem dicke_gme_range (n k : ℕ) (hn : 0 < n) (hk : k ≤ n) : 0 ≤ dickeGME n k ∧ dickeGME n k < 1 := dickeGME_range n k hn hk

/-- … it vanishes on the product states `k ∈ {0, n}` and is symmetric under `k ↔ n-k` -/
theorem dicke_gme_product (n : ℕ) (hn : 0 < n) : dickeGME n 0 = 0 ∧ dickeGME n n = 0 :=
  ⟨dickeGME_zero_left n hn, dickeGME_zero_right n hn⟩

theorem dicke_gme_symm (n k : ℕ) (hk : k ≤ n) : dickeGME n (n - k) = dickeGME n k := dickeGME_symm n k hk

/-- the multiplicative binomial of the model is the binomial coefficient -/
theorem binomN_choose (n k : ℕ) : binomN n k = n.choose k := binomN_eq_choose n k

theorem max3_ge (x y z : K) : x ≤ max3 x y z ∧ y ≤ max3 x y z ∧ z ≤ max3 x y z := by
  unfold max3; simp only
  split_ifs <;> refine ⟨?_, ?_, ?_⟩ <;> linarith

theorem max3_mem (x y z : K) : max3 x y z = x ∨ max3 x y z = y ∨ max3 x y z = z := by
  unfold max3; simp only
  split_ifs <;> simp

/-- **`get_Wtype_state_GME` outside the triangle region is `1 - max(a²,b²,c²) ∈ [0, 2/3]`** for normalised `(a,b,c)` -/
theorem wtypeGME_else_range (c16 two q34 four a b c : K) (hn : a * a + b * b + c * c = 1)
    (hT : ¬ (0 < b * b + c * c - a * a ∧ 0 < a * a + c * c - b * b ∧ 0 < a * a + b * b - c * c)) :
    wtypeGME c16 two q34 four a b c = 1 - max3 (a * a) (b * b) (c * c)
      ∧ 0 ≤ wtypeGME c16 two q34 four a b c ∧ wtypeGME c16 two q34 four a b c ≤ 2 / 3 := by
  have e : wtypeGME c16 two q34 four a b c = 1 - max3 (a * a) (b * b) (c * c) := by
    unfold wtypeGME; simp only; rw [if_neg hT]
  obtain ⟨h1, h2, h3⟩ := max3_ge (a * a) (b * b) (c * c)
  have ha := mul_self_nonneg a; have hb := mul_self_nonneg b; have hc := mul_self_nonneg c
  refine ⟨e, ?_, ?_⟩
  · rw [e]; rcases max3_mem (a * a) (b * b) (c * c) with h | h | h <;> rw [h] <;> linarith
  · rw [e]; linarith

/-- **`get_element_probing_POVM('eq8', dim)`: all `2·dim` operators are Hermitian**, every `dim` (thin: a case split on the definition
of the table, true also for the totalised entries `m ≥ 2·dim`, `dim = 0`; nothing is claimed about informational completeness) -/
theorem eprobe8_hermitian (dim m r c : ℕ) : eprobe8 dim m c r = conj (eprobe8 dim m r c) := by
  unfold eprobe8
  split_ifs <;> first | rfl | (exfalso; omega)

/-- **`eq9`, every even `dim ≥ 4`, every basis index: the rows of each basis are orthonormal** (`Σ_c conj(B i c)·B j c = 2 δ_ij` for
the `√2`-scaled Gaussian-integer entries).  Rows `2k, 2k+1` share the support `{P_k, Q_k}` with `Q_k`-entries `±u`; rows of different
pairs have disjoint supports (uses `dim` even for the wrap-around column `(2k+2) % dim`). -/
theorem eprobe9_rows_orthonormal (b dim : ℕ) (hd : 4 ≤ dim) (he : dim % 2 = 0) : eprobe9RowsOK b dim = true := by
  simp only [eprobe9RowsOK, List.all_eq_true, List.mem_range, beq_iff_eq]
  intro i hi j hj
  have h := foldl_add_range (fun c => conj (eprobe9 b dim i c) * eprobe9 b dim j c) dim
  rw [h]
  exact eprobe9_row_inner b dim i j hd he hi hj

/-- non-vacuity / sharpness: for odd `dim` the wrap-around column collides and the rows are *not* orthonormal -/
example : eprobe9RowsOK 1 5 = false ∧ eprobe9RowsOK 1 6 = true := by decide +kernel

/-- **`eq9`, every even `dim ≥ 4`: each basis is complete** (`Σ_i B i c·conj(B i c') = 2 δ_cc'`, i.e. `Σ_i |b_i⟩⟨b_i| = 1`): rows `2k, 2k+1`
contribute `2·[c = c' ∈ {P_k, Q_k}]` and the pairs `{P_k, Q_k}` partition the columns (for the odd bases the last pair wraps to column 0) -/
theorem eprobe9_cols_orthonormal (b dim : ℕ) (hd : 4 ≤ dim) (he : dim % 2 = 0) : eprobe9ColsOK b dim = true := by
  simp only [eprobe9ColsOK, List.all_eq_true, List.mem_range, beq_iff_eq]
  intro c hc c' hc'
  have h := foldl_add_range (fun i => eprobe9 b dim i c * conj (eprobe9 b dim i c')) dim
  rw [h]
  exact eprobe9_col_inner b dim c c' hd he hc hc'

/-- **`get_element_probing_POVM('eq9', dim)`: each of the four bases is orthonormal and complete, every even `dim ≥ 4`** -/
theorem eprobe9_unitary : ∀ b < 4, ∀ dim, 4 ≤ dim → dim % 2 = 0 → eprobe9Unitary b dim = true := fun b _ dim hd he => by
  simp [eprobe9Unitary, eprobe9_rows_orthonormal b dim hd he, eprobe9_cols_orthonormal b dim hd he]

/-- the instances `dim = 4, 6, 8, 10, 12`: each of the four bases `B1..B4` is orthonormal and complete (`Σ_i |b_i⟩⟨b_i| = 1`, so the
`4·dim` rank-one projectors resolve `4·1`) -/
theorem eprobe9_unitary_partial :
    ∀ b < 4, ∀ dim ∈ [4, 6, 8, 10, 12], eprobe9Unitary b dim = true := fun b hb dim hdim => by
  have : 4 ≤ dim ∧ dim % 2 = 0 := by
    simp only [List.mem_cons, List.not_mem_nil, or_false] at hdim
    omega
  exact eprobe9_unitary b hb dim this.1 this.2

/-- sharpness of the evenness guard: for odd `dim` the bases are not unitary (the source asserts `dim % 2 == 0`) -/
example : eprobe9Unitary 1 5 = false ∧ eprobe9Unitary 3 7 = false := by decide +kernel

/-! ## closed-form values on the entangled branch, and the range guards of the model -/

/-- the guards used by the driver are the hypotheses of the theorems -/
theorem wernerInRange_iff (d : ℕ) (a : K) : wernerInRange d a = true ↔ 1 < d ∧ -1 ≤ a ∧ a ≤ 1 := by
  simp [wernerInRange, and_assoc]

theorem isotropicInRange_iff (d : ℕ) (a : K) :
    isotropicInRange d a = true ↔ 1 < d ∧ -1 / ((d : K) * d - 1) ≤ a ∧ a ≤ 1 := by
  simp [isotropicInRange, and_assoc]

theorem unitInRange_iff (b : K) : unitInRange b = true ↔ 0 ≤ b ∧ b ≤ 1 := by simp [unitInRange]

/-- **inside the guard the Werner matrix is a state** (trace one, PSD) -/
theorem werner_checked (d : ℕ) (a : K) (h : wernerInRange d a = true) :
    (∑ p, wernerM d a p p = 1) ∧ ∀ x, 0 ≤ qform (wernerM d a) x := by
  obtain ⟨hd, h1, h2⟩ := (wernerInRange_iff d a).mp h
  have hdK : (2 : K) ≤ d := by exact_mod_cast hd
  refine ⟨werner_trace d a ?_, werner_psd d a h1 h2⟩
  have : (d : K) * d - d * a = d * (d - a) := by ring
  rw [this]; exact mul_ne_zero (by linarith) (by linarith)

/-- **inside the guard the isotropic matrix is a state** -/
theorem isotropic_checked (d : ℕ) (a : K) (h : isotropicInRange d a = true) :
    (∑ p, isotropicM d a p p = 1) ∧ ∀ x, 0 ≤ qform (isotropicM d a) x := by
  obtain ⟨hd, h1, h2⟩ := (isotropicInRange_iff d a).mp h
  exact ⟨isotropic_trace d (by omega) a, isotropic_psd d (by omega) a h1 h2⟩

/-- the REE closed forms are continuous with the separable branch: the entangled-branch value vanishes at the threshold
(the reference state of the relative entropy is the boundary state itself) -/
theorem wernerReeVal_threshold (log : K → K) (two : K) (d : ℕ) : wernerReeVal log two d (1 / (d : K)) = 0 := by
  simp [wernerReeVal, relTerm]

theorem isotropicReeVal_threshold (log : K → K) (d : ℕ) : isotropicReeVal log d (1 / ((d : K) + 1)) = 0 := by
  simp [isotropicReeVal, relTerm]

/-- the EOF value of the Werner family starts at zero: `h₂(0) = 0` (needs `sqrt 1 = 1`, `log 1 = 0`) -/
theorem wernerEofVal_zero (sqrt log : K → K) (two : K) (hs : sqrt 1 = 1) (hl : log 1 = 0) : wernerEofVal sqrt log two 0 = 0 := by
  simp [wernerEofVal, entropy2, entr, hs, hl]

/-! ## kets: unit norm (signed-square form: the squares of the amplitudes sum to one) -/

/-- **`W(n)` is normalised for every `n ≥ 1`** -/
theorem W_norm (n : ℕ) (hn : n ≠ 0) : ∑ x ∈ Finset.range (2 ^ n), (ketW n x).sq = 1 := by
  simp only [ketW_sq]
  rw [← Finset.sum_filter]
  have hsub : (Finset.range (2 ^ n)).filter (fun x => x ∈ (Finset.range n).image (fun k => 2 ^ k))
      = (Finset.range n).image (fun k => 2 ^ k) := by
    ext x
    simp only [Finset.mem_filter, Finset.mem_range, Finset.mem_image]
    constructor
    · rintro ⟨_, h⟩; exact h
    · rintro ⟨k, hk, rfl⟩
      exact ⟨Nat.pow_lt_pow_right (by norm_num) hk, k, hk, rfl⟩
  rw [hsub, Finset.sum_const, Finset.card_image_of_injective _ (Nat.pow_right_injective (le_refl 2)), Finset.card_range]
  have : (n : ℚ) ≠ 0 := Nat.cast_ne_zero.mpr hn
  simp [this]

/-- **`GHZ(n)` is normalised for every `n ≥ 1`** -/
theorem GHZ_norm (n : ℕ) (hn : n ≠ 0) : ∑ x ∈ Finset.range (2 ^ n), (ketGHZ n x).sq = 1 := by
  have h2 : 2 ≤ 2 ^ n := by
    calc 2 = 2 ^ 1 := by norm_num
      _ ≤ 2 ^ n := Nat.pow_le_pow_right (by norm_num) (Nat.one_le_iff_ne_zero.mpr hn)
  have hsq : ∀ x, (ketGHZ n x).sq = (if x = 0 then (1/2 : ℚ) else 0) + (if x = 2 ^ n - 1 then (1/2 : ℚ) else 0) := by
    intro x
    unfold ketGHZ
    by_cases h0 : x = 0
    · subst h0
      have : ¬ (0 = 2 ^ n - 1) := by omega
      simp [this]
    · by_cases h1 : x + 1 = 2 ^ n
      · have e : x = 2 ^ n - 1 := by omega
        rw [if_pos (Or.inr h1), if_neg h0, if_pos e]; norm_num
      · have : ¬ (x = 2 ^ n - 1) := by omega
        simp [h0, h1, this, SAmp.zero]
  simp only [hsq, Finset.sum_add_distrib, Finset.sum_ite_eq', Finset.mem_range]
  have a : 0 < 2 ^ n := by omega
  have b : 2 ^ n - 1 < 2 ^ n := by omega
  simp [a, b]; norm_num

/-- **the four Bell states are normalised and pairwise orthogonal**: every non-zero amplitude is `±1/√2`
(`Bell_amplitudes`), so `⟨i|j⟩ = ½ Σ_x sgn_i(x) sgn_j(x)`, and the signed count is `2 δ_ij`. -/
theorem Bell_orthonormal :
    ∀ i < 4, ∀ j < 4, (∑ x ∈ Finset.range 4, (ketBell i x).sgn * (ketBell j x).sgn) = if i = j then 2 else 0 := by
  decide

theorem Bell_amplitudes : ∀ i < 4, ∀ x < 4, (ketBell i x).sgn = 0 ∨ (ketBell i x).sq = 1 / 2 := by
  intro i hi x hx
  interval_cases i <;> interval_cases x <;> simp [ketBell, SAmp.zero]

/-- **`maximally_entangled_state(d)` is normalised for every `d ≥ 1`** -/
theorem maxEnt_norm (d : ℕ) (hd : d ≠ 0) : ∑ i : Fin d, ∑ j : Fin d, (ketMaxEnt d i j).sq = 1 := by
  have hq : (d : ℚ) ≠ 0 := Nat.cast_ne_zero.mpr hd
  have : ∀ i j : Fin d, (ketMaxEnt d i j).sq = if i = j then 1 / (d : ℚ) else 0 := by
    intro i j; unfold ketMaxEnt
    by_cases h : i = j
    · simp [h]
    · have : ¬ ((i : ℕ) = (j : ℕ)) := fun e => h (Fin.ext e)
      simp [h, this, SAmp.zero]
  simp [this, Finset.card_univ, hq]

/-- **`maximally_coherent_state(d)` is normalised for every `d ≥ 1`** … -/
theorem maxCoh_norm (d : ℕ) (hd : d ≠ 0) : ∑ x ∈ Finset.range d, (ketMaxCoh d x).sq = 1 := by
  have hq : (d : ℚ) ≠ 0 := Nat.cast_ne_zero.mpr hd
  simp [ketMaxCoh, hq]

/-- … and **`return_dm=True` is the projector of the ket**: the entry `(r,c)` is the non-negative number whose square is
`sq_r · sq_c`, i.e. `√sq_r · √sq_c` (all signs are `+1`). -/
theorem maxCoh_dm_projector (d r c : ℕ) :
    dmMaxCoh d r c * dmMaxCoh d r c = (ketMaxCoh d r).sq * (ketMaxCoh d c).sq ∧ 0 ≤ dmMaxCoh d r c
      ∧ (ketMaxCoh d r).sgn = 1 ∧ (ketMaxCoh d c).sgn = 1 := by
  refine ⟨rfl, ?_, rfl, rfl⟩
  unfold dmMaxCoh; positivity

/-- **`Dicke(*klist)` is normalised for every occupation list** (the support — digit strings with occupation numbers `klist` —
has exactly `multinomial klist` elements; bridge to `Dicke.cnt_eq_multinomial` of the C17 development). -/
theorem dicke_norm (klist : List ℕ) :
    ∑ x ∈ Finset.range (klist.length ^ klist.sum), (ketDicke klist x).sq = 1 := by
  have hM : (Dicke.multinomial klist : ℚ) ≠ 0 := by exact_mod_cast (Dicke.multinomial_pos klist).ne'
  have h := Dicke.cnt_eq_multinomial klist.length klist.sum klist rfl rfl
  have : ∀ x ∈ Finset.range (klist.length ^ klist.sum), (ketDicke klist x).sq
      = ((if Dicke.occ klist.length (Dicke.digits klist.length klist.sum x) = klist then 1 else 0 : ℕ) : ℚ)
          * (1 / (Dicke.multinomial klist : ℚ)) := by
    intro x _; unfold ketDicke; split <;> simp [SAmp.zero]
  rw [Finset.sum_congr rfl this, ← Finset.sum_mul, ← Nat.cast_sum]
  have hc : (∑ x ∈ Finset.range (klist.length ^ klist.sum),
      if Dicke.occ klist.length (Dicke.digits klist.length klist.sum x) = klist then 1 else 0)
      = Dicke.cnt klist.length klist.sum klist := rfl
  rw [hc, h]; field_simp

/-- non-vacuity: `Dicke(2,1)` is `(|001⟩+|010⟩+|100⟩)/√3` -/
example : (List.range 8).map (fun x => (ketDicke [2, 1] x).sgn) = [0, 1, 1, 0, 1, 0, 0, 0] ∧ (ketDicke [2, 1] 1).sq = 1 / 3 := by
  decide +kernel

/-! ## closed-form REE / EOF / GME of Werner and isotropic states vanish on the separable range

`sqrt` is any function with `0 ≤ sqrt x` and `sqrt x · sqrt x = x` on `x ≥ 0` (`np.sqrt`); `v`, `v1`, `v2` stand for the
values of the entangled branches (not needed on the separable range). -/

theorem wernerRee_separable (d : ℕ) (a v : K) (h : a ≤ 1 / (d : K)) : wernerRee d a v = 0 := if_pos h

theorem isotropicRee_separable (d : ℕ) (a v : K) (h : a ≤ 1 / ((d : K) + 1)) : isotropicRee d a v = 0 := if_pos h

theorem wernerEof_separable (v : K → K) (d : ℕ) (hd : 2 ≤ d) (al : K) (h : al ≤ 1 / (d : K)) : wernerEof v d al = 0 := by
  obtain ⟨h1, h2⟩ := werner_separable_bounds d hd al h
  unfold wernerEof
  simp only
  rw [if_neg (not_lt.2 (div_nonneg h1 h2.le))]

theorem wernerGME_separable (sqrt : K → K) (hs1 : sqrt 1 = 1) (two : K) (d : ℕ) (hd : 2 ≤ d) (a : K) (h : a ≤ 1 / (d : K)) :
    wernerGME sqrt two d a = 0 := by
  obtain ⟨h1, h2⟩ := werner_separable_bounds d hd a h
  have ht : (d : K) - (1 - (d : K) * d) / (a - d) = (1 - a * d) / (d - a) := by
    have hne := h2.ne'
    rw [show a - (d : K) = -((d : K) - a) by ring, div_neg]
    field_simp
    ring
  unfold wernerGME
  simp only
  rw [ht]
  rcases (div_nonneg h1 h2.le).lt_or_eq with hlt | heq
  · rw [if_neg (not_le.mpr hlt)]; simp
  · have hn : ¬ ((1 : K) - 0 * 0 < 0) := by norm_num
    rw [← heq, if_pos (le_refl _), if_neg hn]
    simp [hs1]

theorem isotropicEof_separable (v1 v2 : K → K) (d : ℕ) (hd : 2 ≤ d) (al : K) (h : al ≤ 1 / ((d : K) + 1)) :
    isotropicEof v1 v2 4 d al = 0 := by
  have hdK : (2 : K) ≤ d := by exact_mod_cast hd
  have hd0 : (d : K) ≠ 0 := by positivity
  have hF : (1 + al * d * d - al) / ((d : K) * d) ≤ 1 / (d : K) := by
    rw [show (1 + al * d * d - al) / ((d : K) * d) = al + (1 - al) / ((d : K) * d) by field_simp; ring]
    exact isotropic_fraction_le d (by omega) al h
  have hthr : 1 / (d : K) ≤ 4 * ((d : K) - 1) / ((d : K) * d) := by
    rw [← sub_nonneg, show 4 * ((d : K) - 1) / ((d : K) * d) - 1 / d = (3 * d - 4) / ((d : K) * d) by field_simp; ring]
    exact div_nonneg (by linarith) (mul_self_nonneg _)
  unfold isotropicEof
  simp only
  rw [if_neg (fun hc => absurd hc.1 (not_lt.mpr hF)), if_neg (not_lt.mpr (hF.trans hthr))]

theorem isotropicGME_separable (sqrt : K → K) (hs0 : ∀ x, 0 ≤ sqrt x) (hsq : ∀ x, 0 ≤ x → sqrt x * sqrt x = x)
    (d : ℕ) (hd : 2 ≤ d) (a : K) (h : a ≤ 1 / ((d : K) + 1)) : isotropicGME sqrt d a = 0 := by
  have hdK : (2 : K) ≤ d := by exact_mod_cast hd
  have hd0 : (0 : K) < d := by linarith
  have hF : a + (1 - a) / ((d : K) * d) ≤ 1 / (d : K) := isotropic_fraction_le d (by omega) a h
  have hinv : (0 : K) < 1 / d := by positivity
  have hinv1 : (1 : K) / d < 1 := by rw [div_lt_one hd0]; linarith
  unfold isotropicGME
  simp only
  set f0 := a + (1 - a) / ((d : K) * d) with hf0
  rcases hF.lt_or_eq with hlt | heq
  · -- strictly inside: the indicator is 0
    have hf : (if f0 < 0 then (0 : K) else if 1 < f0 then 1 else f0) < 1 / d := by
      split_ifs with c1 c2
      · exact hinv
      · linarith
      · exact hlt
    rw [if_neg (not_le.mpr hf)]; simp
  · -- end point α = 1/(d+1): F = 1/d, and √((1-F)(d-1)) = (d-1)·√F since both are non-negative with the same square
    have c1 : ¬ f0 < 0 := by rw [heq]; exact not_lt.mpr hinv.le
    have c2 : ¬ 1 < f0 := by rw [heq]; exact not_lt.mpr hinv1.le
    rw [if_neg c1, if_neg c2, heq, if_pos (le_refl _), one_mul]
    have hu2 : sqrt (1 / (d : K)) * sqrt (1 / (d : K)) = 1 / d := hsq _ hinv.le
    have hw : sqrt ((1 - 1 / (d : K)) * ((d : K) - 1)) = ((d : K) - 1) * sqrt (1 / (d : K)) := by
      refine (mul_self_inj (hs0 _) (mul_nonneg (by linarith) (hs0 _))).mp ?_
      rw [hsq _ (mul_nonneg (sub_nonneg.2 hinv1.le) (by linarith)), mul_mul_mul_comm, hu2]
      field_simp
    rw [hw, show sqrt (1 / (d : K)) + ((d : K) - 1) * sqrt (1 / (d : K)) = d * sqrt (1 / (d : K)) by ring, mul_mul_mul_comm, hu2]
    field_simp
    ring

/-! ## unextendible product bases: the fixed tables with amplitudes `±√(rational)`

`upbTableOrthonormal` is the exact (rational-arithmetic) test: every local vector has squared norm one and for every
pair of product vectors some party has local overlap `Σ_k ± √(sq_k sq'_k)` whose terms cancel radicand by radicand.
The test is sound for the real numbers `sgn·√sq` (`upbTable_sound`: equal radicands give equal square roots), which is how the
tables reach `Orthonormal` below. -/

theorem upb_tiles_orthonormal : upbTableOrthonormal upbTiles = true := by decide +kernel
theorem upb_feng4x4_orthonormal : upbTableOrthonormal upbFeng4x4 = true := by decide +kernel
theorem upb_feng2x2x2x2_orthonormal : upbTableOrthonormal upbFeng2x2x2x2 = true := by decide +kernel

/-- the test is not vacuous: it rejects the `tiles` table with one sign flipped -/
example : upbTableOrthonormal
    [ upbTiles.headD [], [ [sa 1 1 2, sa (-1) 1 2, s0], [s0, s0, s1], [s0, sa 1 1 2, sa 1 1 2], [s1, s0, s0], [sa 1 1 3, sa 1 1 3, sa 1 1 3] ] ] = false := by
  decide +kernel

/-! ## UPB families with structured / algebraic entries -/

/-- **GenShifts(k), every `k ≥ 1`** (`2k` product vectors of `2k-1` qubits): all local vectors are unit vectors and for every
pair of product vectors some qubit carries orthogonal local vectors — hence the product of the local overlaps, which is the
overlap of the product vectors, vanishes.  `c a`, `s a` stand for `cos(aπ/2k)`, `sin(aπ/2k)`; only `c²+s²=1` and the
quarter-turn relation `c_a c_{a+k} + s_a s_{a+k} = 0` are used. -/
theorem genshifts_orthonormal {R : Type} [CommRing R] (c s : ℕ → R) (k : ℕ)
    (hn : ∀ a, c a * c a + s a * s a = 1) (hq : ∀ a, c a * c (a + k) + s a * s (a + k) = 0) :
    (∀ x i, (gsVec c s k x i).1 * (gsVec c s k x i).1 + (gsVec c s k x i).2 * (gsVec c s k x i).2 = 1) ∧
    ∀ i < 2 * k, ∀ j < 2 * k, i ≠ j →
      (∃ x < 2 * k - 1, (gsVec c s k x i).1 * (gsVec c s k x j).1 + (gsVec c s k x i).2 * (gsVec c s k x j).2 = 0) ∧
      ∏ x ∈ Finset.range (2 * k - 1), ((gsVec c s k x i).1 * (gsVec c s k x j).1 + (gsVec c s k x i).2 * (gsVec c s k x j).2) = 0 := by
  refine ⟨fun x i => hn _, ?_⟩
  intro i hi j hj hij
  have key : ∃ x < 2 * k - 1, (gsVec c s k x i).1 * (gsVec c s k x j).1 + (gsVec c s k x i).2 * (gsVec c s k x j).2 = 0 := by
    obtain ⟨x, hx, hor⟩ : ∃ x < 2 * k - 1, gsAngle k x i + k = gsAngle k x j ∨ gsAngle k x j + k = gsAngle k x i := by
      rcases Nat.lt_or_gt_of_ne hij with h | h
      · exact gs_pair_lt k i j h hj
      · obtain ⟨x, hx, hor⟩ := gs_pair_lt k j i h hi
        exact ⟨x, hx, hor.symm⟩
    refine ⟨x, hx, ?_⟩
    simp only [gsVec]
    rcases hor with e | e
    · rw [← e]; exact hq _
    · rw [← e]; linear_combination hq (gsAngle k x j)
  refine ⟨key, ?_⟩
  obtain ⟨x, hx, h0⟩ := key
  exact Finset.prod_eq_zero (Finset.mem_range.mpr hx) h0

/-- the hypotheses of `genshifts_orthonormal` hold for the real cosines / sines of `aπ/2k` -/
theorem genshifts_real (k : ℕ) (hk : 0 < k) :
    (∀ a : ℕ, Real.cos (a * (Real.pi / (2 * k))) * Real.cos (a * (Real.pi / (2 * k))) + Real.sin (a * (Real.pi / (2 * k))) * Real.sin (a * (Real.pi / (2 * k))) = 1) ∧
    ∀ a : ℕ, Real.cos (a * (Real.pi / (2 * k))) * Real.cos ((a + k : ℕ) * (Real.pi / (2 * k)))
      + Real.sin (a * (Real.pi / (2 * k))) * Real.sin ((a + k : ℕ) * (Real.pi / (2 * k))) = 0 := by
  have hkR : (k : ℝ) ≠ 0 := by exact_mod_cast hk.ne'
  refine ⟨fun a => by have := Real.cos_sq_add_sin_sq (a * (Real.pi / (2 * k))); nlinarith [this], fun a => ?_⟩
  have e : ((a + k : ℕ) : ℝ) * (Real.pi / (2 * k)) = (a : ℝ) * (Real.pi / (2 * k)) + Real.pi / 2 := by
    push_cast; field_simp
  rw [e, Real.cos_add, Real.sin_add, Real.cos_pi_div_two, Real.sin_pi_div_two]; ring

/-- **Pyramid**: the five product vectors `v_a ⊗ v_{2a mod 5}` are orthonormal. Algebraic form: `c_x c_y + s_x s_y = C((x-y) mod 5)`
(cosine of the angle difference), `C 0 = 1`, `C 2 = C 3 = -h²` (`cos 144° = -(1+√5)/4 = -h²`), `scale²(1+h²) = 1`. -/
theorem pyramid_orthonormal {R : Type} [CommRing R] (c s C : ℕ → R) (h scale : R)
    (hC : ∀ x < 5, ∀ y < 5, c x * c y + s x * s y = C ((x + 5 - y) % 5))
    (h0 : C 0 = 1) (h2 : C 2 = -(h * h)) (h3 : C 3 = -(h * h)) (hs : scale * scale * (1 + h * h) = 1) :
    (∀ p < 2, ∀ a < 5, dotList (pyramidVec c s h scale (pyramidIdx p a)) (pyramidVec c s h scale (pyramidIdx p a)) = 1) ∧
    ∀ a < 5, ∀ b < 5, a ≠ b →
      dotList (pyramidVec c s h scale (pyramidIdx 0 a)) (pyramidVec c s h scale (pyramidIdx 0 b))
        * dotList (pyramidVec c s h scale (pyramidIdx 1 a)) (pyramidVec c s h scale (pyramidIdx 1 b)) = 0 := by
  have dot : ∀ x < 5, ∀ y < 5, dotList (pyramidVec c s h scale x) (pyramidVec c s h scale y)
      = scale * scale * (C ((x + 5 - y) % 5) + h * h) := by
    intro x hx y hy
    simp only [dotList, pyramidVec, List.zip_cons_cons, List.zip_nil_right, List.foldl_cons, List.foldl_nil]
    rw [← hC x hx y hy]; ring
  constructor
  · intro p hp a ha
    have hidx : pyramidIdx p a < 5 := by unfold pyramidIdx; split <;> omega
    rw [dot _ hidx _ hidx]
    have : (pyramidIdx p a + 5 - pyramidIdx p a) % 5 = 0 := by omega
    rw [this, h0]; exact hs
  · intro a ha b hb hab
    have ia : pyramidIdx 0 a = a := rfl
    have ib : pyramidIdx 0 b = b := rfl
    have ja : pyramidIdx 1 a = (2 * a) % 5 := rfl
    have jb : pyramidIdx 1 b = (2 * b) % 5 := rfl
    rw [ia, ib, ja, jb, dot a ha b hb, dot _ (Nat.mod_lt _ (by norm_num)) _ (Nat.mod_lt _ (by norm_num))]
    interval_cases a <;> interval_cases b <;> simp at hab <;> norm_num [h2, h3]

/-- the hypotheses of `pyramid_orthonormal` hold for `c x = cos(2πx/5)`, `s x = sin(2πx/5)`, `h = √(1+√5)/2`,
`scale = 2/√(5+√5)` -/
theorem pyramid_real :
    (∀ x : ℕ, x < 5 → ∀ y : ℕ, y < 5 → Real.cos (2 * Real.pi * (x : ℝ) / 5) * Real.cos (2 * Real.pi * (y : ℝ) / 5)
      + Real.sin (2 * Real.pi * (x : ℝ) / 5) * Real.sin (2 * Real.pi * (y : ℝ) / 5)
      = (fun d : ℕ => Real.cos (2 * Real.pi * (d : ℝ) / 5)) ((x + 5 - y) % 5)) ∧
    Real.cos (2 * Real.pi * (2 : ℕ) / 5) = -((Real.sqrt (1 + Real.sqrt 5) / 2) * (Real.sqrt (1 + Real.sqrt 5) / 2)) ∧
    Real.cos (2 * Real.pi * (3 : ℕ) / 5) = -((Real.sqrt (1 + Real.sqrt 5) / 2) * (Real.sqrt (1 + Real.sqrt 5) / 2)) ∧
    (2 / Real.sqrt (5 + Real.sqrt 5)) * (2 / Real.sqrt (5 + Real.sqrt 5))
      * (1 + (Real.sqrt (1 + Real.sqrt 5) / 2) * (Real.sqrt (1 + Real.sqrt 5) / 2)) = 1 := by
  have h5 : (0 : ℝ) ≤ Real.sqrt 5 := Real.sqrt_nonneg 5
  have hh : (Real.sqrt (1 + Real.sqrt 5) / 2) * (Real.sqrt (1 + Real.sqrt 5) / 2) = (1 + Real.sqrt 5) / 4 := by
    rw [div_mul_div_comm, Real.mul_self_sqrt (by linarith)]; norm_num
  have hcos : Real.cos (Real.pi / 5) = (1 + Real.sqrt 5) / 4 := Real.cos_pi_div_five
  refine ⟨?_, ?_, ?_, ?_⟩
  · intro x hx y hy
    rw [← Real.cos_sub]
    show _ = Real.cos (2 * Real.pi * (((x + 5 - y) % 5 : ℕ) : ℝ) / 5)
    -- the two angles differ by a multiple of 2π
    obtain ⟨q, hq⟩ : ∃ q : ℕ, x + 5 - y = (x + 5 - y) % 5 + 5 * q := ⟨(x + 5 - y) / 5, (Nat.mod_add_div _ _).symm⟩
    have hcast : (x : ℝ) + 5 - y = (((x + 5 - y) % 5 : ℕ) : ℝ) + 5 * q := by
      have : ((x + 5 - y : ℕ) : ℝ) = (x : ℝ) + 5 - y := by
        rw [Nat.cast_sub (by omega)]; push_cast; ring
      rw [← this]; exact_mod_cast hq
    have : 2 * Real.pi * x / 5 - 2 * Real.pi * y / 5
        = 2 * Real.pi * (((x + 5 - y) % 5 : ℕ) : ℝ) / 5 + ((q : ℤ) - 1 : ℤ) * (2 * Real.pi) := by
      push_cast; linear_combination (2 * Real.pi / 5) * hcast
    rw [this, Real.cos_add_int_mul_two_pi]
  · rw [hh, show 2 * Real.pi * ((2 : ℕ) : ℝ) / 5 = Real.pi - Real.pi / 5 by push_cast; ring, Real.cos_pi_sub, hcos]
  · rw [hh, show 2 * Real.pi * ((3 : ℕ) : ℝ) / 5 = Real.pi / 5 + Real.pi by push_cast; ring, Real.cos_add_pi, hcos]
  · rw [hh, div_mul_div_comm, Real.mul_self_sqrt (by linarith)]
    have : (5 + Real.sqrt 5) ≠ 0 := by linarith
    field_simp; ring

/-- **six-parameter UPB of 3×3, every parameter value**: with `c²+s²=1` for `γ, θ`, `|e^{iφ}| = 1` and a non-zero
`nrm = √(cos²γ + sin²γ cos²θ)` on both sides, all ten local vectors are unit vectors and every pair of the five product vectors is
orthogonal on party A or on party B (Hermitian inner product `hdot`). -/
theorem sixparam_orthonormal {F : Type} [Field F]
    (cgA sgA ctA stA nA : F) (eA : Numqi.Lie.Cx F) (cgB sgB ctB stB nB : F) (eB : Numqi.Lie.Cx F)
    (hgA : cgA * cgA + sgA * sgA = 1) (htA : ctA * ctA + stA * stA = 1) (heA : eA.re * eA.re + eA.im * eA.im = 1)
    (hnA : nA * nA = cgA * cgA + sgA * sgA * (ctA * ctA)) (hnA0 : nA ≠ 0)
    (hgB : cgB * cgB + sgB * sgB = 1) (htB : ctB * ctB + stB * stB = 1) (heB : eB.re * eB.re + eB.im * eB.im = 1)
    (hnB : nB * nB = cgB * cgB + sgB * sgB * (ctB * ctB)) (hnB0 : nB ≠ 0) :
    (∀ i < 5, hdot ((sixparamA cgA sgA ctA stA nA eA).getD i []) ((sixparamA cgA sgA ctA stA nA eA).getD i []) = 1
            ∧ hdot ((sixparamB cgB sgB ctB stB nB eB).getD i []) ((sixparamB cgB sgB ctB stB nB eB).getD i []) = 1) ∧
    ∀ i < 5, ∀ j < 5, i ≠ j →
      hdot ((sixparamA cgA sgA ctA stA nA eA).getD i []) ((sixparamA cgA sgA ctA stA nA eA).getD j []) = 0 ∨
      hdot ((sixparamB cgB sgB ctB stB nB eB).getD i []) ((sixparamB cgB sgB ctB stB nB eB).getD j []) = 0 := by
  constructor
  · intro i hi
    interval_cases i
    · exact ⟨hdot_e0 1 0 0, hdot_e1 0 1 0⟩
    · exact ⟨hdot_e1 0 1 0, six_norm_mixed cgB sgB ctB stB eB hgB htB heB⟩
    · exact ⟨six_norm_theta ctA stA htA, hdot_e0 1 0 0⟩
    · exact ⟨six_norm_mixed cgA sgA ctA stA eA hgA htA heA, six_norm_theta ctB stB htB⟩
    · exact ⟨six_norm_last cgA sgA ctA nA eA heA hnA hnA0, six_norm_last cgB sgB ctB nB eB heB hnB hnB0⟩
  · -- pairs at cyclic distance 1 are orthogonal on party A, pairs at cyclic distance 2 on party B
    intro i hi j hj hij
    wlog hlt : i < j generalizing i j
    · exact (this j hj i hi (Ne.symm hij) (by omega)).imp (hdot_swap_zero _ _) (hdot_swap_zero _ _)
    interval_cases j <;> interval_cases i
    · exact Or.inl (hdot_e0 0 1 0)
    · exact Or.inr (hdot_e1 1 0 0)
    · exact Or.inl (hdot_e1 _ 0 _)
    · exact Or.inr (hdot_e1 _ 0 _)
    · exact Or.inr (six_mixed_theta cgB sgB ctB stB eB)
    · exact Or.inl (six_theta_mixed cgA sgA ctA stA eA)
    · exact Or.inl (hdot_e0 0 _ _)
    · exact Or.inr (six_mixed_last cgB sgB ctB stB nB eB heB hnB0)
    · exact Or.inr (hdot_e0 0 _ _)
    · exact Or.inl (six_mixed_last cgA sgA ctA stA nA eA heA hnA0)

/-- **Min4x4**: exact check in `ℤ[√2]` (row norms as stated in the source; every pair orthogonal on party A or party B) -/
theorem min4x4_orthonormal : min4x4Orthonormal = true := by decide +kernel

/-! ## UPB → bound entangled state: the complement projector (`upb_to_bes`), for every orthonormal set of product vectors

`w a` is the `a`-th product vector (`a < m`) in dimension `D`; `Orthonormal m D w` says `⟨w_a|w_b⟩ = δ_ab`;
`upbCompl m w = 1 - Σ_a |w_a⟩⟨w_a|` is what `upb_to_bes` computes before dividing by the trace; `hform D M x = x† M x`. -/

/-- **the complement of an orthonormal set is a Hermitian projector of trace `D - |UPB|`, hence positive semidefinite** -/
theorem upb_bes_projector (m D : ℕ) (w : ℕ → ℕ → ℂ) (h : Orthonormal m D w) :
    (∀ r < D, ∀ c < D, ∑ y ∈ Finset.range D, upbCompl m w r y * upbCompl m w y c = upbCompl m w r c)
    ∧ (∀ r c, starRingEnd ℂ (upbCompl m w r c) = upbCompl m w c r)
    ∧ ∑ r ∈ Finset.range D, upbCompl m w r r = (D : ℂ) - (m : ℂ)
    ∧ ∀ x : ℕ → ℂ, 0 ≤ (hform D (upbCompl m w) x).re ∧ (hform D (upbCompl m w) x).im = 0 :=
  ⟨fun r hr c hc => upbCompl_idem m D w h r c hr hc, upbCompl_conj m w, upbCompl_trace m D w h,
   hform_nonneg_of_idem D _ (fun r hr c hc => upbCompl_idem m D w h r c hr hc) (upbCompl_conj m w)⟩

/-- **… and it is PPT when the vectors are product vectors** `w_a = u_a ⊗ v_a` across the cut `dA × dB`: the partial
transpose is the complement projector of the orthonormal set `u_a ⊗ v̄_a`. (Unextendibility — which makes the state
*entangled* — is literature and not part of this statement.) -/
theorem upb_bes_ppt (m dA dB : ℕ) (hB : 0 < dB) (u v : ℕ → ℕ → ℂ)
    (h : Orthonormal m (dA * dB) (prodVec dB u v)) (x : ℕ → ℂ) :
    0 ≤ (hform (dA * dB) (ptB dB (upbCompl m (prodVec dB u v))) x).re
      ∧ (hform (dA * dB) (ptB dB (upbCompl m (prodVec dB u v))) x).im = 0 := by
  have e : ptB dB (upbCompl m (prodVec dB u v)) = upbCompl m (prodVec dB u (fun a t => starRingEnd ℂ (v a t))) :=
    funext fun r => funext fun c => ptB_upbCompl m dB hB u v r c
  rw [e]
  exact (upb_bes_projector m (dA * dB) _ (orthonormal_conj_right m dA dB hB u v h)).2.2.2 x

/-! ### the catalogue tables satisfy `Orthonormal`, so the two theorems above apply to them

`tableVecR party a t` is the real number `sgn·√sq` denoted by component `t` of local vector `a`; the product vectors are
`prodVec` of the parties' vectors (nested from the right for four parties). -/

/-- the product vectors of `load_upb('tiles')` as functions `ℕ → ℕ → ℂ` -/
noncomputable def tilesW : ℕ → ℕ → ℂ :=
  prodVec 3 (fun a t => (tableVecR (upbTiles.getD 0 []) a t : ℂ)) (fun a t => (tableVecR (upbTiles.getD 1 []) a t : ℂ))
noncomputable def feng4x4W : ℕ → ℕ → ℂ :=
  prodVec 4 (fun a t => (tableVecR (upbFeng4x4.getD 0 []) a t : ℂ)) (fun a t => (tableVecR (upbFeng4x4.getD 1 []) a t : ℂ))
noncomputable def feng2x2x2x2W : ℕ → ℕ → ℂ :=
  prodVec (2 * (2 * 2)) (fun a t => (tableVecR (upbFeng2x2x2x2.getD 0 []) a t : ℂ))
    (prodVec (2 * 2) (fun a t => (tableVecR (upbFeng2x2x2x2.getD 1 []) a t : ℂ))
      (prodVec 2 (fun a t => (tableVecR (upbFeng2x2x2x2.getD 2 []) a t : ℂ)) (fun a t => (tableVecR (upbFeng2x2x2x2.getD 3 []) a t : ℂ))))

/-- **`tiles`: five orthonormal product vectors in `3 × 3`** (real square roots) -/
theorem upb_tiles_Orthonormal : Orthonormal 5 (3 * 3) tilesW :=
  orthonormal_of_table2 _ _ 3 (by norm_num) (by decide +kernel) upb_tiles_orthonormal

/-- **`feng4x4`: eight orthonormal product vectors in `4 × 4`** -/
theorem upb_feng4x4_Orthonormal : Orthonormal 8 (4 * 4) feng4x4W :=
  orthonormal_of_table2 _ _ 4 (by norm_num) (by decide +kernel) upb_feng4x4_orthonormal

/-- **`feng2x2x2x2`: six orthonormal product vectors of four qubits** -/
theorem upb_feng2x2x2x2_Orthonormal : Orthonormal 6 (2 * (2 * (2 * 2))) feng2x2x2x2W :=
  orthonormal_of_table4 _ _ _ _ 2 (by norm_num) (by decide +kernel) upb_feng2x2x2x2_orthonormal

noncomputable def min4x4W : ℕ → ℕ → ℂ :=
  prodVec 4 (fun a t => (zrowVec min4x4A a t : ℂ)) (fun a t => (zrowVec min4x4B a t : ℂ))

/-- **`min4x4`: eight orthonormal product vectors in `4 × 4`** — the exact `ℤ[√2]` arithmetic is transported to ℝ by the ring
homomorphism `a + b√2 ↦ a + b·√2` (`Z2.val_add`, `Z2.val_mul`), so the kernel-evaluated test is proved sound -/
theorem upb_min4x4_Orthonormal : Orthonormal 8 (4 * 4) min4x4W :=
  orthonormal_of_local2 8 4 4 (by norm_num) _ _ (fun a ha b hb => min4x4_local a b ha hb)

/-- the three facts stated for each table: trace `D − |UPB|`, PSD, PPT across `dA × dB` -/
private theorem bes_of_orthonormal (m dA dB : ℕ) (hB : 0 < dB) (u v : ℕ → ℕ → ℂ)
    (h : Orthonormal m (dA * dB) (prodVec dB u v)) (x : ℕ → ℂ) :
    (∑ r ∈ Finset.range (dA * dB), upbCompl m (prodVec dB u v) r r = ((dA * dB : ℕ) : ℂ) - (m : ℕ))
    ∧ 0 ≤ (hform (dA * dB) (upbCompl m (prodVec dB u v)) x).re
    ∧ 0 ≤ (hform (dA * dB) (ptB dB (upbCompl m (prodVec dB u v))) x).re :=
  ⟨(upb_bes_projector m _ _ h).2.2.1, ((upb_bes_projector m _ _ h).2.2.2 x).1, (upb_bes_ppt m dA dB hB u v h x).1⟩

theorem upb_min4x4_bes (x : ℕ → ℂ) :
    (∑ r ∈ Finset.range (4 * 4), upbCompl 8 min4x4W r r = ((4 * 4 : ℕ) : ℂ) - (8 : ℕ))
    ∧ 0 ≤ (hform (4 * 4) (upbCompl 8 min4x4W) x).re ∧ 0 ≤ (hform (4 * 4) (ptB 4 (upbCompl 8 min4x4W)) x).re :=
  bes_of_orthonormal 8 4 4 (by norm_num) _ _ upb_min4x4_Orthonormal x

/-- hence **the bound entangled state of `tiles` is a PSD projector of trace `9 − 5` and is PPT** (same for the other two tables,
for `feng2x2x2x2` across the cut `A | BCD`) -/
theorem upb_tiles_bes (x : ℕ → ℂ) :
    (∑ r ∈ Finset.range (3 * 3), upbCompl 5 tilesW r r = ((3 * 3 : ℕ) : ℂ) - (5 : ℕ))
    ∧ 0 ≤ (hform (3 * 3) (upbCompl 5 tilesW) x).re ∧ 0 ≤ (hform (3 * 3) (ptB 3 (upbCompl 5 tilesW)) x).re :=
  bes_of_orthonormal 5 3 3 (by norm_num) _ _ upb_tiles_Orthonormal x

theorem upb_feng4x4_bes (x : ℕ → ℂ) :
    (∑ r ∈ Finset.range (4 * 4), upbCompl 8 feng4x4W r r = ((4 * 4 : ℕ) : ℂ) - (8 : ℕ))
    ∧ 0 ≤ (hform (4 * 4) (upbCompl 8 feng4x4W) x).re ∧ 0 ≤ (hform (4 * 4) (ptB 4 (upbCompl 8 feng4x4W)) x).re :=
  bes_of_orthonormal 8 4 4 (by norm_num) _ _ upb_feng4x4_Orthonormal x

theorem upb_feng2x2x2x2_bes (x : ℕ → ℂ) :
    (∑ r ∈ Finset.range (2 * (2 * (2 * 2))), upbCompl 6 feng2x2x2x2W r r = ((2 * (2 * (2 * 2)) : ℕ) : ℂ) - (6 : ℕ))
    ∧ 0 ≤ (hform (2 * (2 * (2 * 2))) (upbCompl 6 feng2x2x2x2W) x).re
    ∧ 0 ≤ (hform (2 * (2 * (2 * 2))) (ptB (2 * (2 * 2)) (upbCompl 6 feng2x2x2x2W)) x).re :=
  bes_of_orthonormal 6 2 (2 * (2 * 2)) (by norm_num) _ _ upb_feng2x2x2x2_Orthonormal x

/-- **bridge to the driver**: the product vectors that `get_upb_product` (`upbProductRow`, executed by the `upbbes` op) builds are the
`prodVec` of the theorems — parties one at a time (the last party carries the fastest index), in particular two parties directly. -/
theorem upb_product_step {M : Type} [MonoidWithZero M] (rows : List (List M)) (v : List M) (hv : 0 < v.length) (x : ℕ)
    (hx : x < (upbProductRow rows).length * v.length) :
    (upbProductRow (rows ++ [v])).getD x 0
      = prodVec v.length (fun _ t => (upbProductRow rows).getD t 0) (fun _ t => v.getD t 0) 0 x := by
  rw [upbProductRow_append, flatMap_map_getD _ v hv x hx]; rfl

theorem upb_product_is_prodVec {M : Type} [MonoidWithZero M] (u v : List M) (hv : 0 < v.length) (x : ℕ) (hx : x < u.length * v.length) :
    (upbProductRow [u, v]).getD x 0 = prodVec v.length (fun _ t => u.getD t 0) (fun _ t => v.getD t 0) 0 x := by
  have h1 : upbProductRow [u] = u := by simp [upbProductRow]
  have := upb_product_step [u] v hv x (by rwa [h1])
  rwa [h1] at this

/-- non-vacuity: two orthonormal product vectors `|0⟩|0⟩`, `|1⟩|1⟩` in `2 × 2` -/
example : Orthonormal 2 (2 * 2) (prodVec 2 (fun a i => if a = i then (1 : ℂ) else 0) (fun a j => if a = j then (1 : ℂ) else 0)) := by
  intro a ha b hb
  interval_cases a <;> interval_cases b <;> simp [Catalogue.inner, prodVec, Finset.sum_range_succ]

/-! ## Chebyshev bases -/

/-- the recurrence of the model computes the Chebyshev polynomials, `T_n(cos θ) = cos(n θ)` -/
theorem chebT_cos (θ : ℝ) (n : ℕ) : chebT (Real.cos θ) n = Real.cos (n * θ) := by
  induction n using Nat.strong_induction_on with
  | _ n ih =>
    match n with
    | 0 => simp [chebT]
    | 1 => simp [chebT]
    | k + 2 =>
      rw [chebT, ih (k + 1) (by omega), ih k (by omega)]
      have h1 : ((k + 2 : ℕ) : ℝ) * θ = ((k + 1 : ℕ) : ℝ) * θ + θ := by push_cast; ring
      have h2 : ((k : ℕ) : ℝ) * θ = ((k + 1 : ℕ) : ℝ) * θ - θ := by push_cast; ring
      rw [h1, h2, Real.cos_add, Real.cos_sub]; ring

/-- **discrete orthogonality of `T_0 … T_{d-1}` at the roots of `T_d`**, every `d` -/
theorem chebyshev_discrete_orthogonality (d m n : ℕ) (hm : m < d) (hn : n < d) :
    ∑ k ∈ Finset.range d, chebT (Real.cos (chebNode d k)) m * chebT (Real.cos (chebNode d k)) n
      = if m = n then (if m = 0 then (d : ℝ) else d / 2) else 0 := by
  simp only [chebT_cos]; exact sum_cos_cos_node d m n hm hn

/-- `basis0` of `get_chebshev_orthonormal(d, ·)` over `ℝ` -/
noncomputable def chebB0 (d : ℕ) : Matrix (Fin d) (Fin d) ℝ :=
  fun k n => chebBasis0 (Real.sqrt 2) (Real.sqrt d) (fun k => Real.cos (chebNode d k)) k n

/-- `basis1` over `ℝ` -/
noncomputable def chebB1 (d : ℕ) : Matrix (Fin d) (Fin d) ℝ :=
  fun k n => chebBasis1 (Real.sqrt 2) (Real.sqrt ((d - 1 : ℕ) : ℝ)) (fun k => Real.cos (chebNode (d - 1) k)) d k n

private theorem chebvalN_mul (x : ℝ) (m n : ℕ) :
    chebvalN (Real.sqrt 2) x m * chebvalN (Real.sqrt 2) x n
      = (if m = 0 then 1 else Real.sqrt 2) * (if n = 0 then 1 else Real.sqrt 2) * (chebT x m * chebT x n) := by
  unfold chebvalN; ring

private theorem cheb_cols (d m n : ℕ) (hd : 0 < d) (hm : m < d) (hn : n < d) :
    ∑ k ∈ Finset.range d, chebvalN (Real.sqrt 2) (Real.cos (chebNode d k)) m / Real.sqrt d
        * (chebvalN (Real.sqrt 2) (Real.cos (chebNode d k)) n / Real.sqrt d) = if m = n then 1 else 0 := by
  have hdR : (0 : ℝ) < d := by exact_mod_cast hd
  have hsd : Real.sqrt d * Real.sqrt d = d := Real.mul_self_sqrt hdR.le
  have hs2 : Real.sqrt 2 * Real.sqrt 2 = 2 := Real.mul_self_sqrt (by norm_num)
  have e : ∀ k, chebvalN (Real.sqrt 2) (Real.cos (chebNode d k)) m / Real.sqrt d
        * (chebvalN (Real.sqrt 2) (Real.cos (chebNode d k)) n / Real.sqrt d)
      = (if m = 0 then 1 else Real.sqrt 2) * (if n = 0 then 1 else Real.sqrt 2) / d
        * (chebT (Real.cos (chebNode d k)) m * chebT (Real.cos (chebNode d k)) n) := by
    intro k
    rw [div_mul_div_comm, chebvalN_mul, hsd]; ring
  simp only [e, ← Finset.mul_sum, chebyshev_discrete_orthogonality d m n hm hn]
  by_cases hmn : m = n
  · subst hmn
    by_cases h0 : m = 0
    · subst h0; simp; field_simp
    · simp only [if_neg h0, if_true]
      rw [hs2]; field_simp
  · simp [hmn]

/-- **`basis0` is an orthonormal basis for every `d ≥ 1`** (columns by discrete orthogonality, rows because the matrix is square) -/
theorem chebyshev_basis0_orthonormal (d : ℕ) (hd : 0 < d) :
    (chebB0 d).transpose * chebB0 d = 1 ∧ chebB0 d * (chebB0 d).transpose = 1 := by
  have h1 : (chebB0 d).transpose * chebB0 d = 1 := by
    ext m n
    rw [Matrix.mul_apply, Matrix.one_apply]
    simp only [Matrix.transpose_apply, chebB0, chebBasis0]
    rw [Fin.sum_univ_eq_sum_range (fun k => chebvalN (Real.sqrt 2) (Real.cos (chebNode d k)) m / Real.sqrt d
        * (chebvalN (Real.sqrt 2) (Real.cos (chebNode d k)) n / Real.sqrt d)) d, cheb_cols d m n hd m.isLt n.isLt]
    simp [Fin.ext_iff]
  exact ⟨h1, mul_eq_one_comm.mp h1⟩

/-- **`basis1` is an orthonormal basis for every `d ≥ 2`**: the first `d-1` rows sample `T_0 … T_{d-1}` at the roots of
`T_{d-1}` (where `T_{d-1}` vanishes), the last row is `e_{d-1}`. -/
theorem chebyshev_basis1_orthonormal (d : ℕ) (hd : 2 ≤ d) :
    (chebB1 d).transpose * chebB1 d = 1 ∧ chebB1 d * (chebB1 d).transpose = 1 := by
  obtain ⟨e, rfl⟩ : ∃ e, d = e + 1 := ⟨d - 1, by omega⟩
  have he : 0 < e := by omega
  have h1 : (chebB1 (e + 1)).transpose * chebB1 (e + 1) = 1 := by
    ext m n
    rw [Matrix.mul_apply, Matrix.one_apply]
    simp only [Matrix.transpose_apply, chebB1]
    rw [Fin.sum_univ_eq_sum_range (fun k => chebBasis1 (Real.sqrt 2) (Real.sqrt ((e + 1 - 1 : ℕ) : ℝ))
        (fun k => Real.cos (chebNode (e + 1 - 1) k)) (e + 1) k m * chebBasis1 (Real.sqrt 2) (Real.sqrt ((e + 1 - 1 : ℕ) : ℝ))
        (fun k => Real.cos (chebNode (e + 1 - 1) k)) (e + 1) k n) (e + 1), Finset.sum_range_succ]
    simp only [Nat.add_sub_cancel]
    have hfirst : ∀ k ∈ Finset.range e, chebBasis1 (Real.sqrt 2) (Real.sqrt (e : ℝ)) (fun k => Real.cos (chebNode e k)) (e + 1) k m
          * chebBasis1 (Real.sqrt 2) (Real.sqrt (e : ℝ)) (fun k => Real.cos (chebNode e k)) (e + 1) k n
        = chebvalN (Real.sqrt 2) (Real.cos (chebNode e k)) m / Real.sqrt e * (chebvalN (Real.sqrt 2) (Real.cos (chebNode e k)) n / Real.sqrt e) := by
      intro k hk
      have : k + 1 < e + 1 := by have := Finset.mem_range.mp hk; omega
      simp only [chebBasis1, if_pos this]
    rw [Finset.sum_congr rfl hfirst]
    have hlast : ∀ t : ℕ, chebBasis1 (Real.sqrt 2) (Real.sqrt (e : ℝ)) (fun k => Real.cos (chebNode e k)) (e + 1) e t
        = if t = e then 1 else 0 := by
      intro t; simp [chebBasis1]
    rw [hlast, hlast]
    -- `T_e` vanishes at the nodes
    have hzero : ∀ k, chebvalN (Real.sqrt 2) (Real.cos (chebNode e k)) e = 0 := by
      intro k
      unfold chebvalN
      rw [chebT_cos]
      have : (e : ℝ) * chebNode e k = ((k : ℝ) + 1 / 2) * Real.pi := by
        have heR : (e : ℝ) ≠ 0 := by exact_mod_cast he.ne'
        unfold chebNode; field_simp
      have hc : Real.cos (1 / 2 * Real.pi) = 0 := by rw [show (1 / 2 : ℝ) * Real.pi = Real.pi / 2 by ring]; exact Real.cos_pi_div_two
      rw [this, add_mul, Real.cos_add, hc, Real.sin_nat_mul_pi]
      simp
    have hm := m.isLt; have hn := n.isLt
    by_cases hmn : (m : ℕ) = e ∨ (n : ℕ) = e
    · have hz : ∑ k ∈ Finset.range e, chebvalN (Real.sqrt 2) (Real.cos (chebNode e k)) m / Real.sqrt e
          * (chebvalN (Real.sqrt 2) (Real.cos (chebNode e k)) n / Real.sqrt e) = 0 := by
        rcases hmn with h | h <;> exact Finset.sum_eq_zero fun k _ => by rw [h, hzero]; simp
      simp only [hz, Fin.ext_iff]
      split_ifs <;> first | (exfalso; omega) | norm_num
    · rw [cheb_cols e m n he (by omega) (by omega), if_neg (fun h => hmn (Or.inl h)), if_neg (fun h => hmn (Or.inr h))]
      simp [Fin.ext_iff]
  exact ⟨h1, mul_eq_one_comm.mp h1⟩

/-! ## tetrahedron POVM -/

/-- **`get_tetrahedron_POVM(n)` resolves the identity for every number of qubits `n`**: `Σ_k M_k = 1`, entry by entry
(pairs are (re, im)).  Holds in every commutative ring with `4·quarter = 1`, `3·third = 1`; the values of `a = √2/3` and
`b = √(2/3)` do not matter for this statement. -/
theorem tetrahedron_povm_resolves {R : Type} [CommRing R] (a b third quarter : R) (h4 : 4 * quarter = 1) (h3 : 3 * third = 1)
    (n r c : ℕ) (hr : r < 2 ^ n) (hc : c < 2 ^ n) :
    ∑ k ∈ Finset.range (4 ^ n), tetraN a b third quarter 2 n k r c = (if r = c then 1 else 0, 0) :=
  tetraN_sum a b third quarter 2 h4 rfl h3 n r c hr hc

/-- **each one-qubit element is `½` times a rank-one projector** (trace `½`, determinant `0`, Hermitian by construction),
given `a² = 2/9`, `b² = 2/3`: the four Bloch vectors have unit length. -/
theorem tetrahedron_elements_rank_one (a b : K) (ha : a * a = 2 / 9) (hb : b * b = 2 / 3) (k : ℕ) (hk : k < 4) :
    let M := tetra1 a b (1/3) (1/4) 2 k
    (M 0 0).1 + (M 1 1).1 = 1 / 2 ∧ (M 0 0).2 = 0 ∧ (M 1 1).2 = 0 ∧ M 1 0 = ((M 0 1).1, -(M 0 1).2) ∧
      (M 0 0).1 * (M 1 1).1 - ((M 0 1).1 * (M 0 1).1 + (M 0 1).2 * (M 0 1).2) = 0 := by
  -- `M = ¼(1 + x σ_x + y σ_y + z σ_z)` with a unit Bloch vector `(x, y, z)`: trace `½`, determinant `(1 - x² - y² - z²)/16`
  obtain ⟨x, y, z, hv, hn⟩ : ∃ x y z : K, tetraVec a b (1/3) (1/4) 2 k = [1/4 * 1, 1/4 * x, 1/4 * y, 1/4 * z]
      ∧ x * x + y * y + z * z = 1 := by
    interval_cases k
    · exact ⟨0, 0, 1, rfl, by norm_num⟩
    · exact ⟨2 * a, 0, -(1/3), rfl, by linear_combination 4 * ha⟩
    · exact ⟨-a, b, -(1/3), rfl, by linear_combination ha + hb⟩
    · exact ⟨-a, -b, -(1/3), rfl, by linear_combination ha + hb⟩
  simp only [tetra1, hv]
  exact ⟨by ring, trivial, trivial, by rw [neg_neg], by linear_combination (-(1/16 : K)) * hn⟩

end Numqi.C18
