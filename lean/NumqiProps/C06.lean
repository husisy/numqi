/-
C06 — boundaries are exact thresholds; the detection hierarchy is nested.

Property theorems; the lemmas several of them share are in `NumqiProofs/BoundaryLemmas.lean`, `BoundaryNesting.lean`, `BoundaryDicke.lean`.  The statements are about the constants of
`NumqiModel/Boundary.lean` that `Driver/C06.lean` executes.  External routines enter as hypotheses ("contracts"):
`np.linalg.eigvalsh` (the two extreme eigenvalues are attained Rayleigh bounds), the LP/SDP solvers (their output satisfies the
constraints of the programme).
-/
import NumqiProofs.BoundaryLemmas
import NumqiProofs.BoundaryDicke
import NumqiProofs.BoundaryNesting
import NumqiModel.Gellmann

namespace Numqi.C06
open Numqi Numqi.Boundary Matrix
open scoped ComplexOrder

/-! ## 1. closed-form boundaries are exact thresholds -/

section threshold
variable {n : Type} [Fintype n] [DecidableEq n]

/-- **`dm_boundary_threshold`**: along the ray `1/N + β·(ρ-1/N)/‖ρ‖` the state is positive semidefinite exactly for
`beta_l ≤ β ≤ beta_u`, the two numbers returned by `get_density_matrix_boundary` (just inside: positive; just outside: not).
All dimensions.  `μmin`/`μmax` = `eigvalsh(ρ)[0]`/`[-1]` with the `eigvalsh` contract; `μmin < 1/N < μmax` holds for every
trace-one `ρ ≠ 1/N`. -/
theorem dm_boundary_threshold (N d : ℝ) (hN : 0 < N) (hd : 0 < d) (ρ : Matrix n n ℂ) (μmin μmax : ℝ)
    (hmin : μmin < 1 / N) (hmax : 1 / N < μmax)
    (hlo : (ρ - (μmin : ℂ) • (1 : Matrix n n ℂ)).PosSemidef) (hhi : ((μmax : ℂ) • (1 : Matrix n n ℂ) - ρ).PosSemidef)
    (xlo xhi : n → ℂ) (hxlo : star xlo ⬝ᵥ xlo = 1) (halo : star xlo ⬝ᵥ (ρ *ᵥ xlo) = (μmin : ℂ))
    (hxhi : star xhi ⬝ᵥ xhi = 1) (hahi : star xhi ⬝ᵥ (ρ *ᵥ xhi) = (μmax : ℂ)) (β : ℝ) :
    (rayPoint N d ρ β).PosSemidef ↔ (dmBoundary N μmin μmax d).1 ≤ β ∧ β ≤ (dmBoundary N μmin μmax d).2 := by
  have hd' : (0 : ℝ) ≤ 1 / d := by positivity
  have key := psd_affine_iff (1 / N) (((1 / d : ℝ) : ℂ) • (ρ - ((1 / N : ℝ) : ℂ) • (1 : Matrix n n ℂ)))
    ((μmin - 1 / N) / d) ((μmax - 1 / N) / d)
    (div_neg_of_neg_of_pos (by linarith) hd) (div_pos (by linarith) hd)
    (by
      have e : ((1 / d : ℝ) : ℂ) • (ρ - ((1 / N : ℝ) : ℂ) • (1 : Matrix n n ℂ)) - (((μmin - 1 / N) / d : ℝ) : ℂ) • (1 : Matrix n n ℂ)
          = ((1 / d : ℝ) : ℂ) • (ρ - (μmin : ℂ) • (1 : Matrix n n ℂ)) := by
        push_cast; module
      rw [e]; exact hlo.smul (by exact_mod_cast hd'))
    (by
      have e : (((μmax - 1 / N) / d : ℝ) : ℂ) • (1 : Matrix n n ℂ) - ((1 / d : ℝ) : ℂ) • (ρ - ((1 / N : ℝ) : ℂ) • (1 : Matrix n n ℂ))
          = ((1 / d : ℝ) : ℂ) • ((μmax : ℂ) • (1 : Matrix n n ℂ) - ρ) := by
        push_cast; module
      rw [e]; exact hhi.smul (by exact_mod_cast hd'))
    xlo xhi hxlo
    (by rw [smul_mulVec, sub_mulVec, smul_mulVec, one_mulVec, dotProduct_smul, dotProduct_sub, dotProduct_smul, halo, hxlo]
        simp only [smul_eq_mul]; push_cast; ring)
    hxhi
    (by rw [smul_mulVec, sub_mulVec, smul_mulVec, one_mulVec, dotProduct_smul, dotProduct_sub, dotProduct_smul, hahi, hxhi]
        simp only [smul_eq_mul]; push_cast; ring)
    β
  unfold rayPoint
  rw [key]
  have h1 : μmax - 1 / N ≠ 0 := by linarith
  have h2 : μmin - 1 / N ≠ 0 := by linarith
  have e1 : -(1 / N) / ((μmax - 1 / N) / d) = (dmBoundary N μmin μmax d).1 := by
    simp only [dmBoundary]; field_simp
  have e2 : -(1 / N) / ((μmin - 1 / N) / d) = (dmBoundary N μmin μmax d).2 := by
    simp only [dmBoundary]; field_simp
  rw [e1, e2]

/-- the lower boundary is negative and the upper one positive: `β = 0` (the maximally mixed state) is strictly inside -/
theorem dmBoundary_sign (N d : ℝ) (hN : 0 < N) (hd : 0 < d) (μmin μmax : ℝ) (hmin : μmin < 1 / N) (hmax : 1 / N < μmax) :
    (dmBoundary N μmin μmax d).1 < 0 ∧ 0 < (dmBoundary N μmin μmax d).2 := by
  simp only [dmBoundary]
  constructor
  · apply div_neg_of_neg_of_pos (by norm_num)
    exact mul_pos hN (div_pos (by linarith) hd)
  · apply div_pos_of_neg_of_neg (by norm_num)
    exact mul_neg_of_pos_of_neg hN (div_neg_of_neg_of_pos (by linarith) hd)

end threshold

section ppt
variable {dA dB : ℕ}

/-- the partial transpose of the ray point is the ray point of the partial transpose (index map of `get_ppt_boundary`) -/
theorem ptB_rayPoint (N d : ℝ) (ρ : Matrix (Fin dA × Fin dB) (Fin dA × Fin dB) ℂ) (β : ℝ) :
    ptM (rayPoint N d ρ β) = rayPoint N d (ptM ρ) β :=
  Boundary.ptB_rayPoint N d ρ β

/-- the partial transpose is an involution -/
theorem ptB_involutive (M : Matrix (Fin dA × Fin dB) (Fin dA × Fin dB) ℂ) : ptB (ptB M) = M := by
  funext p q; simp [ptB]

/-- **`ppt_boundary_threshold`**: with the `eigvalsh` contract for `ρ` and for `ρ^Γ`, the state on the ray is positive
**and** has positive partial transpose exactly for `β` between the two numbers returned by
`get_ppt_boundary(within_dm=True)`; with `within_dm=False` they are the thresholds of `ρ(β)^Γ ⪰ 0` alone. -/
theorem ppt_boundary_threshold (N d : ℝ) (hN : 0 < N) (hd : 0 < d) (ρ : Matrix (Fin dA × Fin dB) (Fin dA × Fin dB) ℂ)
    (μmin μmax νmin νmax : ℝ) (hmin : μmin < 1 / N) (hmax : 1 / N < μmax) (hmin' : νmin < 1 / N) (hmax' : 1 / N < νmax)
    (hlo : (ρ - (μmin : ℂ) • (1 : Matrix _ _ ℂ)).PosSemidef) (hhi : ((μmax : ℂ) • (1 : Matrix _ _ ℂ) - ρ).PosSemidef)
    (xlo xhi : Fin dA × Fin dB → ℂ) (hxlo : star xlo ⬝ᵥ xlo = 1) (halo : star xlo ⬝ᵥ (ρ *ᵥ xlo) = (μmin : ℂ))
    (hxhi : star xhi ⬝ᵥ xhi = 1) (hahi : star xhi ⬝ᵥ (ρ *ᵥ xhi) = (μmax : ℂ))
    (hlo' : (ptM ρ - (νmin : ℂ) • (1 : Matrix _ _ ℂ)).PosSemidef)
    (hhi' : ((νmax : ℂ) • (1 : Matrix _ _ ℂ) - ptM ρ).PosSemidef)
    (ylo yhi : Fin dA × Fin dB → ℂ) (hylo : star ylo ⬝ᵥ ylo = 1)
    (hblo : star ylo ⬝ᵥ (ptM ρ *ᵥ ylo) = (νmin : ℂ))
    (hyhi : star yhi ⬝ᵥ yhi = 1) (hbhi : star yhi ⬝ᵥ (ptM ρ *ᵥ yhi) = (νmax : ℂ)) (β : ℝ) :
    (((rayPoint N d ρ β).PosSemidef ∧ (ptM (rayPoint N d ρ β)).PosSemidef) ↔
      (pptBoundary true (dmBoundary N μmin μmax d) (dmBoundary N νmin νmax d)).1 ≤ β
        ∧ β ≤ (pptBoundary true (dmBoundary N μmin μmax d) (dmBoundary N νmin νmax d)).2)
    ∧ ((ptM (rayPoint N d ρ β)).PosSemidef ↔
      (pptBoundary false (dmBoundary N μmin μmax d) (dmBoundary N νmin νmax d)).1 ≤ β
        ∧ β ≤ (pptBoundary false (dmBoundary N μmin μmax d) (dmBoundary N νmin νmax d)).2) := by
  have h1 := dm_boundary_threshold N d hN hd ρ μmin μmax hmin hmax hlo hhi xlo xhi hxlo halo hxhi hahi β
  have h2 := dm_boundary_threshold N d hN hd (ptM ρ) νmin νmax hmin' hmax' hlo' hhi' ylo yhi hylo hblo hyhi hbhi β
  have e : ptM (rayPoint N d ρ β) = rayPoint N d (ptM ρ) β := Boundary.ptB_rayPoint N d ρ β
  rw [e]
  refine ⟨?_, ?_⟩
  · rw [h1, h2]
    simp only [pptBoundary, if_true, max_le_iff, le_min_iff]
    exact and_and_and_comm
  · rw [h2]
    simp only [pptBoundary, Bool.false_eq_true, if_false]

/-- **`β_PPT ≤ β_DM`** for the returned numbers (`within_dm=True`): the PPT interval lies inside the DM interval -/
theorem pptBoundary_within_dm (dm pt : ℝ × ℝ) :
    dm.1 ≤ (pptBoundary true dm pt).1 ∧ (pptBoundary true dm pt).2 ≤ dm.2 := by
  simp [pptBoundary]

end ppt

/-! ## 2. interpolation -/

section interp
variable {K : Type} [Field K] [StarRing K] {n : ℕ}

/-- the interpolated matrix lies on the ray of `ρ`: `ret - 1/N = α (ρ - 1/N)` -/
theorem interp_on_ray (invN α : K) (ρ : Fin n → Fin n → K) (r c : Fin n) :
    interp invN α ρ r c - (if r = c then invN else 0) = α * (ρ r c - (if r = c then invN else 0)) := by
  unfold interp; split_ifs <;> ring

/-- **`interpolate_distance`**: `hf_interpolate_dm(ρ, beta=b)` has squared Gell-Mann distance `b²` from `1/N`
(`d` = `dm_to_gellmann_norm(ρ)`, i.e. `d² = gmNorm2 ρ`, `d ≠ 0`; `b`, `d` real).  No trace condition on `ρ` is needed. -/
theorem interpolate_distance (invN half b d : K) (hN : (n : K) * invN = 1) (hb : star b = b) (hd : star d = d)
    (hd0 : d ≠ 0) (ρ : Fin n → Fin n → K) (hnorm : gmNorm2 invN half ρ = d * d) :
    gmNorm2 invN half (interpBeta invN b d ρ) = b * b := by
  unfold interpBeta
  have hα : star (b / d) = b / d := by rw [star_div₀, hb, hd]
  rw [gmNorm2_interp invN half (b / d) hN hα, hnorm]
  field_simp

end interp

/-! ## 3. nesting: inclusions between feasible sets give ordered boundary lengths -/

section nesting
variable {E : Type} [AddCommGroup E] [Module ℝ E]

/-- **`beta_mono`**: for nested sets the boundary length (supremum of the feasible `β`) is monotone -/
theorem beta_mono {A B : Set E} (h : A ⊆ B) (c v : E) (hne : (feasible A c v).Nonempty) (hbd : BddAbove (feasible B c v)) :
    sSup (feasible A c v) ≤ sSup (feasible B c v) :=
  csSup_le_csSup hbd hne (feasible_mono h c v)

/-- for a star-shaped set the feasible values form an interval starting at 0, so the supremum is a threshold -/
theorem feasible_interval {S : Set E} {c : E} (hS : StarShaped S c) (v : E) {β β' : ℝ}
    (hβ : β ∈ feasible S c v) (h0 : 0 ≤ β') (hle : β' ≤ β) : β' ∈ feasible S c v :=
  Boundary.feasible_interval hS v hβ h0 hle

/-- every convex set containing `c` is star-shaped about `c` (DM, PPT, k-extendible, separable states are convex) -/
theorem starShaped_of_convex {S : Set E} {c : E} (hc : c ∈ S)
    (hconv : ∀ x ∈ S, ∀ y ∈ S, ∀ t : ℝ, 0 ≤ t → t ≤ 1 → (1 - t) • x + t • y ∈ S) : StarShaped S c := by
  intro x hx t ht0 ht1
  have := hconv c hc x hx t ht0 ht1
  have e : c + t • (x - c) = (1 - t) • c + t • x := by
    rw [smul_sub, sub_smul, one_smul]; abel
  rwa [e]

end nesting

section sets
variable {dA dB : ℕ}

/-- density matrices (positivity part) -/
def DM (dA dB : ℕ) : Set (Matrix (Fin dA × Fin dB) (Fin dA × Fin dB) ℂ) := {M | M.PosSemidef}
/-- PPT states -/
def PPT (dA dB : ℕ) : Set (Matrix (Fin dA × Fin dB) (Fin dA × Fin dB) ℂ) :=
  {M | M.PosSemidef ∧ (ptM M).PosSemidef}
/-- mixtures of product projectors with non-negative weights (the hypothesis shape of C05; what a CHA point is) -/
def SEP (dA dB : ℕ) : Set (Matrix (Fin dA × Fin dB) (Fin dA × Fin dB) ℂ) :=
  {M | ∃ (K : ℕ) (lam : Fin K → ℂ) (a : Fin K → Fin dA → ℂ) (b : Fin K → Fin dB → ℂ),
        (∀ i, 0 ≤ lam i) ∧ M = Matrix.of (mixture lam a b)}

theorem ppt_subset_dm : PPT dA dB ⊆ DM dA dB := fun _ h => h.1

/-- **`cha_point_separable`**: a convex mixture of product projectors — in particular the state the LP of
`CHABoundaryBagging` stands for — is positive and has positive partial transpose: `SEP ⊆ PPT ⊆ DM`. -/
theorem sep_subset_ppt : SEP dA dB ⊆ PPT dA dB := by
  rintro M ⟨K, lam, a, b, hlam, rfl⟩
  refine ⟨mixture_posSemidef lam hlam a b, ?_⟩
  have : ptM (Matrix.of (mixture lam a b)) = Matrix.of (mixture lam a (fun i j => star (b i j))) :=
    ptB_mixture lam a b
  rw [this]
  exact mixture_posSemidef lam hlam a _

/-- hence the chain `β_CHA ≤ β_PPT ≤ β_DM` of the exact boundary lengths, in every direction -/
theorem beta_sep_le_ppt_le_dm (c v : Matrix (Fin dA × Fin dB) (Fin dA × Fin dB) ℂ)
    (hne : (feasible (SEP dA dB) c v).Nonempty) (hbd : BddAbove (feasible (DM dA dB) c v)) :
    sSup (feasible (SEP dA dB) c v) ≤ sSup (feasible (PPT dA dB) c v)
      ∧ sSup (feasible (PPT dA dB) c v) ≤ sSup (feasible (DM dA dB) c v) := by
  have hne' : (feasible (PPT dA dB) c v).Nonempty := hne.mono (feasible_mono sep_subset_ppt c v)
  have hbd' : BddAbove (feasible (PPT dA dB) c v) := hbd.mono (feasible_mono ppt_subset_dm c v)
  exact ⟨beta_mono sep_subset_ppt c v hne hbd', beta_mono ppt_subset_dm c v hne' hbd⟩

/-- **the LP point is the mixture**: if `(β, λ)` satisfies the constraints of the CHA programme
(`β·v̂ = Σ_i λ_i (P_i - 1/N)`, `Σ λ_i = 1`), the state `1/N + β·v̂` on the ray equals `Σ_i λ_i P_i`. -/
theorem cha_lp_point_eq_mixture {K : ℕ} (invN : ℂ) (β : ℂ) (vhat : Fin dA × Fin dB → Fin dA × Fin dB → ℂ)
    (lam : Fin K → ℂ) (a : Fin K → Fin dA → ℂ) (b : Fin K → Fin dB → ℂ)
    (hsum : ∑ i, lam i = 1)
    (hlp : ∀ p q, β * vhat p q = ∑ i, lam i * chaRow invN (a i) (b i) p q) (p q : Fin dA × Fin dB) :
    (if p = q then invN else 0) + β * vhat p q = mixture lam a b p q := by
  rw [hlp p q]
  simp only [chaRow, mixture, sumFin_eq, mul_sub, Finset.sum_sub_distrib, ← Finset.sum_mul, hsum, one_mul]
  ring

end sets

/-! ## 4. symmetric extensions -/

section extension
variable {dA dB : ℕ}

/-- states with a symmetric extension to `k+1` copies of `B` (`IsSymExt k ρ σ`: `σ ⪰ 0` on `A ⊗ B^{⊗(k+1)}`, invariant under
permutations of the copies, reducing to `ρ`) -/
def KEXT (dA dB k : ℕ) : Set (Matrix (Fin dA × Fin dB) (Fin dA × Fin dB) ℂ) := {ρ | ∃ σ, IsSymExt k ρ σ}

/-- **`kext_succ_subset`**: tracing out one copy of a symmetric extension gives a symmetric extension with one copy less —
the `(k+1)`-extendible states are `k`-extendible, for every `k` and all local dimensions. -/
theorem kext_succ_subset (k : ℕ) : KEXT dA dB (k + 1) ⊆ KEXT dA dB k :=
  fun ρ ⟨σ, hσ⟩ => ⟨traceFirst σ, isSymExt_traceFirst ρ σ hσ⟩

/-- extendible states are positive: `KEXT k ⊆ DM` -/
theorem kext_subset_dm (k : ℕ) : KEXT dA dB k ⊆ DM dA dB :=
  fun ρ ⟨σ, hσ⟩ => isSymExt_posSemidef ρ σ hσ

/-- hence `β_(k+1)ext ≤ β_kext ≤ β_DM` for the exact sets, in every direction -/
theorem beta_kext_chain (k : ℕ) (c v : Matrix (Fin dA × Fin dB) (Fin dA × Fin dB) ℂ)
    (hne : (feasible (KEXT dA dB (k + 1)) c v).Nonempty) (hbd : BddAbove (feasible (DM dA dB) c v)) :
    sSup (feasible (KEXT dA dB (k + 1)) c v) ≤ sSup (feasible (KEXT dA dB k) c v)
      ∧ sSup (feasible (KEXT dA dB k) c v) ≤ sSup (feasible (DM dA dB) c v) := by
  have hne' : (feasible (KEXT dA dB k) c v).Nonempty := hne.mono (feasible_mono (kext_succ_subset k) c v)
  have hbd' : BddAbove (feasible (KEXT dA dB k) c v) := hbd.mono (feasible_mono (kext_subset_dm k) c v)
  exact ⟨beta_mono (kext_succ_subset k) c v hne hbd', beta_mono (kext_subset_dm k) c v hne' hbd⟩

/-- for a pure state `ψ` on `A ⊗ B^{⊗(k+1)}` that is symmetric under permutations of the copies (what a vector in the Dicke
basis is), `|ψ⟩⟨ψ|` is a symmetric extension of its own reduction. -/
theorem pure_symmetric_reduction_extendible (k : ℕ) (ψ : Fin dA × (Fin (k + 1) → Fin dB) → ℂ)
    (hψ : ∀ π : Equiv.Perm (Fin (k + 1)), ∀ p, ψ (p.1, p.2 ∘ π) = ψ p) :
    reduceLast (vecMulVec ψ (star ψ)) ∈ KEXT dA dB k := by
  refine ⟨vecMulVec ψ (star ψ), posSemidef_vecMulVec_self_star ψ, ?_, fun p q => rfl⟩
  intro π p q
  simp only [vecMulVec_apply, Pi.star_apply]
  rw [hψ π p, hψ π q]

/-- fewer copies: `KEXT (k+j) ⊆ KEXT k` -/
theorem kext_add_subset (k j : ℕ) : KEXT dA dB (k + j) ⊆ KEXT dA dB k := by
  induction j with
  | zero => exact fun _ h => h
  | succ j ih => exact fun ρ h => ih (kext_succ_subset (k + j) h)

/-- **`pureb_has_extension`**: the density matrix that the modelled code path of `PureBosonicExt(dimA, dimB, kext = n+1)` returns
for **any** parameter vector — `partial_trace_ABk_to_AB` applied to the Dicke coefficients `ψ`, C17's model `Dicke.assembleAB` on
the index table, which `C17.dicke_reduction_eq` proves equal to embedding with the Dicke basis and tracing out `n` copies — has a
symmetric extension to `n+1` copies of `B`, hence to every smaller number of copies, and is positive.  All `dimA`, `dimB ≥ 2`, `n`. -/
theorem pureb_has_extension (n j : ℕ) (hj : j ≤ n) (hd : 2 ≤ dB) (ψ : ℕ → ℕ → ℂ) :
    (fun p q : Fin dA × Fin dB =>
        @Dicke.assembleAB ℂ _ _ _ ⟨starRingEnd ℂ⟩ dB (C17.tableC (n + 1) dB) ψ (p.1.val * dB + p.2.val) (q.1.val * dB + q.2.val))
      ∈ KEXT dA dB j ∧
    (fun p q : Fin dA × Fin dB =>
        @Dicke.assembleAB ℂ _ _ _ ⟨starRingEnd ℂ⟩ dB (C17.tableC (n + 1) dB) ψ (p.1.val * dB + p.2.val) (q.1.val * dB + q.2.val))
      ∈ DM dA dB := by
  have h : _ ∈ KEXT dA dB n := ⟨_, assembleAB_isSymExt dA n hd ψ⟩
  obtain ⟨i, rfl⟩ : ∃ i, n = j + i := ⟨n - j, by omega⟩
  exact ⟨kext_add_subset j i h, kext_subset_dm _ h⟩

end extension

/-! ## 5. separable ⊆ extendible; the chains with their side conditions discharged -/

section chain
variable {dA dB : ℕ}

/-- mixtures of product projectors with non-negative weights and **unit `B`-kets** — what `CHABoundaryBagging` returns (its kets
are normalised, checked on every run) -/
def SEPU (dA dB : ℕ) : Set (Matrix (Fin dA × Fin dB) (Fin dA × Fin dB) ℂ) :=
  {M | ∃ (K : ℕ) (lam : Fin K → ℂ) (a : Fin K → Fin dA → ℂ) (b : Fin K → Fin dB → ℂ),
        (∀ i, 0 ≤ lam i) ∧ (∀ i, ∑ x, b i x * star (b i x) = 1) ∧ M = Matrix.of (mixture lam a b)}

theorem sepu_subset_sep : SEPU dA dB ⊆ SEP dA dB :=
  fun _ ⟨K, lam, a, b, h1, _, h3⟩ => ⟨K, lam, a, b, h1, h3⟩

/-- **SEP ⊆ k-extendible**: a convex mixture of product projectors (unit kets) has a symmetric extension
`Σ_i λ_i |a_i⟩⟨a_i| ⊗ (|b_i⟩⟨b_i|)^{⊗(k+1)}` to any number of copies — so `β_CHA ≤ β_k-ext` for the exact sets, every `k`. -/
theorem sepu_subset_kext (k : ℕ) : SEPU dA dB ⊆ KEXT dA dB k := by
  rintro M ⟨K, lam, a, b, hlam, hb, rfl⟩
  exact ⟨sepExt k lam a b, isSymExt_sepExt k lam hlam a b hb⟩

/-- the maximally mixed state lies in every set of the hierarchy (it is the mixture of the `N` basis product projectors) -/
theorem center_mem_sepu (dA dB : ℕ) :
    (((1 / ((dA * dB : ℕ) : ℝ) : ℝ) : ℂ) • (1 : Matrix (Fin dA × Fin dB) (Fin dA × Fin dB) ℂ)) ∈ SEPU dA dB := by
  refine ⟨dA * dB, _, _, _, ?_, ?_, center_eq_mixture dA dB⟩
  · intro i
    have : (0 : ℝ) ≤ 1 / ((dA * dB : ℕ) : ℝ) := by positivity
    exact_mod_cast this
  · intro i
    rw [Fintype.sum_eq_single (finProdFinEquiv.symm i).2]
    · simp
    · intro x hx; rw [Pi.single_apply, if_neg hx]; simp

/-- **the whole chain for the exact sets, side conditions discharged**: from the maximally mixed state `c = 1/N` in any direction
`v` that has a negative Rayleigh value (every non-zero traceless Hermitian direction has one),
`β_SEP ≤ β_(k+1)ext ≤ β_kext ≤ β_DM` and `β_SEP ≤ β_PPT ≤ β_DM` (boundary length = supremum of the feasible `β ≥ 0`).
Not covered (named gaps): the bosonic variant of `KEXT`, and `k-ext+PPT ⊆ PPT` for the SDP's constraint (PT of the *extension*). -/
theorem beta_chain (k : ℕ) (v : Matrix (Fin dA × Fin dB) (Fin dA × Fin dB) ℂ) (x : Fin dA × Fin dB → ℂ) (s r : ℝ)
    (hs : star x ⬝ᵥ x = (s : ℂ)) (hr : star x ⬝ᵥ (v *ᵥ x) = (r : ℂ)) (hneg : r < 0) :
    let c : Matrix (Fin dA × Fin dB) (Fin dA × Fin dB) ℂ := ((1 / ((dA * dB : ℕ) : ℝ) : ℝ) : ℂ) • 1
    sSup (feasible (SEPU dA dB) c v) ≤ sSup (feasible (KEXT dA dB (k + 1)) c v)
      ∧ sSup (feasible (KEXT dA dB (k + 1)) c v) ≤ sSup (feasible (KEXT dA dB k) c v)
      ∧ sSup (feasible (KEXT dA dB k) c v) ≤ sSup (feasible (DM dA dB) c v)
      ∧ sSup (feasible (SEPU dA dB) c v) ≤ sSup (feasible (PPT dA dB) c v)
      ∧ sSup (feasible (PPT dA dB) c v) ≤ sSup (feasible (DM dA dB) c v) := by
  intro c
  have hbd : BddAbove (feasible (DM dA dB) c v) := bddAbove_feasible_psd _ v x s r hs hr hneg
  have hne : (feasible (SEPU dA dB) c v).Nonempty :=
    ⟨0, le_rfl, by rw [zero_smul, add_zero]; exact center_mem_sepu dA dB⟩
  have hsk : ∀ j, SEPU dA dB ⊆ KEXT dA dB j := sepu_subset_kext
  have hsp : SEPU dA dB ⊆ PPT dA dB := fun M h => sep_subset_ppt (sepu_subset_sep h)
  refine ⟨?_, ?_, ?_, ?_, ?_⟩
  · exact beta_mono (hsk (k + 1)) c v hne (hbd.mono (feasible_mono (kext_subset_dm (k + 1)) c v))
  · exact beta_mono (kext_succ_subset k) c v (hne.mono (feasible_mono (hsk (k + 1)) c v))
      (hbd.mono (feasible_mono (kext_subset_dm k) c v))
  · exact beta_mono (kext_subset_dm k) c v (hne.mono (feasible_mono (hsk k) c v)) hbd
  · exact beta_mono hsp c v hne (hbd.mono (feasible_mono ppt_subset_dm c v))
  · exact beta_mono ppt_subset_dm c v (hne.mono (feasible_mono hsp c v)) hbd

end chain

/-! ## 6. the spec-level objects are the executed constants -/

/-- the ray point of the threshold theorems **is** `hf_interpolate_dm(ρ, beta=β, dm_norm=d)` as executed (`interpBeta`) -/
theorem rayPoint_eq_interpBeta {n : ℕ} (N d : ℝ) (ρ : Matrix (Fin n) (Fin n) ℂ) (β : ℝ) :
    rayPoint N d ρ β = Matrix.of (interpBeta (((1 / N : ℝ) : ℂ)) (β : ℂ) (d : ℂ) ρ) :=
  Boundary.rayPoint_eq_interpBeta N d ρ β

/-- the executed flat lists are numpy's row-major reshapes: position `flat(p)·N + flat(q)` of `toFlat M` holds `M p q`
(`flat(a,b) = a·dB + b`, `pairAt` its inverse) -/
theorem toFlat_getD {dA dB : ℕ} {α : Type} [Zero α] (M : Fin dA × Fin dB → Fin dA × Fin dB → α) (p q : Fin dA × Fin dB) :
    (toFlat dA dB M).getD (flatOfPair p * (dA * dB) + flatOfPair q) 0 = M p q ∧ pairAt dA dB ⟨flatOfPair p, flatOfPair_lt p⟩ = p :=
  ⟨Boundary.toFlat_getD M p q, pairAt_flatOfPair p⟩

/-- **the executed partial transpose (driver op `pt`) is `reshape(dA,dB,dA,dB).transpose(0,3,2,1).reshape(N,N)`** on flat lists:
output entry `[(a,b),(a',b')]` = input entry `[(a,b'),(a',b)]` -/
theorem toFlat_ptB_ofFlat {dA dB : ℕ} {α : Type} [Zero α] (l : List α) (p q : Fin dA × Fin dB) :
    (toFlat dA dB (ptB (ofFlat dA dB l))).getD (flatOfPair p * (dA * dB) + flatOfPair q) 0
      = l.getD (flatOfPair (p.1, q.2) * (dA * dB) + flatOfPair (q.1, p.2)) 0 :=
  Boundary.toFlat_ptB_ofFlat l p q

/-! ## 7. bookkeeping of the inner models' `get_boundary`, and their Gell-Mann loss -/

section inner

/-- **the bisection of `get_boundary` (`_ree_bisection_solve`) brackets the threshold**: if the predicate `threshold ≤ hf x` is false at
`x0` and true at `x1`, after `m` steps the loop holds `(a, b, xi)` with the predicate false at `a`, true at `b`,
`b - a = (x1 - x0)/2^m`, and the returned `xi` is one of the two end points. -/
theorem bisectLoop_invariant (hf : ℚ → ℚ) (thr : ℚ) :
    ∀ (m : ℕ) (x0 x1 xi : ℚ), ¬ thr ≤ hf x0 → thr ≤ hf x1 → (xi = x0 ∨ xi = x1) →
      let r := bisectLoop hf thr m x0 x1 xi
      ¬ thr ≤ hf r.1 ∧ thr ≤ hf r.2.1 ∧ r.2.1 - r.1 = (x1 - x0) / 2 ^ m ∧ (r.2.2 = r.1 ∨ r.2.2 = r.2.1) := by
  intro m
  induction m with
  | zero => intro x0 x1 xi h0 h1 hx; simp [bisectLoop, h0, h1, hx]
  | succ m ih =>
    intro x0 x1 xi h0 h1 _
    simp only [bisectLoop]
    by_cases hp : thr ≤ hf ((x0 + x1) / 2)
    · rw [if_pos hp]
      obtain ⟨a, b, c, d⟩ := ih x0 ((x0 + x1) / 2) ((x0 + x1) / 2) h0 hp (Or.inr rfl)
      refine ⟨a, b, ?_, d⟩
      rw [c, pow_succ]; field_simp; ring
    · rw [if_neg hp]
      obtain ⟨a, b, c, d⟩ := ih ((x0 + x1) / 2) x1 ((x0 + x1) / 2) hp h1 (Or.inl rfl)
      refine ⟨a, b, ?_, d⟩
      rw [c, pow_succ]; field_simp; ring

/-- hence, for a monotone loss with threshold point `t ∈ (x0, x1]`, the returned boundary length is within `(x1-x0)/2^m` of `t`
(with `m = bisectMaxiter num den` for `(x1-x0)/xtol = num/den` this is `≤ xtol`: `bisectMaxiter_spec` below) -/
theorem bisectLoop_error (hf : ℚ → ℚ) (thr t : ℚ) (ht : ∀ x, thr ≤ hf x ↔ t ≤ x) (m : ℕ) (x0 x1 : ℚ) (h0 : x0 < t) (h1 : t ≤ x1) :
    |(bisectLoop hf thr m x0 x1 x0).2.2 - t| ≤ (x1 - x0) / 2 ^ m := by
  obtain ⟨a, b, c, d⟩ := bisectLoop_invariant hf thr m x0 x1 x0 (by rw [ht]; exact not_le.2 h0) ((ht x1).2 h1) (Or.inl rfl)
  rw [ht] at a b
  have ha := not_le.1 a
  rw [abs_le]
  rcases d with d | d <;> rw [d] <;> constructor <;> linarith

theorem bisectMaxiter_go_spec (num den : ℕ) :
    ∀ (fuel m pw : ℕ), pw = 2 ^ m → num ≤ 2 ^ (m + fuel) * den → num ≤ 2 ^ (bisectMaxiter.go num den fuel m pw) * den := by
  intro fuel
  induction fuel with
  | zero => intro m pw _ h; simpa [bisectMaxiter.go] using h
  | succ f ih =>
    intro m pw hpw h
    simp only [bisectMaxiter.go]
    split_ifs with hc
    · subst hpw; exact hc
    · refine ih (m + 1) (pw * 2) (by rw [hpw, pow_succ]) ?_
      have e : m + 1 + f = m + (f + 1) := by ring
      rw [e]; exact h

/-- the modelled step count is enough: `(x1-x0)/xtol = num/den ≤ 2^maxiter`, i.e. the final bracket `(x1-x0)/2^maxiter` is `≤ xtol` -/
theorem bisectMaxiter_spec (num den : ℕ) (hden : 0 < den) : num ≤ 2 ^ (bisectMaxiter num den) * den ∧ 1 ≤ bisectMaxiter num den := by
  constructor
  · unfold bisectMaxiter
    refine bisectMaxiter_go_spec num den (num + 2) 1 2 (by norm_num) ?_
    have h1 : num < 2 ^ (1 + (num + 2)) := lt_of_lt_of_le (Nat.lt_two_pow_self) (Nat.pow_le_pow_right (by norm_num) (by omega))
    calc num ≤ 2 ^ (1 + (num + 2)) * 1 := by omega
      _ ≤ 2 ^ (1 + (num + 2)) * den := Nat.mul_le_mul_left _ hden
  · unfold bisectMaxiter
    have : ∀ fuel m pw, 1 ≤ m → 1 ≤ bisectMaxiter.go num den fuel m pw := by
      intro fuel
      induction fuel with
      | zero => intro m pw h; simpa [bisectMaxiter.go] using h
      | succ f ih => intro m pw h; simp only [bisectMaxiter.go]; split_ifs; exact h; exact ih _ _ (by omega)
    exact this _ _ _ le_rfl

/-- the Gell-Mann loss of both inner models (`get_density_matrix_distance2`, C16's model `Gellmann.distance2`, executed by op
`dist2`) vanishes at the target and is symmetric -/
theorem distance2_self_symm {R : Type} [CommRing R] [StarRing R] (S : Gellmann.Scalars R) (n : ℕ) (A B : Gellmann.Mat n R) :
    Gellmann.distance2 S n A A = 0 ∧ Gellmann.distance2 S n A B = Gellmann.distance2 S n B A := by
  constructor
  · simp only [Gellmann.distance2, Gellmann.sumFin, sub_self, mul_zero, List.map_const', List.sum_replicate, smul_zero, zero_mul]
  · unfold Gellmann.distance2
    congr 1
    refine congrArg _ (funext fun r => congrArg _ (funext fun c => ?_))
    rw [← neg_sub (B r c) (A r c), conj_eq_star, star_neg, neg_mul_neg]
    rfl

end inner

/-! ## non-vacuity -/

section nonvac
open Complex

/-- `ρ = diag(3/4, 1/4)` (one qubit, `N = 2`, Gell-Mann norm `d = 1/4`) -/
noncomputable def ρ0 : Matrix (Fin 2) (Fin 2) ℂ := Matrix.diagonal ![3 / 4, 1 / 4]

/-- bisection on concrete data: `hf = [x ≥ 5/16]`, 4 steps from `[0,1]` -/
example : (bisectLoop (fun x : ℚ => if (5 : ℚ) / 16 ≤ x then 1 else 0) (1 / 2) 4 0 1 0).2.2 = 5 / 16 := by
  norm_num [bisectLoop]

/-- **all hypotheses of `dm_boundary_threshold` hold at `ρ = diag(3/4,1/4)`** (`μmin = 1/4` attained at `e₁`, `μmax = 3/4` at `e₀`):
the state on its ray is positive exactly for `-1/2 ≤ β ≤ 1/2` -/
example (β : ℝ) : (rayPoint 2 (1 / 4) ρ0 β).PosSemidef ↔ -(1 / 2) ≤ β ∧ β ≤ 1 / 2 := by
  have h := dm_boundary_threshold (n := Fin 2) 2 (1 / 4) (by norm_num) (by norm_num) ρ0 (1 / 4) (3 / 4) (by norm_num) (by norm_num)
    (by
      have e : ρ0 - ((1 / 4 : ℝ) : ℂ) • (1 : Matrix (Fin 2) (Fin 2) ℂ) = Matrix.diagonal ![((1 / 2 : ℝ) : ℂ), ((0 : ℝ) : ℂ)] := by
        ext i j; fin_cases i <;> fin_cases j <;> simp [ρ0, Matrix.one_apply] <;> norm_num
      rw [e]
      exact PosSemidef.diagonal (by intro i; fin_cases i <;> simp))
    (by
      have e : ((3 / 4 : ℝ) : ℂ) • (1 : Matrix (Fin 2) (Fin 2) ℂ) - ρ0 = Matrix.diagonal ![((0 : ℝ) : ℂ), ((1 / 2 : ℝ) : ℂ)] := by
        ext i j; fin_cases i <;> fin_cases j <;> simp [ρ0, Matrix.one_apply] <;> norm_num
      rw [e]
      exact PosSemidef.diagonal (by intro i; fin_cases i <;> simp))
    ![0, 1] ![1, 0]
    (by simp [dotProduct, Fin.sum_univ_two])
    (by simp [dotProduct, Fin.sum_univ_two, mulVec, ρ0, Matrix.diagonal_apply])
    (by simp [dotProduct, Fin.sum_univ_two])
    (by simp [dotProduct, Fin.sum_univ_two, mulVec, ρ0, Matrix.diagonal_apply])
    β
  rw [h]
  norm_num [dmBoundary]

/-- `interpolate_distance` at `ρ = diag(3/4,1/4)`: `gmNorm2 ρ = (1/4)²`, so `hf_interpolate_dm(ρ, beta=1/8)` is at squared distance `1/64` -/
example : gmNorm2 ((1 / 2 : ℂ)) (1 / 2) (interpBeta (1 / 2 : ℂ) (1 / 8) (1 / 4) (fun i j => ρ0 i j)) = (1 / 8) * (1 / 8) := by
  refine interpolate_distance (n := 2) (1 / 2 : ℂ) (1 / 2) (1 / 8) (1 / 4) (by norm_num) (by simp) (by simp) (by norm_num) _ ?_
  simp [gmNorm2, sumFin_eq, Fin.sum_univ_two, ρ0, Matrix.diagonal_apply, conj_eq_star, map_ofNat]
  norm_num

/-- `cha_lp_point_eq_mixture` with one product state `|00⟩` (`λ = 1`, `β = 1`, `v̂ = P - 1/N`) -/
example (p q : Fin 2 × Fin 2) :
    (if p = q then (1 / 4 : ℂ) else 0) + 1 * chaRow (1 / 4 : ℂ) (Pi.single (0 : Fin 2) 1) (Pi.single (0 : Fin 2) 1) p q
      = mixture (K := 1) (fun _ => (1 : ℂ)) (fun _ => Pi.single (0 : Fin 2) 1) (fun _ => Pi.single (0 : Fin 2) 1) p q :=
  cha_lp_point_eq_mixture (K := 1) (1 / 4 : ℂ) 1 _ (fun _ => 1) _ _ (by simp) (by intro p q; simp) p q

/-- `IsSymExt` is inhabited: the maximally mixed two-qubit state has a symmetric extension to 3 copies, is PPT and positive -/
example : (((1 / ((2 * 2 : ℕ) : ℝ) : ℝ) : ℂ) • (1 : Matrix (Fin 2 × Fin 2) (Fin 2 × Fin 2) ℂ)) ∈ KEXT 2 2 2 ∩ PPT 2 2 :=
  ⟨sepu_subset_kext 2 (center_mem_sepu 2 2), sep_subset_ppt (sepu_subset_sep (center_mem_sepu 2 2))⟩

end nonvac

/-! ## non-vacuity (closed forms) -/

/-- the closed forms on rational data: `ρ = diag(3/4, 1/4)`, `N = 2`, `d = 1` -/
example : (dmBoundary (2 : ℚ) (1/4) (3/4) 1).1 = -2 ∧ (dmBoundary (2 : ℚ) (1/4) (3/4) 1).2 = 2 := by
  constructor <;> norm_num [dmBoundary]

example : pptBoundary true ((-2 : ℚ), 2) (-1, 3) = (-1, 2) ∧ pptBoundary false ((-2 : ℚ), 2) (-1, 3) = (-1, 3) := by
  constructor <;> simp [pptBoundary] <;> norm_num

end Numqi.C06
