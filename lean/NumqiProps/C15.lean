/-
C15 — SU(2)/SO(3) conversions are consistent for every rotation, gimbal lock included.

The property theorems with their proofs; the lemmas they share are in `NumqiProofs/Lie.lean`, `LieReal.lean`,
`LieAngMom.lean`, `LieIrrep.lean`, `LieIrrepReal.lean`.  Part A is stated for every commutative ring `R` (real quantities in
`R`, complex ones in the pair type `Cx R`; for `R = ℝ` this is `ℂ`), Part B over `ℝ` with the real
`cos / sin / arccos / arg`, Part C for every `j2`.
-/
import NumqiProofs.Lie
import NumqiProofs.LieReal
import NumqiProofs.LieAngMom
import NumqiProofs.LieIrrep
import NumqiProofs.LieIrrepReal

set_option linter.unusedSectionVars false

namespace Numqi.C15
open Numqi.Lie Matrix

variable {R : Type} [CommRing R]

/-! ## Part A — polynomial identities (any commutative ring) -/

/-- **`angle_to_so3` is `Rz(α) Ry(β) Rz(γ)`** (no hypothesis on the six numbers). -/
theorem angleToSO3_eq_rot (ca sa cb sb cg sg : R) :
    M3 (angleToSO3cs ca sa cb sb cg sg) = M3 (rotZ ca sa) * M3 (rotY cb sb) * M3 (rotZ cg sg) := by
  apply mat3_ext <;> simp only [mul3_apply, angleToSO3cs, rotZ, rotY, mk3_00, mk3_01, mk3_02, mk3_10, mk3_11, mk3_12,
    mk3_20, mk3_21, mk3_22] <;> ring

theorem rotZ_orthogonal {c s : R} (h : c * c + s * s = 1) : M3 (rotZ c s) * (M3 (rotZ c s))ᵀ = 1 := by
  apply mat3_ext <;> simp [mul3_apply, rotZ] <;> first | ring1 | linear_combination h

theorem rotY_orthogonal {c s : R} (h : c * c + s * s = 1) : M3 (rotY c s) * (M3 (rotY c s))ᵀ = 1 := by
  apply mat3_ext <;> simp [mul3_apply, rotY] <;> first | ring1 | linear_combination h

theorem rotZ_det {c s : R} (h : c * c + s * s = 1) : (M3 (rotZ c s)).det = 1 := by
  rw [Matrix.det_fin_three]; simp [rotZ]; linear_combination h

theorem rotY_det {c s : R} (h : c * c + s * s = 1) : (M3 (rotY c s)).det = 1 := by
  rw [Matrix.det_fin_three]; simp [rotY]; linear_combination h

/-- **`angle_to_so3` is orthogonal** whenever the three pairs lie on the unit circle. -/
theorem angleToSO3_orthogonal {ca sa cb sb cg sg : R}
    (ha : ca * ca + sa * sa = 1) (hb : cb * cb + sb * sb = 1) (hg : cg * cg + sg * sg = 1) :
    M3 (angleToSO3cs ca sa cb sb cg sg) * (M3 (angleToSO3cs ca sa cb sb cg sg))ᵀ = 1 := by
  rw [angleToSO3_eq_rot, mul_mul_transpose_of_orthogonal _ (rotZ_orthogonal hg),
    mul_mul_transpose_of_orthogonal _ (rotY_orthogonal hb), rotZ_orthogonal ha]

/-- **`angle_to_so3` has determinant one.** -/
theorem angleToSO3_det {ca sa cb sb cg sg : R}
    (ha : ca * ca + sa * sa = 1) (hb : cb * cb + sb * sb = 1) (hg : cg * cg + sg * sg = 1) :
    (M3 (angleToSO3cs ca sa cb sb cg sg)).det = 1 := by
  rw [angleToSO3_eq_rot, Matrix.det_mul, Matrix.det_mul, rotZ_det ha, rotY_det hb, rotZ_det hg]; ring

/-! ### SU(2) -/

/-- the matrix `[[a, b], [-b̄, ā]]` (every element of SU(2) has this form; `su2_to_so3` / `su2_to_angle` read
`a = U[0,0]`, `b = U[0,1]` and assert the other two entries) -/
def su2Mat (a b : Cx R) : Matrix (Fin 2) (Fin 2) (Cx R) := M2 (mk2 a b (-b.conj) a.conj)

/-- conjugate transpose over `Cx R` -/
def conjT (U : Matrix (Fin 2) (Fin 2) (Cx R)) : Matrix (Fin 2) (Fin 2) (Cx R) := fun i j => (U j i).conj

/-- squared norm `|a|² + |b|²` of the quaternion `(a, b)` -/
def nrm2 (a b : Cx R) : R := a.re * a.re + a.im * a.im + (b.re * b.re + b.im * b.im)

theorem angleToSU2_eq_su2Mat (cb sb : R) (p m : Cx R) :
    M2 (angleToSU2cs cb sb p m) = su2Mat (Cx.smul cb p.conj) (-(Cx.smul sb m.conj)) := by
  apply mat2_ext <;> simp [angleToSU2cs, su2Mat] <;> ext <;> simp

/-- matrices of the form `[[a, b], [-b̄, ā]]` are closed under multiplication, with the model's `su2MulA/B`. -/
theorem su2Mat_mul (a b a' b' : Cx R) :
    su2Mat a b * su2Mat a' b' = su2Mat (su2MulA a b a' b') (su2MulB a b a' b') := by
  apply mat2_ext <;> simp [su2Mat, mul2_apply, su2MulA, su2MulB] <;> ext <;> simp <;> ring

theorem su2Mat_mul_conjT (a b : Cx R) :
    su2Mat a b * conjT (su2Mat a b) = Cx.ofReal (nrm2 a b) • (1 : Matrix (Fin 2) (Fin 2) (Cx R)) := by
  apply mat2_ext <;> simp [su2Mat, mul2_apply, conjT, nrm2] <;> ext <;> simp <;> ring

theorem su2Mat_det (a b : Cx R) : (su2Mat a b).det = Cx.ofReal (nrm2 a b) := by
  rw [Matrix.det_fin_two]; simp [su2Mat, nrm2]; ext <;> simp <;> ring

/-- the entries of `angle_to_su2` form a unit quaternion -/
theorem angleToSU2cs_nrm2 {cb sb : R} {p m : Cx R} (hb : cb * cb + sb * sb = 1)
    (hp : p.re * p.re + p.im * p.im = 1) (hm : m.re * m.re + m.im * m.im = 1) :
    nrm2 (angleToSU2cs cb sb p m 0 0) (angleToSU2cs cb sb p m 0 1) = 1 := by
  simp [nrm2, angleToSU2cs]; linear_combination (cb * cb) * hp + (sb * sb) * hm + hb

/-- **`angle_to_su2` lands in SU(2)**: unitary … -/
theorem angleToSU2_unitary {cb sb : R} {p m : Cx R} (hb : cb * cb + sb * sb = 1)
    (hp : p.re * p.re + p.im * p.im = 1) (hm : m.re * m.re + m.im * m.im = 1) :
    M2 (angleToSU2cs cb sb p m) * conjT (M2 (angleToSU2cs cb sb p m)) = 1 := by
  have h : nrm2 (Cx.smul cb p.conj) (-(Cx.smul sb m.conj)) = 1 := angleToSU2cs_nrm2 hb hp hm
  rw [angleToSU2_eq_su2Mat, su2Mat_mul_conjT, h]
  exact one_smul _ _

/-- … with determinant one. -/
theorem angleToSU2_det {cb sb : R} {p m : Cx R} (hb : cb * cb + sb * sb = 1)
    (hp : p.re * p.re + p.im * p.im = 1) (hm : m.re * m.re + m.im * m.im = 1) :
    (M2 (angleToSU2cs cb sb p m)).det = 1 := by
  have h : nrm2 (Cx.smul cb p.conj) (-(Cx.smul sb m.conj)) = 1 := angleToSU2cs_nrm2 hb hp hm
  rw [angleToSU2_eq_su2Mat, su2Mat_det, h]
  rfl

/-- value of the 4π-branch test of `su2_to_angle` on `U = angle_to_su2 α β γ` itself: `cos(β/2) + sin(β/2)` -/
theorem branch_test_value {cb sb : R} {p m : Cx R}
    (hp : p.re * p.re + p.im * p.im = 1) (hm : m.re * m.re + m.im * m.im = 1) :
    (p * angleToSU2cs cb sb p m 0 0 - m * angleToSU2cs cb sb p m 0 1).re = cb + sb := by
  simp [angleToSU2cs]; linear_combination cb * hp + sb * hm

/-! ### SU(2) → SO(3) -/

/-- the nine complex polynomials of `su2_to_so3` are real: `.real` discards nothing. -/
theorem su2ToSO3cx_im (half : R) (a b : Cx R) (i j : Fin 3) : (su2ToSO3cx half a b i j).im = 0 := by
  fin_cases i <;> fin_cases j <;>
    simp only [su2ToSO3cx, Fin.zero_eta, Fin.mk_one, Fin.reduceFinMk, Fin.isValue, mk3_00, mk3_01, mk3_02, mk3_10, mk3_11, mk3_12,
      mk3_20, mk3_21, mk3_22, Cx.add_re, Cx.add_im, Cx.sub_re, Cx.sub_im, Cx.neg_im, Cx.mul_re, Cx.mul_im, Cx.conj_re, Cx.conj_im,
      Cx.smul_im, Cx.imag_re, Cx.imag_im] <;>
    ring

/-- `su2_to_so3` in terms of the four real coordinates `a = w + i x`, `b = y + i z`. -/
theorem su2ToSO3_eq {half : R} (h2 : 2 * half = 1) (a b : Cx R) :
    M3 (su2ToSO3 half a b) = M3 (mk3
      (a.re*a.re - a.im*a.im - b.re*b.re + b.im*b.im) (2*(a.re*a.im + b.re*b.im)) (-(2*(a.re*b.re - a.im*b.im)))
      (-(2*(a.re*a.im - b.re*b.im))) (a.re*a.re - a.im*a.im + b.re*b.re - b.im*b.im) (2*(a.re*b.im + a.im*b.re))
      (2*(a.re*b.re + a.im*b.im)) (-(2*(a.re*b.im - a.im*b.re))) (a.re*a.re + a.im*a.im - b.re*b.re - b.im*b.im)) := by
  apply mat3_ext <;>
    simp only [su2ToSO3, su2ToSO3cx, mk3_00, mk3_01, mk3_02, mk3_10, mk3_11, mk3_12, mk3_20, mk3_21, mk3_22, Cx.add_re, Cx.add_im,
      Cx.sub_re, Cx.sub_im, Cx.neg_re, Cx.mul_re, Cx.mul_im, Cx.conj_re, Cx.conj_im, Cx.smul_re, Cx.imag_re, Cx.imag_im]
  · linear_combination (a.re*a.re - a.im*a.im - b.re*b.re + b.im*b.im) * h2
  · linear_combination (2*(a.re*a.im + b.re*b.im)) * h2
  · ring
  · linear_combination (-(2*(a.re*a.im - b.re*b.im))) * h2
  · linear_combination (a.re*a.re - a.im*a.im + b.re*b.re - b.im*b.im) * h2
  · ring
  · ring
  · ring
  · ring

/-- **`su2_to_so3` is multiplicative** — for all pairs `(a, b)`, normalised or not. -/
theorem su2ToSO3_mul {half : R} (h2 : 2 * half = 1) (a b a' b' : Cx R) :
    M3 (su2ToSO3 half (su2MulA a b a' b') (su2MulB a b a' b')) = M3 (su2ToSO3 half a b) * M3 (su2ToSO3 half a' b') := by
  rw [su2ToSO3_eq h2, su2ToSO3_eq h2, su2ToSO3_eq h2]
  apply mat3_ext <;>
    simp only [mul3_apply, su2MulA, su2MulB, mk3_00, mk3_01, mk3_02, mk3_10, mk3_11, mk3_12, mk3_20, mk3_21, mk3_22, Cx.add_re,
      Cx.add_im, Cx.sub_re, Cx.sub_im, Cx.mul_re, Cx.mul_im, Cx.conj_re, Cx.conj_im] <;>
    ring

/-- **two-to-one**: `su2_to_so3(-U) = su2_to_so3(U)`. -/
theorem su2ToSO3_neg (half : R) (a b : Cx R) : su2ToSO3 half (-a) (-b) = su2ToSO3 half a b := by
  have hc (z : Cx R) : (-z).conj = -z.conj := by ext <;> simp
  unfold su2ToSO3 su2ToSO3cx
  simp only [hc, neg_mul_neg]

/-- `su2_to_so3(U) su2_to_so3(U)ᵀ = (|a|²+|b|²)² · 1`; hence orthogonal on SU(2). -/
theorem su2ToSO3_mul_transpose {half : R} (h2 : 2 * half = 1) (a b : Cx R) :
    M3 (su2ToSO3 half a b) * (M3 (su2ToSO3 half a b))ᵀ = (nrm2 a b * nrm2 a b) • (1 : Matrix (Fin 3) (Fin 3) R) := by
  rw [su2ToSO3_eq h2]
  apply mat3_ext <;>
    simp only [mul3_apply, nrm2, Matrix.transpose_apply, Matrix.smul_apply, Matrix.one_apply_eq, Matrix.one_apply_ne, ne_eq,
      smul_eq_mul, mul_one, mul_zero, mk3_00, mk3_01, mk3_02, mk3_10, mk3_11, mk3_12, mk3_20, mk3_21, mk3_22, Fin.isValue,
      Fin.reduceEq, not_false_eq_true] <;>
    ring

theorem su2ToSO3_orthogonal {half : R} (h2 : 2 * half = 1) {a b : Cx R} (hu : nrm2 a b = 1) :
    M3 (su2ToSO3 half a b) * (M3 (su2ToSO3 half a b))ᵀ = 1 := by
  rw [su2ToSO3_mul_transpose h2, hu]; simp

/-- `det su2_to_so3(U) = (|a|²+|b|²)³`; hence `su2_to_so3` maps SU(2) into SO(3). -/
theorem su2ToSO3_det {half : R} (h2 : 2 * half = 1) (a b : Cx R) :
    (M3 (su2ToSO3 half a b)).det = nrm2 a b * nrm2 a b * nrm2 a b := by
  rw [su2ToSO3_eq h2, Matrix.det_fin_three]; simp [nrm2]; ring

/-- **covering of the Euler parametrisations**: `su2_to_so3 (angle_to_su2 α β γ) = angle_to_so3 α β γ`,
in terms of the half-angle data `cb = cos(β/2)`, `sb = sin(β/2)`, `p = e^{i(α+γ)/2}`, `m = e^{i(α-γ)/2}`:
`cos α + i sin α = p·m`, `cos γ + i sin γ = p·m̄`, `cos β = cb² - sb²`, `sin β = 2 sb cb`. -/
theorem su2ToSO3_angleToSU2 {half : R} (h2 : 2 * half = 1) {cb sb : R} {p m : Cx R}
    (hb : cb * cb + sb * sb = 1) (hp : p.re * p.re + p.im * p.im = 1) (hm : m.re * m.re + m.im * m.im = 1) :
    su2ToSO3 half (angleToSU2cs cb sb p m 0 0) (angleToSU2cs cb sb p m 0 1)
      = angleToSO3cs (p * m).re (p * m).im (cb * cb - sb * sb) (2 * sb * cb) (p * m.conj).re (p * m.conj).im := by
  have h := su2ToSO3_eq h2 (angleToSU2cs cb sb p m 0 0) (angleToSU2cs cb sb p m 0 1)
  refine Eq.trans h ?_
  apply mat3_ext <;>
    simp only [angleToSU2cs, angleToSO3cs, mk2_00, mk2_01, mk3_00, mk3_01, mk3_02, mk3_10, mk3_11, mk3_12, mk3_20, mk3_21, mk3_22,
      Cx.neg_re, Cx.neg_im, Cx.mul_re, Cx.mul_im, Cx.conj_re, Cx.conj_im, Cx.smul_re, Cx.smul_im]
  -- With `P = p m`, `Q = p m̄`: `Re P Re Q - Im P Im Q = Re p² · |m|²` and `Re P Re Q + Im P Im Q = Re m² · |p|²` (likewise
  -- `Im P Re Q ± Re P Im Q` with `Im p²`, `Im m²`); `hb` splits the target into `cb²` times the one and `sb²` times the other.
  · linear_combination (p.re^2*m.im^2 - p.im^2*m.re^2) * hb + (sb^2*(m.re^2 - m.im^2)) * hp - (cb^2*(p.re^2 - p.im^2)) * hm
  · linear_combination (-(p.re*p.im*(m.re^2 + m.im^2) + m.re*m.im*(p.re^2 + p.im^2))) * hb + (2*sb^2*m.re*m.im) * hp
      + (2*cb^2*p.re*p.im) * hm
  · ring
  · linear_combination (p.re*p.im*(m.re^2 + m.im^2) - m.re*m.im*(p.re^2 + p.im^2)) * hb + (2*sb^2*m.re*m.im) * hp
      - (2*cb^2*p.re*p.im) * hm
  · linear_combination (p.re^2*m.re^2 - p.im^2*m.im^2) * hb - (sb^2*(m.re^2 - m.im^2)) * hp - (cb^2*(p.re^2 - p.im^2)) * hm
  · ring
  · ring
  · ring
  · linear_combination (cb*cb) * hp - (sb*sb) * hm

/-! ## Part B — over the reals, with `cos / sin / arccos / arg` (instance `instTrigReal`) -/

section real
open Real

/-- **`angle_to_so3 α β γ ∈ SO(3)` for all real angles.** -/
theorem angleToSO3_mem_SO3 (a b g : ℝ) :
    M3 (angleToSO3 a b g) * (M3 (angleToSO3 a b g))ᵀ = 1 ∧ (M3 (angleToSO3 a b g)).det = 1 := by
  have h := cos_mul_self_add
  exact ⟨angleToSO3_orthogonal (h a) (h b) (h g), angleToSO3_det (h a) (h b) (h g)⟩

/-- **`angle_to_su2 α β γ ∈ SU(2)` for all real angles.** -/
theorem angleToSU2_mem_SU2 (a b g : ℝ) :
    M2 (angleToSU2 (1/2) a b g) * conjT (M2 (angleToSU2 (1/2) a b g)) = 1 ∧ (M2 (angleToSU2 (1/2) a b g)).det = 1 := by
  have h := cos_mul_self_add
  exact ⟨angleToSU2_unitary (h _) (h _) (h _), angleToSU2_det (h _) (h _) (h _)⟩

/-- **`su2_to_so3 (angle_to_su2 α β γ) = angle_to_so3 α β γ` for all real angles.** -/
theorem su2ToSO3_angleToSU2_real (a b g : ℝ) :
    su2ToSO3 (1/2) (angleToSU2 (1/2) a b g 0 0) (angleToSU2 (1/2) a b g 0 1) = angleToSO3 a b g := by
  have h := cos_mul_self_add
  have hp : cis (1/2 * (a + g)) * cis (1/2 * (a - g)) = cis a := by rw [← cis_add]; congr 1; ring
  have hm : cis (1/2 * (a + g)) * (cis (1/2 * (a - g))).conj = cis g := by rw [cis_conj, ← cis_add]; congr 1; ring
  refine (su2ToSO3_angleToSU2 (p := cis _) (m := cis _) (by norm_num) (h _) (h _) (h _)).trans ?_
  rw [hp, hm, cos_half_mul_self_sub, two_sin_half_mul_cos_half]
  rfl

/-- the rotation rebuilt from the extracted angles -/
noncomputable def rebuild (M : Matrix (Fin 3) (Fin 3) ℝ) (eps : ℝ) : Matrix (Fin 3) (Fin 3) ℝ :=
  M3 (angleToSO3 (so3ToAngle (1/2) M eps).1 (so3ToAngle (1/2) M eps).2.1 (so3ToAngle (1/2) M eps).2.2)

private theorem rebuild_unfold (M : Matrix (Fin 3) (Fin 3) ℝ) (hO : M * Mᵀ = 1) (eps : ℝ) (br : Branch)
    (hbr : branchOf (Real.arccos (M 2 2)) eps = br) :
    rebuild M eps = match br with
      | .zero => M3 (angleToSO3 (1/2 * Trig.mod2pi (Trig.atan2 (M 1 0) (M 0 0))) (Real.arccos (M 2 2))
                  (1/2 * Trig.mod2pi (Trig.atan2 (M 1 0) (M 0 0))))
      | .pi => M3 (angleToSO3 (Trig.mod2pi (Trig.atan2 (-M 1 0) (-M 0 0))) (Real.arccos (M 2 2)) 0)
      | .generic => M3 (angleToSO3 (Trig.mod2pi (Trig.atan2 (M 1 2) (M 0 2))) (Real.arccos (M 2 2))
                  (Trig.mod2pi (Trig.atan2 (M 2 1) (-M 2 0)))) := by
  obtain ⟨hm1, hp1⟩ := so3_entry_bounds M hO
  have hbeta : (Trig.acos (clip1 (M 2 2)) : ℝ) = Real.arccos (M 2 2) := by rw [clip1_of_mem hm1 hp1]; rfl
  unfold rebuild so3ToAngle so3ToAngleHf0
  rw [hbeta]
  cases br <;> simp only [hbr]

private theorem roundtrip_zero (M : Matrix (Fin 3) (Fin 3) ℝ) (hO : M * Mᵀ = 1) (hd : M.det = 1)
    (eps : ℝ) (h0 : 0 < eps) (hz : Real.arccos (M 2 2) = 0) : rebuild M eps = M := by
  obtain ⟨hm1, hp1⟩ := so3_entry_bounds M hO
  have h22 : M 2 2 = 1 := le_antisymm hp1 (Real.arccos_eq_zero.mp hz)
  have hbr : branchOf (Real.arccos (M 2 2)) eps = Branch.zero := by
    unfold branchOf; rw [if_pos (by rw [hz]; exact h0)]
  rw [rebuild_unfold M hO eps _ hbr]
  obtain ⟨⟨h20, h21⟩, ⟨h02, h12⟩, hn⟩ := so3_lock M hO (by rw [h22, mul_one])
  obtain ⟨hct, hst⟩ := cos_sin_mod2pi_atan2 hn
  set t : ℝ := Trig.mod2pi (Trig.atan2 (M 1 0) (M 0 0))
  dsimp only
  rw [angleToSO3_real, hz, Real.cos_zero, Real.sin_zero]
  refine roundtrip_lock_alg M hO hd 1 (mul_one 1) h22 h20 h21 h02 h12 _ _ _ _ ?_ ?_
  · linear_combination cos_half_mul_self_sub t + hct
  · linear_combination two_sin_half_mul_cos_half t + hst

private theorem roundtrip_pi (M : Matrix (Fin 3) (Fin 3) ℝ) (hO : M * Mᵀ = 1) (hd : M.det = 1)
    (eps : ℝ) (h0 : 0 < eps) (hpi : eps < Real.pi) (hp : Real.arccos (M 2 2) = Real.pi) : rebuild M eps = M := by
  obtain ⟨hm1, hp1⟩ := so3_entry_bounds M hO
  have h22 : M 2 2 = -1 := le_antisymm (Real.arccos_eq_pi.mp hp) hm1
  have hbr : branchOf (Real.arccos (M 2 2)) eps = Branch.pi := by
    unfold branchOf
    rw [if_neg (by rw [hp]; exact not_lt.mpr hpi.le), if_pos (by rw [hp]; show Real.pi - eps < Real.pi; linarith)]
  rw [rebuild_unfold M hO eps _ hbr]
  obtain ⟨⟨h20, h21⟩, ⟨h02, h12⟩, hn⟩ := so3_lock M hO (by rw [h22]; norm_num)
  obtain ⟨hct, hst⟩ := cos_sin_mod2pi_atan2 (x := -M 0 0) (y := -M 1 0) (by linarith)
  dsimp only
  rw [angleToSO3_real, hp, Real.cos_pi, Real.sin_pi, Real.cos_zero, Real.sin_zero]
  exact roundtrip_lock_alg M hO hd (-1) (by norm_num) h22 h20 h21 h02 h12 _ _ _ _ (by linarith) (by linarith)

private theorem roundtrip_generic (M : Matrix (Fin 3) (Fin 3) ℝ) (hO : M * Mᵀ = 1) (hd : M.det = 1)
    (eps : ℝ) (h0 : 0 < eps) (hg1 : eps ≤ Real.arccos (M 2 2)) (hg2 : Real.arccos (M 2 2) ≤ Real.pi - eps) :
    rebuild M eps = M := by
  obtain ⟨hr2, hc2, hc0⟩ := so3_norms M hO
  obtain ⟨hm1, hp1⟩ := so3_entry_bounds M hO
  have hbr : branchOf (Real.arccos (M 2 2)) eps = Branch.generic := by
    unfold branchOf
    rw [if_neg (not_lt.mpr hg1), if_neg (by show ¬ (Real.pi - eps < _); exact not_lt.mpr hg2)]
  rw [rebuild_unfold M hO eps _ hbr]
  set β := Real.arccos (M 2 2) with hβ
  have hβ0 : 0 < β := lt_of_lt_of_le h0 hg1
  have hβp : β < Real.pi := by linarith
  have hs : 0 < Real.sin β := Real.sin_pos_of_pos_of_lt_pi hβ0 hβp
  have hcb : Real.cos β = M 2 2 := Real.cos_arccos hm1 hp1
  have hss : Real.sin β * Real.sin β = 1 - M 2 2 * M 2 2 := by
    have := cos_mul_self_add β; rw [hcb] at this; linarith
  have hnA : M 0 2 * M 0 2 + M 1 2 * M 1 2 = Real.sin β * Real.sin β := by rw [hss]; linarith
  have hnG : (-M 2 0) * (-M 2 0) + M 2 1 * M 2 1 = Real.sin β * Real.sin β := by rw [hss]; linarith
  dsimp only
  rw [angleToSO3_real, cos_mod2pi, sin_mod2pi, cos_mod2pi, sin_mod2pi, cos_atan2 hs hnA, sin_atan2 hs hnA, cos_atan2 hs hnG, sin_atan2 hs hnG, hcb]
  simp only [div_eq_mul_inv]
  exact roundtrip_generic_alg M hO hd (Real.sin β) (Real.sin β)⁻¹ (mul_inv_cancel₀ hs.ne') hss

/-- **SO(3) round trip, with the branch structure of `_so3_to_angle_hf0`**: for every `M ∈ SO(3)` and every threshold
`0 < zero_eps < π`, `angle_to_so3 (so3_to_angle M) = M` exactly, when `β = arccos M₂₂` is exactly `0`, exactly `π`
(the two gimbal-lock branches), or in the generic range `[zero_eps, π - zero_eps]`.
(For `0 < β < zero_eps` and `π - zero_eps < β < π` the implementation takes the gimbal-lock branch on a matrix that
is not exactly degenerate; there the result is only `O(zero_eps)`-accurate — see `So3RoundtripThreshold.Statement`.) -/
theorem so3_roundtrip (M : Matrix (Fin 3) (Fin 3) ℝ) (hO : M * Mᵀ = 1) (hd : M.det = 1)
    (eps : ℝ) (h0 : 0 < eps) (hpi : eps < Real.pi)
    (hthr : Real.arccos (M 2 2) = 0 ∨ Real.arccos (M 2 2) = Real.pi ∨
      (eps ≤ Real.arccos (M 2 2) ∧ Real.arccos (M 2 2) ≤ Real.pi - eps)) :
    rebuild M eps = M := by
  rcases hthr with hz | hp | ⟨hg1, hg2⟩
  · exact roundtrip_zero M hO hd eps h0 hz
  · exact roundtrip_pi M hO hd eps h0 hpi hp
  · exact roundtrip_generic M hO hd eps h0 hg1 hg2

/-- **Named gap (tolerance region)**: for `0 < β < zero_eps` or `π - zero_eps < β < π` the gimbal-lock branch is taken
although the matrix is not exactly degenerate; the rebuilt rotation then deviates by `O(zero_eps)`.  Full statement
(not proved; probed with tolerance `1e-6` at `zero_eps = 1e-7`): -/
def So3RoundtripThreshold.Statement : Prop :=
  ∀ (M : Matrix (Fin 3) (Fin 3) ℝ), M * Mᵀ = 1 → M.det = 1 → ∀ eps : ℝ, 0 < eps → eps < 1 →
    ∀ i j, |rebuild M eps i j - M i j| ≤ 3 * eps

/-- proved fragment of `So3RoundtripThreshold.Statement`: in every branch (threshold region included) the polar
entry is reproduced exactly, `cos β = M₂₂`. -/
theorem so3_roundtrip_threshold_partial (M : Matrix (Fin 3) (Fin 3) ℝ) (hO : M * Mᵀ = 1) (eps : ℝ) :
    rebuild M eps 2 2 = M 2 2 := by
  obtain ⟨hm1, hp1⟩ := so3_entry_bounds M hO
  cases h : branchOf (Real.arccos (M 2 2)) eps <;> rw [rebuild_unfold M hO eps _ h] <;>
    exact Real.cos_arccos hm1 hp1

/-- the SU(2) matrix rebuilt from the angles extracted by `su2_to_angle` -/
noncomputable def su2Rebuild (a b : Cx ℝ) (eps : ℝ) : Fin 2 → Fin 2 → Cx ℝ :=
  angleToSU2 (1/2) (su2ToAngle (1/2) a b eps).1 (su2ToAngle (1/2) a b eps).2.1 (su2ToAngle (1/2) a b eps).2.2

/-- **SU(2) round trip, full statement** (`angle_to_su2 (su2_to_angle U) = U`, sign included, outside the tolerance
region).  Proved below (`su2_roundtrip`, `su2_roundtrip_statement`) from the SO(3) round trip, the kernel `{±1}` of `su2_to_so3`
on SU(2) and the value of the 4π-branch test. -/
def Su2Roundtrip.Statement : Prop :=
  ∀ (a b : Cx ℝ), nrm2 a b = 1 → ∀ eps : ℝ, 0 < eps → eps < Real.pi →
    (let β := Real.arccos (su2ToSO3 (1/2) a b 2 2); β = 0 ∨ β = Real.pi ∨ (eps ≤ β ∧ β ≤ Real.pi - eps)) →
    M2 (su2Rebuild a b eps) = su2Mat a b

/-! ### the sign: the 4π-branch test of `su2_to_angle` selects the γ branch with `angle_to_su2 (…) = U` exactly -/

private theorem su2ToSO3_one : M3 (su2ToSO3 (1/2 : ℝ) 1 0) = 1 := by
  rw [su2ToSO3_eq (by norm_num)]
  apply mat3_ext <;> simp

/-- **kernel of the covering**: a unit quaternion with trivial rotation is `±1` -/
private theorem su2_kernel (a b : Cx ℝ) (hu : nrm2 a b = 1) (h : M3 (su2ToSO3 (1/2) a b) = 1) :
    ((a.re = 1 ∨ a.re = -1) ∧ a.im = 0) ∧ b.re = 0 ∧ b.im = 0 := by
  rw [su2ToSO3_eq (by norm_num)] at h
  have h22 := congrFun (congrFun h 2) 2
  have h00 := congrFun (congrFun h 0) 0
  simp at h22 h00
  unfold nrm2 at hu
  have hb : b.re * b.re + b.im * b.im = 0 := by linarith
  obtain ⟨hb1, hb2⟩ := sq_sum_zero hb
  have hx : a.im * a.im = 0 := by rw [hb1, hb2] at h00 hu; linarith
  have hx0 : a.im = 0 := mul_self_eq_zero.mp hx
  have hw : a.re * a.re = 1 := by rw [hb1, hb2, hx0] at hu; linarith
  exact ⟨⟨mul_self_eq_one_iff.mp hw, hx0⟩, hb1, hb2⟩

/-- two unit quaternions with the same rotation differ by a sign -/
private theorem su2_eq_or_neg (a b a' b' : Cx ℝ) (hu : nrm2 a b = 1) (hu' : nrm2 a' b' = 1)
    (h : M3 (su2ToSO3 (1/2) a' b') = M3 (su2ToSO3 (1/2) a b)) :
    (a' = a ∧ b' = b) ∨ (a' = -a ∧ b' = -b) := by
  have h2 : (2 : ℝ) * (1/2) = 1 := by norm_num
  -- W = V · U⁻¹, U⁻¹ = (ā, -b)
  have hW : M3 (su2ToSO3 (1/2) (su2MulA a' b' a.conj (-b)) (su2MulB a' b' a.conj (-b))) = 1 := by
    rw [su2ToSO3_mul h2, h, ← su2ToSO3_mul h2]
    have e1 : su2MulA a b a.conj (-b) = 1 := by
      ext <;> simp [su2MulA]
      · unfold nrm2 at hu; linarith
      · ring
    have e2 : su2MulB a b a.conj (-b) = 0 := by ext <;> simp [su2MulB] <;> ring
    rw [e1, e2]; exact su2ToSO3_one
  have hnW : nrm2 (su2MulA a' b' a.conj (-b)) (su2MulB a' b' a.conj (-b)) = 1 := by
    have : nrm2 (su2MulA a' b' a.conj (-b)) (su2MulB a' b' a.conj (-b)) = nrm2 a' b' * nrm2 a b := by
      simp [nrm2, su2MulA, su2MulB]; ring
    rw [this, hu, hu', mul_one]
  obtain ⟨⟨hs, hi⟩, hbr, hbi⟩ := su2_kernel _ _ hnW hW
  simp [su2MulA, su2MulB] at hs hi hbr hbi
  unfold nrm2 at hu
  -- with s = Re W_a = ±1: a' = s·a, b' = s·b
  have key : ∀ s : ℝ, a'.re * a.re + a'.im * a.im + (b'.re * b.re + b'.im * b.im) = s →
      a' = Cx.ofReal s * a ∧ b' = Cx.ofReal s * b := by
    intro s hsv
    refine ⟨?_, ?_⟩ <;> ext <;> simp
    · linear_combination (-a'.re) * hu + a.re * hsv - a.im * hi - b.re * hbr - b.im * hbi
    · linear_combination (-a'.im) * hu + a.im * hsv + a.re * hi + b.im * hbr - b.re * hbi
    · linear_combination (-b'.re) * hu + b.re * hsv - b.im * hi + a.re * hbr + a.im * hbi
    · linear_combination (-b'.im) * hu + b.im * hsv + b.re * hi - a.im * hbr + a.re * hbi
  rcases hs with h1 | h1
  · exact Or.inl (by simpa [ofReal_one'] using key 1 (by linarith))
  · exact Or.inr (by simpa [ofReal_neg_one] using key (-1) (by linarith))

private theorem so3ToAngle_beta (M : Matrix (Fin 3) (Fin 3) ℝ) (eps : ℝ) :
    (so3ToAngle (1/2) M eps).2.1 = Real.arccos (clip1 (M 2 2)) := by
  unfold so3ToAngle so3ToAngleHf0
  cases h : branchOf (Trig.acos (clip1 (M 2 2))) eps <;> simp only [h] <;> rfl

private theorem su2ToAngle_unfold (a b : Cx ℝ) (eps : ℝ) {t : ℝ × ℝ × ℝ} (ht : so3ToAngle (1/2) (su2ToSO3 (1/2) a b) eps = t) :
    su2ToAngle (1/2) a b eps =
      if (cis (1/2 * (t.1 + t.2.2)) * a - cis (1/2 * (t.1 - t.2.2)) * b).re < 0 then (t.1, t.2.1, t.2.2 + (Real.pi + Real.pi))
      else t := by
  subst ht
  have e : (su2Entries7 (1/2 : ℝ) a b).map Cx.re =
      [su2ToSO3 (1/2) a b 0 0, su2ToSO3 (1/2) a b 1 0, su2ToSO3 (1/2) a b 0 2, su2ToSO3 (1/2) a b 1 2,
       su2ToSO3 (1/2) a b 2 0, su2ToSO3 (1/2) a b 2 1, su2ToSO3 (1/2) a b 2 2] := rfl
  unfold su2ToAngle
  rw [e]
  rfl

/-- adding `2π` to `γ` flips the sign of `angle_to_su2` -/
private theorem angleToSU2_shift (al be ga : ℝ) :
    angleToSU2 (1/2) al be (ga + (Real.pi + Real.pi)) 0 0 = -(angleToSU2 (1/2) al be ga 0 0) ∧
    angleToSU2 (1/2) al be (ga + (Real.pi + Real.pi)) 0 1 = -(angleToSU2 (1/2) al be ga 0 1) := by
  have e1 : (1/2 : ℝ) * (al + (ga + (Real.pi + Real.pi))) = 1/2 * (al + ga) + Real.pi := by ring
  have e2 : (1/2 : ℝ) * (al - (ga + (Real.pi + Real.pi))) = 1/2 * (al - ga) - Real.pi := by ring
  constructor <;>
  · show angleToSU2cs (Real.cos _) (Real.sin _) ⟨Real.cos _, Real.sin _⟩ ⟨Real.cos _, Real.sin _⟩ _ _ = -(angleToSU2cs (Real.cos _) (Real.sin _) ⟨Real.cos _, Real.sin _⟩ ⟨Real.cos _, Real.sin _⟩ _ _)
    rw [e1, e2, Real.cos_add_pi, Real.sin_add_pi, Real.cos_sub_pi, Real.sin_sub_pi]
    ext <;> simp [angleToSU2cs]

/-- **SU(2) round trip, sign included**: for every `U ∈ SU(2)` outside the tolerance region the 4π-branch test of
`su2_to_angle` (`Re(e^{i(α+γ)/2}U₀₀ − e^{i(α−γ)/2}U₀₁) < 0`; guards against the defect repaired in numqi commit 7f0ceda) selects the branch of `γ` with
`angle_to_su2 (su2_to_angle U) = U` exactly. Uses `so3_roundtrip`, the covering identity and `ker = {±1}`. -/
theorem su2_roundtrip (a b : Cx ℝ) (hu : nrm2 a b = 1) (eps : ℝ) (h0 : 0 < eps) (hpi : eps < Real.pi)
    (hthr : Real.arccos (su2ToSO3 (1/2) a b 2 2) = 0 ∨ Real.arccos (su2ToSO3 (1/2) a b 2 2) = Real.pi ∨
      (eps ≤ Real.arccos (su2ToSO3 (1/2) a b 2 2) ∧ Real.arccos (su2ToSO3 (1/2) a b 2 2) ≤ Real.pi - eps)) :
    M2 (su2Rebuild a b eps) = su2Mat a b := by
  have h2 : (2 : ℝ) * (1/2) = 1 := by norm_num
  have hO := su2ToSO3_orthogonal h2 hu
  have hd : (M3 (su2ToSO3 (1/2) a b)).det = 1 := by rw [su2ToSO3_det h2, hu]; ring
  have hrt := so3_roundtrip (M3 (su2ToSO3 (1/2) a b)) hO hd eps h0 hpi hthr
  have hbeta := so3ToAngle_beta (su2ToSO3 (1/2) a b) eps
  obtain ⟨⟨al, be, ga⟩, ht⟩ : ∃ t, so3ToAngle (1/2) (su2ToSO3 (1/2) a b) eps = t := ⟨_, rfl⟩
  unfold rebuild at hrt
  unfold su2Rebuild
  rw [ht] at hrt hbeta
  replace hbeta : be = _ := hbeta
  rw [su2ToAngle_unfold a b eps ht]
  -- V = angle_to_su2 of the extracted angles is a unit quaternion with the same rotation as U
  have hcs := cos_mul_self_add
  have hV : M3 (su2ToSO3 (1/2) (angleToSU2 (1/2) al be ga 0 0) (angleToSU2 (1/2) al be ga 0 1)) = M3 (su2ToSO3 (1/2) a b) := by
    rw [su2ToSO3_angleToSU2_real]; exact hrt
  have hnV : nrm2 (angleToSU2 (1/2) al be ga 0 0) (angleToSU2 (1/2) al be ga 0 1) = 1 :=
    angleToSU2cs_nrm2 (hcs _) (hcs _) (hcs _)
  -- β ∈ [0, π], so the value `cos(β/2) + sin(β/2)` of the branch test on V is positive
  have htest : (cis (1/2 * (al + ga)) * angleToSU2 (1/2) al be ga 0 0 - cis (1/2 * (al - ga)) * angleToSU2 (1/2) al be ga 0 1).re
      = Real.cos (1/2 * be) + Real.sin (1/2 * be) := branch_test_value (hcs _) (hcs _)
  have hb0 : 0 ≤ be := by rw [hbeta]; exact Real.arccos_nonneg _
  have hbp : be ≤ Real.pi := by rw [hbeta]; exact Real.arccos_le_pi _
  have hc0 : 0 ≤ Real.cos (1/2 * be) := Real.cos_nonneg_of_neg_pi_div_two_le_of_le (by linarith [Real.pi_pos]) (by linarith)
  have hs0 : 0 ≤ Real.sin (1/2 * be) := Real.sin_nonneg_of_nonneg_of_le_pi (by linarith) (by linarith [Real.pi_pos])
  have hpos : 0 < Real.cos (1/2 * be) + Real.sin (1/2 * be) := by
    have := hcs (1/2 * be); nlinarith
  have hsu2 (x y z : ℝ) : M2 (angleToSU2 (1/2) x y z) = su2Mat (angleToSU2 (1/2) x y z 0 0) (angleToSU2 (1/2) x y z 0 1) :=
    angleToSU2_eq_su2Mat _ _ _ _
  rcases su2_eq_or_neg a b _ _ hu hnV hV with ⟨ea, eb⟩ | ⟨ea, eb⟩
  · -- V = U: the test is positive, γ unchanged
    rw [if_neg (by rw [← ea, ← eb, htest]; exact not_lt.mpr hpos.le), hsu2, ea, eb]
  · -- V = -U: the test is negative, γ + 2π flips the sign
    have hneg : (cis (1/2 * (al + ga)) * a - cis (1/2 * (al - ga)) * b).re = -(Real.cos (1/2 * be) + Real.sin (1/2 * be)) := by
      rw [← htest, ea, eb, mul_neg, mul_neg, ← neg_sub', Cx.neg_re, neg_neg]
    obtain ⟨s1, s2⟩ := angleToSU2_shift al be ga
    rw [if_pos (by rw [hneg]; linarith)]
    show M2 (angleToSU2 (1/2) al be (ga + (Real.pi + Real.pi))) = su2Mat a b
    rw [hsu2, s1, s2, ea, eb, neg_neg, neg_neg]

/-- consequence of `su2_roundtrip`: **the SU(2) round trip holds modulo the kernel of the covering**, i.e.
`su2_to_so3 (angle_to_su2 (su2_to_angle U)) = su2_to_so3 U` for every `U ∈ SU(2)` outside the tolerance region. -/
theorem su2_roundtrip_partial (a b : Cx ℝ) (hu : nrm2 a b = 1) (eps : ℝ) (h0 : 0 < eps) (hpi : eps < Real.pi)
    (hthr : Real.arccos (su2ToSO3 (1/2) a b 2 2) = 0 ∨ Real.arccos (su2ToSO3 (1/2) a b 2 2) = Real.pi ∨
      (eps ≤ Real.arccos (su2ToSO3 (1/2) a b 2 2) ∧ Real.arccos (su2ToSO3 (1/2) a b 2 2) ≤ Real.pi - eps)) :
    su2ToSO3 (1/2) (su2Rebuild a b eps 0 0) (su2Rebuild a b eps 0 1) = su2ToSO3 (1/2) a b := by
  have h := su2_roundtrip a b hu eps h0 hpi hthr
  rw [show su2Rebuild a b eps 0 0 = a from congrFun (congrFun h 0) 0, show su2Rebuild a b eps 0 1 = b from congrFun (congrFun h 0) 1]

/-- **`so3_to_su2` always returns an element of SU(2)**: unitary with determinant one for every input `M` (thin: it is
`angleToSU2_mem_SU2` at the extracted angles, i.e. `cos² + sin² = 1`; it says nothing about `so3_to_angle`.  That the result is a
pre-image of `M` is `so3ToSU2_section` below). -/
theorem so3ToSU2_mem_SU2 (M : Matrix (Fin 3) (Fin 3) ℝ) (eps : ℝ) :
    M2 (so3ToSU2 (1/2) M eps) * conjT (M2 (so3ToSU2 (1/2) M eps)) = 1 ∧ (M2 (so3ToSU2 (1/2) M eps)).det = 1 :=
  angleToSU2_mem_SU2 _ _ _

/-- **`so3_to_su2` is a section of `su2_to_so3`**: for `M ∈ SO(3)` outside the tolerance region (`β ∈ {0, π}` or `eps ≤ β ≤ π - eps`),
`su2_to_so3 (so3_to_su2 M) = M`. -/
theorem so3ToSU2_section (M : Matrix (Fin 3) (Fin 3) ℝ) (hO : M * Mᵀ = 1) (hd : M.det = 1) (eps : ℝ) (h0 : 0 < eps) (hpi : eps < Real.pi)
    (hthr : Real.arccos (M 2 2) = 0 ∨ Real.arccos (M 2 2) = Real.pi ∨ (eps ≤ Real.arccos (M 2 2) ∧ Real.arccos (M 2 2) ≤ Real.pi - eps)) :
    M3 (su2ToSO3 (1/2) (so3ToSU2 (1/2) M eps 0 0) (so3ToSU2 (1/2) M eps 0 1)) = M := by
  have h := so3_roundtrip M hO hd eps h0 hpi hthr
  unfold rebuild at h
  have e : so3ToSU2 (1/2) M eps = angleToSU2 (1/2) (so3ToAngle (1/2) M eps).1 (so3ToAngle (1/2) M eps).2.1 (so3ToAngle (1/2) M eps).2.2 := rfl
  rw [e, su2ToSO3_angleToSU2_real]; exact h

/-- `Su2Roundtrip.Statement` holds -/
theorem su2_roundtrip_statement : Su2Roundtrip.Statement :=
  fun a b hu eps h0 hpi hthr => su2_roundtrip a b hu eps h0 hpi hthr

/-- non-vacuity at the gimbal-lock input `U = [[0,1],[-1,0]]` (`β = π`, `U₀₀ = 0`): the hypotheses hold -/
example : nrm2 (0 : Cx ℝ) 1 = 1 ∧ Real.arccos (su2ToSO3 (1/2) (0 : Cx ℝ) 1 2 2) = Real.pi := by
  refine ⟨by simp [nrm2], ?_⟩
  have : su2ToSO3 (1/2 : ℝ) (0 : Cx ℝ) 1 2 2 = -1 := by simp [su2ToSO3, su2ToSO3cx]
  rw [this]; exact Real.arccos_neg_one

end real

/-! ## Part C — angular momentum operators, every `j2`

`K` is any commutative ring with `I² = -1`, `2·half = 1` and a function `sq` with `sq n · sq n = n`
(for `K = ℂ`: `Complex.I`, `1/2`, `√n`).  `JxM / JyM / JzM` are the model's `jxEntry / jyEntry / jzEntry`
as `(j2+1)×(j2+1)` matrices. -/

section angmom
variable {K : Type} [CommRing K] {I half : K} (sq : ℕ → K)

/-- **`[Jx, Jy] = i Jz` for every `j2`.** -/
theorem angular_momentum_comm_xy (h2 : 2 * half = 1) (hsq : ∀ n, sq n * sq n = (n : K)) (j2 : ℕ) :
    JxM half sq j2 * JyM I half sq j2 - JyM I half sq j2 * JxM half sq j2 = I • JzM half j2 := by
  have hc := Jp_comm_Jm sq hsq h2 j2
  have e : JxM half sq j2 * JyM I half sq j2 - JyM I half sq j2 * JxM half sq j2
      = (2 * I * half * half) • (JpM sq j2 * JmM sq j2 - JmM sq j2 * JpM sq j2) := by
    rw [JxM_eq, JyM_eq]
    simp only [smul_mul_assoc, mul_smul_comm, mul_add, add_mul, smul_add, smul_sub, smul_smul]
    module
  rw [e, hc, smul_smul]
  congr 1
  linear_combination (2 * I * half + I) * h2

/-- **`[Jy, Jz] = i Jx` for every `j2`.** -/
theorem angular_momentum_comm_yz (j2 : ℕ) :
    JyM I half sq j2 * JzM half j2 - JzM half j2 * JyM I half sq j2 = I • JxM half sq j2 := by
  have hp := Jz_comm_Jp sq half j2
  have hm := Jz_comm_Jm sq half j2
  have e : JyM I half sq j2 * JzM half j2 - JzM half j2 * JyM I half sq j2
      = (I * half) • (JzM half j2 * JpM sq j2 - JpM sq j2 * JzM half j2)
        - (I * half) • (JzM half j2 * JmM sq j2 - JmM sq j2 * JzM half j2) := by
    rw [JyM_eq]
    simp only [smul_mul_assoc, mul_smul_comm, mul_add, add_mul, smul_add, smul_sub, smul_smul]
    module
  rw [e, hp, hm, JxM_eq]
  simp only [smul_add, smul_neg, smul_smul]
  module

/-- **`[Jz, Jx] = i Jy` for every `j2`.** -/
theorem angular_momentum_comm_zx (hI : I * I = -1) (j2 : ℕ) :
    JzM half j2 * JxM half sq j2 - JxM half sq j2 * JzM half j2 = I • JyM I half sq j2 := by
  have hp := Jz_comm_Jp sq half j2
  have hm := Jz_comm_Jm sq half j2
  have e : JzM half j2 * JxM half sq j2 - JxM half sq j2 * JzM half j2
      = half • (JzM half j2 * JpM sq j2 - JpM sq j2 * JzM half j2)
        + half • (JzM half j2 * JmM sq j2 - JmM sq j2 * JzM half j2) := by
    rw [JxM_eq]
    simp only [smul_mul_assoc, mul_smul_comm, mul_add, add_mul, smul_add, smul_sub, smul_smul]
    module
  rw [e, hp, hm, JyM_eq]
  simp only [smul_add, smul_neg, smul_smul]
  have h1 : I * -(I * half) = half := by linear_combination (-half) * hI
  have h2' : I * (I * half) = -half := by linear_combination half * hI
  rw [h1, h2']
  module

/-- **Casimir: `Jx² + Jy² + Jz² = j(j+1)·1`, `j = j2/2`, for every `j2`.** -/
theorem angular_momentum_casimir (hI : I * I = -1) (h2 : 2 * half = 1) (hsq : ∀ n, sq n * sq n = (n : K)) (j2 : ℕ) :
    JxM half sq j2 * JxM half sq j2 + JyM I half sq j2 * JyM I half sq j2 + JzM half j2 * JzM half j2
      = ((half * (j2 : K)) * (half * (j2 : K) + 1)) • (1 : Matrix (Fin (j2 + 1)) (Fin (j2 + 1)) K) := by
  have e : JxM half sq j2 * JxM half sq j2 + JyM I half sq j2 * JyM I half sq j2
      = (2 * half * half) • (JpM sq j2 * JmM sq j2 + JmM sq j2 * JpM sq j2) := by
    rw [JxM_eq, JyM_eq]
    have hII : I * half * (I * half) = -(half * half) := by linear_combination (half * half) * hI
    simp only [smul_mul_assoc, mul_smul_comm, mul_add, add_mul, smul_add, smul_sub, smul_smul, neg_mul, mul_neg, neg_neg, hII]
    module
  rw [e]
  ext i k
  simp only [Matrix.add_apply, Matrix.smul_apply, JpM_mul_JmM sq hsq, JmM_mul_JpM sq hsq, JzM_mul, JzM_apply,
    Matrix.one_apply, smul_eq_mul]
  have hi := i.isLt
  split_ifs with h
  · simp only [zval]
    have e1 : ((j2 + 1 - i.val : ℕ) : K) = (j2 : K) - (i.val : K) + 1 := by
      rw [Nat.cast_sub (by omega)]; push_cast; ring
    have e2 : ((j2 - i.val : ℕ) : K) = (j2 : K) - (i.val : K) := by rw [Nat.cast_sub (by omega)]
    push_cast
    rw [e1, e2]
    linear_combination (-(j2 : K) * (j2 : K) + 2 * (j2 : K) * half * (i.val : K) + (j2 : K) * half + 2 * (j2 : K) * (i.val : K)
      - 2 * half * (i.val : K) * (i.val : K) - (i.val : K) * (i.val : K)) * h2
  · ring

end angmom

/-! ## Part D — spin-j matrices (`get_su2_irrep`)

`irrepCS` is the Wigner factorial sum of the implementation with its phases, on the half-angle data of `angle_to_su2`;
`symM sq j2 a b c d` is the matrix of `Sym^{j2}` of `[[a,b],[c,d]]` in the normalised monomial basis; `sq n` stands for `√n`. -/

section irrep
variable {F : Type} [Field F] [CharZero F]

/-- the spin-j matrix of the model as a matrix over `Cx F` -/
def irrepM (sq : ℕ → F) (j2 : ℕ) (cb sb : F) (p m : Cx F) : Matrix (Fin (j2 + 1)) (Fin (j2 + 1)) (Cx F) :=
  fun i k => irrepCS sq (fun n : ℕ => (n : F)) j2 cb sb p m i.val k.val

/-- **every `j2`: the spin-j matrix is `Sym^{j2}` of the SU(2) matrix `angle_to_su2`** (term-by-term identity of the
Wigner sum, using only `|p| = |m| = 1`). -/
theorem irrep_eq_sym (sq : ℕ → F) (j2 : ℕ) (cb sb : F) (p m : Cx F) (hp : p * p.conj = 1) (hm : m * m.conj = 1) :
    irrepM sq j2 cb sb p m
      = symM sq j2 (angleToSU2cs cb sb p m 0 0) (angleToSU2cs cb sb p m 0 1) (angleToSU2cs cb sb p m 1 0) (angleToSU2cs cb sb p m 1 1) := by
  apply Matrix.ext; intro i k
  exact irrepCS_eq_symD sq j2 cb sb p m hp hm i.val k.val (by have := i.isLt; omega) (by have := k.isLt; omega)

/-- `j2 = 1` is the defining representation -/
theorem irrep_one (sq : ℕ → F) (h1 : sq 1 = 1) (cb sb : F) (p m : Cx F) (hp : p * p.conj = 1) (hm : m * m.conj = 1) :
    irrepM sq 1 cb sb p m = M2 (angleToSU2cs cb sb p m) := by
  rw [irrep_eq_sym sq 1 cb sb p m hp hm, symM_one sq h1]
  apply mat2_ext <;> rfl

/-- **`Sym^{j2}` is multiplicative for `j2 = 1, 2, 3`** (all complex 2×2 matrices; polynomial identities with `√2² = 2`, `√3² = 3`) -/
theorem sym_mul_partial (sq : ℕ → F) (h1 : sq 1 = 1) (h4 : sq 4 = 2) (h36 : sq 36 = 6) (h12 : sq 12 = 2 * sq 3)
    (h2 : sq 2 * sq 2 = 2) (h3 : sq 3 * sq 3 = 3) (a b c d a' b' c' d' : Cx F) :
    (symM sq 1 (a * a' + b * c') (a * b' + b * d') (c * a' + d * c') (c * b' + d * d') = symM sq 1 a b c d * symM sq 1 a' b' c' d') ∧
    (symM sq 2 (a * a' + b * c') (a * b' + b * d') (c * a' + d * c') (c * b' + d * d') = symM sq 2 a b c d * symM sq 2 a' b' c' d') ∧
    (symM sq 3 (a * a' + b * c') (a * b' + b * d') (c * a' + d * c') (c * b' + d * d') = symM sq 3 a b c d * symM sq 3 a' b' c' d') :=
  ⟨symM_mul sq h1 h4 h36 h12 h2 h3 (.inl rfl) .., symM_mul sq h1 h4 h36 h12 h2 h3 (.inr (.inl rfl)) ..,
    symM_mul sq h1 h4 h36 h12 h2 h3 (.inr (.inr rfl)) ..⟩

/-- **spin-j homomorphism, full statement** (`D(U1 U2) = D(U1) D(U2)` for every `j2`): by `irrep_eq_sym` it is exactly the
functoriality of `Sym^{j2}` in the normalised monomial basis. Open for `j2 ≥ 4` (probed for `j2 ≤ 10`). -/
def Su2IrrepHom.Statement : Prop :=
  ∀ (j2 : ℕ) (a b c d a' b' c' d' : Cx ℝ),
    symM (fun n => Real.sqrt n) j2 (a * a' + b * c') (a * b' + b * d') (c * a' + d * c') (c * b' + d * d')
      = symM (fun n => Real.sqrt n) j2 a b c d * symM (fun n => Real.sqrt n) j2 a' b' c' d'

/-- proved fragment: **`D^{j}(U1 U2) = D^{j}(U1) D^{j}(U2)` for `j2 = 1, 2, 3`**, in terms of the half-angle data of three
Euler-angle triples with `angle_to_su2(3) = angle_to_su2(1) · angle_to_su2(2)`. -/
theorem su2_irrep_hom_partial (sq : ℕ → F) (h1 : sq 1 = 1) (h4 : sq 4 = 2) (h36 : sq 36 = 6) (h12 : sq 12 = 2 * sq 3)
    (h2 : sq 2 * sq 2 = 2) (h3 : sq 3 * sq 3 = 3)
    (cb1 sb1 cb2 sb2 cb3 sb3 : F) (p1 m1 p2 m2 p3 m3 : Cx F)
    (hp1 : p1 * p1.conj = 1) (hm1 : m1 * m1.conj = 1) (hp2 : p2 * p2.conj = 1) (hm2 : m2 * m2.conj = 1)
    (hp3 : p3 * p3.conj = 1) (hm3 : m3 * m3.conj = 1)
    (hU : M2 (angleToSU2cs cb3 sb3 p3 m3) = M2 (angleToSU2cs cb1 sb1 p1 m1) * M2 (angleToSU2cs cb2 sb2 p2 m2))
    (j2 : ℕ) (hj : j2 = 1 ∨ j2 = 2 ∨ j2 = 3) :
    irrepM sq j2 cb3 sb3 p3 m3 = irrepM sq j2 cb1 sb1 p1 m1 * irrepM sq j2 cb2 sb2 p2 m2 := by
  rw [irrep_eq_sym sq j2 _ _ _ _ hp1 hm1, irrep_eq_sym sq j2 _ _ _ _ hp2 hm2, irrep_eq_sym sq j2 _ _ _ _ hp3 hm3]
  have e (i j : Fin 2) : angleToSU2cs cb3 sb3 p3 m3 i j = _ := (congrFun (congrFun hU i) j).trans (mul2_apply _ _ i j)
  rw [e 0 0, e 0 1, e 1 0, e 1 1]
  exact symM_mul sq h1 h4 h36 h12 h2 h3 hj ..

/-- **`Sym^{j2}` of a unitary matrix is unitary for `j2 = 1, 2, 3`**: `U†U = 1` (four entry equations) implies
`Sym(U)† Sym(U) = 1`. -/
theorem sym_unitary_partial (sq : ℕ → F) (h1 : sq 1 = 1) (h4 : sq 4 = 2) (h36 : sq 36 = 6) (h12 : sq 12 = 2 * sq 3)
    (h2 : sq 2 * sq 2 = 2) (h3 : sq 3 * sq 3 = 3) (a b c d : Cx F)
    (u00 : a.conj * a + c.conj * c = 1) (u01 : a.conj * b + c.conj * d = 0)
    (u10 : b.conj * a + d.conj * c = 0) (u11 : b.conj * b + d.conj * d = 1) :
    conjTn (symM sq 1 a b c d) * symM sq 1 a b c d = 1 ∧ conjTn (symM sq 2 a b c d) * symM sq 2 a b c d = 1
      ∧ conjTn (symM sq 3 a b c d) * symM sq 3 a b c d = 1 := by
  have h (j2 : ℕ) (hj : j2 = 1 ∨ j2 = 2 ∨ j2 = 3) := symM_unitary sq h1 h4 h36 h12 h2 h3 hj a b c d u00 u01 u10 u11
  exact ⟨h 1 (.inl rfl), h 2 (.inr (.inl rfl)), h 3 (.inr (.inr rfl))⟩

/-- **the spin-j matrices are unitary for `j2 = 1, 2, 3`** (`D(U)†D(U) = 1` for `U = angle_to_su2 α β γ`) -/
theorem su2_irrep_unitary_partial (sq : ℕ → F) (h1 : sq 1 = 1) (h4 : sq 4 = 2) (h36 : sq 36 = 6) (h12 : sq 12 = 2 * sq 3)
    (h2 : sq 2 * sq 2 = 2) (h3 : sq 3 * sq 3 = 3) (cb sb : F) (p m : Cx F)
    (hb : cb * cb + sb * sb = 1) (hp : p * p.conj = 1) (hm : m * m.conj = 1)
    (j2 : ℕ) (hj : j2 = 1 ∨ j2 = 2 ∨ j2 = 3) :
    conjTn (irrepM sq j2 cb sb p m) * irrepM sq j2 cb sb p m = 1 := by
  rw [irrep_eq_sym sq j2 cb sb p m hp hm]
  have hpr : p.re * p.re + p.im * p.im = 1 := by have := congrArg Cx.re hp; simpa using this
  have hmr : m.re * m.re + m.im * m.im = 1 := by have := congrArg Cx.re hm; simpa using this
  -- `U U† = 1` (`angleToSU2_unitary`) gives `U† U = 1`, whose four entries are the hypotheses of `symM_unitary`
  have hU : conjT (M2 (angleToSU2cs cb sb p m)) * M2 (angleToSU2cs cb sb p m) = 1 :=
    mul_eq_one_comm.mp (angleToSU2_unitary hb hpr hmr)
  have u (i j : Fin 2) := congrFun (congrFun hU i) j
  simp only [mul2_apply, conjT] at u
  exact symM_unitary sq h1 h4 h36 h12 h2 h3 hj _ _ _ _ (u 0 0) (u 0 1) (u 1 0) (u 1 1)

end irrep

/-- **bridge for the driver's `irrep` op**: `get_su2_irrep` with its literal phases `exp(-iMα)`, `exp(-iNγ)` (`su2IrrepG`, run at
`Float`) equals the half-angle form `irrepCS` of the `Sym^{j2}` theorems, for every `j2` (de Moivre). -/
theorem su2_irrep_literal_eq (sq : ℕ → ℝ) (j2 : ℕ) (al be ga : ℝ) (i k : ℕ) (hi : i ≤ j2) (hk : k ≤ j2) :
    su2IrrepG sq (fun n : ℕ => (n : ℝ)) (1/2) j2 al be ga i k
      = irrepCS sq (fun n : ℕ => (n : ℝ)) j2 (Real.cos (1/2 * be)) (Real.sin (1/2 * be))
          (cis (1/2 * (al + ga))) (cis (1/2 * (al - ga))) i k := by
  unfold su2IrrepG irrepCS
  simp only [powG_eq_pow]
  have e (x : ℝ) : (⟨Trig.cos x, -Trig.sin x⟩ : Cx ℝ) = cis (-x) := by rw [← cis_conj]; rfl
  rw [e, e]
  have hph : (cis (1/2 * (al + ga))).conj ^ j2 * (cis (1/2 * (al + ga)) * cis (1/2 * (al - ga))) ^ i
        * (cis (1/2 * (al + ga)) * (cis (1/2 * (al - ga))).conj) ^ k
      = cis (-((((j2 - i : ℕ) : ℝ) - 1/2 * (j2 : ℝ)) * al)) * cis (-((((j2 - k : ℕ) : ℝ) - 1/2 * (j2 : ℝ)) * ga)) := by
    rw [cis_conj, cis_conj, ← cis_add, ← cis_add, cis_pow, cis_pow, cis_pow, ← cis_add, ← cis_add, ← cis_add]
    congr 1
    rw [Nat.cast_sub hi, Nat.cast_sub hk]
    ring
  rw [hph]
  show _ * Cx.smul (wignerDG sq _ j2 (Real.cos (1/2 * be)) (Real.sin (1/2 * be)) i k) _ = _
  ext <;> simp <;> ring

/-- the hypotheses on `sq` hold for the real square root -/
example : Real.sqrt (1 : ℕ) = 1 ∧ Real.sqrt (4 : ℕ) = 2 ∧ Real.sqrt (36 : ℕ) = 6 ∧ Real.sqrt (12 : ℕ) = 2 * Real.sqrt (3 : ℕ)
    ∧ Real.sqrt (2 : ℕ) * Real.sqrt (2 : ℕ) = 2 ∧ Real.sqrt (3 : ℕ) * Real.sqrt (3 : ℕ) = 3 := by
  refine ⟨by simp, ?_, ?_, ?_, ?_, ?_⟩
  · rw [show ((4 : ℕ) : ℝ) = 2 ^ 2 by norm_num]; exact Real.sqrt_sq (by norm_num)
  · rw [show ((36 : ℕ) : ℝ) = 6 ^ 2 by norm_num]; exact Real.sqrt_sq (by norm_num)
  · rw [show ((12 : ℕ) : ℝ) = 2 ^ 2 * (3 : ℕ) by norm_num, Real.sqrt_mul (by norm_num), Real.sqrt_sq (by norm_num)]
  · exact Real.mul_self_sqrt (by norm_num)
  · exact Real.mul_self_sqrt (by norm_num)

/-! ## the hypotheses are satisfiable, the statements are not vacuous -/

/-- Part C at `K = ℂ`: `I = Complex.I`, `half = 1/2`, `sq n = √n`. -/
example (j2 : ℕ) :
    JxM (1/2 : ℂ) (fun n => ((Real.sqrt n : ℝ) : ℂ)) j2 * JyM Complex.I (1/2) (fun n => ((Real.sqrt n : ℝ) : ℂ)) j2
      - JyM Complex.I (1/2) (fun n => ((Real.sqrt n : ℝ) : ℂ)) j2 * JxM (1/2 : ℂ) (fun n => ((Real.sqrt n : ℝ) : ℂ)) j2
      = Complex.I • JzM (1/2 : ℂ) j2 :=
  angular_momentum_comm_xy _ (by norm_num) (fun n => by
    rw [← Complex.ofReal_mul, Real.mul_self_sqrt (Nat.cast_nonneg n)]; simp) j2

/-- the spin-1/2 matrices are the halved Pauli matrices (`sq 1 = 1`) -/
example : JxM (1/2 : ℚ) (fun _ => 1) 1 0 1 = 1/2 ∧ JzM (1/2 : ℚ) 1 0 0 = 1/2 ∧ JzM (1/2 : ℚ) 1 1 1 = -1/2 := by
  refine ⟨?_, ?_, ?_⟩ <;> simp [JxM, JzM, jxEntry, jzEntry, ladder] <;> norm_num

/-- `so3_roundtrip` applies to the identity (β = 0 exactly) … -/
example : Real.arccos ((1 : Matrix (Fin 3) (Fin 3) ℝ) 2 2) = 0 := by simp

/-- … to `diag(-1, 1, -1)` (β = π exactly) … -/
example : Real.arccos ((M3 (rotY (-1 : ℝ) 0)) 2 2) = Real.pi := by simp [rotY]

/-- … and to the quarter turn about `y` (β = π/2, generic branch for `zero_eps = 10⁻⁷`), which is in SO(3). -/
example : M3 (rotY (0 : ℝ) 1) * (M3 (rotY (0 : ℝ) 1))ᵀ = 1 ∧ (M3 (rotY (0 : ℝ) 1)).det = 1 ∧
    (1e-7 : ℝ) ≤ Real.arccos ((M3 (rotY (0 : ℝ) 1)) 2 2) ∧ Real.arccos ((M3 (rotY (0 : ℝ) 1)) 2 2) ≤ Real.pi - 1e-7 := by
  refine ⟨rotY_orthogonal (by norm_num), rotY_det (by norm_num), ?_, ?_⟩
  · simp [rotY]; have := Real.two_le_pi; linarith
  · simp [rotY]; have := Real.two_le_pi; linarith

/-- a non-trivial instance of the covering identity over `ℚ`: the rational point `(3/5, 4/5)` for all three pairs -/
example : su2ToSO3 (1/2 : ℚ) (angleToSU2cs (3/5) (4/5) ⟨3/5, 4/5⟩ ⟨3/5, 4/5⟩ 0 0) (angleToSU2cs (3/5) (4/5) ⟨3/5, 4/5⟩ ⟨3/5, 4/5⟩ 0 1)
    = angleToSO3cs (-7/25) (24/25) (-7/25) (24/25) 1 0 := by
  rw [su2ToSO3_angleToSU2 (by norm_num) (by norm_num) (by norm_num) (by norm_num)]
  congr 1 <;> first | (simp only [Cx.mul_re, Cx.mul_im, Cx.conj_re, Cx.conj_im]; norm_num) | norm_num

end Numqi.C15
