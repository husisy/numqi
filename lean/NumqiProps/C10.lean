/-
C10 — random generators return valid objects and are reproducible from a seed.

Part A (reproducibility): non-interference of the seed-flow interpreter for closed programs, and the
closedness of every program that `harness/c10.py:translate` extracted from the current source tree
(`NumqiModel/Generated/SeedPrograms.lean`, re-elaborated on every run) is in `NumqiProps/C10Generated.lean`.
Part B (validity): the algebraic normalisation steps with which the generators end
(unit vector, sign-fixed QR, `G Gᴴ / tr`, inverse-square-root conjugation), over exact fields; the
numerical routines (`qr`, `eigh`, `inv`) enter as hypotheses.
-/
import NumqiProofs.SeedFlowLemmas
import NumqiProofs.RandNormLemmas
import Mathlib.LinearAlgebra.Matrix.PosDef
import Mathlib.LinearAlgebra.UnitaryGroup
import Mathlib.Analysis.InnerProductSpace.Basic
import Mathlib.Analysis.Complex.Order
import Mathlib.Tactic

namespace Numqi.C10
open Numqi Numqi.SeedFlow

/-! ## A. reproducibility -/

/-- **Non-interference.**  If every program of the list is seed-closed, then running program `i` with
`seed = int k` from two states that differ *only* in the global numpy / python / torch generator states
and in the OS entropy (same explicit generators, same trace so far) yields the same explicit generators and
the same sequence of drawn numbers — for every bit-generator model `G`, every branch/loop oracle (i.e. every
choice of the other arguments), every fuel. -/
theorem noninterference (G : GenModel) (progs : List Prog) (oracle : Nat → List Nat → Bool)
    (hall : ∀ p ∈ progs, seedClosed progs.length p = true)
    (fuel i k : Nat) (hi : i < progs.length) (st st' : St) (h : st.obs = st'.obs) :
    (run G progs oracle fuel i k st).obs = (run G progs oracle fuel i k st').obs := by
  apply Agree.obs
  unfold run
  exact exec_agree G progs oracle hall fuel _ (.int k) (fun _ => none) [] st st' trivial
    (by intro v hv; simp at hv) (hall _ (getD_mem hi)) (agree_of_obs h)

/-- in particular the result does not depend on the global generators and the entropy at all: it is a function of
the program, the oracle (= the other arguments), the seed and the explicit generators handed in -/
theorem result_function_of_seed (G : GenModel) (progs : List Prog) (oracle : Nat → List Nat → Bool)
    (hall : ∀ p ∈ progs, seedClosed progs.length p = true) (fuel i k : Nat) (hi : i < progs.length)
    (heap trace : List Nat) (gN gP gT e gN' gP' gT' e' : Nat) :
    (run G progs oracle fuel i k ⟨heap, gN, gP, gT, e, trace⟩).obs =
      (run G progs oracle fuel i k ⟨heap, gN', gP', gT', e', trace⟩).obs :=
  noninterference G progs oracle hall fuel i k hi _ _ rfl

/-- the closedness check is not vacuous: the three defects it exists for are rejected.
(1) a helper called without forwarding the seed, (2) a generator bound to the wrong parameter so that the
callee's `seed` stays `None`, (3) a draw from the global numpy generator on one branch only. -/
example :
    seedClosed 2 (.mkRng 0 .param <| .call 1 .none <| .done) = false ∧
    seedClosed 2 (.mkRng 0 .param <| .branch 1 (.call 1 .none .done) (.call 1 (.var 0) .done) <| .done) = false ∧
    seedClosed 2 (.mkRng 0 .param <| .branch 1 (.drawGlobal .numpy .done) (.draw 0 .done) <| .done) = false ∧
    seedClosed 2 (.mkRng 0 .param <| .call 1 (.var 0) <| .draw 0 <| .done) = true := by decide

/-- and interference is real in the semantics: a program that is not closed gives different results for different
global states (so `noninterference` is not true for the wrong reason) -/
example :
    (run lcg [.drawGlobal .numpy .done] (fun _ _ => false) 5 0 7 ⟨[], 1, 0, 0, 0, []⟩).obs ≠
    (run lcg [.drawGlobal .numpy .done] (fun _ _ => false) 5 0 7 ⟨[], 2, 0, 0, 0, []⟩).obs := by decide

/-! ## B. validity: the final normalisation step of each generator

The functions below are the constants of `NumqiModel/RandNorm.lean` — the model of the last lines of each generator — which
`Driver/C10.lean` executes (op `nz …`) on the raw draws and LAPACK intermediates captured from the real generator and which the harness
compares with the real output (`harness/c10.py:validity_tie`).  The theorems are about these constants at `K = ℂ`
(`conj = star`, `rsqrt`/`invSqrt0`/`rootN`/`sgn1` acting on the real part); `toMat m n f` is the Mathlib matrix with entries `f i j`.
Hypotheses are the contracts of the numerical routines (`qr`: `Q` unitary; `eigh`: `V` unitary, `S = V Λ Vᴴ`, `λ > 0`; `inv`: `M⁻¹ M = 1`),
not the conclusions.  Not covered here (C01): `rand_special_orthogonal_matrix` = `to_special_orthogonal_exp` (`soExp_real_det_one`,
`soExp_complex_det_one`).  The generators composed from these pieces — ranks, `rand_separable_dm`, `rand_bipartite_state(k)`,
`rand_ABk_density_matrix`, the matrix-subspace generators, `rand_choi_op` positivity — are in `NumqiProps/C10Compose.lean`; `rand_F2` is
`rand_F2_valid` below; `rand_SpF2` is `rand_SpF2_valid` of `NumqiProps/C10F2.lean`. -/

section validity
open Matrix Numqi.RandNorm
open scoped ComplexOrder Numqi.RandNorm

/-- `rand_haar_state`, `rand_n_sphere`: the returned vector has unit norm (for a non-zero draw) -/
theorem haar_state_unit (n : Nat) (v : Nat → ℂ) (h : normSq n v ≠ 0) : normSq n (normalize n v) = 1 :=
  normSq_normalize n v h

/-- `rand_n_ball`: the returned point has norm `u^(1/n)`, inside the unit ball for a uniform draw `u ∈ [0,1]` -/
theorem n_ball_mem (n : Nat) (v : Nat → ℂ) (u : ℂ) (h : normSq n v ≠ 0) (hu0 : 0 ≤ u.re) (hu1 : u.re ≤ 1) :
    ∃ ρ : ℝ, 0 ≤ ρ ∧ ρ ≤ 1 ∧ normSq n (ballPoint n v u) = ((ρ * ρ : ℝ) : ℂ) := by
  refine ⟨u.re ^ ((1 : ℝ) / n), Real.rpow_nonneg hu0 _, Real.rpow_le_one hu0 hu1 (by positivity), ballPoint_normSq n v u h⟩

/-- `rand_haar_unitary`: `Q * sign(diag R)` is unitary whenever the `Q` returned by `np.linalg.qr` is -/
theorem haar_unitary_signFix (n : Nat) (Q : Nat → Nat → ℂ) (d : Nat → ℂ)
    (hQ : toMat n n Q ∈ Matrix.unitaryGroup (Fin n) ℂ) : toMat n n (signFix Q d) ∈ Matrix.unitaryGroup (Fin n) ℂ := by
  rw [toMat_signFix]
  rw [Matrix.mem_unitaryGroup_iff'] at hQ ⊢
  rw [star_eq_conjTranspose] at hQ ⊢
  rw [conjTranspose_mul, diagonal_conjTranspose, Matrix.mul_assoc, ← Matrix.mul_assoc (toMat n n Q)ᴴ, hQ, Matrix.one_mul,
    diagonal_mul_diagonal, ← diagonal_one]
  congr 1
  funext i
  simpa using sgn1_unimodular (d i.val)

/-- `rand_density_matrix` (both kinds: for `bures` take `G = buresPre n U G₀`): trace one and positive semidefinite -/
theorem density_matrix_valid (n k : Nat) (G : Nat → Nat → ℂ) (htr : traceN n (gram k G) ≠ 0) :
    (toMat n n (densityMatrix n k G)).trace = 1 ∧ (toMat n n (densityMatrix n k G)).PosSemidef := by
  rw [toMat_densityMatrix]
  have htr' : (toMat n k G * (toMat n k G)ᴴ).trace ≠ 0 := by rwa [← toMat_gram, ← traceN_eq]
  constructor
  · rw [trace_smul, smul_eq_mul, inv_mul_cancel₀ htr']
  · have h := Matrix.posSemidef_self_mul_conjTranspose (toMat n k G)
    exact h.smul (inv_nonneg.2 h.trace_nonneg)

/-- `rand_povm`: with the `eigh` contract for `S = Σ_s B_s B_sᴴ` (the matrix `povmSum`, which the tie compares with the array handed to
`np.linalg.eigh`), the returned operators resolve the identity and each is positive semidefinite -/
theorem povm_valid (n m : Nat) (B : Nat → Nat → Nat → ℂ) (V : Nat → Nat → ℂ) (lam : Nat → ℝ)
    (hV : (toMat n n V)ᴴ * toMat n n V = 1) (hV' : toMat n n V * (toMat n n V)ᴴ = 1) (hpos : ∀ a, a < n → 0 < lam a)
    (hS : toMat n n (povmSum n m B) = toMat n n V * Matrix.diagonal (fun a : Fin n => ((lam a.val : ℝ) : ℂ)) * (toMat n n V)ᴴ) :
    (∑ s : Fin m, toMat n n (povm n B V (fun a => (lam a : ℂ)) s.val)) = 1 ∧
      ∀ s, (toMat n n (povm n B V (fun a => (lam a : ℂ)) s)).PosSemidef := by
  constructor
  · simp only [toMat_povm]
    rw [← Finset.sum_mul, ← Finset.mul_sum, ← toMat_povmSum]
    exact invSqrt_contract n V lam _ hV hV' hpos hS
  · intro s
    rw [toMat_povm]
    have h := (Matrix.posSemidef_self_mul_conjTranspose (toMat n n (B s))).mul_mul_conjTranspose_same
      (toMat n n (invSqrtMat n V fun a => (lam a : ℂ)))
    rwa [invSqrtMat_hermitian] at h

/-- `rand_kraus_op`: with `W = V·diag(√λ)`, the `eigh` contract `Σ_s Z_sᴴ Z_s = W Wᴴ` and the `inv` contract `M⁻¹ W = 1`
(`Minv` is the captured output of `np.linalg.inv`), the returned set `K_s = Z_s (M⁻¹)ᴴ` is complete -/
theorem kraus_valid (N dout din : Nat) (Z : Nat → Nat → Nat → ℂ) (Minv : Nat → Nat → ℂ) (W : Matrix (Fin din) (Fin din) ℂ)
    (hS : ∑ s : Fin N, (toMat dout din (Z s.val))ᴴ * toMat dout din (Z s.val) = W * Wᴴ) (hinv : toMat din din Minv * W = 1) :
    ∑ s : Fin N, (toMat dout din (krausOut din Z Minv s.val))ᴴ * toMat dout din (krausOut din Z Minv s.val) = 1 := by
  simp only [toMat_krausOut, conjTranspose_mul, conjTranspose_conjTranspose]
  have : ∀ s : Fin N, toMat din din Minv * (toMat dout din (Z s.val))ᴴ * (toMat dout din (Z s.val) * (toMat din din Minv)ᴴ)
      = toMat din din Minv * ((toMat dout din (Z s.val))ᴴ * toMat dout din (Z s.val)) * (toMat din din Minv)ᴴ := by
    intro s; simp only [Matrix.mul_assoc]
  rw [Finset.sum_congr rfl fun s _ => this s, ← Finset.sum_mul, ← Finset.mul_sum, hS]
  have : toMat din din Minv * (W * Wᴴ) * (toMat din din Minv)ᴴ = (toMat din din Minv * W) * (toMat din din Minv * W)ᴴ := by
    rw [conjTranspose_mul]; simp only [Matrix.mul_assoc]
  rw [this, hinv]; simp

/-- `rand_hermitian_matrix(eig=…)`: `(EVC * EVL) @ EVCᴴ` is Hermitian for real `EVL` -/
theorem hermitian_valid (n : Nat) (V : Nat → Nat → ℂ) (lam : Nat → ℝ) :
    (toMat n n (hermEig n V fun a => (lam a : ℂ))).IsHermitian := hermEig_hermitian n V lam

/-- `rand_choi_op`: the partial trace over the output of the returned operator is `Tᴴ · Tr_out(np0) · T`; with the contract of the
inverse square root (`T` Hermitian, `T · Tr_out(np0) · T = 1`, see `invSqrt_contract`) it is the identity: trace preserving -/
theorem choi_valid (din dout r : Nat) (G T : Nat → Nat → ℂ) (hT : ∀ i j, conj (T i j) = T j i)
    (hc : ∀ i j, i < din → j < din →
      (sumR din fun k => sumR din fun l => T i k * choiPT din dout r G k l * T l j) = if i = j then 1 else 0)
    (i j : Nat) (hi : i < din) (hj : j < din) :
    sumR dout (fun a => choiOut din dout r G T (i * dout + a) (j * dout + a)) = if i = j then 1 else 0 := by
  rw [choiOut_partial_trace, ← hc i j hi hj]
  simp only [hT]

/-- `rand_adjacent_matrix`: symmetric, zero diagonal, entries in `{0,1}` for draws in `{0,1}` -/
theorem adjacency_valid (D : Nat → Nat → Nat) (hD : ∀ i j, D i j ≤ 1) (i j : Nat) :
    adjacency D i j = adjacency D j i ∧ adjacency D i i = 0 ∧ adjacency D i j ≤ 1 :=
  ⟨adjacency_symm D i j, adjacency_diag D i, adjacency_le_one D hD i j⟩

/-- `rand_F2`: the array returned is the first raw draw that is not rejected; with `not_zero` it is not all-zero, with `not_one` not all-one
— **both** when both flags are set — and every earlier draw was rejected -/
theorem rand_F2_valid (nz no : Bool) (draws : List (List Nat)) (r : List Nat) (k : Nat) (h : f2Result nz no draws = some (r, k)) :
    (nz = true → ¬ (r.all (· == 0) = true)) ∧ (no = true → ¬ (r.all (· == 1) = true)) ∧ draws[k - 1]? = some r := by
  obtain ⟨h1, _, h3, _⟩ := f2Result_spec nz no draws r k h
  simp only [f2Rejected, Bool.or_eq_false_iff, Bool.and_eq_false_iff] at h1
  refine ⟨?_, ?_, h3⟩
  · intro hz hall; rcases h1.1 with h | h <;> simp_all
  · intro ho hall; rcases h1.2 with h | h <;> simp_all

/-- the hypotheses are satisfiable: the identity is unitary, so its sign-fixed version is -/
example : toMat 2 2 (signFix (fun i j => if i = j then 1 else 0) fun _ => -3) ∈ Matrix.unitaryGroup (Fin 2) ℂ := by
  apply haar_unitary_signFix
  have : toMat 2 2 (fun i j => if i = j then (1 : ℂ) else 0) = 1 := by
    ext i j; simp [toMat, Matrix.one_apply, Fin.ext_iff]
  rw [this]; exact Submonoid.one_mem _

end validity

end Numqi.C10
