/-
C01 — every trivialization map lands on its manifold.

Property theorems with their proofs; what several of them share is in `NumqiProofs/Manifold*.lean`.  All statements are about the
constants of `NumqiModel/Manifold.lean` that `Driver/C01.lean` executes, instantiated at `α = ℝ`, `K = ℂ`
(`Transc ℝ` = the real `sqrt exp log sin cos`, `CxOps ℝ ℂ` = the complex numbers).  `toM m n A` is the `m × n` data matrix `A`
as a Mathlib matrix.  Every theorem is for **all** dimensions / ranks / orders and all parameter vectors `θ : ℕ → ℝ`,
except for the guards written as hypotheses (`θ ≠ 0` for the quotient maps, full column rank for polar/qr).
External routines (`expm`, `inv`, `cholesky`, inverse square root, `qr`) are parameters; their contracts are hypotheses.

`det = 1` for the SU(d) exp chart goes through the spectral theorem.
-/
import NumqiProofs.ManifoldEnsemble
import NumqiProofs.ManifoldSym
import NumqiProofs.ManifoldEuler
import NumqiProofs.ManifoldDetExp
import NumqiProofs.ManifoldABk
import NumqiProofs.ManifoldSeparable
import NumqiProofs.ManifoldContracts

namespace Numqi.C01
open Numqi Numqi.Manifold Matrix Finset
open Numqi.Gellmann (Scalars complexScalars complexScalars_valid)
open scoped ComplexOrder
local notation "mexp" => NormedSpace.exp

variable {dim rank : Nat}

/-! ### scalars and vectors -/

/-- `to_positive_real_softplus(θ) > 0` -/
theorem softplus_pos (x : ℝ) : 0 < softplus x := softplus_pos' x

/-- `to_positive_real_exp(θ) > 0` -/
theorem expMap_pos (x : ℝ) : 0 < expMap x := Real.exp_pos x

/-- `to_open_interval(θ, l, u) ∈ (l, u)` for `l < u` -/
theorem openInterval_mem (θ l u : ℝ) (h : l < u) : l < openInterval θ l u ∧ openInterval θ l u < u := by
  obtain ⟨h0, h1⟩ := sigmoid_mem θ
  have hd : 0 < u - l := sub_pos.2 h
  unfold openInterval
  exact ⟨by linarith [mul_pos h0 hd], by linarith [mul_lt_mul_of_pos_right h1 hd]⟩

/-- `to_ball` (real): `‖x‖² < 1` for every θ -/
theorem ball_real_norm_lt_one (n : Nat) (θ : Nat → ℝ) : ∑ i ∈ range n, ballVec n θ i * ballVec n θ i < 1 :=
  ball_normSq n θ

/-- `to_ball` (complex, `2h` parameters paired as `x[:h] + i x[h:]`): `Σ|z_j|² < 1` -/
theorem ball_complex_norm_lt_one (h : Nat) (θ : Nat → ℝ) :
    ∑ j ∈ range h, Complex.normSq (pairCx (K := ℂ) h (ballVec (h + h) θ) j) < 1 := by
  rw [pairCx_normSq]; exact ball_normSq (h + h) θ

/-- `to_sphere_quotient` (real): unit norm for θ ≠ 0 -/
theorem sphereQuotient_real_norm (n : Nat) (θ : Nat → ℝ) (hθ : normSq n θ ≠ 0) :
    ∑ i ∈ range n, sphereQuotientVec n θ i * sphereQuotientVec n θ i = 1 :=
  sphereQuotient_normSq n θ hθ

/-- `to_sphere_quotient` (complex) -/
theorem sphereQuotient_complex_norm (h : Nat) (θ : Nat → ℝ) (hθ : normSq (h + h) θ ≠ 0) :
    ∑ j ∈ range h, Complex.normSq (pairCx (K := ℂ) h (sphereQuotientVec (h + h) θ) j) = 1 := by
  rw [pairCx_normSq]; exact sphereQuotient_normSq (h + h) θ hθ

/-- `to_sphere_coordinate` (real, `n` angles ↦ `n+1` coordinates): unit norm for **every** θ -/
theorem sphereCoordinate_real_norm (n : Nat) (θ : Nat → ℝ) :
    ∑ i ∈ range (n + 1), sphereCoordVec n θ i * sphereCoordVec n θ i = 1 :=
  sphereCoord_normSq n θ

/-- `to_sphere_coordinate` (complex, `2h-1` angles ↦ `h` complex coordinates) -/
theorem sphereCoordinate_complex_norm (h : Nat) (hh : 1 ≤ h) (θ : Nat → ℝ) :
    ∑ j ∈ range h, Complex.normSq (pairCx (K := ℂ) h (sphereCoordVec (h + h - 1) θ) j) = 1 := by
  rw [pairCx_normSq]
  have : h + h = (h + h - 1) + 1 := by omega
  rw [this]; exact sphereCoord_normSq _ θ

/-- `to_discrete_probability_softmax`: positive entries … -/
theorem softmax_pos (n : Nat) (θ : Nat → ℝ) (hn : 0 < n) (i : Nat) : 0 < softmaxVec n θ i := by
  unfold softmaxVec
  simp only [exp_eq, sumRange_eq]
  apply div_pos (Real.exp_pos _)
  exact Finset.sum_pos (fun j _ => Real.exp_pos _) ⟨0, Finset.mem_range.2 hn⟩
/-- … summing to one -/
theorem softmax_sum (n : Nat) (θ : Nat → ℝ) (hn : 0 < n) : ∑ i ∈ range n, softmaxVec n θ i = 1 := softmax_sum' n θ hn

/-- `to_discrete_probability_sphere`: non-negative entries … -/
theorem probSphere_nonneg (n : Nat) (θ : Nat → ℝ) (i : Nat) : 0 ≤ probSphereVec n θ i := mul_self_nonneg _
/-- … summing to one (θ ≠ 0) -/
theorem probSphere_sum (n : Nat) (θ : Nat → ℝ) (hθ : normSq n θ ≠ 0) : ∑ i ∈ range n, probSphereVec n θ i = 1 :=
  sphereQuotient_normSq n θ hθ

/-- `DiscreteProbability(weight=w)`: the output `p_i / w_i` lies on the weighted simplex `Σ w_i q_i = 1` (softmax; any non-zero weights) -/
theorem weighted_softmax_sum (n : Nat) (θ w : Nat → ℝ) (hn : 0 < n) (hw : ∀ i, i < n → w i ≠ 0) :
    ∑ i ∈ range n, w i * weightedProb (softmaxVec n θ) w i = 1 := by
  rw [weightedProb_sum n _ w hw]; exact softmax_sum' n θ hn
/-- … same for the sphere method (θ ≠ 0) … -/
theorem weighted_probSphere_sum (n : Nat) (θ w : Nat → ℝ) (hθ : normSq n θ ≠ 0) (hw : ∀ i, i < n → w i ≠ 0) :
    ∑ i ∈ range n, w i * weightedProb (probSphereVec n θ) w i = 1 := by
  rw [weightedProb_sum n _ w hw]; exact probSphere_sum n θ hθ
/-- … with non-negative entries for positive weights -/
theorem weighted_prob_nonneg (p w : Nat → ℝ) (i : Nat) (hp : 0 ≤ p i) (hw : 0 < w i) : 0 ≤ weightedProb p w i := by
  unfold weightedProb; positivity

/-! ### trace-one positive semidefinite matrices -/

theorem psdCholesky_hermitian (isReal : Bool) (θ : Nat → ℝ) :
    (toM dim dim (psdCholesky (K := ℂ) dim rank isReal θ)).IsHermitian := by
  rw [toM_psdCholesky]; exact Matrix.isHermitian_mul_conjTranspose_self _
theorem psdCholesky_posSemidef (isReal : Bool) (θ : Nat → ℝ) :
    (toM dim dim (psdCholesky (K := ℂ) dim rank isReal θ)).PosSemidef := by
  rw [toM_psdCholesky]; exact Matrix.posSemidef_self_mul_conjTranspose _
/-- trace one for every θ (the softplus diagonal makes the normaliser non-zero) -/
theorem psdCholesky_trace_one (isReal : Bool) (θ : Nat → ℝ) (hr : 1 ≤ rank) (h : rank ≤ dim) :
    trace (toM dim dim (psdCholesky (K := ℂ) dim rank isReal θ)) = 1 := by
  rw [toM_psdCholesky, trace_mul_conjTranspose_self]
  exact_mod_cast psdCholFactor_normSq isReal θ hr h
theorem psdCholesky_rank_le (isReal : Bool) (θ : Nat → ℝ) :
    Matrix.rank (toM dim dim (psdCholesky (K := ℂ) dim rank isReal θ)) ≤ rank := by
  rw [toM_psdCholesky]
  exact (Matrix.rank_mul_le_left _ _).trans (Matrix.rank_le_width _)

/-- `to_trace1_psd_ensemble`: Hermitian positive semidefinite for every θ -/
theorem psdEnsemble_posSemidef (isReal : Bool) (θ : Nat → ℝ) (hr : 0 < rank) :
    (toM dim dim (psdEnsemble (K := ℂ) dim rank isReal θ)).PosSemidef := by
  rw [toM_psdEnsemble]
  apply Matrix.posSemidef_sum
  intro k _
  apply Matrix.PosSemidef.smul (Matrix.posSemidef_vecMulVec_self_star _)
  exact Complex.zero_le_real.2 (le_of_lt (softmax_pos rank θ hr k.val))
/-- trace one when every state block of θ is non-zero -/
theorem psdEnsemble_trace_one (isReal : Bool) (θ : Nat → ℝ) (hr : 0 < rank)
    (hθ : ∀ k : Fin rank, normSq (if isReal then dim else 2 * dim)
      (fun q => θ (rank + k.val * (if isReal then dim else 2 * dim) + q)) ≠ 0) :
    trace (toM dim dim (psdEnsemble (K := ℂ) dim rank isReal θ)) = 1 := by
  rw [toM_psdEnsemble, trace_sum]
  have h1 : ∀ k : Fin rank, trace (((ensP rank θ k : ℝ) : ℂ) • vecMulVec (ensPsi dim rank isReal θ k) (star (ensPsi dim rank isReal θ k)))
      = ((ensP rank θ k : ℝ) : ℂ) := by
    intro k
    rw [trace_smul, smul_eq_mul]
    have : trace (vecMulVec (ensPsi dim rank isReal θ k) (star (ensPsi dim rank isReal θ k))) = 1 := by
      simp only [trace, diag_apply, vecMulVec_apply, Pi.star_apply]
      have := ensPsi_normSq isReal θ k (hθ k)
      rw [← Complex.ofReal_one, ← this, Complex.ofReal_sum]
      refine Finset.sum_congr rfl (fun i _ => ?_)
      rw [Complex.star_def, Complex.mul_conj]
    rw [this, mul_one]
  simp only [h1]
  rw [← Complex.ofReal_sum, ← Complex.ofReal_one]
  congr 1
  have := softmax_sum' rank θ hr
  rw [Finset.sum_range] at this
  exact this
theorem psdEnsemble_rank_le (isReal : Bool) (θ : Nat → ℝ) :
    Matrix.rank (toM dim dim (psdEnsemble (K := ℂ) dim rank isReal θ)) ≤ rank := by
  have : toM dim dim (psdEnsemble (K := ℂ) dim rank isReal θ)
      = (Matrix.of fun (i : Fin dim) (k : Fin rank) => ((ensP rank θ k : ℝ) : ℂ) * ensPsi dim rank isReal θ k i)
        * (Matrix.of fun (k : Fin rank) (j : Fin dim) => star (ensPsi dim rank isReal θ k j)) := by
    rw [toM_psdEnsemble]
    ext i j
    simp [Matrix.sum_apply, Matrix.mul_apply, vecMulVec_apply, mul_assoc]
  rw [this]
  exact (Matrix.rank_mul_le_left _ _).trans (Matrix.rank_le_width _)

/-! ### symmetric / Hermitian matrices -/

/-- all four placements (real/complex × full/traceless) give a Hermitian matrix -/
theorem symmetric_hermitian (S : Scalars ℂ) (hS : S.Valid dim) (hd : 1 ≤ dim) (isReal isTrace0 : Bool) (θ : Nat → ℝ) :
    (toM dim dim (symmetricRaw S dim isReal isTrace0 θ))ᴴ = toM dim dim (symmetricRaw S dim isReal isTrace0 θ) := by
  cases isTrace0
  · -- full placements: the entries are written out
    ext r c
    simp only [conjTranspose_apply, toM, Matrix.of_apply]
    rcases lt_trichotomy r.val c.val with h | h | h
    · cases isReal <;> simp [symmetricRaw, NMat.get_ofFn_fin, CxOps.ofReal, CxOps.I, h, h.not_gt]
    · cases isReal <;> simp [symmetricRaw, NMat.get_ofFn_fin, CxOps.ofReal, h]
    · cases isReal <;> simp [symmetricRaw, NMat.get_ofFn_fin, CxOps.ofReal, CxOps.I, h, h.not_gt]
  · -- traceless placements: the Gell-Mann synthesis of a real coefficient vector is Hermitian
    cases isReal
    · rw [toM_symmetricRaw_traceless_complex]
      exact Gellmann.synthesis_hermitian S hS hd (genVecC dim θ) (fun a _ => genVecC_real θ a)
    · rw [toM_symmetricRaw_traceless_real]
      ext r c
      have := congrArg Complex.re (congrFun (congrFun (Gellmann.synthesis_hermitian S hS hd (symVecR dim θ) (fun a _ => symVecR_real θ a)) r) c)
      simp only [conjTranspose_apply, Matrix.of_apply, Complex.star_def, Complex.conj_re] at this
      simp only [conjTranspose_apply, Matrix.of_apply, Complex.star_def, Complex.conj_ofReal, this]
/-- `is_trace0` ⇒ trace zero -/
theorem symmetric_trace_zero (S : Scalars ℂ) (hd : 1 ≤ dim) (isReal : Bool) (θ : Nat → ℝ) :
    trace (toM dim dim (symmetricRaw S dim isReal true θ)) = 0 := by
  cases isReal
  · rw [toM_symmetricRaw_traceless_complex, Gellmann.synthesis_trace S hd]
    simp [genVecC]
  · have := Gellmann.synthesis_trace S hd (symVecR dim θ)
    rw [symVecR_last θ hd, zero_mul] at this
    rw [toM_symmetricRaw_traceless_real]
    simp only [trace, diag_apply, Matrix.of_apply] at this ⊢
    rw [← Complex.ofReal_sum, ← Complex.re_sum, this]; simp
/-- `is_norm1` ⇒ Frobenius norm one (raw matrix non-zero) -/
theorem symmetric_norm_one (S : Scalars ℂ) (isReal isTrace0 : Bool) (θ : Nat → ℝ)
    (hne : frobSq dim dim (symmetricRaw S dim isReal isTrace0 θ) ≠ 0) :
    frobSq dim dim (symmetricMatrix S dim isReal isTrace0 true θ) = 1 := by
  unfold symmetricMatrix; simp only [if_true]
  exact frobSq_divReal dim dim _ hne

/-- the final output (with or without `is_norm1`) is Hermitian … -/
theorem symmetricMatrix_hermitian (S : Scalars ℂ) (hS : S.Valid dim) (hd : 1 ≤ dim) (isReal isTrace0 isNorm1 : Bool) (θ : Nat → ℝ) :
    (toM dim dim (symmetricMatrix S dim isReal isTrace0 isNorm1 θ))ᴴ = toM dim dim (symmetricMatrix S dim isReal isTrace0 isNorm1 θ) := by
  unfold symmetricMatrix
  simp only []
  split_ifs
  · rw [toM_divReal, conjTranspose_smul, symmetric_hermitian S hS hd]; simp
  · exact symmetric_hermitian S hS hd isReal isTrace0 θ
/-- … and traceless when requested -/
theorem symmetricMatrix_trace_zero (S : Scalars ℂ) (hd : 1 ≤ dim) (isReal isNorm1 : Bool) (θ : Nat → ℝ) :
    trace (toM dim dim (symmetricMatrix S dim isReal true isNorm1 θ)) = 0 := by
  unfold symmetricMatrix
  simp only []
  split_ifs
  · rw [toM_divReal, trace_smul, symmetric_trace_zero S hd, smul_zero]
  · exact symmetric_trace_zero S hd isReal θ

/-! ### special orthogonal / unitary -/

/-- the generator (θ placed in the antisymmetric block / `i`·Hermitian traceless block) is skew-Hermitian -/
theorem soGenerator_skewHermitian (S : Scalars ℂ) (hS : S.Valid dim) (hd : 1 ≤ dim) (isReal : Bool) (θ : Nat → ℝ) :
    (toM dim dim (soGenerator S dim isReal θ))ᴴ = -toM dim dim (soGenerator S dim isReal θ) :=
  soGenerator_skew S hS hd isReal θ
/-- real branch: real entries, antisymmetric -/
theorem soGenerator_real (S : Scalars ℂ) (hS : S.Valid dim) (hd : 1 ≤ dim) (θ : Nat → ℝ) :
    (toM dim dim (soGenerator S dim true θ))ᵀ = -toM dim dim (soGenerator S dim true θ)
      ∧ ∀ r c, (toM dim dim (soGenerator S dim true θ) r c).im = 0 :=
  ⟨soGenerator_real_transpose S hS hd θ, soGenerator_real_entries S θ⟩
/-- complex branch: traceless -/
theorem soGenerator_traceless (S : Scalars ℂ) (hd : 1 ≤ dim) (θ : Nat → ℝ) :
    trace (toM dim dim (soGenerator S dim false θ)) = 0 := by
  rw [toM_soGenerator_complex, trace_smul, Gellmann.synthesis_trace S hd]
  simp [genVecC]

/-- `to_special_orthogonal_exp` is unitary for every θ (contract: `expm` is the matrix exponential) -/
theorem soExp_unitary (expm : NMat ℂ → NMat ℂ) (hexp : ∀ A, toM dim dim (expm A) = mexp (toM dim dim A))
    (S : Scalars ℂ) (hS : S.Valid dim) (hd : 1 ≤ dim) (isReal : Bool) (θ : Nat → ℝ) :
    (toM dim dim (soExp expm S dim isReal θ))ᴴ * toM dim dim (soExp expm S dim isReal θ) = 1 := by
  unfold soExp; rw [hexp]
  exact exp_unitary_of_skew _ (soGenerator_skew S hS hd isReal θ)
/-- real branch: determinant one -/
theorem soExp_real_det_one (expm : NMat ℂ → NMat ℂ) (hexp : ∀ A, toM dim dim (expm A) = mexp (toM dim dim A))
    (S : Scalars ℂ) (hS : S.Valid dim) (hd : 1 ≤ dim) (θ : Nat → ℝ) :
    (toM dim dim (soExp expm S dim true θ)).det = 1 := by
  unfold soExp; rw [hexp]
  exact det_exp_of_transpose_neg _ (soGenerator_real S hS hd θ).1

/-- complex branch (SU(d) chart): **determinant one** — by unitary diagonalisation of the Hermitian `-i·generator`
(spectral theorem) and `exp (U D U⁻¹) = U exp(D) U⁻¹`, `det = Π exp(iλ_k) = exp(i·tr H) = 1` for the traceless generator. -/
theorem soExp_complex_det_one (expm : NMat ℂ → NMat ℂ) (hexp : ∀ A, toM dim dim (expm A) = mexp (toM dim dim A))
    (S : Scalars ℂ) (hS : S.Valid dim) (hd : 1 ≤ dim) (θ : Nat → ℝ) :
    (toM dim dim (soExp expm S dim false θ)).det = 1 := by
  unfold soExp; rw [hexp]
  exact det_exp_of_skew_traceless _ (soGenerator_skew S hS hd false θ) (soGenerator_traceless S hd θ)

/-- `to_special_orthogonal_cayley` is unitary for every θ and every order (contract: `inv` is a left inverse on invertible
input; `1 + A` is proved invertible) -/
theorem soCayley_unitary (inv : NMat ℂ → NMat ℂ)
    (hinv : ∀ P, IsUnit (toM dim dim P).det → toM dim dim (inv P) * toM dim dim P = 1)
    (S : Scalars ℂ) (hS : S.Valid dim) (hd : 1 ≤ dim) (order : Nat) (isReal : Bool) (θ : Nat → ℝ) :
    (toM dim dim (soCayley inv S dim order isReal θ))ᴴ * toM dim dim (soCayley inv S dim order isReal θ) = 1 := by
  obtain ⟨Pinv, hP, e⟩ := toM_soCayley inv hinv S hS hd order isReal θ
  rw [e]
  exact pow_unitary _ (cayley_unitary _ _ (soGenerator_skew S hS hd isReal θ) hP) _
/-- real branch: determinant one -/
theorem soCayley_real_det_one (inv : NMat ℂ → NMat ℂ)
    (hinv : ∀ P, IsUnit (toM dim dim P).det → toM dim dim (inv P) * toM dim dim P = 1)
    (S : Scalars ℂ) (hS : S.Valid dim) (hd : 1 ≤ dim) (order : Nat) (θ : Nat → ℝ) :
    (toM dim dim (soCayley inv S dim order true θ)).det = 1 := by
  obtain ⟨Pinv, hP, e⟩ := toM_soCayley inv hinv S hS hd order true θ
  rw [e, det_pow, cayley_det_one _ _ (soGenerator_real S hS hd θ).1 hP, one_pow]

/-! ### Stiefel -/

/-- `to_stiefel_choleskyL`: orthonormal columns for **every** θ (the pre-factor is proved to have full column rank);
contracts: `chol G · (chol G)ᴴ = G` on positive definite `G`, `inv` a left inverse on invertible input -/
theorem stiefelCholL_orthonormal (chol inv : NMat ℂ → NMat ℂ)
    (hchol : ∀ G, (toM rank rank G).PosDef → toM rank rank (chol G) * (toM rank rank (chol G))ᴴ = toM rank rank G)
    (hinv : ∀ P, IsUnit (toM rank rank P).det → toM rank rank (inv P) * toM rank rank P = 1)
    (isReal : Bool) (θ : Nat → ℝ) (h : rank ≤ dim) :
    (toM dim rank (stiefelCholL chol inv dim rank isReal θ))ᴴ * toM dim rank (stiefelCholL chol inv dim rank isReal θ) = 1 := by
  unfold stiefelCholL
  simp only []
  set L := cholLMat (K := ℂ) dim rank isReal θ with hL
  set G := matMul rank dim rank (conjT dim rank L) L with hG
  have hpd : (toM rank rank G).PosDef := gram_posDef L (cholLMat_injective isReal θ h)
  have hC := hchol G hpd
  have hdet : IsUnit (toM rank rank (conjT rank rank (chol G))).det := by
    rw [toM_conjT, det_conjTranspose]
    have hu : IsUnit (toM rank rank G).det := (Matrix.isUnit_iff_isUnit_det _).1 (Matrix.PosDef.isUnit hpd)
    rw [← hC, det_mul, det_conjTranspose] at hu
    exact (isUnit_of_mul_isUnit_left hu).star
  have hR := hinv _ hdet
  rw [toM_conjT] at hR
  rw [toM_matMul]
  exact stiefel_cholL_contract _ _ _ (by rw [hC, toM_gram]) hR

/-- `to_stiefel_polar` (`rank ≥ 2`): orthonormal columns when the parameter matrix has full column rank;
contract: `S = invSqrt G` is Hermitian with `S G S = 1` on positive definite `G` -/
theorem stiefelPolar_orthonormal (invSqrt : NMat ℂ → NMat ℂ)
    (hsq : ∀ G, (toM rank rank G).PosDef →
      (toM rank rank (invSqrt G))ᴴ = toM rank rank (invSqrt G) ∧
      toM rank rank (invSqrt G) * toM rank rank G * toM rank rank (invSqrt G) = 1)
    (isReal : Bool) (θ : Nat → ℝ) (hr : rank ≠ 1)
    (hfull : Function.Injective (toM dim rank (stiefelMat (K := ℂ) dim rank isReal θ)).mulVec) :
    (toM dim rank (stiefelPolar invSqrt dim rank isReal θ))ᴴ * toM dim rank (stiefelPolar invSqrt dim rank isReal θ) = 1 := by
  unfold stiefelPolar
  simp only [if_neg hr]
  obtain ⟨h1, h2⟩ := hsq _ (gram_posDef _ hfull)
  rw [toM_matMul]
  exact stiefel_polar_contract _ _ h1 (by rw [← toM_gram]; exact h2)
/-- `rank = 1` branch: unit vector (θ ≠ 0) -/
theorem stiefelPolar_rank_one (invSqrt : NMat ℂ → NMat ℂ) (isReal : Bool) (θ : Nat → ℝ)
    (hne : frobSq dim 1 (stiefelMat (K := ℂ) dim 1 isReal θ) ≠ 0) :
    frobSq dim 1 (stiefelPolar invSqrt dim 1 isReal θ) = 1 := by
  unfold stiefelPolar; simp only [if_true]
  exact frobSq_divReal dim 1 _ hne

/-- `to_stiefel_qr`: the property is the contract of `qr` on the reshaped parameter matrix -/
theorem stiefelQR_orthonormal (qrQ : NMat ℂ → NMat ℂ)
    (hqr : ∀ M, Function.Injective (toM dim rank M).mulVec → (toM dim rank (qrQ M))ᴴ * toM dim rank (qrQ M) = 1)
    (isReal : Bool) (θ : Nat → ℝ)
    (hfull : Function.Injective (toM dim rank (stiefelMat (K := ℂ) dim rank isReal θ)).mulVec) :
    (toM dim rank (stiefelQR qrQ dim rank isReal θ))ᴴ * toM dim rank (stiefelQR qrQ dim rank isReal θ) = 1 :=
  hqr _ hfull

/-- `Stiefel(method='so-exp' | 'so-cayley')`: the first `rank` columns of the (unitary) SO/SU chart are orthonormal -/
theorem stiefelSO_orthonormal (rank : Nat) (h : rank ≤ dim) (U : NMat ℂ) (hU : (toM dim dim U)ᴴ * toM dim dim U = 1) :
    (toM dim rank (soColumns dim rank U))ᴴ * toM dim rank (soColumns dim rank U) = 1 := by
  ext c1 c2
  have := congrFun (congrFun hU ⟨c1.val, lt_of_lt_of_le c1.isLt h⟩) ⟨c2.val, lt_of_lt_of_le c2.isLt h⟩
  simp only [Matrix.mul_apply, conjTranspose_apply, toM, Matrix.of_apply, Matrix.one_apply, Fin.mk.injEq] at this ⊢
  simp only [soColumns, NMat.get_ofFn_fin, Fin.ext_iff]
  exact this

/-- `Stiefel(method='so-exp')()` — the composite that op `stso … exp` executes — has orthonormal columns for every θ -/
theorem stiefelSO_exp_orthonormal (rank : Nat) (h : rank ≤ dim) (expm : NMat ℂ → NMat ℂ) (hexp : ∀ A, toM dim dim (expm A) = mexp (toM dim dim A))
    (S : Scalars ℂ) (hS : S.Valid dim) (hd : 1 ≤ dim) (isReal : Bool) (θ : Nat → ℝ) :
    (toM dim rank (soColumns dim rank (soExp expm S dim isReal θ)))ᴴ * toM dim rank (soColumns dim rank (soExp expm S dim isReal θ)) = 1 :=
  stiefelSO_orthonormal rank h _ (soExp_unitary expm hexp S hS hd isReal θ)
/-- `Stiefel(method='so-cayley')()` (Cayley order 2, the default used by `Stiefel.forward`; any order) likewise -/
theorem stiefelSO_cayley_orthonormal (rank : Nat) (h : rank ≤ dim) (inv : NMat ℂ → NMat ℂ)
    (hinv : ∀ P, IsUnit (toM dim dim P).det → toM dim dim (inv P) * toM dim dim P = 1)
    (S : Scalars ℂ) (hS : S.Valid dim) (hd : 1 ≤ dim) (order : Nat) (isReal : Bool) (θ : Nat → ℝ) :
    (toM dim rank (soColumns dim rank (soCayley inv S dim order isReal θ)))ᴴ * toM dim rank (soColumns dim rank (soCayley inv S dim order isReal θ)) = 1 :=
  stiefelSO_orthonormal rank h _ (soCayley_unitary inv hinv S hS hd order isReal θ)

/-! ### compositions -/

/-- `QuantumChannel` (`kraus`): `Σ_s K_sᴴ K_s = XᴴX`, the identity when `X` is on the Stiefel manifold -/
theorem kraus_complete (dimIn dimOut choiRank : Nat) (X : NMat ℂ)
    (hX : (toM (choiRank * dimOut) dimIn X)ᴴ * toM (choiRank * dimOut) dimIn X = 1) (i j : Fin dimIn) :
    ∑ s : Fin choiRank, ∑ o : Fin dimOut, star (krausOfStiefel dimOut X s.val o.val i.val) * krausOfStiefel dimOut X s.val o.val j.val
      = if i = j then 1 else 0 := by
  rw [kraus_complete', hX, Matrix.one_apply]

/-- `QuantumChannel` (`choi`): positive semidefinite … -/
theorem choi_posSemidef (dimIn dimOut choiRank : Nat) (Ks : Nat → Nat → Nat → ℂ) :
    (Matrix.of fun (a b : Fin dimOut × Fin dimIn) => choiOfKraus choiRank Ks a.1.val a.2.val b.1.val b.2.val).PosSemidef := by
  have : (Matrix.of fun (a b : Fin dimOut × Fin dimIn) => choiOfKraus choiRank Ks a.1.val a.2.val b.1.val b.2.val)
      = (Matrix.of fun (a : Fin dimOut × Fin dimIn) (s : Fin choiRank) => Ks s.val a.1.val a.2.val)
        * (Matrix.of fun (a : Fin dimOut × Fin dimIn) (s : Fin choiRank) => Ks s.val a.1.val a.2.val)ᴴ := by
    ext a b
    simp [choiOfKraus, sumK_eq, Matrix.mul_apply, CxOps.conj]
  rw [this]; exact Matrix.posSemidef_self_mul_conjTranspose _
/-- … and trace preserving -/
theorem choi_trace_preserving (dimIn dimOut choiRank : Nat) (X : NMat ℂ)
    (hX : (toM (choiRank * dimOut) dimIn X)ᴴ * toM (choiRank * dimOut) dimIn X = 1) (i i' : Fin dimIn) :
    ∑ o : Fin dimOut, choiOfKraus choiRank (krausOfStiefel dimOut X) o.val i.val o.val i'.val = if i = i' then 1 else 0 := by
  rw [choi_partial_trace', hX, Matrix.one_apply]; split_ifs <;> simp

/-- `SeparableDensityMatrix`: the output is by construction `Σ_k p_k (a_k a_kᴴ) ⊗ (b_k b_kᴴ)` -/
theorem separable_is_mixture (n : Nat) (p : Nat → ℂ) (a b : NMat ℂ) (i j i' j' : Nat) :
    separableDM n p a b i j i' j'
      = ∑ k : Fin n, p k.val * (a.get k.val i * star (a.get k.val i')) * (b.get k.val j * star (b.get k.val j')) :=
  separableDM_eq n p a b i j i' j'

/-- `SeparableDensityMatrix()` has **unit trace** when the weights sum to one and every `a_k`, `b_k` is a unit vector … -/
theorem separable_trace_one (n dA dB : Nat) (p : Nat → ℂ) (a b : NMat ℂ)
    (hA : ∀ k, k < n → ∑ i : Fin dA, a.get k i.val * star (a.get k i.val) = 1)
    (hB : ∀ k, k < n → ∑ j : Fin dB, b.get k j.val * star (b.get k j.val) = 1)
    (hp : ∑ k : Fin n, p k.val = 1) :
    ∑ i : Fin dA, ∑ j : Fin dB, separableDM n p a b i.val j.val i.val j.val = 1 := separableDM_trace n dA dB p a b hA hB hp
/-- … and is **positive semidefinite** for non-negative weights: `vᴴ ρ v = Σ_k p_k |⟨v, a_k ⊗ b_k⟩|²` is a non-negative real for every `v` -/
theorem separable_posSemidef (n dA dB : Nat) (p : Nat → ℝ) (hp : ∀ k, 0 ≤ p k) (a b : NMat ℂ) (v : Fin dA × Fin dB → ℂ) :
    ∃ q : ℝ, 0 ≤ q ∧ ∑ x : Fin dA × Fin dB, ∑ y : Fin dA × Fin dB,
      star (v x) * separableDM n (fun k => ((p k : ℝ) : ℂ)) a b x.1.val x.2.val y.1.val y.2.val * v y = (q : ℂ) := by
  refine ⟨∑ k : Fin n, p k.val * Complex.normSq (∑ x : Fin dA × Fin dB, star (v x) * (a.get k.val x.1.val * b.get k.val x.2.val)), ?_, ?_⟩
  · exact Finset.sum_nonneg (fun k _ => mul_nonneg (hp _) (Complex.normSq_nonneg _))
  · rw [separableDM_quadratic]
    push_cast
    refine Finset.sum_congr rfl (fun k _ => ?_)
    rw [Complex.star_def, Complex.mul_conj]
/-- the composite that op `sepdm` executes — literally the driver's terms: flat parameter vectors `ta`, `tb` read as `ta (k·2·dA + q)` (out-of-range
reads are `0` in the driver, hence the guard only for the `n` product states that exist: `k < n`), softmax weights, `pairCx ∘ sphereQuotientVec`
vectors of length `2·dA`, `2·dB` — has unit trace -/
theorem separable_composite_trace_one (n dA dB : Nat) (hn : 0 < n) (tp ta tb : Nat → ℝ)
    (hA : ∀ k, k < n → normSq (2 * dA) (fun q => ta (k * 2 * dA + q)) ≠ 0) (hB : ∀ k, k < n → normSq (2 * dB) (fun q => tb (k * 2 * dB + q)) ≠ 0) :
    ∑ i : Fin dA, ∑ j : Fin dB, separableDM n (fun k => ((softmaxVec n tp k : ℝ) : ℂ))
      (NMat.ofFn n dA fun k i => pairCx (K := ℂ) dA (sphereQuotientVec (2 * dA) fun q => ta (k * 2 * dA + q)) i)
      (NMat.ofFn n dB fun k j => pairCx (K := ℂ) dB (sphereQuotientVec (2 * dB) fun q => tb (k * 2 * dB + q)) j) i.val j.val i.val j.val = 1 := by
  have := separable_composite_trace_one' n dA dB hn tp (fun k q => ta (k * 2 * dA + q)) (fun k q => tb (k * 2 * dB + q))
    (by simpa only [two_mul] using hA) (by simpa only [two_mul] using hB)
  simpa only [two_mul] using this

/-- non-vacuity on a driver-shaped input: the parameters come from arrays read with `getD … 0` (zero beyond the `n` states), the guard holds for `k < n` -/
example : ∀ k, k < 1 → normSq (2 * 1) (fun q => (#[1, 0] : Array ℝ).getD (k * 2 * 1 + q) 0) ≠ 0 := by
  intro k hk
  obtain rfl : k = 0 := by omega
  norm_num [normSq, sumRange, List.range_succ]

/-! ### Euler–Hurwitz angles -/

/-- **`to_stiefel_euler` has orthonormal columns for every θ** — real and complex, with and without the phase column, all
`rank ≤ dim` (induction over the column recursion: each step is a product of Givens rotations applied to `[1 0; 0 prev]`). -/
theorem stiefelEuler_orthonormal (dim rank : Nat) (isReal withPhase : Bool) (θ : Nat → ℝ) (h : rank ≤ dim) :
    (toM dim rank (stiefelEuler (K := ℂ) dim rank isReal withPhase θ))ᴴ * toM dim rank (stiefelEuler (K := ℂ) dim rank isReal withPhase θ) = 1 := by
  have hE := eulerRec_orthonormal dim rank isReal θ rank
  rw [Nat.sub_add_cancel h] at hE
  unfold stiefelEuler
  split_ifs with hph
  · exact orthonormal_mul_phase dim rank _ _ (fun c => by rw [mul_comm]; exact cis_mul_conj _) hE
  · exact hE

/-! ### `_ABk.py`: symmetric-extension Hermitian manifolds (index bookkeeping, any commutative `*`-ring) -/

/-- `ABkHermitian()` is Hermitian: `index_sym`, `index_skew` symmetric, `factor_skew` antisymmetric (checked exactly on the live tables
by the harness), real parameters -/
theorem abkHermitian_hermitian {R : Type} [CommRing R] [StarRing R] (I : R) (hI : star I = -I)
    (idxSym idxSkew : Nat → Nat → Nat) (fac : Nat → Nat → R) (θsym θskew : Nat → R)
    (hs : ∀ q, star (θsym q) = θsym q) (hk : ∀ q, star (θskew q) = θskew q) (hf : ∀ r c, star (fac r c) = fac r c)
    (h1 : ∀ r c, idxSym r c = idxSym c r) (h2 : ∀ r c, idxSkew r c = idxSkew c r) (h3 : ∀ r c, fac r c = -fac c r) (r c : Nat) :
    star (ABk.hermitian I idxSym idxSkew fac θsym θskew c r) = ABk.hermitian I idxSym idxSkew fac θsym θskew r c := by
  unfold ABk.hermitian
  rw [h1 c r, h2 c r, h3 r c]
  simp only [star_add, star_mul', hI, hs, hf]
  split_ifs <;> simp [hk]

/-- … and invariant under every index permutation that preserves the three tables (the exchanges of two `B` copies) -/
theorem abkHermitian_permutation_invariant {R : Type} [CommRing R] [StarRing R] (I : R)
    (idxSym idxSkew : Nat → Nat → Nat) (fac : Nat → Nat → R) (θsym θskew : Nat → R) (π : Nat → Nat)
    (h1 : ∀ r c, idxSym (π r) (π c) = idxSym r c) (h2 : ∀ r c, idxSkew (π r) (π c) = idxSkew r c)
    (h3 : ∀ r c, fac (π r) (π c) = fac r c) (r c : Nat) :
    ABk.hermitian I idxSym idxSkew fac θsym θskew (π r) (π c) = ABk.hermitian I idxSym idxSkew fac θsym θskew r c := by
  unfold ABk.hermitian; rw [h1, h2, h3]

/-- `ABk2localHermitian()` is Hermitian when the coefficient rows addressed by `(r,c)` and `(c,r)` agree / are opposite -/
theorem abk2local_hermitian {R : Type} [CommRing R] [StarRing R] (I : R) (hI : star I = -I) (d : Nat)
    (coefS : Nat → Nat → R) (idxS : Nat → Nat → Nat) (coefK : Nat → Nat → R) (idxK : Nat → Nat → Nat) (M : Nat → Nat → R)
    (hM : ∀ a b, star (M a b) = M a b) (hcS : ∀ a q, star (coefS a q) = coefS a q) (hcK : ∀ a q, star (coefK a q) = coefK a q)
    (h1 : ∀ r c q, coefS (idxS c r) q = coefS (idxS r c) q) (h2 : ∀ r c q, coefK (idxK c r) q = -coefK (idxK r c) q) (r c : Nat) :
    star (ABk.twoLocal I d coefS idxS coefK idxK M c r) = ABk.twoLocal I d coefS idxS coefK idxK M r c :=
  ABk.twoLocal_star I hI d coefS idxS coefK idxK M hM hcS hcK h1 h2 r c

/-- `ABk2localHermitian.to_AB()` is Hermitian (real parameter matrix; any commutative `*`-ring) -/
theorem abkToAB_hermitian {R : Type} [CommRing R] [StarRing R] (I : R) (hI : star I = -I) (M : Nat → Nat → R)
    (hM : ∀ a b, star (M a b) = M a b) (r c : Nat) : star (ABk.toAB I M c r) = ABk.toAB I M r c := ABk.toAB_star I hI M hM r c
/-- **`ABk2localHermitian()` without its tables**: the matrix `Σ_x P_{0x}(H_AB ⊗ 1)P_{0x}` that the forward pass is tied to exactly (op `abk2sum`,
which takes only `dimA, dimB, kext` and the parameter matrix — none of the tables of `ABk_2local_symmetry_index` /
`ABk_2local_skew_symmetry_index` / `unique_index_set`) is Hermitian, with no table hypothesis at all -/
theorem abk2local_sum_hermitian {R : Type} [CommRing R] [StarRing R] (I : R) (hI : star I = -I) (dimB kext : Nat) (M : Nat → Nat → R)
    (hM : ∀ a b, star (M a b) = M a b) (r c : Nat) : star (ABk.sumEmbed I dimB kext M c r) = ABk.sumEmbed I dimB kext M r c := by
  unfold ABk.sumEmbed
  rw [ABk.star_list_sum, List.map_map]
  congr 1
  apply List.map_congr_left
  intro x _
  exact ABk.embed0_star _ _ (fun r c => ABk.toAB_star I hI M hM r c) _ _
/-- for `kext = 1` it is `to_AB` itself; and the embedding used in each term is `np.kron(H_AB, eye(m))` -/
theorem abk2local_sum_kext_one {R : Type} [CommRing R] [StarRing R] (I : R) (dimB : Nat) (hB : 0 < dimB) (M : Nat → Nat → R) (r c : Nat) :
    ABk.sumEmbed I dimB 1 M r c = ABk.toAB I M r c := by
  unfold ABk.sumEmbed
  simp [ABk.permIndex_one dimB _ hB, ABk.embed0, Nat.mod_one]
theorem abk_embed_is_kron {R : Type} [CommRing R] [StarRing R] (m : Nat) (hm : 0 < m) (H : Nat → Nat → R) (a b q q' : Nat) (hq : q < m) (hq' : q' < m) :
    ABk.embed0 m H (a * m + q) (b * m + q') = if q = q' then H a b else 0 := by
  unfold ABk.embed0
  have hdiv : ∀ {a q : Nat}, q < m → (a * m + q) / m = a := fun hq => by
    rw [Nat.mul_comm, Nat.mul_add_div hm, Nat.div_eq_of_lt hq, Nat.add_zero]
  rw [Nat.mul_add_mod_of_lt hq, Nat.mul_add_mod_of_lt hq', hdiv hq, hdiv hq']

/-- **`ABk_permutate`'s index map is the digit exchange it is meant to be**: writing `r = a·dimB^kext + Σ_q d_q·dimB^(kext-1-q)`, `permIndex … i j r`
keeps `a` and has digit `q` equal to digit `σ q` of `r`, `σ` the transposition `(i j)`; it maps `[0, dimA·dimB^kext)` into itself and is an involution -/
theorem abk_permIndex_digits (dimB kext i j r q : Nat) (hB : 0 < dimB) (hq : q < kext) :
    ABk.permIndex dimB kext i j r / dimB ^ kext = r / dimB ^ kext ∧
    ABk.digit dimB kext (ABk.permIndex dimB kext i j r) q = ABk.digit dimB kext r (ABk.swapIdx i j q) :=
  ⟨ABk.permIndex_div dimB kext i j r hB, ABk.permIndex_digit dimB kext i j r q hB hq⟩
theorem abk_permIndex_lt (dimA dimB kext i j r : Nat) (hB : 0 < dimB) (hr : r < dimA * dimB ^ kext) :
    ABk.permIndex dimB kext i j r < dimA * dimB ^ kext := by
  have hpos : 0 < dimB ^ kext := Nat.pos_of_ne_zero (by positivity)
  have ha : r / dimB ^ kext < dimA := by rw [Nat.div_lt_iff_lt_mul hpos]; exact hr
  rw [ABk.permIndex_eq]
  have := ABk.dval_lt dimB kext (fun q => ABk.digit dimB kext r (ABk.swapIdx i j q)) (fun q _ => ABk.digit_lt dimB kext r _ hB)
  calc r / dimB ^ kext * dimB ^ kext + ABk.dval dimB kext _ < r / dimB ^ kext * dimB ^ kext + dimB ^ kext := by omega
    _ = (r / dimB ^ kext + 1) * dimB ^ kext := by ring
    _ ≤ dimA * dimB ^ kext := Nat.mul_le_mul_right _ ha
theorem abk_permIndex_involutive (dimB kext i j r : Nat) (hB : 0 < dimB) (hi : i < kext) (hj : j < kext) :
    ABk.permIndex dimB kext i j (ABk.permIndex dimB kext i j r) = r := by
  rw [ABk.permIndex_eq (r := ABk.permIndex dimB kext i j r), ABk.permIndex_div dimB kext i j r hB]
  have hd : ABk.dval dimB kext (fun q => ABk.digit dimB kext (ABk.permIndex dimB kext i j r) (ABk.swapIdx i j q)) = ABk.dval dimB kext (fun q => ABk.digit dimB kext r q) := by
    unfold ABk.dval
    congr 1
    apply List.map_congr_left
    intro q hq
    have hq' : q < kext := List.mem_range.1 hq
    show ABk.digit dimB kext (ABk.permIndex dimB kext i j r) (ABk.swapIdx i j q) * _ = ABk.digit dimB kext r q * _
    rw [ABk.permIndex_digit dimB kext i j r _ hB (ABk.swapIdx_lt hi hj hq'), ABk.swapIdx_swapIdx]
  rw [hd]
  exact ABk.dval_self dimB kext r
/-- the table-free model of `ABk2localHermitian()` **is** the two-local operator: the sum over the copies `x` of `H_AB` acting on `A ⊗ B_x`
(entry `(r,c)`: zero unless all other digits agree, else `H_AB[(a_r, d_x(r)), (a_c, d_x(c))]`) … -/
theorem abk2local_sum_is_two_local {R : Type} [CommRing R] [StarRing R] (I : R) (dimB kext : Nat) (hB : 0 < dimB) (M : Nat → Nat → R) (r c : Nat) :
    ABk.sumEmbed I dimB kext M r c = ∑ x ∈ Finset.range kext, ABk.act dimB kext (ABk.toAB I M) x r c :=
  ABk.sumEmbed_eq_act I dimB kext hB M r c
/-- … and therefore **invariant under the exchange of any two `B` copies** (every `kext`, every pair `i, j < kext`): the defining symmetry of the
`k`-extension; it is a property of `permIndex` and fails for an arbitrary index map -/
theorem abk2local_sum_permutation_invariant {R : Type} [CommRing R] [StarRing R] (I : R) (dimB kext : Nat) (hB : 0 < dimB) (M : Nat → Nat → R)
    (i j : Nat) (hi : i < kext) (hj : j < kext) (r c : Nat) :
    ABk.sumEmbed I dimB kext M (ABk.permIndex dimB kext i j r) (ABk.permIndex dimB kext i j c) = ABk.sumEmbed I dimB kext M r c := by
  rw [ABk.sumEmbed_eq_act I dimB kext hB, ABk.sumEmbed_eq_act I dimB kext hB]
  refine Finset.sum_nbij' (ABk.swapIdx i j) (ABk.swapIdx i j) ?_ ?_ ?_ ?_ ?_
  · intro x hx; exact Finset.mem_range.2 (ABk.swapIdx_lt hi hj (Finset.mem_range.1 hx))
  · intro x hx; exact Finset.mem_range.2 (ABk.swapIdx_lt hi hj (Finset.mem_range.1 hx))
  · intro x _; exact ABk.swapIdx_swapIdx i j x
  · intro x _; exact ABk.swapIdx_swapIdx i j x
  · intro x hx; exact ABk.act_permIndex dimB kext hB _ i j hi hj x (Finset.mem_range.1 hx) r c

/-! ### non-vacuity -/

example : normSq 2 (fun _ => (1 : ℝ)) ≠ 0 := by norm_num [normSq, sumRange]
example : ∃ S : Scalars ℂ, S.Valid 3 := ⟨complexScalars 3, complexScalars_valid (by norm_num)⟩
/-! every contract hypothesis is satisfiable, and the theorems are instantiated with such witnesses (so none of them is vacuous) -/

/-- `expm`: exp chart unitary with determinant one, for every θ, with a witness of the contract -/
example (S : Scalars ℂ) (hS : S.Valid dim) (hd : 1 ≤ dim) (θ : Nat → ℝ) : ∃ expm : NMat ℂ → NMat ℂ,
    (toM dim dim (soExp expm S dim false θ))ᴴ * toM dim dim (soExp expm S dim false θ) = 1 ∧ (toM dim dim (soExp expm S dim false θ)).det = 1 := by
  obtain ⟨expm, h⟩ := exists_expm dim
  exact ⟨expm, soExp_unitary expm h S hS hd false θ, soExp_complex_det_one expm h S hS hd θ⟩

/-- `inv`: Cayley chart -/
example (S : Scalars ℂ) (hS : S.Valid dim) (hd : 1 ≤ dim) (order : Nat) (isReal : Bool) (θ : Nat → ℝ) : ∃ inv : NMat ℂ → NMat ℂ,
    (toM dim dim (soCayley inv S dim order isReal θ))ᴴ * toM dim dim (soCayley inv S dim order isReal θ) = 1 := by
  obtain ⟨inv, h⟩ := exists_inv dim
  exact ⟨inv, soCayley_unitary inv h S hS hd order isReal θ⟩

/-- `cholesky` and `inv`: choleskyL Stiefel map (`hchol`, `hinv`) -/
example (isReal : Bool) (θ : Nat → ℝ) (h : rank ≤ dim) : ∃ chol inv : NMat ℂ → NMat ℂ,
    (toM dim rank (stiefelCholL chol inv dim rank isReal θ))ᴴ * toM dim rank (stiefelCholL chol inv dim rank isReal θ) = 1 := by
  obtain ⟨chol, hc⟩ := exists_chol (r := rank)
  obtain ⟨inv, hi⟩ := exists_inv rank
  exact ⟨chol, inv, stiefelCholL_orthonormal chol inv hc hi isReal θ h⟩

/-- a parameter vector whose `2 × 2` matrix has full column rank (`hfull`) -/
theorem stiefelMat_id_injective : Function.Injective (toM 2 2 (stiefelMat (K := ℂ) 2 2 true fun p => if p = 0 ∨ p = 3 then 1 else 0)).mulVec := by
  have : toM 2 2 (stiefelMat (K := ℂ) 2 2 true fun p => if p = 0 ∨ p = 3 then 1 else 0) = 1 := by
    ext i j
    fin_cases i <;> fin_cases j <;> simp [toM, stiefelMat, NMat.get_ofFn, CxOps.ofReal]
  rw [this]; intro x y h; simpa using h

/-- inverse square root: polar Stiefel map (`hsq`, `hfull`) -/
example : ∃ invSqrt : NMat ℂ → NMat ℂ,
    (toM 2 2 (stiefelPolar invSqrt 2 2 true fun p => if p = 0 ∨ p = 3 then 1 else 0))ᴴ
      * toM 2 2 (stiefelPolar invSqrt 2 2 true fun p => if p = 0 ∨ p = 3 then 1 else 0) = 1 := by
  obtain ⟨f, hf⟩ := exists_invSqrt (r := 2)
  exact ⟨f, stiefelPolar_orthonormal f hf true _ (by norm_num) stiefelMat_id_injective⟩

/-- `qr`: (`hqr`, `hfull`) -/
example : ∃ qrQ : NMat ℂ → NMat ℂ,
    (toM 2 2 (stiefelQR qrQ 2 2 true fun p => if p = 0 ∨ p = 3 then 1 else 0))ᴴ
      * toM 2 2 (stiefelQR qrQ 2 2 true fun p => if p = 0 ∨ p = 3 then 1 else 0) = 1 := by
  obtain ⟨f, hf⟩ := exists_qrQ (r := 2) (dim := 2)
  exact ⟨f, stiefelQR_orthonormal f hf true _ stiefelMat_id_injective⟩

/-- the guard `hθ` of `psdEnsemble_trace_one` (every state block non-zero) is satisfied by `θ = 1` -/
example : trace (toM 3 3 (psdEnsemble (K := ℂ) 3 2 false fun _ => 1)) = 1 :=
  psdEnsemble_trace_one false _ (by norm_num) (fun k => by simp [normSq_eq])

/-- the guards of the quotient maps -/
example : ∑ i ∈ range 3, sphereQuotientVec 3 (fun _ => (1 : ℝ)) i * sphereQuotientVec 3 (fun _ => (1 : ℝ)) i = 1 :=
  sphereQuotient_real_norm 3 _ (by simp [normSq_eq])

end Numqi.C01
