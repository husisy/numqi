/-
C19 — the error-set generators: `make_error_list` (general theorem, all `n`, `d`) and
`make_asymmetric_error_set` (general theorems, all `n`, `d`, `weight_z`).  Independent of the generated code data.
-/
import NumqiProofs.QecAsym
import NumqiProofs.QecFloatCeil
import NumqiProofs.QecParse
import NumqiProofs.QecDense

namespace Numqi.C19
open Numqi Numqi.Qec


/-- **`make_error_list(n, d)` enumerates every Pauli string on `n` qubits of weight `1..d-1` exactly
once** (strings of symbols I=0 X=1 Y=2 Z=3 obtained from the generated (qubit, gate) lists):
every generated entry is such a string, every such string is generated, none twice.  All `n`, `d`. -/
theorem errorList_complete_nodup (n d : Nat) :
    (∀ s ∈ (errorList n d).map (sparseToSyms n), s.length = n ∧ (∀ x ∈ s, x < 4) ∧ 1 ≤ symWeight s ∧ symWeight s < d)
    ∧ (∀ s : List Nat, s.length = n → (∀ x ∈ s, x < 4) → 1 ≤ symWeight s → symWeight s < d →
        s ∈ (errorList n d).map (sparseToSyms n))
    ∧ ((errorList n d).map (sparseToSyms n)).Nodup :=
  ⟨fun s hs => errorList_sound n d s hs, fun s hl h4 h1 h2 => errorList_complete n d s hl h4 h1 h2, errorList_nodup n d⟩

/-- the generated (qubit, gate) list and its canonical string denote the same operator (masks and phase) -/
theorem errorList_operator (n d : Nat) (e : List (Nat × Nat)) (he : e ∈ errorList n d) :
    MP.ofSparse e = MP.ofSyms (sparseToSyms n e) :=
  ofSparse_eq_ofSyms n d e he

/-- the count that `make_error_list` must produce, e.g. 3675 for `(10, 4)` and 31713 for `(11, 5)` -/
example : (errorList 10 4).length = 3675 ∧ (errorList 5 3).length = 105 := by decide +kernel

/-- **`make_asymmetric_error_set(n, d, weight_z = p/q)` lists exactly the non-identity Pauli strings with
`n_x + n_y + (p/q) n_z < d`, each once** — all `n`, `d`, every rational `weight_z = p/q > 0`
(model of `hf_split_element` + the three nested ranges; guards against the defect repaired in numqi commit b728c8a). -/
theorem asymmetric_set_spec (n d p q : Nat) (hp : 0 < p) :
    (∀ s ∈ (asymErrorSet n d p q).map (sparseToSyms n), s.length = n ∧ (∀ x ∈ s, x < 4) ∧ asymCond d p q s = true)
    ∧ (∀ s : List Nat, s.length = n → (∀ x ∈ s, x < 4) → asymCond d p q s = true →
        s ∈ (asymErrorSet n d p q).map (sparseToSyms n))
    ∧ ((asymErrorSet n d p q).map (sparseToSyms n)).Nodup :=
  ⟨fun s hs => asym_sound n d p q hp s hs, fun s hl h4 hc => asym_complete n d p q hp s hl h4 hc, asym_nodup n d p q⟩

/-- with `weight_z = 1` the asymmetric set is the symmetric one: same strings as `make_error_list` -/
theorem asymmetric_one_eq_errorList (n d : Nat) (s : List Nat) :
    s ∈ (asymErrorSet n d 1 1).map (sparseToSyms n) ↔ s ∈ (errorList n d).map (sparseToSyms n) := by
  have hcond : ∀ t : List Nat, (∀ x ∈ t, x < 4) → (asymCond d 1 1 t = true ↔ 1 ≤ symWeight t ∧ symWeight t < d) := by
    intro t ht
    have hw : symWeight t = cnt 1 t + cnt 2 t + cnt 3 t := by
      unfold symWeight cnt
      induction t with
      | nil => rfl
      | cons a t ih =>
        have ha := ht a (List.mem_cons_self ..)
        have ih' := ih (fun x hx => ht x (List.mem_cons_of_mem _ hx))
        simp only [List.filter_cons, List.countP_cons]
        interval_cases a <;> simp [ih'] <;> omega
    rw [asymCond_eq, hw]
    simp only [Bool.and_eq_true, bne_iff_ne, ne_eq, decide_eq_true_eq, Nat.mul_one]
    omega
  constructor
  · intro h
    obtain ⟨a, b, c⟩ := asym_sound n d 1 1 (by norm_num) s h
    exact errorList_complete n d s a b ((hcond s b).1 c).1 ((hcond s b).1 c).2
  · intro h
    obtain ⟨a, b, c1, c2⟩ := errorList_sound n d s h
    exact asym_complete n d 1 1 (by norm_num) s a b ((hcond s b).2 ⟨c1, c2⟩)

/-- **`int(np.ceil(a / weight_z))` as computed in binary64** (`fceilDiv`: exact rational quotient, IEEE
round-to-nearest-even to 53 bits, exact `ceil`) **is the exact ceiling or one less, never more**, for every
positive double `weight_z` and `a/weight_z < 2^53`. -/
theorem float_ceil_bounds (a wBits : Nat) (hw : 0 < ratOfFloatBits wBits) (ha : 0 < a)
    (ht : 0 ≤ f64Shift (((a : ℤ) : ℚ) / ratOfFloatBits wBits)) :
    (fceilDiv a wBits : ℤ) ≤ ⌈((a : ℤ) : ℚ) / ratOfFloatBits wBits⌉
    ∧ ⌈((a : ℤ) : ℚ) / ratOfFloatBits wBits⌉ - 1 ≤ (fceilDiv a wBits : ℤ) :=
  fceilDiv_bounds a wBits hw ha ht

/-- **`make_asymmetric_error_set` with any binary64 `weight_z = w`** (the bound computed as the implementation
does, in floating point): never an operator too many (`n_x+n_y+w n_z < d` with `w` at its exact value), none
twice, and every non-identity string with `n_x+n_y+w(n_z+1) < d` is present — rounding can only drop strings
within one `Z` of the bound. -/
theorem asymmetric_set_float_spec (n d wBits : Nat) (hw : 0 < ratOfFloatBits wBits)
    (ht : ∀ a : Nat, 0 < a → a ≤ d → 0 ≤ f64Shift (((a : ℤ) : ℚ) / ratOfFloatBits wBits)) :
    (∀ s ∈ (asymErrorSetF n d wBits).map (sparseToSyms n), s.length = n ∧ (∀ x ∈ s, x < 4)
        ∧ cnt 1 s + cnt 2 s + cnt 3 s ≠ 0
        ∧ ((cnt 1 s + cnt 2 s : ℕ) : ℚ) + ratOfFloatBits wBits * (cnt 3 s : ℕ) < d)
    ∧ (∀ s : List Nat, s.length = n → (∀ x ∈ s, x < 4) → cnt 1 s + cnt 2 s + cnt 3 s ≠ 0 →
        ((cnt 1 s + cnt 2 s : ℕ) : ℚ) + ratOfFloatBits wBits * ((cnt 3 s : ℕ) + 1) < d →
        s ∈ (asymErrorSetF n d wBits).map (sparseToSyms n))
    ∧ ((asymErrorSetF n d wBits).map (sparseToSyms n)).Nodup := by
  refine ⟨?_, ?_, asymB_nodup n d _⟩
  · intro s hs
    unfold asymErrorSetF at hs
    rw [mem_asymB_strings] at hs
    obtain ⟨hl, h4, hne, hd, hb⟩ := hs
    refine ⟨hl, h4, hne, ?_⟩
    have hapos : 0 < d - (cnt 1 s + cnt 2 s) := by omega
    obtain ⟨hub, _⟩ := fceilDiv_bounds (d - (cnt 1 s + cnt 2 s)) wBits hw hapos (ht _ hapos (by omega))
    have h1 : ((cnt 3 s : ℕ) : ℤ) < ⌈(((d - (cnt 1 s + cnt 2 s) : ℕ) : ℤ) : ℚ) / ratOfFloatBits wBits⌉ := by
      have : ((cnt 3 s : ℕ) : ℤ) < (fceilDiv (d - (cnt 1 s + cnt 2 s)) wBits : ℤ) := by exact_mod_cast hb
      omega
    rw [Int.lt_ceil, lt_div_iff₀ hw] at h1
    have hc : (((d - (cnt 1 s + cnt 2 s) : ℕ) : ℤ) : ℚ) = (d : ℚ) - ((cnt 1 s + cnt 2 s : ℕ) : ℚ) := by
      push_cast [Nat.cast_sub (le_of_lt hd)]; ring
    rw [hc] at h1
    push_cast at h1 ⊢
    linarith
  · intro s hl h4 hne hc
    unfold asymErrorSetF
    rw [mem_asymB_strings]
    have hwpos : 0 < ratOfFloatBits wBits * (((cnt 3 s : ℕ) : ℚ) + 1) := mul_pos hw (by positivity)
    have hd : cnt 1 s + cnt 2 s < d := by
      have : ((cnt 1 s + cnt 2 s : ℕ) : ℚ) < d := by linarith
      exact_mod_cast this
    refine ⟨hl, h4, hne, hd, ?_⟩
    have hapos : 0 < d - (cnt 1 s + cnt 2 s) := by omega
    obtain ⟨_, hlb⟩ := fceilDiv_bounds (d - (cnt 1 s + cnt 2 s)) wBits hw hapos (ht _ hapos (by omega))
    have hcast : (((d - (cnt 1 s + cnt 2 s) : ℕ) : ℤ) : ℚ) = (d : ℚ) - ((cnt 1 s + cnt 2 s : ℕ) : ℚ) := by
      push_cast [Nat.cast_sub (le_of_lt hd)]; ring
    have h1 : (((cnt 3 s : ℕ) + 1 : ℕ) : ℤ) < ⌈(((d - (cnt 1 s + cnt 2 s) : ℕ) : ℤ) : ℚ) / ratOfFloatBits wBits⌉ := by
      rw [Int.lt_ceil, lt_div_iff₀ hw, hcast]
      push_cast at hc ⊢
      linarith
    have : ((cnt 3 s : ℕ) : ℤ) < (fceilDiv (d - (cnt 1 s + cnt 2 s)) wBits : ℤ) := by
      rw [Nat.cast_add, Nat.cast_one] at h1; omega
    exact_mod_cast this

/-- the rounding case is real: `weight_z = 0.3` (bits 4599075939470750515), `d - nxy = 3`: binary64 gives
`ceil(3/0.3) = 10`, the exact value of `3/0.3` is `10.000000000000000370…`, ceiling 11 -/
example : fceilDiv 3 4599075939470750515 = 10
    ∧ ratCeil (3 / ratOfFloatBits 4599075939470750515) = 11 := by decide +kernel

/-- **`make_error_list(n, d, tag_full=True)`** (model `errorListFull` + `denseEntry`, C08's Kronecker-factor matrix of the
string): the dense matrices are exactly the matrices `C08.mat` of the Pauli operators of weight `1..d-1`, each once
(any ring with `I² = -1`, `1 ≠ -1`; all `n`, `d`). -/
theorem errorListFull_every_matrix_once {R : Type} [CommRing R] {I : R} (hI : I * I = -1) (h2 : (1 : R) ≠ -1) (n d : Nat) :
    (∀ M ∈ (errorListFull n d).map (denseMat I n), ∃ s : List Nat, s.length = n ∧ (∀ x ∈ s, x < 4) ∧ 1 ≤ symWeight s
        ∧ symWeight s < d ∧ M = C08.mat I (Pauli.ofStr n s 0))
    ∧ (∀ s : List Nat, s.length = n → (∀ x ∈ s, x < 4) → 1 ≤ symWeight s → symWeight s < d →
        C08.mat I (Pauli.ofStr n s 0) ∈ (errorListFull n d).map (denseMat I n))
    ∧ ((errorListFull n d).map (denseMat I n)).Nodup := by
  refine ⟨?_, ?_, ?_⟩
  · intro M hM
    rw [List.mem_map] at hM
    obtain ⟨s, hs, rfl⟩ := hM
    obtain ⟨a, b, c, e⟩ := errorList_sound n d s hs
    exact ⟨s, a, b, c, e, denseMat_eq_mat I n s⟩
  · intro s hl h4 h1 hd
    rw [List.mem_map]
    exact ⟨s, errorList_complete n d s hl h4 h1 hd, denseMat_eq_mat I n s⟩
  · refine (errorList_nodup n d).map_on ?_
    intro s hs t ht h
    obtain ⟨a, b, _, _⟩ := errorList_sound n d s hs
    obtain ⟨a', b', _, _⟩ := errorList_sound n d t ht
    exact denseMat_injective hI h2 n s t a a' b b' h

/-- **`parse_simple_pauli`, full-word form**: a word over I/X/Y/Z never trips the assertion; the parsed tokens are its
non-identity letters with their positions; they denote the operator of the word (`tag_circuit=True` circuit = `MP.ofSyms`),
and the `tag_circuit=False` table lookup succeeds. -/
theorem parse_simple_pauli_full_form (l : List Nat) (h4 : ∀ x ∈ l, x < 4) :
    ∃ toks, parseSimplePauli (l.map symLetter) = some toks
      ∧ toks = (((List.range l.length).zip l).filter fun qs => qs.2 != 0)
      ∧ MP.ofSparse (pauliTokensCircuit toks) = MP.ofSyms l
      ∧ pauliTokensTable toks = some toks := by
  refine ⟨_, ?_, rfl, ?_, ?_⟩
  · unfold parseSimplePauli
    rw [full_word_has_no_digit, if_neg (by simp), parseFullAux_eq 0 l h4]
    simp
  · unfold pauliTokensCircuit
    rw [List.filter_filter]
    simp only [Bool.and_self]
    rw [ofSparse_filter]; rfl
  · unfold pauliTokensTable
    have : ((((List.range l.length).zip l).filter fun qs => qs.2 != 0).any fun qs => qs.2 == 0) = false := by
      rw [Bool.eq_false_iff]; intro h
      rw [List.any_eq_true] at h
      obtain ⟨p, hp, h0⟩ := h
      rw [List.mem_filter] at hp
      simp only [beq_iff_eq] at h0
      simp [h0] at hp
    rw [this]; simp

/-- **`parse_simple_pauli`, indexed form round trip**: any non-empty sequence of tokens letter+digits (multi-digit,
leading zeros allowed) written out as `X0Y12…` parses to exactly those (index, symbol) pairs. -/
theorem parse_simple_pauli_indexed_roundtrip (toks : List (Nat × List Char)) (hne : toks ≠ [])
    (hs : ∀ t ∈ toks, t.1 < 4) (hd : ∀ t ∈ toks, t.2 ≠ [] ∧ ∀ c ∈ t.2, isDigitC c = true) :
    parseSimplePauli (renderTokens toks) = some (toks.map fun t => (natOfDigits t.2, t.1)) := by
  unfold parseSimplePauli
  have hdig : (renderTokens toks).any isDigitC = true := by
    cases toks with
    | nil => exact absurd rfl hne
    | cons t toks =>
      obtain ⟨h1, h2⟩ := hd t (List.mem_cons_self ..)
      cases ht : t.2 with
      | nil => exact absurd ht h1
      | cons d ds =>
        rw [List.any_eq_true]
        refine ⟨d, ?_, h2 d (by rw [ht]; exact List.mem_cons_self ..)⟩
        simp [renderTokens, ht]
  rw [if_pos hdig]
  have hlen := length_le_render toks
  rw [parseIndexedAux_render toks _ hlen hs hd]
  cases toks with
  | nil => exact absurd rfl hne
  | cons t toks => rfl

/-- the two forms of the same operator: `XIY` and `X0Y2` -/
example : parseSimplePauli "XIY".toList = some [(0, 1), (2, 2)] ∧ parseSimplePauli "X0Y2".toList = some [(0, 1), (2, 2)]
    ∧ parseSimplePauli "X0I1Y02".toList = some [(0, 1), (1, 0), (2, 2)]
    ∧ pauliTokensTable [(0, 1), (1, 0), (2, 2)] = none ∧ parseSimplePauli "X0Y".toList = none := by decide

/-- the case of the defect repaired in numqi commit b728c8a: one qubit, distance 2 — X and Y are generated -/
example : (asymErrorSet 1 2 1 1).map (sparseToSyms 1) = [[3], [2], [1]] := by decide

end Numqi.C19
