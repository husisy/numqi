/-
C16 — Gell-Mann coordinates are an orthogonal-basis isomorphism.

Property theorems; the lemmas they share are in `NumqiProofs/Gellmann{Lemmas,Synthesis,Iso,Complex,Perturb,Tensor}.lean`.
Everything is about the constants of `NumqiModel/Gellmann.lean` that `Driver/C16.lean` executes:
`gm`/`allGellmann` (`gellmann_matrix`, `all_gellmann_matrix`), `analysis` (`matrix_to_gellmann_basis`),
`synthesis` (`gellmann_basis_to_matrix`), `dmToVec`, `vecToDm`, `dmNorm2`, `distance2`.

All statements hold for **every dimension `d ≥ 1`** and every commutative `*`-ring `R` with scalars
`S : Scalars R` satisfying the relations of the exact square roots (`Scalars.Valid`: `half·2 = 1`, `I² = -1`,
`cD k² · k(k+1) = 2`, `cI² · d = 2`, `aD k = cD k / 2`, `aI = cI / 2`, `invD · d = 1`, all real).  `exists_valid_complex`
shows that ℂ with the real square roots is such an instance for every `d ≥ 1`.

Notation: `basis S d a` is element `a` of `all_gellmann_matrix(d)` (order sym ++ antisym ++ diag ++ [I]) as a Mathlib
matrix; `coef S d A a` is entry `a` of `matrix_to_gellmann_basis(A)`.
-/
import NumqiProofs.GellmannComplex
import NumqiProofs.GellmannPerturb
import NumqiProofs.GellmannTensor
import Mathlib.LinearAlgebra.Matrix.Kronecker

namespace Numqi.C16
open Numqi Numqi.Gellmann Matrix

variable {R : Type} [CommRing R] [StarRing R] {d : Nat}

/-- `all_gellmann_matrix(d)` has `d²` elements. -/
theorem allGellmann_length (S : Scalars R) (hd : 1 ≤ d) : (allGellmann S d).length = d * d :=
  length_allGellmann S hd

/-- every basis element is Hermitian. -/
theorem gm_hermitian (S : Scalars R) (hS : S.Valid d) (hd : 1 ≤ d) {a : Nat} (ha : a < d * d) :
    (basis S d a)ᴴ = basis S d a :=
  basis_hermitian S hS hd ha

/-- **`Tr(G_a G_b) = 2 δ_ab`** in the documented order, all `d`. -/
theorem gm_orthogonal (S : Scalars R) (hS : S.Valid d) (hd : 1 ≤ d) {a b : Nat} (ha : a < d * d) (hb : b < d * d) :
    trace (basis S d a * basis S d b) = if a = b then 2 else 0 :=
  basis_orthogonal S hS hd ha hb

/-- all elements are traceless except the last one, which is `sqrt(2/d)·1` (trace `d·sqrt(2/d)`). -/
theorem trace_gellmann (S : Scalars R) (hd : 1 ≤ d) {a : Nat} (ha : a < d * d) :
    trace (basis S d a) = if a = d * d - 1 then (d : R) * S.cI else 0 :=
  basis_trace S hd ha

theorem last_is_identity (S : Scalars R) (hd : 1 ≤ d) : basis S d (d * d - 1) = S.cI • (1 : Matrix (Fin d) (Fin d) R) := by
  rw [basis_last S hd]; ext r c; simp [Matrix.diagonal_apply, Matrix.one_apply]

/-- **`gellmann_basis_to_matrix(v) = Σ_a v_a G_a`** (closed-form scatter/cumulative code = explicit expansion). -/
theorem synthesis_eq_sum (S : Scalars R) (hd : 1 ≤ d) (v : Nat → R) :
    Matrix.of (synthesis S d v) = ∑ a ∈ Finset.range (d * d), v a • basis S d a :=
  synthesis_eq_sum' S hd v

/-- **`matrix_to_gellmann_basis(A)_a = ½ Tr(G_a A)`** (closed-form cumulative-sum code = inner product). -/
theorem analysis_eq_inner (S : Scalars R) (hS : S.Valid d) (hd : 1 ≤ d) (A : Mat d R) {a : Nat} (ha : a < d * d) :
    (analysis S d A).getD a 0 = S.half * trace (basis S d a * Matrix.of A) :=
  coef_eq_inner S hS hd A ha

/-- **vector → matrix → vector is the identity** (as lists of length `d²`). -/
theorem analysis_synthesis (S : Scalars R) (hS : S.Valid d) (hd : 1 ≤ d) (v : Nat → R) :
    analysis S d (synthesis S d v) = (List.range (d * d)).map v := by
  apply List.ext_getElem
  · rw [length_analysis S hd, List.length_map, List.length_range]
  · intro a h1 h2
    rw [length_analysis S hd] at h1
    have := coef_synthesis S hS hd v h1
    rw [coef, List.getD_eq_getElem?_getD, List.getElem?_eq_getElem (by rw [length_analysis S hd]; exact h1)] at this
    simpa using this

/-- **matrix → vector → matrix is the identity.** -/
theorem synthesis_analysis (S : Scalars R) (hS : S.Valid d) (hd : 1 ≤ d) (A : Mat d R) :
    synthesis S d (fun p => (analysis S d A).getD p 0) = A :=
  synthesis_coef S hS hd A

/-- the coefficient map is injective. -/
theorem analysis_injective (S : Scalars R) (hS : S.Valid d) (hd : 1 ≤ d) (A : Mat d R)
    (h : ∀ a, a < d * d → (analysis S d A).getD a 0 = 0) : A = fun _ _ => 0 := by
  funext r c; exact coef_injective S hS hd A h r c

/-- **Parseval with the factor ½**: `Σ_a conj(x_a) y_a = ½ Tr(Aᴴ B)`. -/
theorem parseval_half (S : Scalars R) (hS : S.Valid d) (hd : 1 ≤ d) (A B : Mat d R) :
    ∑ a ∈ Finset.range (d * d), star ((analysis S d A).getD a 0) * (analysis S d B).getD a 0
      = S.half * trace ((Matrix.of A)ᴴ * Matrix.of B) :=
  parseval S hS hd A B

/-- the coefficients of a Hermitian matrix are real, so `.real` in `dm_to_gellmann_basis` loses nothing. -/
theorem analysis_real_of_hermitian (S : Scalars R) (hS : S.Valid d) (hd : 1 ≤ d) (A : Mat d R)
    (hA : (Matrix.of A)ᴴ = Matrix.of A) {a : Nat} (ha : a < d * d) :
    re S ((analysis S d A).getD a 0) = (analysis S d A).getD a 0 :=
  re_of_star_eq S hS (coef_star_of_hermitian S hS hd A hA ha)

/-- **`dm_to_gellmann_norm(ρ)² = |Bloch vector|²`** (sum over all coefficients but the identity one). -/
theorem dm_norm_eq (S : Scalars R) (hS : S.Valid d) (hd : 1 ≤ d) (A : Mat d R) :
    dmNorm2 S d A = ∑ a ∈ Finset.range (d * d - 1), star ((analysis S d A).getD a 0) * (analysis S d A).getD a 0 := by
  unfold dmNorm2
  simp only []
  set t : R := sumFin (fun l => A l l) * S.invD with ht
  rw [half_frobenius S (fun r c => A r c - (if r = c then t else 0)), ← parseval S hS hd]
  have hlt : d * d - 1 < d * d := by have : 0 < d * d := Nat.mul_pos hd hd; omega
  have hdd : d * d = (d * d - 1) + 1 := by omega
  have hX : ∀ a, a < d * d → coef S d (fun r c => A r c - (if r = c then t else 0)) a
      = coef S d A a - S.half * (t * trace (basis S d a)) := by
    intro a ha
    rw [coef_eq_inner S hS hd _ ha, coef_eq_inner S hS hd _ ha]
    have : (Matrix.of fun r c => A r c - (if r = c then t else 0)) = Matrix.of A - t • (1 : Matrix (Fin d) (Fin d) R) := by
      ext r c; simp [Matrix.one_apply]
    rw [this, Matrix.mul_sub, trace_sub, Matrix.mul_smul, trace_smul, Matrix.mul_one, smul_eq_mul]; ring
  rw [hdd, Finset.sum_range_succ]
  have hlast : coef S d (fun r c => A r c - (if r = c then t else 0)) (d * d - 1) = 0 := by
    rw [hX _ hlt, basis_trace S hd hlt, if_pos rfl, coef_eq_inner S hS hd _ hlt, basis_last S hd, tr_diagonal_mul]
    simp only [Matrix.of_apply, ← Finset.mul_sum, ht, sumFin_eq]
    linear_combination (- S.half * S.cI * ∑ r, A r r) * hS.invD_mul
  rw [hlast, mul_zero, add_zero]
  refine Finset.sum_congr rfl (fun a ha => ?_)
  have ha' : a < d * d := by have := Finset.mem_range.1 ha; omega
  have hne : a ≠ d * d - 1 := by have := Finset.mem_range.1 ha; omega
  rw [hX _ ha', basis_trace S hd ha', if_neg hne, mul_zero, mul_zero, sub_zero]; rfl

/-- **`get_density_matrix_distance2(ρ,σ) = |x(ρ) - x(σ)|²`**. -/
theorem distance2_eq (S : Scalars R) (hS : S.Valid d) (hd : 1 ≤ d) (A B : Mat d R) :
    distance2 S d A B = ∑ a ∈ Finset.range (d * d),
      star ((analysis S d A).getD a 0 - (analysis S d B).getD a 0) * ((analysis S d A).getD a 0 - (analysis S d B).getD a 0) := by
  unfold distance2
  rw [half_frobenius S (fun r c => A r c - B r c), ← parseval S hS hd]
  exact Finset.sum_congr rfl (fun a ha => by rw [coef_sub S hS hd _ _ (Finset.mem_range.1 ha)]; rfl)

/-- **Bloch-vector round trip**: `gellmann_basis_to_dm(dm_to_gellmann_basis(ρ)) = ρ` for Hermitian `ρ` of trace one. -/
theorem dm_roundtrip (S : Scalars R) (hS : S.Valid d) (hd : 1 ≤ d) (A : Mat d R)
    (hA : (Matrix.of A)ᴴ = Matrix.of A) (htr : ∑ l, A l l = 1) :
    vecToDm S d (fun p => (dmToVec S d A false).getD p 0) = A := by
  unfold vecToDm
  refine Eq.trans (synthesis_congr S hd (w := coef S d A) ?_) (synthesis_coef S hS hd A)
  intro p hp
  by_cases h : p = d * d - 1
  · rw [if_pos h, h, coef_last S hd, htr, one_mul]
  · have hp' : p < d * d - 1 := by omega
    rw [if_neg h]
    show (dmToVec S d A false).getD p 0 = coef S d A p
    rw [dmToVec_getD S hd A hp']
    exact re_of_star_eq S hS (coef_star_of_hermitian S hS hd A hA hp)

/-- `tensor_n = 2`: the Kronecker products are orthogonal with `Tr = 4 δ`. -/
theorem tensor2_orthogonal (S : Scalars R) (hS : S.Valid d) (hd : 1 ≤ d) {a b a' b' : Nat}
    (ha : a < d * d) (hb : b < d * d) (ha' : a' < d * d) (hb' : b' < d * d) :
    trace ((kroneckerMap (· * ·) (basis S d a) (basis S d b)) * (kroneckerMap (· * ·) (basis S d a') (basis S d b')))
      = if a = a' ∧ b = b' then 4 else 0 := by
  rw [← Matrix.mul_kronecker_mul, Matrix.trace_kronecker, basis_orthogonal S hS hd ha ha', basis_orthogonal S hS hd hb hb']
  by_cases h1 : a = a' <;> by_cases h2 : b = b' <;> simp [h1, h2]; norm_num

/-! ### the executed `tensor_n = 2` / `with_I = False` lists

`tensor2_orthogonal` above is about Mathlib's `kroneckerMap`; the statements below are about the constant `allGellmannT2` that the driver executes
(op `allt`), which models the `itertools.product` order and the `np.kron` index flattening of `_all_gellmann_matrix_cache`. -/

/-- `all_gellmann_matrix(d, tensor_n=2)` has `d⁴` elements … -/
theorem allGellmannT2_length (S : Scalars R) (hd : 1 ≤ d) : (allGellmannT2 S d true).length = (d * d) * (d * d) := by
  simp only [allGellmannT2, dropI, if_true]
  rw [length_flatMap_map, length_allGellmann S hd]
/-- … element `a·d² + b` is `G_a ⊗ G_b`: the `np.kron` flattening `(r1·d + r2, c1·d + c2)` is Mathlib's Kronecker product reindexed by `finProdFinEquiv` … -/
theorem tensor2_executed_eq_kronecker (S : Scalars R) (hd : 1 ≤ d) {a b : Nat} (ha : a < d * d) (hb : b < d * d) :
    basisT2 S d (a * (d * d) + b) = Matrix.reindex finProdFinEquiv finProdFinEquiv (kroneckerMap (· * ·) (basis S d a) (basis S d b)) := by
  have hl := length_allGellmann S hd
  have ha' : a < (allGellmann S d).length := by rw [hl]; exact ha
  have hb' : b < (allGellmann S d).length := by rw [hl]; exact hb
  have key := getElem?_flatMap_map (fun A B => kron2 d A B) (allGellmann S d) (allGellmann S d) a b ha' hb'
  rw [hl] at key
  unfold basisT2 basis
  simp only [allGellmannT2, dropI, if_true, List.getD_eq_getElem?_getD, List.getElem?_map, key, Option.map_some, Option.getD_some,
    List.getElem?_eq_getElem ha', List.getElem?_eq_getElem hb']
  exact of_kron2 _ _
/-- … and **the executed list construction is orthogonal with `Tr(T_x T_y) = 4 δ_xy`** for all `x, y < d⁴` — with exact scalars (`S.Valid`); the
binary64 scalars the driver runs with satisfy it up to the residual measured by op `scal` (see the bridge section below). -/
theorem tensor2_executed_orthogonal (S : Scalars R) (hS : S.Valid d) (hd : 1 ≤ d) {x y : Nat}
    (hx : x < (d * d) * (d * d)) (hy : y < (d * d) * (d * d)) :
    trace (basisT2 S d x * basisT2 S d y) = if x = y then 4 else 0 := by
  have hpos : 0 < d * d := Nat.mul_pos hd hd
  have ex : x = x / (d * d) * (d * d) + x % (d * d) := (Nat.div_add_mod' x (d * d)).symm
  have ey : y = y / (d * d) * (d * d) + y % (d * d) := (Nat.div_add_mod' y (d * d)).symm
  have ha : x / (d * d) < d * d := Nat.div_lt_of_lt_mul hx
  have hb : x % (d * d) < d * d := Nat.mod_lt _ hpos
  have ha' : y / (d * d) < d * d := Nat.div_lt_of_lt_mul hy
  have hb' : y % (d * d) < d * d := Nat.mod_lt _ hpos
  rw [ex, ey, tensor2_executed_eq_kronecker S hd ha hb, tensor2_executed_eq_kronecker S hd ha' hb', trace_reindex_mul, ← Matrix.mul_kronecker_mul, Matrix.trace_kronecker,
    basis_orthogonal S hS hd ha ha', basis_orthogonal S hS hd hb hb', ← ex, ← ey]
  have hiff : x = y ↔ x / (d * d) = y / (d * d) ∧ x % (d * d) = y % (d * d) :=
    ⟨fun h => h ▸ ⟨rfl, rfl⟩, fun ⟨h1, h2⟩ => by rw [ex, ey, h1, h2]⟩
  simp only [hiff, ite_and]
  split_ifs <;> norm_num
/-- `with_I = False` (either `tensor_n`): the same list without its last element — for `tensor_n = 2` only `I ⊗ I` is dropped — so every remaining
element is the element of the same index of the full list. -/
theorem with_I_false (S : Scalars R) (hd : 1 ≤ d) :
    (allGellmannOpt S d false).length + 1 = d * d ∧ (allGellmannT2 S d false).length + 1 = (d * d) * (d * d) ∧
    (∀ a, a + 1 < d * d → (allGellmannOpt S d false)[a]? = (allGellmann S d)[a]?) ∧
    (∀ x, x + 1 < (d * d) * (d * d) → (allGellmannT2 S d false)[x]? = (allGellmannT2 S d true)[x]?) := by
  have h1 := length_allGellmann S hd
  have h2 := allGellmannT2_length S hd
  have hpos : 0 < d * d := Nat.mul_pos hd hd
  have hpos2 : 0 < (d * d) * (d * d) := Nat.mul_pos hpos hpos
  refine ⟨?_, ?_, ?_, ?_⟩
  · rw [allGellmannOpt_false, List.length_dropLast, h1]; omega
  · rw [allGellmannT2_false, List.length_dropLast, h2]; omega
  · intro a ha; rw [allGellmannOpt_false]; exact getElem?_dropLast_of_lt _ a (by rw [h1]; exact ha)
  · intro x hx; rw [allGellmannT2_false]; exact getElem?_dropLast_of_lt _ x (by rw [h2]; exact hx)

/-! ### bridge to the instance that the driver executes

`Driver/C16.lean` runs the model with `floatScalars d` (binary64 square roots taken as exact rationals).  These do **not** satisfy `Scalars.Valid`
for `d ≠ 2` (a binary64 number squared is not `2/(k(k+1))`), so the theorems above are about the exact instance `complexScalars d`; the two
instances are related quantitatively: the outputs differ by at most `δ·(size of the coefficients)`, `δ` = largest deviation of a scalar, and the
harness requires `δ ≤ 1e-15` on every run (op `scal`). -/

/-- synthesis with two scalar records (same `i`) whose square-root scalars differ by at most `δ`: entrywise difference `≤ δ Σ_k (k+2)|v_k|` -/
theorem synthesis_float_bridge (S S' : Scalars ℂ) (hI : S.I = S'.I) (δ : ℝ) (hD : ∀ k, ‖S.cD k - S'.cD k‖ ≤ δ) (hcI : ‖S.cI - S'.cI‖ ≤ δ)
    (v : Nat → ℂ) (r c : Fin d) :
    ‖synthesis S d v r c - synthesis S' d v r c‖ ≤ δ * ∑ k : Fin d, ((k.val : ℝ) + 2) * ‖diagCoef d v k‖ := by
  have hδ : 0 ≤ δ := le_trans (norm_nonneg _) hcI
  have hnn : 0 ≤ δ * ∑ k : Fin d, ((k.val : ℝ) + 2) * ‖diagCoef d v k‖ :=
    mul_nonneg hδ (Finset.sum_nonneg fun k _ => mul_nonneg (by positivity) (norm_nonneg _))
  by_cases h1 : r < c
  · simp only [synthesis, h1, if_true, hI, sub_self, norm_zero]; exact hnn
  by_cases h2 : c < r
  · simp only [synthesis, h1, h2, if_true, if_false, hI, sub_self, norm_zero]; exact hnn
  simp only [synthesis, h1, h2, if_false, sumFin_eq]
  rw [← Finset.sum_sub_distrib, Finset.mul_sum]
  refine le_trans (norm_sum_le _ _) (Finset.sum_le_sum fun k _ => ?_)
  rw [← sub_mul, norm_mul]
  have hM : ‖((if c.val ≤ k.val then (1 : ℂ) else 0) + (if c.val = k.val + 1 then -((k.val + 1 : ℕ) : ℂ) else 0))‖ ≤ (k.val : ℝ) + 2 := by
    refine le_trans (norm_add_le _ _) ?_
    have a1 : ‖(if c.val ≤ k.val then (1 : ℂ) else 0)‖ ≤ 1 := by split_ifs <;> simp
    have a2 : ‖(if c.val = k.val + 1 then -((k.val + 1 : ℕ) : ℂ) else 0)‖ ≤ (k.val : ℝ) + 1 := by
      split_ifs
      · rw [norm_neg, Complex.norm_natCast]; push_cast; linarith
      · simp; positivity
    linarith
  have hA : ‖(if k.val + 1 < d then S.cD (k.val + 1) * v (d * (d - 1) + k.val) else v (d * d - 1) * S.cI)
      - (if k.val + 1 < d then S'.cD (k.val + 1) * v (d * (d - 1) + k.val) else v (d * d - 1) * S'.cI)‖ ≤ δ * ‖diagCoef d v k‖ := by
    unfold diagCoef
    split_ifs
    · rw [← sub_mul, norm_mul]; exact mul_le_mul_of_nonneg_right (hD _) (norm_nonneg _)
    · rw [← mul_sub, norm_mul, mul_comm]; exact mul_le_mul_of_nonneg_right hcI (norm_nonneg _)
  calc _ ≤ (δ * ‖diagCoef d v k‖) * ((k.val : ℝ) + 2) := mul_le_mul hA hM (norm_nonneg _) (mul_nonneg hδ (norm_nonneg _))
    _ = δ * (((k.val : ℝ) + 2) * ‖diagCoef d v k‖) := by ring

/-- analysis likewise: coefficientwise difference `≤ δ · d · Σ_l |A_ll|` (only the diagonal coefficients depend on the square roots) -/
theorem analysis_float_bridge (S S' : Scalars ℂ) (hh : S.half = S'.half) (hI : S.I = S'.I) (δ : ℝ)
    (hD : ∀ k, ‖S.aD k - S'.aD k‖ ≤ δ) (haI : ‖S.aI - S'.aI‖ ≤ δ) (A : Mat d ℂ) (a : Nat) :
    ‖(analysis S d A).getD a 0 - (analysis S' d A).getD a 0‖ ≤ δ * ((d : ℝ) * ∑ l : Fin d, ‖A l l‖) := by
  have hδ : 0 ≤ δ := le_trans (norm_nonneg _) haI
  have hsum : 0 ≤ ∑ l : Fin d, ‖A l l‖ := Finset.sum_nonneg fun _ _ => norm_nonneg _
  have hnn : 0 ≤ δ * ((d : ℝ) * ∑ l : Fin d, ‖A l l‖) := mul_nonneg hδ (mul_nonneg (by positivity) hsum)
  rw [analysis_eq_map, analysis_eq_map, List.getD_eq_getElem?_getD, List.getD_eq_getElem?_getD, List.getElem?_map, List.getElem?_map]
  cases hk : (kinds d)[a]? with
  | none => simp; exact hnn
  | some k =>
    simp only [Option.map_some, Option.getD_some]
    cases k with
    | sym p => simp only [coefK, hh, sub_self, norm_zero]; exact hnn
    | asym p => simp only [coefK, hh, hI, sub_self, norm_zero]; exact hnn
    | diag k =>
      simp only [coefK, sum_filter_lt]
      rw [← mul_sub, norm_mul, mul_comm]
      refine mul_le_mul (hD _) ?_ (norm_nonneg _) hδ
      have h1 : ‖∑ r : Fin d, (if r.val < k.val then A r r else 0)‖ ≤ ∑ l : Fin d, ‖A l l‖ := by
        refine le_trans (norm_sum_le _ _) (Finset.sum_le_sum fun r _ => ?_)
        split_ifs <;> simp
      have h2 : ‖(k.val : ℂ) * A k k‖ ≤ ((d : ℝ) - 1) * ∑ l : Fin d, ‖A l l‖ := by
        rw [norm_mul, Complex.norm_natCast]
        have hk1 : (k.val : ℝ) ≤ (d : ℝ) - 1 := by
          have := k.isLt
          have : (k.val : ℝ) + 1 ≤ d := by exact_mod_cast this
          linarith
        have hk2 : ‖A k k‖ ≤ ∑ l : Fin d, ‖A l l‖ := Finset.single_le_sum (f := fun l => ‖A l l‖) (fun _ _ => norm_nonneg _) (Finset.mem_univ k)
        exact mul_le_mul hk1 hk2 (norm_nonneg _) (by linarith [Nat.cast_nonneg (α := ℝ) k.val])
      calc _ ≤ ‖∑ r : Fin d, (if r.val < k.val then A r r else 0)‖ + ‖(k.val : ℂ) * A k k‖ := norm_sub_le _ _
        _ ≤ (d : ℝ) * ∑ l : Fin d, ‖A l l‖ := by nlinarith
    | ident =>
      simp only [coefK, sumFin_eq]
      rw [← mul_sub, norm_mul, mul_comm]
      refine mul_le_mul haI ?_ (norm_nonneg _) hδ
      rcases Nat.eq_zero_or_pos d with rfl | h
      · simp
      · exact (norm_sum_le _ _).trans (le_mul_of_one_le_left hsum (by exact_mod_cast h))

/-! ### non-vacuity: ℂ with the real square roots is a valid instance for every `d ≥ 1` -/

/-- ℂ with the real square roots (`Numqi.Gellmann.complexScalars`) satisfies `Valid` for every `d ≥ 1`. -/
theorem exists_valid_complex (hd : 1 ≤ d) : (complexScalars d).Valid d := complexScalars_valid hd

example : ∃ S : Scalars ℂ, S.Valid 3 := ⟨complexScalars 3, exists_valid_complex (by norm_num)⟩

end Numqi.C16
