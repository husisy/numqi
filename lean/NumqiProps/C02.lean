/-
C02 — trivializations are locally onto (full-rank differential).  **Claimed partial.**

What these theorems carry is the *counting* and the *linear layer*:
* the parameter count of every module constructor (`Numqi.Manifold.Count.*Param`, the formulas of the `__init__`s) equals the
  dimension of the manifold named by the property plus an explicit number of gauge directions — all `d`, `r`;
* the claimed rank of each Stiefel chart never exceeds its parameter count;
* the linear placements `θ ↦ generator` (SO: antisymmetric block; SU: `i·`traceless Hermitian) and `θ ↦` traceless Hermitian matrix are injective —
  in particular the real Cayley/exp chart is **not** constant;
* the differentials of `exp` and of the Cayley transform at the base point are `id` and `-2·id`, and the model's order-1 Cayley chart is that map.

* for the vector charts the differential is computed and its rank proved at **every** admissible point: quotient sphere (kernel = radial line,
  rank `n-1` at every `θ ≠ 0`), softmax (kernel = constants, rank `n-1` everywhere), `to_ball` (injective differential everywhere, the origin included).

* the scalar charts (`softplus`, `exp`, open interval) have a strictly positive derivative at every point (rank 1 everywhere);
  `to_discrete_probability_sphere` has kernel = radial line and rank `n-1` at every point with no zero coordinate; the entry placements
  `θ ↦` pre-factor of `to_stiefel_polar/qr`, of `to_stiefel_choleskyL` and (up to the one scale direction) of `to_trace1_psd_cholesky` are injective
  on exactly the first `stiefelParam` / `psdParam` parameters; all four placements of `to_symmetric_matrix` (real/complex × full/traceless) are
  injective on `symParam` parameters.

**Not proved (named gap):** that the rank of the differential at a *generic* θ equals the rank at one point (real-analyticity) for the matrix
charts, and the differentials of the matrix-valued normalising maps (Cholesky, polar, qr, Euler, exp away from 0, Cayley other than the
real order-1 chart, whose rank is proved at every θ: `soCayley_real_full_rank`).  Stated as `generic_rank.Statement` for the exp chart; the
generic-point rank of every map is *searched* numerically by the probe of `harness/c02.py` (autograd Jacobian) and reported as such.
-/
import NumqiProofs.ManifoldCount
import NumqiProofs.ManifoldPlacement
import NumqiProofs.ManifoldDiff
import NumqiProofs.ManifoldVecDiff
import NumqiProofs.ManifoldSoftmaxDiff
import NumqiProofs.ManifoldPairDiff
import NumqiProofs.ManifoldCayleyRank
import Mathlib.Analysis.SpecialFunctions.ExpDeriv
import Mathlib.Analysis.SpecialFunctions.Log.Deriv
import Mathlib.Analysis.Calculus.Deriv.Inv
import NumqiProofs.ManifoldPlacement2
import NumqiProofs.ManifoldPlacement3
import NumqiProofs.ManifoldProbSphereDiff
import Mathlib.LinearAlgebra.Complex.FiniteDimensional

namespace Numqi.C02
open Numqi Numqi.Manifold Numqi.Manifold.Count Matrix
open Numqi.Gellmann (Scalars)

variable {dim : Nat}

/-! ### counting (all `d`, `r`) -/

/-- Trace1PSD / cholesky / real: `N0 = (dr - r(r-1)/2 - 1) + 1` (gauge: global scale) -/
theorem count_psd_cholesky_real (dim rank : Nat) (h : rank ≤ dim) (hr : 1 ≤ rank) :
    psdParam dim rank true true = psdDim dim rank true + 1 := by
  obtain ⟨hsucc, hpred, hN0, -, hle, hsq, hpar⟩ := products dim rank h
  simp only [psdParam, psdDim, if_true]
  omega
/-- complex: `2N0 - r = (2dr - r² - 1) + 1` -/
theorem count_psd_cholesky_complex (dim rank : Nat) (h : rank ≤ dim) (hr : 1 ≤ rank) :
    psdParam dim rank false true = psdDim dim rank false + 1 := by
  obtain ⟨hsucc, -, hN0, hassoc, hle, hsq, hpar⟩ := products dim rank h
  simp only [psdParam, psdDim, if_true, Bool.false_eq_true, if_false]
  omega
theorem count_psd_ensemble_real (dim rank : Nat) (h : rank ≤ dim) (hr : 1 ≤ rank) :
    psdParam dim rank true false = psdDim dim rank true + (rank + rank * (rank - 1) / 2 + 1) := by
  obtain ⟨-, hpred, -, -, hle, hsq, -⟩ := products dim rank h
  simp only [psdParam, psdDim, if_true, Bool.false_eq_true, if_false]
  omega
theorem count_psd_ensemble_complex (dim rank : Nat) (h : rank ≤ dim) (hr : 1 ≤ rank) :
    psdParam dim rank false false = psdDim dim rank false + (rank + rank * rank + 1) := by
  obtain ⟨-, -, -, hassoc, hle, hsq, -⟩ := products dim rank h
  simp only [psdParam, psdDim, Bool.false_eq_true, if_false]
  omega
/-- sphere: quotient = dimension + 1 (radius), coordinate = dimension -/
theorem count_sphere_quotient (dim : Nat) (hd : 1 ≤ dim) (isReal : Bool) :
    sphereParam dim isReal true = sphereDim dim isReal + 1 := by
  cases isReal <;> simp only [sphereParam, sphereDim, if_true, Bool.false_eq_true, if_false] <;> omega
theorem count_sphere_coordinate (dim : Nat) (isReal : Bool) : sphereParam dim isReal false = sphereDim dim isReal := by
  cases isReal <;> rfl
/-- simplex: `d = (d-1) + 1` -/
theorem count_simplex (dim : Nat) (hd : 1 ≤ dim) : probParam dim = simplexDim dim + 1 :=
  (Nat.sub_add_cancel hd).symm
/-- SO(d)/SU(d) charts are minimal: the parameter count `d(d-1)/2` resp. `d²-1` of `SpecialOrthogonal.__init__` equals the number of Gell-Mann
generators of `so(d)` (antisymmetric block) resp. `su(d)` (symmetric + antisymmetric + traceless diagonal) -/
theorem count_so (dim : Nat) (hd : 1 ≤ dim) (isReal : Bool) : soParam dim isReal = soDim dim isReal := by
  have h1 := Gellmann.length_pairs (d := dim)
  have h2 := Gellmann.length_diagIdx (d := dim)
  obtain ⟨-, hpred, -, -, hle, -, -⟩ := products dim dim le_rfl
  cases isReal <;> simp only [soParam, soDim, if_true, Bool.false_eq_true, if_false] <;> omega
/-- SymmetricMatrix: `d(d+1)/2` resp. `d²` (minus one if traceless) is the number of independent real entries (`#{i ≤ j}` resp. `d²`) -/
theorem count_symmetric (dim : Nat) (isReal isTrace0 : Bool) : symParam dim isReal isTrace0 = symEntries dim isReal isTrace0 := by
  cases isReal
  · rfl
  · have := length_triuPairs dim
    simp only [symParam, symEntries, if_true]
    omega
/-- Ball: `d` resp. `2d` parameters = real dimension of `ℝ^d` resp. `ℂ^d` -/
theorem count_ball (dim : Nat) :
    ballParam dim true = Module.finrank ℝ (EuclideanSpace ℝ (Fin dim)) ∧ ballParam dim false = Module.finrank ℝ (EuclideanSpace ℂ (Fin dim)) := by
  constructor
  · simp [ballParam]
  · simp only [ballParam, Bool.false_eq_true, if_false]
    rw [← Module.finrank_mul_finrank ℝ ℂ (EuclideanSpace ℂ (Fin dim)), Complex.finrank_real_complex, finrank_euclideanSpace_fin]
/-- Stiefel polar / qr: `dr = (dr - r(r+1)/2) + r(r+1)/2`, `2dr = (2dr - r²) + r²` -/
theorem count_stiefel_polar_qr (dim rank : Nat) (h : rank ≤ dim) (isReal : Bool) :
    stiefelParam dim rank isReal .polar false = stiefelDim dim rank isReal + (if isReal then rank * (rank + 1) / 2 else rank * rank)
    ∧ stiefelParam dim rank isReal .qr false = stiefelDim dim rank isReal + (if isReal then rank * (rank + 1) / 2 else rank * rank) := by
  obtain ⟨hsucc, -, -, hassoc, hle, hsq, -⟩ := products dim rank h
  cases isReal <;> simp only [stiefelParam, stiefelDim, and_self, if_true, Bool.false_eq_true, if_false] <;> omega
/-- choleskyL: minimal (real); `r` short of the manifold dimension (complex: the column phases are fixed) -/
theorem count_stiefel_choleskyL (dim rank : Nat) (h : rank ≤ dim) :
    stiefelParam dim rank true .choleskyL false = stiefelDim dim rank true
    ∧ stiefelParam dim rank false .choleskyL false + rank = stiefelDim dim rank false := by
  obtain ⟨hsucc, -, -, hassoc, hle, hsq, hpar⟩ := products dim rank h
  simp only [stiefelParam, stiefelDim, if_true, Bool.false_eq_true, if_false]
  omega
/-- euler: minimal (real, complex with phase); `r` short without the phase column -/
theorem count_stiefel_euler (dim rank : Nat) (h : rank ≤ dim) :
    stiefelParam dim rank true .euler false = stiefelDim dim rank true
    ∧ stiefelParam dim rank false .euler true = stiefelDim dim rank false
    ∧ stiefelParam dim rank false .euler false + rank = stiefelDim dim rank false := by
  obtain ⟨hsucc, -, -, hassoc, hle, hsq, -⟩ := products dim rank h
  simp only [stiefelParam, stiefelDim, if_true, Bool.false_eq_true, if_false, true_and]
  omega
/-- the rank claimed for a Stiefel chart never exceeds its number of parameters -/
theorem claimed_rank_le_param (dim rank : Nat) (h : rank ≤ dim) (hr : 1 ≤ rank) (isReal : Bool) (m : StMethod) (ph : Bool) :
    stiefelRank dim rank isReal m ph ≤ stiefelParam dim rank isReal m ph := by
  -- the `SO`/`SU` charts: `d r - r(r+1)/2 ≤ d(d-1)/2` and, for `r < d`, `2 d r - r² ≤ d² - 1`, both from `(d - r)² ≥ d - r`
  have hso : stiefelRank dim rank isReal .soExp ph ≤ stiefelParam dim rank isReal .soExp ph := by
    obtain ⟨hsucc, -, -, hassoc, -, -, hpar⟩ := products dim rank h
    obtain ⟨-, hpred', -, -, hle', -, hpar'⟩ := products dim dim le_rfl
    have := sq_sub_ge dim rank h
    cases isReal <;> simp only [stiefelRank, stiefelParam, stiefelDim, Bool.not_true, Bool.not_false, Bool.false_and, Bool.true_and,
      decide_eq_true_eq, Bool.false_eq_true, if_false, if_true] <;> (try split_ifs) <;> omega
  cases m
  case soExp | soCayley => exact hso
  case choleskyL | euler => exact le_rfl
  case qr | polar => cases isReal <;> exact Nat.sub_le _ _

/-! ### the linear placements are injective -/

/-- SU chart: `θ ↦ i Σ θ_a G_a` is injective -/
theorem placement_su_injective (S : Scalars ℂ) (hS : S.Valid dim) (hd : 1 ≤ dim) (θ θ' : Nat → ℝ)
    (h : toM dim dim (soGenerator S dim false θ) = toM dim dim (soGenerator S dim false θ')) :
    ∀ p, p < dim * dim - 1 → θ p = θ' p := by
  rw [toM_soGenerator_complex, toM_soGenerator_complex] at h
  exact genVecC_injective S hS hd θ θ' (Matrix.of.injective (smul_right_injective _ Complex.I_ne_zero h))
/-- SO chart (antisymmetric block): injective, hence not constant -/
theorem placement_so_injective (S : Scalars ℂ) (hS : S.Valid dim) (hd : 1 ≤ dim) (θ θ' : Nat → ℝ)
    (h : toM dim dim (soGenerator S dim true θ) = toM dim dim (soGenerator S dim true θ')) :
    ∀ p, p < dim * (dim - 1) / 2 → θ p = θ' p := soGenerator_real_injective S hS hd θ θ' h
/-- traceless Hermitian matrices -/
theorem placement_hermitian_traceless_injective (S : Scalars ℂ) (hS : S.Valid dim) (hd : 1 ≤ dim) (θ θ' : Nat → ℝ)
    (h : toM dim dim (symmetricRaw S dim false true θ) = toM dim dim (symmetricRaw S dim false true θ')) :
    ∀ p, p < dim * dim - 1 → θ p = θ' p := by
  rw [toM_symmetricRaw_traceless_complex, toM_symmetricRaw_traceless_complex] at h
  exact genVecC_injective S hS hd θ θ' (Matrix.of.injective h)

/-- **`to_symmetric_matrix`, every option: the placement `θ ↦` matrix (before the optional normalisation) is injective on exactly `symParam`
parameters** (real/complex × full/traceless) — linear maps, hence full rank `symParam` at every θ for `is_norm1 = False` -/
theorem placement_symmetric_injective (S : Scalars ℂ) (hS : S.Valid dim) (hd : 1 ≤ dim) (isReal isTrace0 : Bool) (θ θ' : Nat → ℝ)
    (h : toM dim dim (symmetricRaw S dim isReal isTrace0 θ) = toM dim dim (symmetricRaw S dim isReal isTrace0 θ')) :
    ∀ p, p < symParam dim isReal isTrace0 → θ p = θ' p := by
  have htri : 2 * (triuPairs dim).length = dim * (dim + 1) := length_triuPairs dim
  intro p hp
  cases isReal <;> cases isTrace0 <;> simp only [symParam, if_true, if_false, Bool.false_eq_true] at hp
  · exact symmetric_full_complex_injective S θ θ' h p (by omega)
  · exact placement_hermitian_traceless_injective S hS hd θ θ' h p (by omega)
  · exact symmetric_full_real_injective S θ θ' h p (by omega)
  · obtain ⟨hsucc, hpred, -, -, hle, -, hpar⟩ := products dim dim le_rfl
    exact symmetric_traceless_real_injective S hS hd θ θ' h p (by omega)

/-! ### base-point differentials -/

/-- `D exp(0) = id` in every real Banach algebra (Mathlib) -/
theorem hasFDerivAt_exp_zero {𝔸 : Type*} [NormedRing 𝔸] [NormedAlgebra ℝ 𝔸] [CompleteSpace 𝔸] :
    HasFDerivAt (NormedSpace.exp : 𝔸 → 𝔸) (1 : 𝔸 →L[ℝ] 𝔸) 0 := _root_.hasFDerivAt_exp_zero
/-- `D cayley(0) = -2·id` -/
theorem hasFDerivAt_cayley_zero {𝔸 : Type*} [NormedRing 𝔸] [NormedAlgebra ℝ 𝔸] [CompleteSpace 𝔸] :
    HasFDerivAt (cayleyMap : 𝔸 → 𝔸) ((-2 : ℝ) • ContinuousLinearMap.id ℝ 𝔸) 0 := Manifold.hasFDerivAt_cayley_zero

/-- the model's Cayley chart of order 1 *is* `cayleyMap ∘ generator` (contract of `inv` as in C01) -/
theorem soCayley_eq_cayleyMap (inv : NMat ℂ → NMat ℂ)
    (hinv : ∀ P, IsUnit (toM dim dim P).det → toM dim dim (inv P) * toM dim dim P = 1)
    (S : Scalars ℂ) (hS : S.Valid dim) (hd : 1 ≤ dim) (isReal : Bool) (θ : Nat → ℝ) :
    toM dim dim (soCayley inv S dim 1 isReal θ) = cayleyMap (toM dim dim (soGenerator S dim isReal θ)) := by
  obtain ⟨Pinv, hP, e⟩ := toM_soCayley inv hinv S hS hd 1 isReal θ
  rw [e, pow_one, cayleyMap, ← Matrix.nonsing_inv_eq_ringInverse, ← Matrix.inv_eq_left_inv hP]

/-! ### vector charts: the differential and its rank at **every** admissible point -/

/-- the model's `to_sphere_quotient` / `to_ball` (real) are `quotMap` / `ballMap` on `EuclideanSpace ℝ (Fin n)`, its softmax is `smax` -/
theorem vector_maps_eq (n : Nat) (θ : Nat → ℝ) (i : Fin n) :
    sphereQuotientVec n θ i.val = quotMap (toE n θ) i ∧ ballVec n θ i.val = ballMap (toE n θ) i :=
  ⟨sphereQuotientVec_eq n θ i, ballVec_eq n θ i⟩
theorem softmax_eq (n : Nat) [NeZero n] (θ : Nat → ℝ) (i : Fin n) :
    softmaxVec n θ i.val = smax (fun j : Fin n => θ j.val) i := by
  unfold softmaxVec smax
  simp only [exp_eq, sumRange_eq]
  rw [Finset.sum_range (fun j => Real.exp (θ j - maxRange n θ))]
  simp only [Real.exp_sub]
  rw [← Finset.sum_div, div_div_eq_mul_div, div_eq_mul_inv, div_eq_mul_inv]
  have : Real.exp (maxRange n θ) ≠ 0 := (Real.exp_pos _).ne'
  field_simp

/-- quotient sphere: differentiable at every `x ≠ 0` with differential `v ↦ v/‖x‖ - ⟨x,v⟩x/‖x‖³` … -/
theorem sphere_quotient_hasFDerivAt (n : Nat) {x : EuclideanSpace ℝ (Fin n)} (hx : x ≠ 0) :
    HasFDerivAt (quotMap : EuclideanSpace ℝ (Fin n) → EuclideanSpace ℝ (Fin n)) (quotD x) x := hasFDerivAt_quotMap hx
/-- … whose kernel is the radial line `span {x}` … -/
theorem sphere_quotient_ker (n : Nat) {x : EuclideanSpace ℝ (Fin n)} (hx : x ≠ 0) :
    LinearMap.ker (quotD x : EuclideanSpace ℝ (Fin n) →ₗ[ℝ] EuclideanSpace ℝ (Fin n)) = Submodule.span ℝ {x} := ker_quotD hx
/-- … so that **the rank is `n - 1`, the dimension of the sphere, at every `θ ≠ 0`** -/
theorem sphere_quotient_rank (n : Nat) {x : EuclideanSpace ℝ (Fin n)} (hx : x ≠ 0) :
    Module.finrank ℝ (LinearMap.range (quotD x : EuclideanSpace ℝ (Fin n) →ₗ[ℝ] EuclideanSpace ℝ (Fin n))) + 1 = n := by
  have := finrank_range_quotD hx
  simpa using this

/-- softmax: differential `v ↦ (s_i (v_i - Σ s_j v_j))_i` at every point … -/
theorem softmax_hasFDerivAt (n : Nat) [NeZero n] (x : Fin n → ℝ) :
    HasFDerivAt (smax : (Fin n → ℝ) → Fin n → ℝ) (smaxD x) x := by
  rw [hasFDerivAt_pi']
  intro i
  have hZpos : 0 < ∑ j, Real.exp (x j) := Finset.sum_pos (fun j _ => Real.exp_pos _) Finset.univ_nonempty
  have hproj : ∀ j : Fin n, HasFDerivAt (fun y : Fin n → ℝ => y j) (ContinuousLinearMap.proj (R := ℝ) (φ := fun _ : Fin n => ℝ) j) x :=
    fun j => hasFDerivAt_apply j x
  have hexp : ∀ j : Fin n, HasFDerivAt (fun y : Fin n → ℝ => Real.exp (y j))
      (Real.exp (x j) • ContinuousLinearMap.proj (R := ℝ) (φ := fun _ : Fin n => ℝ) j) x := fun j => (hproj j).exp
  have hZ : HasFDerivAt (fun y : Fin n → ℝ => ∑ j, Real.exp (y j))
      (∑ j, Real.exp (x j) • ContinuousLinearMap.proj (R := ℝ) (φ := fun _ : Fin n => ℝ) j) x :=
    HasFDerivAt.fun_sum (fun j _ => hexp j)
  have hZinv := (hasDerivAt_inv (ne_of_gt hZpos)).comp_hasFDerivAt x hZ
  have hmul := (hexp i).mul hZinv
  refine hmul.congr_fderiv ?_
  ext v
  simp only [smaxD, ContinuousLinearMap.proj_pi, ContinuousLinearMap.add_apply, ContinuousLinearMap.smul_apply,
    ContinuousLinearMap.proj_apply, smul_eq_mul, ContinuousLinearMap.sum_apply, ContinuousLinearMap.sub_apply, smax,
    Function.comp_apply]
  have hZ0 := ne_of_gt hZpos
  have hS : ∑ k, Real.exp (x k) * (∑ j, Real.exp (x j))⁻¹ * v k = (∑ j, Real.exp (x j))⁻¹ * ∑ k, Real.exp (x k) * v k := by
    rw [Finset.mul_sum]; exact Finset.sum_congr rfl (fun k _ => by ring)
  rw [hS]
  generalize (∑ k, Real.exp (x k) * v k) = S
  generalize hZe : (∑ j, Real.exp (x j)) = Z at hZ0 ⊢
  field_simp
  ring
/-- … kernel = constant vectors … -/
theorem softmax_ker (n : Nat) [NeZero n] (x : Fin n → ℝ) :
    LinearMap.ker (smaxD x : (Fin n → ℝ) →ₗ[ℝ] (Fin n → ℝ)) = Submodule.span ℝ {fun _ => (1 : ℝ)} := ker_smaxD x
/-- … **rank `n - 1`, the dimension of the simplex, at every θ** -/
theorem softmax_rank (n : Nat) [NeZero n] (x : Fin n → ℝ) :
    Module.finrank ℝ (LinearMap.range (smaxD x : (Fin n → ℝ) →ₗ[ℝ] (Fin n → ℝ))) + 1 = n := by
  have h := LinearMap.finrank_range_add_finrank_ker (smaxD x : (Fin n → ℝ) →ₗ[ℝ] (Fin n → ℝ))
  have hne : (fun _ : Fin n => (1 : ℝ)) ≠ 0 := by
    intro e; have := congrFun e ⟨0, Nat.pos_of_ne_zero (NeZero.ne n)⟩; simp at this
  rw [ker_smaxD, finrank_span_singleton hne] at h
  simpa using h

/-- `to_ball`: differentiable everywhere (the origin included), … -/
theorem ball_hasFDerivAt (n : Nat) (x : EuclideanSpace ℝ (Fin n)) :
    HasFDerivAt (ballMap : EuclideanSpace ℝ (Fin n) → EuclideanSpace ℝ (Fin n)) (if x = 0 then ContinuousLinearMap.id ℝ _ else ballD x) x := by
  split_ifs with h
  · subst h; exact hasFDerivAt_ballMap_zero
  · exact hasFDerivAt_ballMap h
/-- … **with injective differential, i.e. full rank `n`, at every θ** -/
theorem ball_full_rank (n : Nat) (x : EuclideanSpace ℝ (Fin n)) :
    Function.Injective (if x = 0 then ContinuousLinearMap.id ℝ (EuclideanSpace ℝ (Fin n)) else ballD x) := by
  split_ifs with h
  · exact fun a b hab => hab
  · exact ballD_injective h

/-! ### complex branches of the vector charts (`ℂ^h ≅ ℝ^{2h}`) -/

/-- the model's complex pairing `pairCx` is the injective `ℝ`-linear map `pairLin : ℝ^{2h} → ℂ^h` -/
theorem pairCx_is_linear (h : Nat) (y : Nat → ℝ) (j : Fin h) : pairCx (K := ℂ) h y j.val = pairLin h (toE (h + h) y) j ∧ Function.Injective (pairLin h) :=
  ⟨pairCx_eq_pairLin h y j, pairLin_injective h⟩
/-- complex `to_ball`: injective differential (rank `2h`) at every `x ≠ 0` … -/
theorem ball_complex_full_rank (h : Nat) {x : EuclideanSpace ℝ (Fin (h + h))} (hx : x ≠ 0) :
    HasFDerivAt (fun y => pairCLM h (ballMap y)) ((pairCLM h).comp (ballD x)) x ∧ Function.Injective ((pairCLM h).comp (ballD x)) :=
  ⟨(pairCLM h).hasFDerivAt.comp x (hasFDerivAt_ballMap hx), fun a b hab => ballD_injective hx (pairLin_injective h hab)⟩
/-- … and at the origin -/
theorem ball_complex_full_rank_zero (h : Nat) :
    HasFDerivAt (fun y : EuclideanSpace ℝ (Fin (h + h)) => pairCLM h (ballMap y)) ((pairCLM h).comp (ContinuousLinearMap.id ℝ _)) 0 ∧
      Function.Injective ((pairCLM h).comp (ContinuousLinearMap.id ℝ (EuclideanSpace ℝ (Fin (h + h))))) :=
  ⟨(pairCLM h).hasFDerivAt.comp 0 hasFDerivAt_ballMap_zero, fun a b hab => pairLin_injective h hab⟩
/-- complex `to_sphere_quotient`: rank `2h - 1` at every `x ≠ 0` -/
theorem sphere_complex_rank (h : Nat) {x : EuclideanSpace ℝ (Fin (h + h))} (hx : x ≠ 0) :
    HasFDerivAt (fun y => pairCLM h (quotMap y)) ((pairCLM h).comp (quotD x)) x ∧
      Module.finrank ℝ (LinearMap.range ((pairLin h) ∘ₗ (quotD x : EuclideanSpace ℝ (Fin (h + h)) →ₗ[ℝ] EuclideanSpace ℝ (Fin (h + h))))) + 1 = h + h := by
  refine ⟨(pairCLM h).hasFDerivAt.comp x (hasFDerivAt_quotMap hx), ?_⟩
  rw [finrank_range_comp_injective _ (pairLin_injective h)]
  have := finrank_range_quotD hx
  simpa using this

/-! ### one matrix chart completely: the real Cayley chart of SO(d) -/

/-- the Cayley transform is differentiable wherever `1 + A` is invertible, `D cayley(A) δ = -2 (1+A)⁻¹ δ (1+A)⁻¹`, and this differential is injective -/
theorem hasFDerivAt_cayley_everywhere {𝔸 : Type*} [NormedRing 𝔸] [NormedAlgebra ℝ 𝔸] [CompleteSpace 𝔸] (A : 𝔸) (u : 𝔸ˣ) (hu : (↑u : 𝔸) = 1 + A) :
    HasFDerivAt (cayleyMap : 𝔸 → 𝔸) (cayleyD u) A ∧ Function.Injective (cayleyD u : 𝔸 → 𝔸) ∧ ∀ δ, cayleyD u δ = (-2 : ℝ) • ((↑u⁻¹ : 𝔸) * δ * ↑u⁻¹) :=
  ⟨hasFDerivAt_cayley A u hu, cayleyD_injective u, cayleyD_apply u⟩

/-- the placement `θ ↦ generator` of the real chart is `ℝ`-linear (`genLin`) and the model's order-1 chart is `cayleyMap ∘ genLin` -/
theorem soCayley_real_eq (inv : NMat ℂ → NMat ℂ) (hinv : ∀ P, IsUnit (toM dim dim P).det → toM dim dim (inv P) * toM dim dim P = 1)
    (S : Scalars ℂ) (hS : S.Valid dim) (hd : 1 ≤ dim) (θ : Fin (dim * (dim - 1) / 2) → ℝ) :
    toM dim dim (soCayley inv S dim 1 true (extZero θ)) = cayleyMap (genLin S hd θ) :=
  soCayley_eq_cayleyMap inv hinv S hS hd true (extZero θ)

/-- **the real Cayley chart of SO(d), order 1, has rank `d(d-1)/2` at EVERY θ** (differentiable on all of `ℝ^{d(d-1)/2}` with injective differential) -/
theorem soCayley_real_full_rank (S : Scalars ℂ) (hS : S.Valid dim) (hd : 1 ≤ dim) (θ : Fin (dim * (dim - 1) / 2) → ℝ) :
    open scoped Matrix.Norms.Operator in
    ∃ D : (Fin (dim * (dim - 1) / 2) → ℝ) →L[ℝ] Matrix (Fin dim) (Fin dim) ℂ,
      HasFDerivAt (fun t => cayleyMap (LinearMap.toContinuousLinearMap (genLin S hd) t)) D θ ∧ Function.Injective D := by
  open scoped Matrix.Norms.Operator in
  set P := LinearMap.toContinuousLinearMap (genLin S hd) with hP
  have hPinj : Function.Injective P := genLin_injective S hS hd
  have hsk : (P θ)ᴴ = -(P θ) := soGenerator_skew S hS hd true (extZero θ)
  have hunit : IsUnit (1 + P θ) := (Matrix.isUnit_iff_isUnit_det _).2 (isUnit_one_add_of_skew _ hsk)
  obtain ⟨u, hu⟩ := hunit
  obtain ⟨h1, h2⟩ := cayley_chart_full_rank P hPinj θ u hu
  exact ⟨_, h1, h2⟩

/-- order 2 (`C²`, the default `cayley_order`): differential `δC·C + C·δC`; injective — full rank — wherever the Sylvester operator
`X ↦ X C + C X` is injective, i.e. `C = cayley(A)` has no pair of eigenvalues `λ, -λ` (an open dense condition; at θ = 0, `C = 1`, it holds) -/
theorem soCayley_order2_full_rank {𝔸 : Type*} [NormedRing 𝔸] [NormedAlgebra ℝ 𝔸] [CompleteSpace 𝔸]
    {E : Type*} [NormedAddCommGroup E] [NormedSpace ℝ E] (P : E →L[ℝ] 𝔸) (hP : Function.Injective P)
    (θ : E) (u : 𝔸ˣ) (hu : (↑u : 𝔸) = 1 + P θ) (hSyl : ∀ X : 𝔸, X * cayleyMap (P θ) + cayleyMap (P θ) * X = 0 → X = 0) :
    ∃ D : E →L[ℝ] 𝔸, HasFDerivAt (fun t => cayleyMap (P t) * cayleyMap (P t)) D θ ∧ Function.Injective D
      ∧ ∀ δ, D δ = cayleyD u (P δ) * cayleyMap (P θ) + cayleyMap (P θ) * cayleyD u (P δ) := by
  obtain ⟨h1, h2⟩ := cayley_chart_full_rank P hP θ u hu
  have hm := h1.mul' h1
  refine ⟨_, hm, ?_, ?_⟩
  · rw [injective_iff_map_eq_zero]
    intro δ hδ
    exact (injective_iff_map_eq_zero _).1 h2 δ (hSyl _ ((add_comm _ _).trans hδ))
  · exact fun δ => add_comm _ _

/-! ### scalar charts, probability sphere, entry placements -/

/-- `PositiveReal` / `OpenInterval`: `batch_size` independent scalars (`0` encodes `None` → one scalar), never fewer than one (a restatement of the
definition of `scalarParam`; the per-entry rank 1 is `softplus_deriv_pos` …, the batched map is the product of `bs` such charts) -/
theorem count_scalar (bs : Nat) : scalarParam bs = max 1 bs ∧ 1 ≤ scalarParam bs := by
  unfold scalarParam; split_ifs with h <;> omega

/-- `to_positive_real_softplus`: derivative `eˣ/(1+eˣ) > 0` at every point (rank 1 everywhere) -/
theorem softplus_deriv_pos (x : ℝ) :
    HasDerivAt (softplus : ℝ → ℝ) (Real.exp x / (1 + Real.exp x)) x ∧ 0 < Real.exp x / (1 + Real.exp x) := by
  have hpos : (0 : ℝ) < 1 + Real.exp x := by positivity
  constructor
  · have h1 : HasDerivAt (fun y => 1 + Real.exp y) (Real.exp x) x := (Real.hasDerivAt_exp x).const_add 1
    have h2 := h1.log (ne_of_gt hpos)
    have e : (softplus : ℝ → ℝ) = fun y => Real.log (1 + Real.exp y) := funext softplus_eq_log
    rw [e]; exact h2
  · positivity
/-- `to_positive_real_exp`: derivative `eˣ > 0` -/
theorem expMap_deriv_pos (x : ℝ) : HasDerivAt (expMap : ℝ → ℝ) (Real.exp x) x ∧ 0 < Real.exp x :=
  ⟨Real.hasDerivAt_exp x, Real.exp_pos x⟩
/-- `to_open_interval`: derivative `(u-l)·σ(x)(1-σ(x)) > 0` whenever `l < u` -/
theorem openInterval_deriv_pos (x l u : ℝ) (h : l < u) :
    ∃ D, HasDerivAt (fun y => openInterval y l u) D x ∧ 0 < D ∧ D = (u - l) * (sigmoid x * (1 - sigmoid x)) := by
  have hpos : (0 : ℝ) < 1 + Real.exp (-x) := by positivity
  have h1 : HasDerivAt (fun y => 1 + Real.exp (-y)) (-Real.exp (-x)) x := by
    have := ((hasDerivAt_neg x).exp).const_add 1
    simpa using this
  have h2 : HasDerivAt (fun y => (1 + Real.exp (-y))⁻¹) (-(-Real.exp (-x)) / (1 + Real.exp (-x)) ^ 2) x := h1.inv (ne_of_gt hpos)
  have hs : (fun y => sigmoid y) = fun y => (1 + Real.exp (-y))⁻¹ := by funext y; simp [sigmoid, one_div]
  have h3 : HasDerivAt (fun y => openInterval y l u) (-(-Real.exp (-x)) / (1 + Real.exp (-x)) ^ 2 * (u - l)) x := by
    have := (h2.mul_const (u - l)).add_const l
    have e : (fun y => openInterval y l u) = fun y => (1 + Real.exp (-y))⁻¹ * (u - l) + l := by
      funext y; simp [openInterval, sigmoid, one_div]
    rw [e]; exact this
  refine ⟨_, h3, ?_, ?_⟩
  · have : 0 < u - l := by linarith
    have he := Real.exp_pos (-x)
    have : 0 < -(-Real.exp (-x)) / (1 + Real.exp (-x)) ^ 2 := by rw [neg_neg]; positivity
    positivity
  · simp only [sigmoid, exp_eq]
    field_simp
    ring

/-- the model's `to_discrete_probability_sphere` is (entrywise square) ∘ (quotient map) on `EuclideanSpace ℝ (Fin n)` -/
theorem probSphere_eq (n : Nat) (θ : Nat → ℝ) (i : Fin n) : probSphereVec n θ i.val = probSphereMap (toE n θ) i := by
  simp only [probSphereVec, probSphereMap, sqMap, sphereQuotientVec_eq, sq]
/-- … differentiable at every `x ≠ 0`, and **at every point with no zero coordinate (the interior of the simplex) the kernel of the differential is the
radial line and the rank is `n - 1 = simplexDim`**.  (At a point with a zero coordinate the image lies on the boundary of the simplex and the rank drops:
the hypothesis is necessary.) -/
theorem probSphere_rank (n : Nat) (hn : 0 < n) {x : EuclideanSpace ℝ (Fin n)} (hx : ∀ i, x i ≠ 0) :
    HasFDerivAt (probSphereMap : EuclideanSpace ℝ (Fin n) → Fin n → ℝ) (probSphereD x) x ∧
    LinearMap.ker (probSphereD x : EuclideanSpace ℝ (Fin n) →ₗ[ℝ] (Fin n → ℝ)) = Submodule.span ℝ {x} ∧
    Module.finrank ℝ (LinearMap.range (probSphereD x : EuclideanSpace ℝ (Fin n) →ₗ[ℝ] (Fin n → ℝ))) = simplexDim n := by
  have hx0 : x ≠ 0 := fun h => hx ⟨0, hn⟩ (by rw [h]; rfl)
  refine ⟨hasFDerivAt_probSphereMap hx0, ker_probSphereD hx hn, ?_⟩
  have := finrank_range_probSphereD hx hn
  unfold simplexDim; omega

/-- the `dim × rank` pre-factor of `to_stiefel_polar` / `to_stiefel_qr` determines all `stiefelParam` parameters (pure reshape) -/
theorem placement_stiefel_injective (rank : Nat) (isReal : Bool) (θ θ' : Nat → ℝ)
    (h : toM dim rank (stiefelMat (K := ℂ) dim rank isReal θ) = toM dim rank (stiefelMat (K := ℂ) dim rank isReal θ')) :
    ∀ p, p < stiefelParam dim rank isReal .polar false → θ p = θ' p := by
  intro p hp; exact stiefelMat_injective isReal θ θ' h p (by simpa [stiefelParam] using hp)
/-- the unit-lower-trapezoidal pre-factor of `to_stiefel_choleskyL` determines all `stiefelParam` parameters -/
theorem placement_cholL_injective (rank : Nat) (isReal : Bool) (θ θ' : Nat → ℝ) (hrk : rank ≤ dim)
    (h : toM dim rank (cholLMat (K := ℂ) dim rank isReal θ) = toM dim rank (cholLMat (K := ℂ) dim rank isReal θ')) :
    ∀ p, p < stiefelParam dim rank isReal .choleskyL false → θ p = θ' p := by
  intro p hp; exact cholLMat_placement_injective isReal θ θ' hrk h p (by simpa [stiefelParam] using hp)
/-- the normalised Cholesky factor of `to_trace1_psd_cholesky` loses exactly the scale direction: same factor **and** same normaliser ⇒ same
`psdParam` parameters (`softplus` on the diagonal is strictly increasing).  This is the gauge `+1` of `count_psd_cholesky_*`. -/
theorem placement_psd_factor_injective (rank : Nat) (isReal : Bool) (θ θ' : Nat → ℝ) (hr : 1 ≤ rank) (hrk : rank ≤ dim)
    (h : toM dim rank (psdCholFactor (K := ℂ) dim rank isReal θ) = toM dim rank (psdCholFactor (K := ℂ) dim rank isReal θ'))
    (hn : psdNormaliser dim rank isReal θ = psdNormaliser dim rank isReal θ') :
    ∀ p, p < psdParam dim rank isReal true → θ p = θ' p := by
  intro p hp; exact psdCholFactor_injective_mod_scale isReal θ θ' hr hrk h hn p (by simpa [psdParam] using hp)

/-- `psdNormaliser` (used in the statement above) is the normaliser inside the executed `psdCholFactor` — the diagonal entries of
the model's factor are `softplus θ_c / psdNormaliser θ` -/
theorem placement_psd_normaliser_is_models (rank : Nat) (isReal : Bool) (θ : Nat → ℝ) (c : Nat) (hc : c < rank) (hrk : rank ≤ dim) :
    (psdCholFactor (K := ℂ) dim rank isReal θ).get c c = ((softplus (θ c) / psdNormaliser dim rank isReal θ : ℝ) : ℂ) := by
  rw [psdCholFactor_get isReal θ (hc.trans_le hrk) hc hrk, if_pos rfl]

example : ∃ x : EuclideanSpace ℝ (Fin 3), ∀ i, x i ≠ 0 := ⟨WithLp.toLp 2 fun _ => 1, fun i => by simp⟩

/-! ### the gap, stated -/

/-- **not proved** (full statement for the minimal exp chart): the chart is locally injective around some point, i.e. its differential has
rank `soParam = soDim` there.  (For the other maps the analogous statement with the manifold dimension is only searched numerically.) -/
def generic_rank.Statement : Prop :=
  ∀ (dim : Nat) (expm : NMat ℂ → NMat ℂ), (∀ A, toM dim dim (expm A) = NormedSpace.exp (toM dim dim A)) →
    ∀ (S : Scalars ℂ), S.Valid dim → 2 ≤ dim → ∀ isReal : Bool,
      ∃ (θ₀ : Nat → ℝ) (δ : ℝ), 0 < δ ∧ ∀ θ θ' : Nat → ℝ, (∀ p, |θ p - θ₀ p| < δ) → (∀ p, |θ' p - θ₀ p| < δ) →
        toM dim dim (soExp expm S dim isReal θ) = toM dim dim (soExp expm S dim isReal θ') →
        ∀ p, p < soParam dim isReal → θ p = θ' p

/-- proved fragment: the first (linear) layer of the chart separates directions — together with `hasFDerivAt_exp_zero` this is the rank
statement at the base point `θ₀ = 0` -/
theorem generic_rank_partial (S : Scalars ℂ) (hS : S.Valid dim) (hd : 1 ≤ dim) (isReal : Bool) (θ₀ v : Nat → ℝ)
    (hv : ∀ p, soParam dim isReal ≤ p → v p = 0)
    (h : toM dim dim (soGenerator S dim isReal fun p => θ₀ p + 1 * v p) = toM dim dim (soGenerator S dim isReal θ₀)) :
    ∀ p, v p = 0 := by
  intro p
  by_cases hp : p < soParam dim isReal
  · cases isReal with
    | true =>
      have := placement_so_injective S hS hd _ _ h p hp
      linarith
    | false =>
      have := placement_su_injective S hS hd _ _ h p hp
      linarith
  · exact hv p (not_lt.1 hp)

example : ∃ S : Scalars ℂ, S.Valid 3 := ⟨Gellmann.complexScalars 3, Gellmann.complexScalars_valid (by norm_num)⟩

end Numqi.C02
