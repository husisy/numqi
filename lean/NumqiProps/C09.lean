/-
C09 — Sp(2n,F2) indexing is a bijection onto the symplectic group.

Property theorems; the lemmas they share are in `NumqiProofs/SpF2Lemmas.lean`, `SpF2Index.lean`, `SpF2Inverse.lean`,
`SpF2Enum.lean`, `SpF2Batch.lean`, `SpF2Bits.lean`.  All statements are about the executable model `NumqiModel/SpF2.lean`
(the constants run by `Driver/C09.lean`) and hold for every `n`.

Vectors are bit arrays packed little-endian in a `Nat` (array entry `j` = `testBit j`), matrices are
lists of rows; `isSp n M` says: `2n` rows, every row below `4^n`, and `S Λ Sᵀ = Λ`.
-/
import NumqiProofs.SpF2Inverse
import NumqiProofs.SpF2Enum
import NumqiProofs.SpF2Batch
import NumqiProofs.SpF2Bits

namespace Numqi.C09
open Numqi Numqi.SpF2

/-- a transvection is an involution -/
theorem transvection_involutive (n x h : Nat) : tv n (tv n x h) h = x := tv_involutive n x h

/-- a transvection preserves the symplectic form -/
theorem transvection_preserves_form (n x y h : Nat) : ip n (tv n x h) (tv n y h) = ip n x y :=
  ip_tv_tv n x y h

/-- any list of transvections preserves the form -/
theorem transvections_preserve_form (n x y : Nat) (hs : List Nat) :
    ip n (tvs n x hs) (tvs n y hs) = ip n x y := ip_tvs n x y hs

/-- `find_transvection` raises exactly on a zero vector -/
theorem findTransvection_guard (n v0 v1 : Nat) : findTransvection n v0 v1 = none ↔ (v0 = 0 ∨ v1 = 0) := by
  unfold findTransvection
  by_cases h0 : v0 = 0 <;> by_cases h1 : v1 = 0 <;> simp [h0, h1]

/-- **Lemma 2** (all five branches): for non-zero `v0, v1` of length `2n` the two transvections returned
map `v0` to `v1` — in the documented order and also in the reverse order, which is the one
`from_int_tuple` / `to_int_tuple` use. -/
theorem findTransvection_spec (n v0 v1 : Nat) (h0 : v0 ≠ 0) (h1 : v1 ≠ 0) (hv0 : v0 < 4 ^ n) (hv1 : v1 < 4 ^ n) :
    ∃ a b, findTransvection n v0 v1 = some (a, b) ∧ tvs n v0 [a, b] = v1 ∧ tvs n v0 [b, a] = v1 ∧
      a < 4 ^ n ∧ b < 4 ^ n := by
  refine ⟨(findTv n v0 v1).1, (findTv n v0 v1).2, by simp [findTransvection, h0, h1], ?_, ?_, ?_⟩
  · exact findTv_spec n v0 v1 h0 h1 hv0 hv1
  · exact findTv_spec_rev n v0 v1 h0 h1 hv0 hv1
  · exact findTv_lt n v0 v1 h0 h1 hv0 hv1

/-- **the closed-form inverse is two-sided** on the symplectic group -/
theorem inverse_two_sided (n : Nat) (M : List Nat) (h : isSp n M = true) :
    matMul (2 * n) M (inverse n M) = idMat (2 * n) ∧ matMul (2 * n) (inverse n M) M = idMat (2 * n) := by
  obtain ⟨hwf, hsp⟩ := (isSp_iff n M).1 h
  exact ⟨matMul_inverse M hsp, inverse_matMul M hwf hsp⟩

/-- **every image is symplectic** -/
theorem fromIntTuple_mem_Sp (t : List (Nat × Nat)) (h : inRange t = true) :
    isSp t.length (fromIntTuple t) = true := by
  have := fromRev_all t.reverse h
  rw [List.length_reverse] at this
  exact (isSp_iff _ _).2 ⟨this.1, this.2.1⟩

/-- **`to_int_tuple ∘ from_int_tuple = id`** on in-range tuples -/
theorem to_from (t : List (Nat × Nat)) (h : inRange t = true) :
    toIntTuple t.length (fromIntTuple t) = some t := by
  have := (fromRev_all t.reverse h).2.2
  rwa [List.length_reverse, List.reverse_reverse] at this

/-- **`from_int_tuple ∘ to_int_tuple = id`** on the symplectic group, and the tuple is in range -/
theorem from_to (n : Nat) (M : List Nat) (h : isSp n M = true) :
    ∃ t, toIntTuple n M = some t ∧ t.length = n ∧ inRange t = true ∧ fromIntTuple t = M := by
  obtain ⟨hwf, hsp⟩ := (isSp_iff n M).1 h
  exact toIntTuple_all n M hwf hsp

/-- distinct tuples give distinct matrices -/
theorem fromIntTuple_injective (t t' : List (Nat × Nat)) (h : inRange t = true) (h' : inRange t' = true)
    (hl : t.length = t'.length) (he : fromIntTuple t = fromIntTuple t') : t = t' := by
  have h1 := to_from t h
  have h2 := to_from t' h'
  rw [he, hl, h2] at h1
  exact (Option.some.inj h1).symm

/-- every symplectic matrix is hit -/
theorem fromIntTuple_surjective (n : Nat) (M : List Nat) (h : isSp n M = true) :
    ∃ t, t.length = n ∧ inRange t = true ∧ fromIntTuple t = M := by
  obtain ⟨t, _, h2, h3, h4⟩ := from_to n M h
  exact ⟨t, h2, h3, h4⟩

/-- `get_number(n,'order')` is `Π (4^i − 1)·2^(2i−1)`, the product of the coset numbers, and the number of
in-range tuples -/
theorem getNumber_order (n : Nat) :
    order n = ∏ i ∈ Finset.range n, ((4 ^ (i + 1) - 1) * 2 ^ (2 * (i + 1) - 1)) ∧
    (cosetNumbers n).prod = order n ∧ (allTuples n).length = order n :=
  ⟨order_eq_prod n, cosetNumbers_prod n, allTuples_length n⟩

/-- the loop `itertools.product(*[range(b) for b in base])` lists exactly the in-range tuples of length `n` … -/
theorem allTuples_mem (n : Nat) (t : List (Nat × Nat)) : t ∈ allTuples n ↔ t.length = n ∧ inRange t = true :=
  mem_allTuples_iff n t

/-- … so the `order n` matrices `from_int_tuple(t)` enumerated by it are exactly the symplectic group
(with `fromIntTuple_injective`: each exactly once) -/
theorem images_exactly_Sp (n : Nat) (M : List Nat) :
    M ∈ (allTuples n).map fromIntTuple ↔ isSp n M = true := by
  constructor
  · intro h
    obtain ⟨t, ht, rfl⟩ := List.mem_map.1 h
    obtain ⟨h1, h2⟩ := (mem_allTuples_iff n t).1 ht
    rw [← h1]; exact fromIntTuple_mem_Sp t h2
  · intro h
    obtain ⟨t, h1, h2, h3⟩ := fromIntTuple_surjective n M h
    exact List.mem_map.2 ⟨t, (mem_allTuples_iff n t).2 ⟨h1, h2⟩, h3⟩

/-! ### the bit-packing helpers `int_to_bitarray` / `bitarray_to_int` (`spf2.py:82-112`)

In the rest of the model a bit array *is* the little-endian `Nat`; these theorems justify that identification for the executed
packing functions (ops `i2b`, `b2i`). -/

/-- **`bitarray_to_int ∘ int_to_bitarray`**: whenever the integer fits into the `⌈n/8⌉` bytes (no `OverflowError`) the array has length
`n`, entry `j` is bit `j` of `i`, and packing it again gives `i mod 2^n` — so the round trip is the identity exactly for `i < 2^n`,
and the bits above `n` are silently dropped for `2^n ≤ i < 256^⌈n/8⌉` -/
theorem bitarray_of_int (i n : Nat) (b : List Bool) (h : intToBitarray i n = some b) :
    b.length = n ∧ (∀ j, j < n → b.getD j false = i.testBit j) ∧ bitarrayToInt b = i % 2 ^ n := by
  unfold intToBitarray at h
  split at h
  · cases h
  · cases h
    refine ⟨by simp, fun j hj => by simp [List.getD_eq_getElem?_getD, hj], ?_⟩
    apply Nat.eq_of_testBit_eq
    intro j
    rw [testBit_bitarrayToInt, Nat.testBit_mod_two_pow]
    by_cases hj : j < n <;> simp [List.getD_eq_getElem?_getD, hj]

/-- the `OverflowError` is raised exactly when `i ≥ 256^⌈n/8⌉` -/
theorem int_to_bitarray_overflow (i n : Nat) : intToBitarray i n = none ↔ 256 ^ ((n + 7) / 8) ≤ i := by
  unfold intToBitarray; split <;> simp_all

/-- **round trip on the arguments `from_int_tuple` / `to_int_tuple` use** (`i < 2^n`): no overflow, and `bitarray_to_int` returns `i` -/
theorem int_bitarray_roundtrip (i n : Nat) (hi : i < 2 ^ n) : ∃ b, intToBitarray i n = some b ∧ bitarrayToInt b = i := by
  have hlt : ¬ 256 ^ ((n + 7) / 8) ≤ i := not_le.2 (lt_of_lt_of_le hi (two_pow_le_bytes n))
  have h : intToBitarray i n = some ((List.range n).map i.testBit) := by unfold intToBitarray; rw [if_neg hlt]
  exact ⟨_, h, by rw [(bitarray_of_int i n _ h).2.2, Nat.mod_eq_of_lt hi]⟩

/-- **`int_to_bitarray ∘ bitarray_to_int = id`** on every bit array, and `bitarray_to_int b < 2^len` with bit `j` = entry `j` -/
theorem bitarray_int_roundtrip (b : List Bool) :
    intToBitarray (bitarrayToInt b) b.length = some b ∧ bitarrayToInt b < 2 ^ b.length
    ∧ ∀ j, (bitarrayToInt b).testBit j = b.getD j false :=
  ⟨intToBitarray_bitarrayToInt b, bitarrayToInt_lt b, testBit_bitarrayToInt b⟩

/-! ### batched calls (`x.ndim ≥ 2`): `transvection` / `get_inner_product` act on the last axis, elementwise over the leading ones -/

/-- **`transvection` on a batch is the single-vector map on every row** (any leading shape `(k,2n)`, `(k,2n,2n)`, `(k,l,2n)`:
the model sees the array flattened to its rows), and a stack of arrays is handled block by block -/
theorem transvection_batch_elementwise (n : Nat) (rows hs : List Nat) :
    (tvsBatch n rows hs).length = rows.length
    ∧ (∀ i, i < rows.length → (tvsBatch n rows hs).getD i 0 = tvs n (rows.getD i 0) hs)
    ∧ ∀ Ms : List (List Nat), tvsBatch n Ms.flatten hs = (Ms.map fun M => tvsBatch n M hs).flatten :=
  ⟨tvsBatch_length n rows hs, tvsBatch_getD n rows hs, fun Ms => tvsBatch_flatten n Ms hs⟩

/-- `get_inner_product` on a batch: one bit per row -/
theorem innerProduct_batch_elementwise (n : Nat) (rows : List Nat) (w i : Nat) (hi : i < rows.length) :
    (ipBatch n rows w).getD i false = ip n (rows.getD i 0) w := by
  unfold ipBatch
  simp [List.getD_eq_getElem?_getD, List.getElem?_map, List.getElem?_eq_getElem hi]

/-- **a group element pushed through transvections (as a `(2n,2n)` block of a stack) stays in the group** -/
theorem transvection_batch_mem_Sp (n : Nat) (M hs : List Nat) (h : isSp n M = true) (hh : ∀ g ∈ hs, g < 4 ^ n) :
    isSp n (tvsBatch n M hs) = true := by
  obtain ⟨⟨hlen, hlt⟩, hsp⟩ := (isSp_iff n M).1 h
  refine (isSp_iff n _).2 ⟨⟨by rw [tvsBatch_length, hlen], ?_⟩, ?_⟩
  · intro k hk
    rw [tvsBatch_getD n M hs k (by omega), four_pow]
    exact tvs_lt hs (four_pow n ▸ hlt k hk) (fun g hg => four_pow n ▸ hh g hg)
  · intro i j hi hj
    rw [tvsBatch_getD n M hs i (by omega), tvsBatch_getD n M hs j (by omega), ip_tvs]
    exact hsp i j hi hj

/-- **the image set of `from_int_tuple` is closed under every transvection** (the closure probed on the whole stack) -/
theorem image_closed_under_transvections (t : List (Nat × Nat)) (hr : inRange t = true) (hs : List Nat)
    (hh : ∀ g ∈ hs, g < 4 ^ t.length) :
    ∃ t', t'.length = t.length ∧ inRange t' = true ∧ fromIntTuple t' = tvsBatch t.length (fromIntTuple t) hs :=
  fromIntTuple_surjective t.length _ (transvection_batch_mem_Sp _ _ hs (fromIntTuple_mem_Sp t hr) hh)

/-- **`rand_SpF2` (`random/_spf2.py:32-58`) is valid for every draw**: it returns `from_int_tuple` of a tuple whose entries are
drawn with `rng.randint(0, base-1)` (in range), hence a symplectic matrix from which `to_int_tuple` recovers the tuple -/
theorem rand_SpF2_valid (rawTuple : List (Nat × Nat)) (hr : inRange rawTuple = true) :
    isSp rawTuple.length (randSpF2 rawTuple) = true ∧ toIntTuple rawTuple.length (randSpF2 rawTuple) = some rawTuple :=
  ⟨fromIntTuple_mem_Sp rawTuple hr, to_from rawTuple hr⟩

/-! ### finite cross-checks of the specification itself -/

/-- the predicate `isSp` singles out exactly `|Sp(2,F2)| = 6` of the 16 bit matrices of size 2 -/
theorem sp2_count : ((List.range 16).filter fun c => isSp 1 (matOfCode 2 c)).length = order 1 := by
  decide +kernel

/-- complete evaluation for `n = 1` (6 tuples): in range, image symplectic, round trip (the kernel evaluates the model on
every tuple) -/
theorem exhaustive_n1 : (allTuples 1).all (fun t =>
    inRange t && isSp 1 (fromIntTuple t) && (toIntTuple 1 (fromIntTuple t) == some t)) = true := by
  decide +kernel

/-- the same for the 720 tuples of `n = 2`: `allTuples_mem`, `fromIntTuple_mem_Sp` and `to_from` read at `n = 2` -/
theorem exhaustive_n2 : (allTuples 2).all (fun t =>
    inRange t && isSp 2 (fromIntTuple t) && (toIntTuple 2 (fromIntTuple t) == some t)) = true := by
  rw [List.all_eq_true]
  intro t ht
  obtain ⟨hl, hr⟩ := (allTuples_mem 2 t).1 ht
  have hsp := fromIntTuple_mem_Sp t hr
  have hrt := to_from t hr
  rw [hl] at hsp hrt
  rw [hr, hsp, hrt, beq_self_eq_true]
  rfl

/-! ### the hypotheses are satisfiable, the statements are not vacuous -/

example : inRange [(2, 1)] = true ∧ fromIntTuple [(2, 1)] = [3, 1] ∧ isSp 1 [3, 1] = true := by decide
example : inRange [(2, 1), (14, 7)] = true := by decide
example : isSp 2 (fromIntTuple [(2, 1), (14, 7)]) = true ∧
    toIntTuple 2 (fromIntTuple [(2, 1), (14, 7)]) = some [(2, 1), (14, 7)] := by decide +kernel
/-- a pair of vectors handled by the last branch (no common non-zero pair): `v0 = e_0`, `v1 = e_1` (n = 2) -/
example : findTransvection 2 1 2 = some (14, 13) ∧ tvs 2 1 [14, 13] = 2 := by decide
/-- out-of-range tuples are rejected by `inRange` -/
example : inRange [(3, 0)] = false ∧ inRange [(0, 2)] = false := by decide
/-- `isSp` is not trivially true -/
example : isSp 1 [1, 1] = false := by decide

end Numqi.C09
