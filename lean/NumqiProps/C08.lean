/-
C08 — Pauli encodings are faithful: conversions bijective, algebra exact.

Property theorems with their proofs (shared lemmas: `NumqiProofs/PauliLemmas.lean`, `PauliPhase.lean`).
All statements are for every number of qubits `n` and every commutative ring `R` with a
square root `I` of `-1` (instantiate `R = ℂ`, `I = Complex.I`).
-/
import NumqiProofs.PauliPhase
import Mathlib.Data.Complex.Basic

namespace Numqi.C08
open Numqi Numqi.Pauli

variable {n : Nat} {R : Type*} [CommRing R]

/-- the operator `i^(2 s0 + s1) X^x Z^z` as a matrix over the computational basis `Bits n`:
`⟨b'| P |b⟩ = I^(k + 2 z·b)` if `b' = b ⊕ x`, else `0`. -/
def mat (I : R) (p : Pauli n) : Matrix (Bits n) (Bits n) R :=
  fun b' b => match p.matExp b' b with
    | some k => I ^ k
    | none => 0

theorem mat_apply {I : R} (hI : I * I = -1) (p : Pauli n) (b' b : Bits n) :
    mat I p b' b = if b' = Bits.xor b p.x then I ^ (p.phaseExp + 2 * Bits.dotN p.z b) else 0 := by
  unfold mat matExp
  by_cases h : b' = Bits.xor b p.x
  · have : Bits.beq b' (Bits.xor b p.x) = true := (Bits.beq_iff _ _).2 h
    rw [if_pos this, if_pos h]
    exact ipow_mod hI _
  · have : Bits.beq b' (Bits.xor b p.x) = false := by
      rw [Bool.eq_false_iff]; exact fun e => h ((Bits.beq_iff _ _).1 e)
    simp [this, h]

/-- **Product on the binary form = matrix product, phase included.** -/
theorem mat_mul {I : R} (hI : I * I = -1) (p q : Pauli n) :
    mat I (p.mul q) = mat I p * mat I q := by
  ext b' b
  rw [Matrix.mul_apply, Finset.sum_eq_single (Bits.xor b q.x)]
  · rw [mat_apply hI, mat_apply hI, mat_apply hI, if_pos rfl]
    have hx : Bits.xor b (p.mul q).x = Bits.xor (Bits.xor b q.x) p.x := (Bits.xor_assoc' b q.x p.x).symm
    rw [hx]
    by_cases h : b' = Bits.xor (Bits.xor b q.x) p.x
    · rw [if_pos h, if_pos h, ← pow_add]
      apply ipow_congr hI
      have h1 := Bits.dotN_xor_right p.z b q.x
      have h2 := Bits.dotN_xor_left p.z q.z b
      have h3 := phaseExp_mul p q
      change ((p.mul q).phaseExp + 2 * Bits.dotN (Bits.xor p.z q.z) b) % 4 = _
      omega
    · rw [if_neg h, if_neg h, zero_mul]
  · intro c _ hc
    rw [mat_apply hI q, if_neg hc, mul_zero]
  · intro h; exact absurd (Finset.mem_univ _) h

/-- the identity operator -/
def one (n : Nat) : Pauli n := ⟨false, false, fun _ => false, fun _ => false⟩

theorem mat_one {I : R} (hI : I * I = -1) : mat I (one n) = 1 := by
  ext b' b
  rw [mat_apply hI, Matrix.one_apply]
  simp [one, Bits.xor_false, Pauli.phaseExp, Bits.dotN_zero_left]

/-- `inverse()` is a left inverse on the binary form … -/
theorem inv_mul (p : Pauli n) : Pauli.beq (p.inv.mul p) (one n) = true := by
  refine (beq_iff _ _).2 (ext_phaseExp ?_ (Bits.xor_self p.x) (Bits.xor_self p.z))
  have h1 := phaseExp_mul p.inv p
  have h2 := phaseExp_inv p
  have h3 := phaseExp_lt (p.inv.mul p)
  have h4 := Bits.dotN_comm p.z p.x
  change (p.inv.mul p).phaseExp = 0
  change _ = (p.inv.phaseExp + p.phaseExp + 2 * Bits.dotN p.z p.x) % 4 at h1
  omega

/-- … hence the matrix inverse: `mat (p⁻¹) · mat p = 1`. -/
theorem mat_inv_mul {I : R} (hI : I * I = -1) (p : Pauli n) : mat I p.inv * mat I p = 1 := by
  rw [← mat_mul hI, ← mat_one hI, (beq_iff _ _).1 (inv_mul p)]

theorem mat_mul_inv {I : R} (hI : I * I = -1) (p : Pauli n) : mat I p * mat I p.inv = 1 :=
  mul_eq_one_comm.mp (mat_inv_mul hI p)

/-- **Faithfulness**: distinct binary forms are distinct matrices (needs `1 ≠ -1` in `R`). -/
theorem mat_injective {I : R} (hI : I * I = -1) (h2 : (1 : R) ≠ -1) (p q : Pauli n)
    (h : mat I p = mat I q) : Pauli.beq p q = true := by
  have hne : ∀ k : Nat, I ^ k ≠ 0 := fun k hk => by
    have h4 : I ^ (4 * k) = 1 := by rw [← ipow_mod hI]; simp
    have : (I ^ k) ^ 4 = 1 := by rw [← pow_mul, mul_comm]; exact h4
    rw [hk] at this; simp at this; exact h2 (by rw [← this]; simp)
  -- x parts agree: look at column 0
  have hx : p.x = q.x := by
    have := congrFun (congrFun h (Bits.xor (fun _ => false) p.x)) (fun _ => false)
    rw [mat_apply hI, mat_apply hI, if_pos rfl] at this
    by_cases e : Bits.xor (fun _ => false) p.x = Bits.xor (fun _ => false) q.x
    · funext i; have := congrFun e i; simpa [Bits.xor] using this
    · rw [if_neg e] at this; exact absurd this (hne _)
  -- column `b`, row `b ⊕ x`: the phases agree
  have hcol : ∀ b : Bits n, (p.phaseExp + 2 * Bits.dotN p.z b) % 4 = (q.phaseExp + 2 * Bits.dotN q.z b) % 4 := by
    intro b
    have := congrFun (congrFun h (Bits.xor b p.x)) b
    rw [mat_apply hI, mat_apply hI, if_pos rfl, ← hx, if_pos rfl] at this
    exact ipow_inj hI h2 this
  -- column `0` gives the phase, column `e_j` then gives `z_j`
  have hph : p.phaseExp % 4 = q.phaseExp % 4 := by
    simpa [Bits.dotN_eq_sum] using hcol fun _ => false
  have hz : p.z = q.z := by
    funext j
    have hd : ∀ z : Bits n, Bits.dotN z (fun i => decide (i = j)) = (z j).toNat := by
      intro z; rw [Bits.dotN_eq_sum, Finset.sum_eq_single j]
      · simp
      · intro i _ hi; simp [hi]
      · intro hj; exact absurd (Finset.mem_univ _) hj
    have := hcol fun i => decide (i = j)
    rw [hd, hd] at this
    revert this; cases p.z j <;> cases q.z j <;> simp <;> omega
  have := phaseExp_lt p
  have := phaseExp_lt q
  exact (beq_iff p q).2 (ext_phaseExp (by omega) hx hz)

/-- **Commutation test is exact**: `commutate_with` answers whether the matrices commute. -/
theorem commutes_iff {I : R} (hI : I * I = -1) (h2 : (1 : R) ≠ -1) (p q : Pauli n) :
    p.commutes q = true ↔ mat I p * mat I q = mat I q * mat I p := by
  rw [← mat_mul hI, ← mat_mul hI]
  have hx : (p.mul q).x = (q.mul p).x := funext fun i => Bool.xor_comm _ _
  have hz : (p.mul q).z = (q.mul p).z := funext fun i => Bool.xor_comm _ _
  have hc : p.commutes q = true ↔ (p.mul q).phaseExp = (q.mul p).phaseExp := by
    have h1 := phaseExp_mul p q
    have h3 := phaseExp_mul q p
    have hlt := phaseExp_lt (p.mul q)
    have hlt' := phaseExp_lt (q.mul p)
    simp only [Pauli.commutes, beq_iff_eq]
    rw [Bits.dotN_comm p.x q.z]
    omega
  rw [hc]
  constructor
  · intro hph
    rw [ext_phaseExp hph hx hz]
  · intro hm
    rw [(beq_iff _ _).1 (mat_injective hI h2 _ _ hm)]

/-! ### conversions -/

theorem symOfBits_lt (x z : Bool) : symOfBits x z < 4 := by cases x <;> cases z <;> decide

theorem symX_symOfBits (x z : Bool) : symX (symOfBits x z) = x := by cases x <;> cases z <;> rfl
theorem symZ_symOfBits (x z : Bool) : symZ (symOfBits x z) = z := by cases x <;> cases z <;> rfl

theorem symOfBits_symXZ {s : Nat} (h : s < 4) : symOfBits (symX s) (symZ s) = s := by
  interval_cases s <;> rfl

/-- **string → binary → string is the identity** (`pauli_str_to_F2 ∘ pauli_F2_to_str`). -/
theorem ofStr_toStr (p : Pauli n) : Pauli.beq (ofStr n p.toStr.1 p.toStr.2) p = true := by
  have hx : (ofStr n p.toStr.1 p.toStr.2).x = p.x := by
    funext i; simp [Pauli.ofStr, Pauli.toStr, symX_symOfBits]
  have hz : (ofStr n p.toStr.1 p.toStr.2).z = p.z := by
    funext i; simp [Pauli.ofStr, Pauli.toStr, symZ_symOfBits]
  refine (beq_iff _ _).2 (ext_phaseExp ?_ hx hz)
  have := phaseExp_lt p
  rw [phaseExp_ofStr, hx, hz]
  change (Bits.dotN p.x p.z + (p.phaseExp + 3 * Bits.dotN p.x p.z) % 4) % 4 = p.phaseExp
  omega

/-- **binary → string → binary is the identity** on well-formed strings. -/
theorem toStr_ofStr (syms : List Nat) (e : Nat) (hlen : syms.length = n)
    (hs : ∀ s ∈ syms, s < 4) (he : e < 4) : (ofStr n syms e).toStr = (syms, e) := by
  refine Prod.ext ?_ ?_
  · apply List.ext_getElem
    · simp [Pauli.toStr, hlen]
    · intro i h1 h2
      have hi : i < syms.length := h2
      have := hs syms[i] (List.getElem_mem hi)
      simp [Pauli.toStr, Pauli.ofStr, List.getD_eq_getElem?_getD, List.getElem?_eq_getElem hi, symOfBits_symXZ this]
  · change ((ofStr n syms e).phaseExp + 3 * Bits.dotN (ofStr n syms e).x (ofStr n syms e).z) % 4 = e
    rw [phaseExp_ofStr]
    omega

theorem symsToIndex_append (l : List Nat) (s : Nat) :
    symsToIndex (l ++ [s]) = symsToIndex l * 4 + s := by
  simp [symsToIndex, List.foldl_append]

/-- **index → string → index** for every index below `4^k`. -/
theorem symsToIndex_indexToSyms (k idx : Nat) (h : idx < 4 ^ k) :
    symsToIndex (indexToSyms k idx) = idx := by
  induction k generalizing idx with
  | zero => simp [indexToSyms, symsToIndex] at *; omega
  | succ k ih =>
    rw [indexToSyms, symsToIndex_append, ih (idx / 4) (by rw [pow_succ] at h; omega)]
    omega

theorem indexToSyms_length (k idx : Nat) : (indexToSyms k idx).length = k := by
  induction k generalizing idx with
  | zero => rfl
  | succ k ih => simp [indexToSyms, ih]

theorem indexToSyms_lt (k idx : Nat) : ∀ s ∈ indexToSyms k idx, s < 4 := by
  induction k generalizing idx with
  | zero => simp [indexToSyms]
  | succ k ih =>
    intro s hs; simp only [indexToSyms, List.mem_append, List.mem_singleton] at hs
    rcases hs with hs | hs
    · exact ih _ _ hs
    · omega

/-- the index of a string of `k` symbols is below `4^k` -/
theorem symsToIndex_lt (l : List Nat) (hs : ∀ s ∈ l, s < 4) : symsToIndex l < 4 ^ l.length := by
  induction l using List.reverseRecOn with
  | nil => simp [symsToIndex]
  | append_singleton l s ih =>
    rw [symsToIndex_append, List.length_append, List.length_singleton, pow_succ]
    have := ih (fun t ht => hs t (List.mem_append_left _ ht))
    have := hs s (by simp)
    omega

/-- **string → index → string** on well-formed strings. -/
theorem indexToSyms_symsToIndex (l : List Nat) (hs : ∀ s ∈ l, s < 4) :
    indexToSyms l.length (symsToIndex l) = l := by
  induction l using List.reverseRecOn with
  | nil => rfl
  | append_singleton l s ih =>
    have h1 := ih (fun t ht => hs t (List.mem_append_left _ ht))
    have h2 := hs s (by simp)
    rw [symsToIndex_append, List.length_append, List.length_singleton, indexToSyms]
    have : (symsToIndex l * 4 + s) / 4 = symsToIndex l := by omega
    have : (symsToIndex l * 4 + s) % 4 = s := by omega
    simp [*]

/-- **index → binary → index** (`pauli_F2_to_index ∘ pauli_index_to_F2`). -/
theorem toIndex_ofIndex (idx : Nat) (h : idx < 4 ^ n) : (ofIndex n idx).toIndex = idx := by
  unfold Pauli.toIndex Pauli.ofIndex
  rw [toStr_ofStr _ _ (indexToSyms_length n idx) (indexToSyms_lt n idx) (by norm_num)]
  exact symsToIndex_indexToSyms n idx h

/-- the index of every operator is in range -/
theorem toIndex_lt (p : Pauli n) : p.toIndex < 4 ^ n := by
  have := symsToIndex_lt p.toStr.1 p.toStr_lt
  simpa [Pauli.toIndex, Pauli.toStr] using this

/-! ### dense matrix: Kronecker-factor form = functional form -/

private theorem foldl_none (l : List (Fin n)) (f : Fin n → Option Nat) :
    l.foldl (fun acc i => match acc, f i with
      | some a, some c => some ((a + c) % 4)
      | _, _ => none) none = none := by
  induction l with
  | nil => rfl
  | cons i l ih => simpa [List.foldl_cons] using ih

private theorem foldl_some (l : List (Fin n)) (ok : Fin n → Bool) (c : Fin n → Nat) (a : Nat) (ha : a < 4) :
    l.foldl (fun acc i => match acc, (if ok i then some (c i) else none) with
      | some a, some c => some ((a + c) % 4)
      | _, _ => none) (some a)
    = if l.all ok then some ((a + (l.map c).sum) % 4) else none := by
  induction l generalizing a with
  | nil => simp; omega
  | cons i l ih =>
    rw [List.foldl_cons]
    by_cases h : ok i
    · simp only [h, if_true, List.all_cons, Bool.true_and, List.map_cons, List.sum_cons]
      rw [ih _ (Nat.mod_lt _ (by norm_num))]
      congr 2
      omega
    · simp only [h, List.all_cons, Bool.false_and]
      exact foldl_none l _

/-- **`full_matrix` (sign × Kronecker product of the one-qubit factors) is the operator
`i^(2 s0+s1) X^x Z^z`**, entry by entry, for every `n`. -/
theorem fullMatrixExp_eq_matExp (p : Pauli n) (b' b : Bits n) :
    p.fullMatrixExp b' b = p.matExp b' b := by
  unfold Pauli.fullMatrixExp Pauli.matExp Pauli.localExp
  have := foldl_some (List.finRange n) (fun i => b' i == (b i ^^ p.x i))
    (fun i => (p.x i && p.z i).toNat + 2 * (p.z i && b i).toNat) p.toStr.2
    (by simp only [Pauli.toStr]; exact Nat.mod_lt _ (by norm_num))
  refine Eq.trans this ?_
  have hall : ((List.finRange n).all fun i => b' i == (b i ^^ p.x i)) = Bits.beq b' (Bits.xor b p.x) := rfl
  rw [hall]
  by_cases h : Bits.beq b' (Bits.xor b p.x) = true
  · simp only [h, if_true]
    congr 1
    have hs : ((List.finRange n).map fun i => (p.x i && p.z i).toNat + 2 * (p.z i && b i).toNat).sum
        = Bits.dotN p.x p.z + 2 * Bits.dotN p.z b := by
      rw [← Fin.sum_univ_def, Finset.sum_add_distrib, ← Finset.mul_sum, Bits.dotN_eq_sum, Bits.dotN_eq_sum]
    rw [hs]
    simp only [Pauli.toStr]
    omega
  · simp [h]

/-! ### adjoint and Hermiticity (needs a star structure: `R = ℂ`, `I = Complex.I`) -/

theorem xor_xor_cancel (b x : Bits n) : Bits.xor (Bits.xor b x) x = b := by
  funext i; simp [Bits.xor]

/-- **`inverse()` is the adjoint**: Pauli operators are unitary. -/
theorem mat_conjTranspose [StarRing R] {I : R} (hI : I * I = -1) (hs : star I = -I) (p : Pauli n) :
    (mat I p).conjTranspose = mat I p.inv := by
  ext b' b
  rw [Matrix.conjTranspose_apply, mat_apply hI, mat_apply hI]
  change star (if b = Bits.xor b' p.x then _ else _) = if b' = Bits.xor b p.x then I ^ (p.inv.phaseExp + 2 * Bits.dotN p.z b) else 0
  by_cases h : b' = Bits.xor b p.x
  · have h' : b = Bits.xor b' p.x := by rw [h, xor_xor_cancel]
    rw [if_pos h', if_pos h, star_pow, hs]
    have h3 : (-I) = I ^ 3 := by
      have : I ^ 3 = (I * I) * I := by ring
      rw [this, hI]; ring
    rw [h3, ← pow_mul]
    apply ipow_congr hI
    have hd := Bits.dotN_xor_right p.z b p.x
    rw [← h, Bits.dotN_comm p.z p.x] at hd
    have hi := phaseExp_inv p
    omega
  · have h' : ¬ b = Bits.xor b' p.x := fun e => h (by rw [e, xor_xor_cancel])
    rw [if_neg h, if_neg h', star_zero]

/-- **Hermiticity flag** used by `rand_pauli(is_hermitian=…)`: the matrix is Hermitian exactly
when `s1 = x·z mod 2`. -/
theorem hermitian_iff [StarRing R] {I : R} (hI : I * I = -1) (hs : star I = -I) (h2 : (1 : R) ≠ -1)
    (p : Pauli n) : (mat I p).conjTranspose = mat I p ↔ p.hermitianFlag = true := by
  rw [mat_conjTranspose hI hs]
  have hf : p.hermitianFlag = true ↔ p.inv.phaseExp = p.phaseExp := by
    have hi := phaseExp_inv p
    have := phaseExp_lt p
    have := phaseExp_lt p.inv
    have h1 : p.hermitianFlag = true ↔ (p.phaseExp + Bits.dotN p.x p.z) % 2 = 0 := by
      simp only [Pauli.hermitianFlag, Pauli.phaseExp, beq_iff_eq]
      cases p.s1
      · simp
      · simp
        omega
    rw [h1]
    omega
  rw [hf]
  constructor
  · intro h
    rw [(beq_iff _ _).1 (mat_injective hI h2 _ _ h)]
  · intro h
    rw [ext_phaseExp h rfl rfl]

/-! ### the hypotheses are satisfiable, the statements are not vacuous -/

/-- the ring hypotheses hold for `R = ℂ`, `I = Complex.I` -/
example : Complex.I * Complex.I = -1 ∧ star Complex.I = -Complex.I ∧ (1 : ℂ) ≠ -1 := by
  refine ⟨Complex.I_mul_I, Complex.conj_I, ?_⟩
  intro h; have := congrArg Complex.re h; norm_num at this

/-- so e.g. the homomorphism law holds for complex matrices -/
example (p q : Pauli 3) : mat Complex.I (p.mul q) = mat Complex.I p * mat Complex.I q :=
  mat_mul Complex.I_mul_I p q

/-- a concrete non-commuting pair: X and Z on one qubit -/
example :
    let X : Pauli 1 := ⟨false, false, fun _ => true, fun _ => false⟩
    let Z : Pauli 1 := ⟨false, false, fun _ => false, fun _ => true⟩
    X.commutes Z = false ∧ (X.mul Z).toF2List = [false, false, true, true]
      ∧ (Z.mul X).toF2List = [true, false, true, true] := by decide

/-- a concrete round trip through the string form with a non-trivial phase: `-i·YZ` -/
example : (ofStr 2 [2, 3] 3).toStr = ([2, 3], 3) := by decide

end Numqi.C08
