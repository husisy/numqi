/-
C03 (programs) — the Circuit-API statements as model constants.

`append_gate`, `extend_circuit`, `shift_qubit_index_` (and the entries `apply_state` refuses) are modelled by `Stmt0` / `Stmt` of
`NumqiModel/Gates.lean`; the step from a program to its gate list is the Lean definition `runProg`, which the driver executes.
The theorems say what each statement does to the entry list and to the operator.
-/
import NumqiProps.C03Gates

namespace Numqi.C03
open Numqi Function Matrix

variable {α : Type} [Zero α] [One α] [Add α] [Sub α] [Mul α] [Neg α]

/-! ### what each statement does to `gate_index_list`

`runProg_snoc` is the unfolding of the fold; the four statements below it are its readings for the four kinds of statement
(definitional: they document the model, the content is in `circuit_shift`, `compile_shift_*`, `refused_not_compiled`). -/

theorem runProg_snoc (I : α) (p : List (Stmt α)) (s : Stmt α) :
    runProg I (p ++ [s]) = Stmt.step I (runProg I p) s := by
  simp [runProg, List.foldl_append]

/-- **`append_gate` / any single-entry method appends exactly one entry and touches nothing else** (definitional) -/
theorem runProg_append_gate (I : α) (p : List (Stmt α)) (g : RawOp α) :
    runProg I (p ++ [.base (.gate g)]) = runProg I p ++ [g.canon] := by
  rw [runProg_snoc]; rfl

/-- a named gate method appends the entry of the vocabulary table (definitional) -/
theorem runProg_call (I : α) (p : List (Stmt α)) (v : Vocab α) :
    runProg I (p ++ [.base (.call v)]) = runProg I p ++ [(v.toRaw I).canon] := by
  rw [runProg_snoc]; rfl

/-- **`shift_qubit_index_(δ)` translates the indices of every entry present so far** (later appends are not affected;
definitional) -/
theorem runProg_shift (I : α) (p : List (Stmt α)) (δ : Int) :
    runProg I (p ++ [.base (.shift δ)]) = (runProg I p).map (RawOp.shift δ) := by
  rw [runProg_snoc]; rfl

/-- **`extend_circuit(sub)` appends the entries of the other circuit, in order** (definitional) -/
theorem runProg_extend (I : α) (p : List (Stmt α)) (sub : List (Stmt0 α)) :
    runProg I (p ++ [.extend sub]) = runProg I p ++ runProg0 I sub := by
  rw [runProg_snoc]; rfl

/-! ### an entry `apply_state` refuses -/

/-- the entry has no array -/
def RawOp.noArray : RawOp α → Bool
  | .unitary U _ => U.size == 0
  | .control U _ _ => U.size == 0
  | .custom U => U.size == 0
  | .measure _ _ => false

omit [One α] [Add α] [Sub α] [Mul α] [Neg α] in
/-- an entry without array is rejected at every width -/
theorem compile_noArray (n : Nat) (g : RawOp α) (h : RawOp.noArray g = true) : g.compile n = none := by
  have hp : ∀ k : Nat, ((0 : Nat) == 2 ^ k * 2 ^ k) = false := by
    intro k
    have : 0 < 2 ^ k * 2 ^ k := Nat.mul_pos (Nat.two_pow_pos k) (Nat.two_pow_pos k)
    simp only [beq_eq_false_iff_ne, ne_eq]; omega
  cases n with
  | zero => cases g <;> rfl
  | succ n =>
    cases g with
    | unitary U t =>
      have hU : U.size = 0 := by simpa [RawOp.noArray] using h
      simp [RawOp.compile, hU, hp]
    | control U c t =>
      have hU : U.size = 0 := by simpa [RawOp.noArray] using h
      simp only [RawOp.compile, hU, hp, Bool.and_false]
      split <;> simp
    | measure s o => simp [RawOp.noArray] at h
    | custom U =>
      have hU : U.size = 0 := by simpa [RawOp.noArray] using h
      simp [RawOp.compile, hU, hp]

omit [Zero α] [One α] [Add α] [Sub α] [Mul α] [Neg α] in
theorem noArray_shift (δ : Int) (g : RawOp α) : RawOp.noArray (g.shift δ) = RawOp.noArray g := by
  cases g <;> rfl

omit [Zero α] [One α] [Add α] [Sub α] [Mul α] [Neg α] in
theorem noArray_refused (r : Refused) : RawOp.noArray (r.toRaw : RawOp α) = true := by
  cases r <;> rfl

omit [One α] [Add α] [Sub α] [Mul α] [Neg α] in
/-- a list holding an entry without array is not a circuit at any width -/
theorem compileCircuit_noArray (n : Nat) (l : List (RawOp α)) (h : ∃ g ∈ l, RawOp.noArray g = true) : compileCircuit n l = none := by
  obtain ⟨g, hg, hn⟩ := h
  induction l with
  | nil => simp at hg
  | cons a l ih =>
    unfold compileCircuit
    rw [List.mapM_cons]
    rcases List.mem_cons.1 hg with rfl | hmem
    · rw [compile_noArray n g hn]; rfl
    · have := ih hmem
      unfold compileCircuit at this
      rw [this]
      cases RawOp.compile n a <;> rfl

theorem step0_keeps_noArray (I : α) (l : List (RawOp α)) (s : Stmt0 α) (h : ∃ g ∈ l, RawOp.noArray g = true) :
    ∃ g ∈ Stmt0.step I l s, RawOp.noArray g = true := by
  obtain ⟨g, hg, hn⟩ := h
  cases s with
  | gate g' => exact ⟨g, List.mem_append_left _ hg, hn⟩
  | call v => exact ⟨g, List.mem_append_left _ hg, hn⟩
  | shift δ => exact ⟨g.shift δ, List.mem_map_of_mem hg, by rw [noArray_shift]; exact hn⟩
  | refused r => exact ⟨g, List.mem_append_left _ hg, hn⟩

theorem step_keeps_noArray (I : α) (l : List (RawOp α)) (s : Stmt α) (h : ∃ g ∈ l, RawOp.noArray g = true) :
    ∃ g ∈ Stmt.step I l s, RawOp.noArray g = true := by
  cases s with
  | base s0 => exact step0_keeps_noArray I l s0 h
  | extend sub => obtain ⟨g, hg, hn⟩ := h; exact ⟨g, List.mem_append_left _ hg, hn⟩

/-- **an entry `apply_state` refuses (never-set placeholder, Kraus entry) makes the circuit inapplicable for good**: whatever
statements follow (appends, shifts, extensions), the entry list compiles at no width — `Circuit.apply_state` / `to_unitary`
raise.  The entry itself stays in the list with its real index (`Refused.toRaw`), so `num_qubit` and
`shift_qubit_index_` still account for it. -/
theorem refused_not_compiled (I : α) (p q : List (Stmt α)) (r : Refused) (n : Nat) :
    compileCircuit n (runProg I (p ++ [.base (.refused r)] ++ q)) = none := by
  apply compileCircuit_noArray
  have h0 : ∀ (q : List (Stmt α)) (l : List (RawOp α)), (∃ g ∈ l, RawOp.noArray g = true) →
      ∃ g ∈ q.foldl (Stmt.step I) l, RawOp.noArray g = true := by
    intro q
    induction q with
    | nil => intro l h; exact h
    | cons s q ih => intro l h; rw [List.foldl_cons]; exact ih _ (step_keeps_noArray I l s h)
  simp only [runProg, List.foldl_append, List.foldl_cons, List.foldl_nil]
  apply h0
  exact ⟨r.toRaw, List.mem_append_right _ (List.mem_singleton.2 rfl), noArray_refused r⟩

omit [Zero α] [One α] [Add α] [Sub α] [Mul α] [Neg α] in
/-- `num_qubit` counts a never-set placeholder at its index and ignores a Kraus entry (`circuit.py:458-465`) -/
theorem refused_maxIndex (t : List Int) :
    RawOp.maxIndex (Refused.toRaw (α := α) (.placeholder t)) = t.foldl max 0 ∧
    RawOp.maxIndex (Refused.toRaw (α := α) .nonCanonical) = 0 := ⟨rfl, rfl⟩

/-! ### shifts compose; a negative shift undoes a positive one -/

omit [Zero α] [One α] [Add α] [Sub α] [Mul α] [Neg α] in
theorem shift_shift (a b : Int) (g : RawOp α) : (g.shift a).shift b = g.shift (a + b) := by
  cases g <;> simp [RawOp.shift, List.map_map, Function.comp_def, add_assoc]

omit [Zero α] [One α] [Add α] [Sub α] [Mul α] [Neg α] in
theorem shift_zero (g : RawOp α) : g.shift 0 = g := by
  cases g <;> simp [RawOp.shift]

omit [Zero α] [One α] [Add α] [Sub α] [Mul α] [Neg α] in
/-- `shift_qubit_index_(-d)` after `shift_qubit_index_(d)` restores every entry (so the theorems for `d ≥ 0`,
`compile_shift_unitary/control/measure`, also describe a negative shift: read them from right to left) -/
theorem shift_neg_cancel (d : Int) (g : RawOp α) : (g.shift d).shift (-d) = g := by
  rw [shift_shift, add_neg_cancel, shift_zero]


/-! ### shifting a measure entry -/

section measure
variable {R : Type} {n : Nat}

theorem projEmbed_cast_m [Zero R] [One R] {m m' : Nat} (h : m' = m) (s : Fin m → Fin n) (s' : Fin m' → Fin n)
    (o : Bits m) (o' : Bits m') (hs : ∀ j, s' j = s (Fin.cast h j)) (ho : ∀ j, o' j = o (Fin.cast h j)) :
    projEmbed (α := R) s' o' = projEmbed s o := by
  subst h
  have h1 : s' = s := funext fun j => by simpa using hs j
  have h2 : o' = o := funext fun j => by simpa using ho j
  rw [h1, h2]

theorem projEmbed_shift [Zero R] [One R] {m : Nat} (d : Nat) (s : Fin m → Fin n) (o : Bits m) (x x' : Bits (d + n)) :
    projEmbed (α := R) (fun j => Fin.natAdd d (s j)) o x x'
      = if Bits.head d x = Bits.head d x' then projEmbed s o (Bits.tail d x) (Bits.tail d x') else 0 := by
  simp only [projEmbed, Bool.and_eq_true, Bits.beq_iff, bits_eq_iff_head_tail d x x']
  have hsel : x.sel (fun j => Fin.natAdd d (s j)) = (Bits.tail d x).sel s := rfl
  rw [hsel]
  by_cases h1 : Bits.head d x = Bits.head d x' <;> simp [h1]

/-- **`shift_qubit_index_` on a measure entry** (`circuit.py:482-486`, which also updates `gate.index`): resolving the
shifted entry against `d` more qubits gives the projector `1_d ⊗ P_o` of the original entry -/
theorem compile_shift_measure [Zero R] [One R] (d n : Nat) (sq : List Int) (o : List Bool) (op : Op (n + 1) R)
    (op' : Op (d + (n + 1)) R) (h : (RawOp.measure (α := R) sq o).compile (n + 1) = some op)
    (h' : ((RawOp.measure (α := R) sq o).shift d).compile (d + (n + 1)) = some op') (x x' : Bits (d + (n + 1))) :
    op'.matrix x x' = if Bits.head d x = Bits.head d x' then op.matrix (Bits.tail d x) (Bits.tail d x') else 0 := by
  obtain ⟨hr, -, rfl⟩ := compile_measure_some h
  change RawOp.compile ((d + n) + 1) (RawOp.measure (sq.map (· + (d : Int))) o) = some op' at h'
  obtain ⟨hr', -, rfl⟩ := compile_measure_some h'
  simp only [Op.matrix]
  have hk : (sq.map (· + (d : Int))).length = sq.length := List.length_map _
  rw [projEmbed_cast_m hk (fun j => Fin.natAdd d (mkTarget n sq j)) _ (fun j => o.getD j.val false) _ ?_ ?_,
    projEmbed_shift]
  · intro j
    apply Fin.ext
    have e1 := mkTarget_val (n := d + n) hr' j
    have e2 := mkTarget_val (n := n) hr (Fin.cast hk j)
    refine Int.ofNat_inj.1 ?_
    simp only [Fin.val_natAdd, Nat.cast_add] at e1 e2 ⊢
    rw [e1, e2]
    simp [add_comm]
  · intro j; rfl

end measure


/-! ### `args=None`: the parametrised methods initialise their angles to zero (`circuit.py:71-72, 86-87`) -/

section zero
variable {R : Type} [CommRing R]

/-- at angle 0 — the pair `(1, 0)` — every rotation is the identity array -/
theorem rx_zero (I : R) : Gates.rx I ⟨1, 0⟩ = Gates.I2 := by simp [Gates.rx, Gates.I2]
theorem ry_zero : Gates.ry (⟨1, 0⟩ : CS R) = Gates.I2 := by simp [Gates.ry, Gates.I2]
theorem rz_zero (I : R) : Gates.rz I ⟨1, 0⟩ = Gates.I2 := by simp [Gates.rz, Gates.I2]
theorem u3_zero (I : R) : Gates.u3 I ⟨1, 0⟩ ⟨1, 0⟩ ⟨1, 0⟩ = Gates.I2 := by simp [Gates.u3, Gates.I2]
theorem rzz_zero (I : R) : Gates.rzz I ⟨1, 0⟩ = #[1,0,0,0, 0,1,0,0, 0,0,1,0, 0,0,0,1] := by simp [Gates.rzz]

end zero

/-! ### `extend_circuit`: the operator of the extended circuit is the product -/

section extend
variable {R : Type} {n : Nat}

theorem compileCircuit_append [Zero R] (a b : List (RawOp R)) :
    compileCircuit n (a ++ b) = (do let x ← compileCircuit n a; let y ← compileCircuit n b; pure (x ++ y)) := by
  unfold compileCircuit
  induction a with
  | nil => simp
  | cons g a ih =>
    simp only [List.cons_append, List.mapM_cons, ih]
    cases RawOp.compile n g <;> simp
    cases List.mapM (RawOp.compile n) a <;> simp
    cases List.mapM (RawOp.compile n) b <;> simp

theorem circuitMatrix_append [Semiring R] (c1 c2 : List (Op n R)) :
    circuitMatrix (c1 ++ c2) = circuitMatrix c2 * circuitMatrix c1 := by
  simp [circuitMatrix, List.map_append, List.reverse_append, List.prod_append]

/-- **acting with the extended circuit = acting with the first circuit, then with the appended one** -/
theorem applyStateA_extend [Add R] [Mul R] [Zero R] (c1 c2 : List (Op n R)) (a : Array R) :
    applyStateA (c1 ++ c2) a = applyStateA c2 (applyStateA c1 a) := by
  simp [applyStateA, List.foldl_append]

end extend

/-! ### `shift_qubit_index_` commutes with the index resolution, for whole circuits -/

section circuitShift
variable {R : Type} {n : Nat}

/-- `A'` on `d + n` qubits is `1_d ⊗ A` -/
def IsShiftOf [Zero R] (d : Nat) (A' : Matrix (Bits (d + n)) (Bits (d + n)) R) (A : Matrix (Bits n) (Bits n) R) : Prop :=
  ∀ x x', A' x x' = if Bits.head d x = Bits.head d x' then A (Bits.tail d x) (Bits.tail d x') else 0

/-- a `(d+n)`-bit index is its head and its tail -/
def splitEquiv (d n : Nat) : Bits d × Bits n ≃ Bits (d + n) where
  toFun p := Fin.append p.1 p.2
  invFun x := (Bits.head d x, Bits.tail d x)
  left_inv p := by
    refine Prod.ext ?_ ?_
    · funext i; simp [Bits.head, Fin.append_left]
    · funext i; simp [Bits.tail, Fin.append_right]
  right_inv x := by
    funext i
    refine Fin.addCases (fun a => ?_) (fun b => ?_) i
    · simp [Bits.head, Fin.append_left]
    · simp [Bits.tail, Fin.append_right]

theorem isShiftOf_one [Semiring R] (d : Nat) : IsShiftOf d (1 : Matrix (Bits (d + n)) (Bits (d + n)) R) 1 := by
  intro x x'
  simp only [Matrix.one_apply, bits_eq_iff_head_tail d x x']
  by_cases h1 : Bits.head d x = Bits.head d x' <;> simp [h1]

theorem isShiftOf_mul [Semiring R] (d : Nat) {A' B' : Matrix (Bits (d + n)) (Bits (d + n)) R}
    {A B : Matrix (Bits n) (Bits n) R} (hA : IsShiftOf d A' A) (hB : IsShiftOf d B' B) : IsShiftOf d (A' * B') (A * B) := by
  intro x x'
  rw [Matrix.mul_apply, ← (splitEquiv d n).sum_comp, Fintype.sum_prod_type]
  have hh : ∀ p : Bits d × Bits n, Bits.head d (splitEquiv d n p) = p.1 := fun p => congrArg Prod.fst ((splitEquiv d n).left_inv p)
  have ht : ∀ p : Bits d × Bits n, Bits.tail d (splitEquiv d n p) = p.2 := fun p => congrArg Prod.snd ((splitEquiv d n).left_inv p)
  simp only [hA _ _, hB _ _, hh, ht]
  by_cases h : Bits.head d x = Bits.head d x'
  · rw [if_pos h, Matrix.mul_apply, Finset.sum_eq_single (Bits.head d x)]
    · simp [h]
    · intro a _ ha
      have : ¬ Bits.head d x = a := fun e => ha e.symm
      simp [this]
    · intro hne; exact absurd (Finset.mem_univ _) hne
  · rw [if_neg h]
    refine Finset.sum_eq_zero (fun a _ => ?_)
    by_cases h1 : Bits.head d x = a
    · have : ¬ a = Bits.head d x' := fun e => h (h1.trans e)
      simp [h1, this]
    · simp [h1]

/-- an entry that carries qubit indices (everything but a `kind='custom'` gate, which is tied to the register width) -/
def RawOp.Shiftable {α : Type} : RawOp α → Prop
  | .custom _ => False
  | _ => True

/-- **`shift_qubit_index_(d)` is an index translation that commutes with the index resolution**: if a gate list resolves
against `n+1` qubits and the shifted list against `d + (n+1)`, the operator of the shifted circuit is `1_d ⊗` the operator
of the original one — for every circuit of unitary, controlled and measure entries. -/
theorem circuit_shift [Semiring R] (d n : Nat) (l : List (RawOp R)) (hl : ∀ g ∈ l, RawOp.Shiftable g)
    (c : List (Op (n + 1) R)) (c' : List (Op (d + (n + 1)) R))
    (h : compileCircuit (n + 1) l = some c) (h' : compileCircuit (d + (n + 1)) (l.map (RawOp.shift d)) = some c') :
    IsShiftOf d (circuitMatrix c') (circuitMatrix c) := by
  induction l generalizing c c' with
  | nil =>
    simp [compileCircuit] at h h'
    subst h; subst h'
    rw [circuitMatrix_nil, circuitMatrix_nil]
    exact isShiftOf_one d
  | cons g l ih =>
    obtain ⟨op, c0, hg, hl0, rfl⟩ := mapM_cons_some _ _ _ _ h
    rw [List.map_cons] at h'
    obtain ⟨op', c0', hg', hl0', rfl⟩ := mapM_cons_some _ _ _ _ h'
    rw [circuitMatrix_cons, circuitMatrix_cons]
    refine isShiftOf_mul d (ih (fun g' hg'' => hl g' (List.mem_cons_of_mem _ hg'')) c0 c0' hl0 hl0') ?_
    have hs := hl g List.mem_cons_self
    intro x x'
    cases g with
    | unitary U t => exact compile_shift_unitary d n U t op op' hg hg' x x'
    | control U cc t => exact compile_shift_control d n U cc t op op' hg hg' x x'
    | measure sq o => exact compile_shift_measure d n sq o op op' hg hg' x x'
    | custom U => exact hs.elim

end circuitShift

/-! ### non-vacuity -/

/-- the model runs a program: `X(0)`, `extend_circuit([cnot(0,1)])`, `shift_qubit_index_(1)` leaves entries reaching qubits 1 and 2 -/
example : (runProg (0 : Int) [.base (.call (.X 0)), .extend [.call (.cnot 0 1)], .base (.shift 1)]).map RawOp.maxIndex = [1, 2] := by decide
/-- `X(0); rx(2, P['never'])` has `num_qubit = 3` (the refused entry counts at its index), `X(0); dephasing(2, …)` has 1; a later shift moves
the placeholder entry -/
example : numQubit (runProg (0 : Int) [.base (.call (.X 0)), .base (.refused (.placeholder [2]))]) = 3 := by decide
example : numQubit (runProg (0 : Int) [.base (.call (.X 0)), .base (.refused .nonCanonical)]) = 1 := by decide
example : numQubit (runProg (0 : Int) [.base (.refused (.placeholder [1])), .base (.shift 2)]) = 4 := by decide

/-- repeated control indices collapse: `crx((1,1), 2, θ)` is stored as `({1}, (2,))` -/
example : (RawOp.control (#[] : Array Int) [1, 1] [2]).canon = .control #[] [1] [2] := by
  show RawOp.control #[] ([1, 1] : List Int).eraseDups [2] = _
  have : ([1, 1] : List Int).eraseDups = [1] := by decide
  rw [this]

end Numqi.C03
