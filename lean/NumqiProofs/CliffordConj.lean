/-
C07: from generators to all Paulis; Pauli matrices of scattered vectors; commuting with embedded gates.
-/
import NumqiProofs.CliffordEmbed
import NumqiProps.C08
import NumqiProps.C03

namespace Numqi.Clifford
open Numqi Matrix

/-! ### induction over the generators of the Pauli group -/

theorem lt_two_pow_of_testBit_false {v m : Nat} (h : v < 2 ^ (m + 1)) (hb : v.testBit m = false) : v < 2 ^ m := by
  apply Nat.lt_pow_two_of_testBit
  intro i hi
  by_cases e : i = m
  · subst e; exact hb
  · exact SpF2.testBit_eq_false_of_lt h (by omega)

theorem xor_pow_lt {v m : Nat} (h : v < 2 ^ (m + 1)) (hb : v.testBit m = true) : v ^^^ 2 ^ m < 2 ^ m := by
  apply Nat.lt_pow_two_of_testBit
  intro i hi
  rw [Nat.testBit_xor, Nat.testBit_two_pow]
  by_cases e : i = m
  · subst e; simp [hb]
  · have : ¬ m = i := fun h => e h.symm
    simp [this, SpF2.testBit_eq_false_of_lt h (by omega : m + 1 ≤ i)]

/-- the generator `X_k` (`k < n`) / `Z_{k-n}` (`n ≤ k < 2n`) -/
def gen (k : Nat) : PauliB := ⟨false, false, 2 ^ k⟩

theorem apply_phase_only (T : Tab) (s0 s1 : Bool) : applyOnPauli ⟨s0, s1, 0⟩ T = ⟨s0, s1, 0⟩ := by
  apply PauliB.ext_ph
  · rw [apply_v]; exact matVec_zero _ _
  · rw [apply_ph]; simp [Fph_zero]

/-- **a relation that holds on phases and generators and is multiplicative holds between every Pauli and its image
under a symplectic tableau** -/
theorem gen_induction (T : Tab) (hT : T.colSp = true) (C : PauliB → PauliB → Prop)
    (hmul : ∀ a a' b b', C a a' → C b b' → C (mulB T.n a b) (mulB T.n a' b'))
    (hph : ∀ s0 s1, C ⟨s0, s1, 0⟩ ⟨s0, s1, 0⟩)
    (hgen : ∀ k, k < 2 * T.n → C (gen k) (applyOnPauli (gen k) T)) :
    ∀ p : PauliB, p.v < 4 ^ T.n → C p (applyOnPauli p T) := by
  have key : ∀ m, m ≤ 2 * T.n → ∀ p : PauliB, p.v < 2 ^ m → C p (applyOnPauli p T) := by
    intro m
    induction m with
    | zero =>
      intro _ p hp
      have hv : p.v = 0 := by simpa using hp
      obtain ⟨s0, s1, v⟩ := p
      simp only at hv; subst hv
      rw [apply_phase_only]; exact hph s0 s1
    | succ m ih =>
      intro hm p hp
      by_cases hb : p.v.testBit m = true
      · set p' : PauliB := ⟨p.s0, p.s1, p.v ^^^ 2 ^ m⟩ with hp'
        have hv' : p'.v < 2 ^ m := xor_pow_lt hp hb
        have hom : om T.n p'.v (2 ^ m) = 0 := by
          rw [om_pow_right]
          have : p'.v.testBit (T.n + m) = false := SpF2.testBit_eq_false_of_lt hv' (by omega)
          simp [this]
        have hpe : p = mulB T.n p' (gen m) := by
          apply PauliB.ext_ph
          · rw [mulB_v]
            show p.v = (p.v ^^^ 2 ^ m) ^^^ 2 ^ m
            rw [Nat.xor_assoc, Nat.xor_self, Nat.xor_zero]
          · rw [mulB_ph]
            show _ = (ph p' + ph (gen m) + 2 * om T.n p'.v (2 ^ m)) % 4
            rw [hom]; simp [ph, gen, hp']
        have h1 := ih (by omega) p' hv'
        have h2 := hgen m (by omega)
        have h3 := hmul _ _ _ _ h1 h2
        rw [← apply_mulB T hT, ← hpe] at h3
        exact h3
      · have hb' : p.v.testBit m = false := by simpa using hb
        exact ih (by omega) p (lt_two_pow_of_testBit_false hp hb')
  intro p hp
  exact key (2 * T.n) le_rfl p (by rw [← SpF2.four_pow]; exact hp)

/-! ### Pauli matrices (C08 semantics) of binary Paulis -/

section mats
variable {R : Type} [CommRing R] {n : Nat}

/-- the matrix of `i^(2 s0 + s1) X^x Z^z` on `n` qubits -/
def PM (n : Nat) (I : R) (p : PauliB) : Matrix (Bits n) (Bits n) R := C08.mat I (toPauli n p)

theorem xor_eq_iff (a w x : Bits n) : a = Bits.xor w x ↔ w = Bits.xor a x := by
  constructor <;> intro h <;> rw [h] <;> funext i <;> simp [Bits.xor]

/-- a Pauli matrix has one non-zero entry per row and column, so a product with it is a single term -/
theorem PM_mul_entry {I : R} (hI : I * I = -1) (p : PauliB) (M : Matrix (Bits n) (Bits n) R) (a b : Bits n) :
    (PM n I p * M) a b = PM n I p a (Bits.xor a (toPauli n p).x) * M (Bits.xor a (toPauli n p).x) b := by
  rw [Matrix.mul_apply, Finset.sum_eq_single (Bits.xor a (toPauli n p).x)]
  · intro w _ hw
    simp only [PM]; rw [C08.mat_apply hI, if_neg (fun h => hw ((xor_eq_iff _ _ _).1 h)), zero_mul]
  · intro h; exact absurd (Finset.mem_univ _) h

theorem mul_PM_entry {I : R} (hI : I * I = -1) (q : PauliB) (M : Matrix (Bits n) (Bits n) R) (a b : Bits n) :
    (M * PM n I q) a b = M a (Bits.xor b (toPauli n q).x) * PM n I q (Bits.xor b (toPauli n q).x) b := by
  rw [Matrix.mul_apply, Finset.sum_eq_single (Bits.xor b (toPauli n q).x)]
  · intro w _ hw
    simp only [PM]; rw [C08.mat_apply hI, if_neg hw, mul_zero]
  · intro h; exact absurd (Finset.mem_univ _) h

theorem PM_mul_apply {I : R} (hI : I * I = -1) (p : PauliB) (M : Matrix (Bits n) (Bits n) R) (a b : Bits n) :
    (PM n I p * M) a b =
      I ^ ((toPauli n p).phaseExp + 2 * Bits.dotN (toPauli n p).z (Bits.xor a (toPauli n p).x)) *
        M (Bits.xor a (toPauli n p).x) b := by
  rw [PM_mul_entry hI]
  simp only [PM]; rw [C08.mat_apply hI, if_pos ((xor_eq_iff _ _ _).2 rfl)]

theorem mul_PM_apply {I : R} (hI : I * I = -1) (q : PauliB) (M : Matrix (Bits n) (Bits n) R) (a b : Bits n) :
    (M * PM n I q) a b =
      M a (Bits.xor b (toPauli n q).x) *
        I ^ ((toPauli n q).phaseExp + 2 * Bits.dotN (toPauli n q).z b) := by
  rw [mul_PM_entry hI]
  simp only [PM]; rw [C08.mat_apply hI, if_pos rfl]

theorem PM_mulB {I : R} (hI : I * I = -1) (a b : PauliB) : PM n I (mulB n a b) = PM n I a * PM n I b := by
  simp only [PM]; rw [toPauli_mulB, C08.mat_mul hI]

/-- a pure phase is a scalar matrix -/
theorem PM_phase {I : R} (hI : I * I = -1) (s0 s1 : Bool) :
    PM n I ⟨s0, s1, 0⟩ = (I ^ (2 * s0.toNat + s1.toNat)) • (1 : Matrix (Bits n) (Bits n) R) := by
  ext a b
  simp only [PM]; rw [C08.mat_apply hI]
  have hx : (toPauli n ⟨s0, s1, 0⟩).x = fun _ => false := by funext i; simp [toPauli]
  have hz : (toPauli n ⟨s0, s1, 0⟩).z = fun _ => false := by funext i; simp [toPauli]
  rw [hx, hz, Bits.xor_false, Bits.dotN_zero_left]
  simp only [Matrix.smul_apply, Matrix.one_apply, Pauli.phaseExp, toPauli, smul_eq_mul]
  by_cases h : a = b <;> simp [h]

/-- the intertwining relation `P · E = E · Q` is multiplicative and holds on phases -/
theorem inter_mul {I : R} (hI : I * I = -1) (E : Matrix (Bits n) (Bits n) R) (a a' b b' : PauliB)
    (h1 : PM n I a * E = E * PM n I a') (h2 : PM n I b * E = E * PM n I b') :
    PM n I (mulB n a b) * E = E * PM n I (mulB n a' b') := by
  rw [PM_mulB hI, PM_mulB hI, Matrix.mul_assoc, h2, ← Matrix.mul_assoc, h1, Matrix.mul_assoc]

theorem inter_phase {I : R} (hI : I * I = -1) (E : Matrix (Bits n) (Bits n) R) (s0 s1 : Bool) :
    PM n I ⟨s0, s1, 0⟩ * E = E * PM n I ⟨s0, s1, 0⟩ := by
  rw [PM_phase hI]; simp

/-- **from the generators to every Pauli**: if `E` intertwines each generator `X_k`, `Z_k` with its image under a
symplectic tableau `T`, it intertwines every phased Pauli with its image: `P · E = E · apply(P, T)` -/
theorem inter_of_gens {I : R} (hI : I * I = -1) (T : Tab) (hT : T.colSp = true)
    (E : Matrix (Bits T.n) (Bits T.n) R)
    (hgen : ∀ k, k < 2 * T.n → PM T.n I (gen k) * E = E * PM T.n I (applyOnPauli (gen k) T)) :
    ∀ p : PauliB, p.v < 4 ^ T.n → PM T.n I p * E = E * PM T.n I (applyOnPauli p T) :=
  gen_induction T hT (fun P Q => PM T.n I P * E = E * PM T.n I Q)
    (fun a a' b b' h1 h2 => inter_mul hI E a a' b b' h1 h2) (fun s0 s1 => inter_phase hI E s0 s1) hgen

/-- the mirrored form (`E · P = apply(P,T) · E`), used for tableaux extracted from `U X_k U†`, `U Z_k U†` -/
theorem inter_of_gens' {I : R} (hI : I * I = -1) (T : Tab) (hT : T.colSp = true)
    (E : Matrix (Bits T.n) (Bits T.n) R)
    (hgen : ∀ k, k < 2 * T.n → E * PM T.n I (gen k) = PM T.n I (applyOnPauli (gen k) T) * E) :
    ∀ p : PauliB, p.v < 4 ^ T.n → E * PM T.n I p = PM T.n I (applyOnPauli p T) * E :=
  gen_induction T hT (fun P Q => E * PM T.n I P = PM T.n I Q * E)
    (fun a a' b b' h1 h2 => by
      show E * PM T.n I (mulB T.n a b) = PM T.n I (mulB T.n a' b') * E
      rw [PM_mulB hI, PM_mulB hI, ← Matrix.mul_assoc, h1, Matrix.mul_assoc, h2, ← Matrix.mul_assoc])
    (fun s0 s1 => (inter_phase hI E s0 s1).symm) hgen

end mats

/-! ### the image of a generator is a column of the tableau -/

theorem sumSel_pow (k : Nat) (f : Nat → Nat) (m : Nat) : sumSel (2 ^ k) f m = if k < m then f k else 0 := by
  induction m with
  | zero => simp [sumSel]
  | succ m ih =>
    rw [sumSel, ih, Nat.testBit_two_pow]
    by_cases h : k = m
    · subst h; simp
    · have h1 : (k < m + 1) = (k < m) := by apply propext; omega
      simp [h, h1]

theorem matVec_pow (cols : List Nat) (k m : Nat) :
    matVec cols (2 ^ k) m = if k < m then cols.getD k 0 else 0 := by
  induction m with
  | zero => simp [matVec]
  | succ m ih =>
    rw [matVec, ih, Nat.testBit_two_pow]
    by_cases h : k = m
    · subst h; simp
    · have h1 : (k < m + 1) = (k < m) := by apply propext; omega
      simp [h, h1]

/-- the Hermitian Pauli with sign bit `r_k` whose vector is column `k`: the image of generator `k` -/
def genImage (T : Tab) (k : Nat) : PauliB :=
  ⟨((T.r.testBit k).toNat + (T.d k % 4) / 2) % 2 == 1, T.d k % 2 == 1, T.cols.getD k 0⟩

theorem apply_gen (T : Tab) (k : Nat) (hk : k < 2 * T.n) : applyOnPauli (gen k) T = genImage T k := by
  apply PauliB.ext_ph
  · rw [apply_v]; simp only [gen, genImage]; rw [matVec_pow, if_pos hk]
  · rw [apply_ph]
    have h1 : T.dsum (2 ^ k) = T.d k := by simp only [Tab.dsum]; rw [sumSel_pow, if_pos hk]
    have h2 : T.tri (2 ^ k) = 0 := by
      simp only [Tab.tri]; rw [sumSel_pow, if_pos hk, sumSel_pow, if_neg (lt_irrefl k)]
    have h3 : cnt (2 * T.n) (2 ^ k) T.r = (T.r.testBit k).toNat := by
      rw [cnt_eq_sumSel, sumSel_pow, if_pos hk]
    simp only [Fph, gen, h1, h2, h3, ph, genImage, toNat_mod2_beq]
    generalize T.d k = D
    cases T.r.testBit k <;> simp <;> omega

/-! ### the identity tableau -/

theorem idTab_colSp (n : Nat) : (Tab.id n).colSp = true := by
  rw [colSp_iff]
  intro a b hab hb
  have hb' : b < 2 * n := hb
  simp only [Tab.zx]
  rw [idTab_getD hb', idTab_getD (by omega : a < 2 * n)]
  change (om n (2 ^ a) (2 ^ b) + om n (2 ^ b) (2 ^ a)) % 2 = if b = a + n then 1 else 0
  rw [om_pow_pow, om_pow_pow]
  split_ifs <;> omega

/-- the identity tableau fixes every Pauli (of the right length): it is symplectic and fixes the generators -/
theorem apply_id (n : Nat) (p : PauliB) (hp : p.v < 4 ^ n) : applyOnPauli p (Tab.id n) = p := by
  refine gen_induction (Tab.id n) (idTab_colSp n) (fun a b => b = a) ?_ (fun _ _ => rfl) ?_ p hp
  · rintro a _ b _ rfl rfl; rfl
  · intro k hk
    have hk' : k < 2 * n := hk
    have hd : (Tab.id n).d k = 0 := by
      simp only [Tab.d]; rw [idTab_getD hk']; exact cnt_pow_self n k
    rw [apply_gen _ k hk]
    simp only [genImage, hd, idTab_getD hk', gen, show (Tab.id n).r = 0 from rfl]
    simp
/-! ### bits of a scattered vector -/

section place
variable {n : Nat} {qs : List Nat} (hv : ValidQs n qs)
include hv

theorem idx_inj {a b : Nat} (ha : a < 2 * qs.length) (hb : b < 2 * qs.length) (h : idx n qs a = idx n qs b) : a = b := by
  by_cases h1 : a < qs.length
  · obtain ⟨e1, l1⟩ := idx_low hv h1
    by_cases h2 : b < qs.length
    · obtain ⟨e2, _⟩ := idx_low hv h2
      exact getD_inj hv.nodup h1 h2 (by omega)
    · obtain ⟨e2, _⟩ := idx_high hv (by omega) hb; omega
  · obtain ⟨e1, l1⟩ := idx_high hv (by omega) ha
    by_cases h2 : b < qs.length
    · obtain ⟨e2, _⟩ := idx_low hv h2; omega
    · obtain ⟨e2, _⟩ := idx_high hv (by omega) hb
      have := getD_inj hv.nodup (by omega) (by omega) (by omega : qs.getD (a - qs.length) 0 = qs.getD (b - qs.length) 0)
      omega

theorem testBit_place_aux (w i m : Nat) (hm : m ≤ 2 * qs.length) :
    (matVec ((qs ++ qs.map (· + n)).map fun i => 2 ^ i) w m).testBit i = true ↔
      ∃ a, a < m ∧ w.testBit a = true ∧ idx n qs a = i := by
  induction m with
  | zero => simp [matVec]
  | succ m ih =>
    have ih' := ih (by omega)
    rw [matVec, Nat.testBit_xor]
    by_cases hw : w.testBit m = true
    · rw [if_pos hw, unit_getD n qs m (by omega), Nat.testBit_two_pow]
      by_cases he : idx n qs m = i
      · have hprev : (matVec ((qs ++ qs.map (· + n)).map fun i => 2 ^ i) w m).testBit i = false := by
          rw [Bool.eq_false_iff]; intro hc
          obtain ⟨a, ha, _, hai⟩ := ih'.1 hc
          have := idx_inj hv (by omega) (by omega : m < 2 * qs.length) (hai.trans he.symm)
          omega
        rw [hprev]; simp only [he, decide_true, Bool.false_xor, true_iff]
        exact ⟨m, by omega, hw, he⟩
      · simp only [he, decide_false, Bool.xor_false]
        rw [ih']
        constructor
        · rintro ⟨a, ha, h1, h2⟩; exact ⟨a, by omega, h1, h2⟩
        · rintro ⟨a, ha, h1, h2⟩
          have : a ≠ m := fun e => he (e ▸ h2)
          exact ⟨a, by omega, h1, h2⟩
    · rw [if_neg hw]; simp only [Nat.zero_testBit, Bool.xor_false]
      rw [ih']
      constructor
      · rintro ⟨a, ha, h1, h2⟩; exact ⟨a, by omega, h1, h2⟩
      · rintro ⟨a, ha, h1, h2⟩
        have : a ≠ m := fun e => hw (e ▸ h1)
        exact ⟨a, by omega, h1, h2⟩

theorem testBit_place_iff (w i : Nat) :
    (place n qs w).testBit i = true ↔ ∃ a, a < 2 * qs.length ∧ w.testBit a = true ∧ idx n qs a = i := by
  unfold place; rw [index_length]; exact testBit_place_aux hv w i _ le_rfl

theorem testBit_place_idx (w : Nat) {a : Nat} (ha : a < 2 * qs.length) :
    (place n qs w).testBit (idx n qs a) = w.testBit a := by
  rw [Bool.eq_iff_iff, testBit_place_iff hv]
  constructor
  · rintro ⟨b, hb, h1, h2⟩; rw [← idx_inj hv hb ha h2]; exact h1
  · intro h; exact ⟨a, ha, h, rfl⟩

theorem testBit_place_out (w : Nat) {i : Nat} (hi : ∀ a, a < 2 * qs.length → idx n qs a ≠ i) :
    (place n qs w).testBit i = false := by
  rw [Bool.eq_false_iff]; intro hc
  obtain ⟨a, ha, _, h2⟩ := (testBit_place_iff hv w i).1 hc
  exact hi a ha h2

end place

/-! ### a Pauli supported on the gate's qubits is the embedding of the local Pauli -/

theorem sum_reindex {k n : Nat} (t : Fin k → Fin n) (hinj : Function.Injective t) (f : Fin n → ℕ)
    (hf : ∀ i, (∀ b, t b ≠ i) → f i = 0) : ∑ i, f i = ∑ b, f (t b) := by
  rw [← Finset.sum_subset (Finset.subset_univ (Finset.univ.image t))
    (fun i _ hi => hf i (fun b e => hi (Finset.mem_image.2 ⟨b, Finset.mem_univ _, e⟩))),
    Finset.sum_image (fun _ _ _ _ h => hinj h)]

section placed
variable {R : Type} [CommRing R] {n : Nat} {qs : List Nat} (hv : ValidQs n qs)
  (t : Fin qs.length → Fin n) (ht : ∀ b, (t b).val = qs.getD b.val 0)
include hv ht

theorem t_inj : Function.Injective t := by
  intro a b h
  have := congrArg Fin.val h
  rw [ht, ht] at this
  exact Fin.ext (getD_inj hv.nodup a.isLt b.isLt this)

theorem t_idx_low (b : Fin qs.length) : idx n qs b.val = (t b).val := by
  rw [ht]; exact (idx_low hv b.isLt).1

theorem t_idx_high (b : Fin qs.length) : idx n qs (b.val + qs.length) = n + (t b).val := by
  have := (idx_high hv (a := b.val + qs.length) (by omega) (by have := b.isLt; omega)).1
  have e : b.val + qs.length - qs.length = b.val := by omega
  rw [e] at this; rw [this, ht]; omega

/-- bits of the scattered vector at the gate's qubits … -/
theorem place_x_in (w : Nat) (b : Fin qs.length) : (place n qs w).testBit (t b).val = w.testBit b.val := by
  rw [← t_idx_low hv t ht b]; exact testBit_place_idx hv w (by have := b.isLt; omega)

theorem place_z_in (w : Nat) (b : Fin qs.length) :
    (place n qs w).testBit (n + (t b).val) = w.testBit (qs.length + b.val) := by
  rw [← t_idx_high hv t ht b, Nat.add_comm qs.length]
  exact testBit_place_idx hv w (by have := b.isLt; omega)

/-- … and elsewhere -/
theorem place_x_out (w : Nat) (i : Fin n) (hi : ∀ b, t b ≠ i) : (place n qs w).testBit i.val = false := by
  apply testBit_place_out hv
  intro a ha he
  by_cases h : a < qs.length
  · have := t_idx_low hv t ht ⟨a, h⟩
    exact hi ⟨a, h⟩ (Fin.ext (by simp only at this; omega))
  · have := (idx_high hv (a := a) (by omega) ha).1
    have := i.isLt; omega

theorem place_z_out (w : Nat) (i : Fin n) (hi : ∀ b, t b ≠ i) : (place n qs w).testBit (n + i.val) = false := by
  apply testBit_place_out hv
  intro a ha he
  by_cases h : a < qs.length
  · have := (idx_low hv h).2; omega
  · have h1 := t_idx_high hv t ht ⟨a - qs.length, by omega⟩
    have e : a - qs.length + qs.length = a := by omega
    simp only [e] at h1
    exact hi ⟨a - qs.length, by omega⟩ (Fin.ext (by omega))

/-- `x·z` of a scattered vector is the local `x·z` (as integers) -/
theorem cnt_place (w : Nat) :
    cnt n (place n qs w) (place n qs w >>> n) = cnt qs.length w (w >>> qs.length) := by
  rw [cnt_eq_sum, cnt_eq_sum]
  rw [sum_reindex t (t_inj hv t ht)]
  · apply Finset.sum_congr rfl
    intro b _
    rw [Nat.testBit_shiftRight, Nat.testBit_shiftRight, place_x_in hv t ht, place_z_in hv t ht]
  · intro i hi
    rw [place_x_out hv t ht w i hi]; rfl

/-- **the matrix of a Pauli scattered to the gate's qubits is the embedded local Pauli matrix** -/
theorem PM_place {I : R} (hI : I * I = -1) (a : PauliB) :
    PM n I ⟨a.s0, a.s1, place n qs a.v⟩ = Matrix.of (Numqi.embed (PM qs.length I a) t) := by
  have hinj := t_inj hv t ht
  set P : PauliB := ⟨a.s0, a.s1, place n qs a.v⟩ with hP
  have hX1 : ∀ b, (toPauli n P).x (t b) = (toPauli qs.length a).x b := fun b => place_x_in hv t ht a.v b
  have hZ1 : ∀ b, (toPauli n P).z (t b) = (toPauli qs.length a).z b := fun b => place_z_in hv t ht a.v b
  have hX0 : ∀ i, (∀ b, t b ≠ i) → (toPauli n P).x i = false := fun i hi => place_x_out hv t ht a.v i hi
  have hZ0 : ∀ i, (∀ b, t b ≠ i) → (toPauli n P).z i = false := fun i hi => place_z_out hv t ht a.v i hi
  ext x' x
  simp only [PM, Matrix.of_apply, Numqi.embed]
  rw [C08.mat_apply hI]
  have hcond : x' = Bits.xor x (toPauli n P).x ↔
      (Bits.agreeOff x' x t = true ∧ x'.sel t = Bits.xor (x.sel t) (toPauli qs.length a).x) := by
    rw [Bits.agreeOff_iff]
    constructor
    · intro h
      refine ⟨fun i hi => ?_, ?_⟩
      · rw [h]; simp [Bits.xor, hX0 i hi]
      · funext b; rw [h]; simp [Bits.sel, Bits.xor, hX1 b]
    · rintro ⟨h1, h2⟩
      funext i
      by_cases hi : ∃ b, t b = i
      · obtain ⟨b, rfl⟩ := hi
        have := congrFun h2 b
        simp only [Bits.sel, Bits.xor] at this ⊢
        rw [this, hX1 b]
      · have hi' : ∀ b, t b ≠ i := fun b e => hi ⟨b, e⟩
        rw [h1 i hi']; simp [Bits.xor, hX0 i hi']
  have hdot : Bits.dotN (toPauli n P).z x = Bits.dotN (toPauli qs.length a).z (x.sel t) := by
    rw [Bits.dotN_eq_sum, Bits.dotN_eq_sum, sum_reindex t hinj]
    · apply Finset.sum_congr rfl; intro b _; rw [hZ1 b]; rfl
    · intro i hi; rw [hZ0 i hi]; rfl
  by_cases hc : x' = Bits.xor x (toPauli n P).x
  · obtain ⟨h1, h2⟩ := hcond.1 hc
    rw [if_pos hc, if_pos h1, C08.mat_apply hI, if_pos h2, hdot]
    rfl
  · rw [if_neg hc]
    by_cases h1 : Bits.agreeOff x' x t = true
    · rw [if_pos h1, C08.mat_apply hI, if_neg (fun h2 => hc (hcond.2 ⟨h1, h2⟩))]
    · rw [if_neg h1]

omit hv ht in
/-- **a Pauli that is trivial on the gate's qubits commutes with the embedded gate** -/
theorem PM_comm_embed {I : R} (hI : I * I = -1) (p : PauliB) (U : Numqi.Mat qs.length R)
    (hx : ∀ b, (toPauli n p).x (t b) = false) (hz : ∀ b, (toPauli n p).z (t b) = false) :
    PM n I p * Matrix.of (Numqi.embed U t) = Matrix.of (Numqi.embed U t) * PM n I p := by
  ext a b
  rw [PM_mul_apply hI, mul_PM_apply hI]
  simp only [Matrix.of_apply, Numqi.embed]
  have hs : ∀ y : Bits n, (Bits.xor y (toPauli n p).x).sel t = y.sel t := fun y => by
    funext j; simp [Bits.sel, Bits.xor, hx j]
  have hag : Bits.agreeOff (Bits.xor a (toPauli n p).x) b t = Bits.agreeOff a (Bits.xor b (toPauli n p).x) t := by
    rw [Bool.eq_iff_iff, Bits.agreeOff_iff, Bits.agreeOff_iff]
    constructor <;> intro h i hi <;> have := h i hi <;> simp only [Bits.xor] at this ⊢ <;>
      revert this <;> cases a i <;> cases b i <;> cases (toPauli n p).x i <;> simp
  rw [hs a, hs b, hag]
  by_cases h : Bits.agreeOff a (Bits.xor b (toPauli n p).x) t = true
  · rw [if_pos h]
    have hd : Bits.dotN (toPauli n p).z (Bits.xor a (toPauli n p).x) = Bits.dotN (toPauli n p).z b := by
      rw [Bits.dotN_eq_sum, Bits.dotN_eq_sum]
      apply Finset.sum_congr rfl
      intro i _
      by_cases hi : ∃ j, t j = i
      · obtain ⟨j, rfl⟩ := hi; rw [hz j]; rfl
      · have hi' : ∀ j, t j ≠ i := fun j e => hi ⟨j, e⟩
        rw [Bits.agreeOff_iff] at h
        have := h i hi'
        simp only [Bits.xor] at this ⊢
        rw [this]
        cases (toPauli n p).z i <;> cases b i <;> cases (toPauli n p).x i <;> rfl
    rw [hd, mul_comm]
  · rw [if_neg h]; simp

end placed

end Numqi.Clifford
