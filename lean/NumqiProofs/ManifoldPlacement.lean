/- C02: the linear placements of theta are injective. -/
import NumqiProofs.ManifoldSym

namespace Numqi.Manifold
open Matrix Finset
open Numqi.Gellmann (Scalars synthesis)

variable {dim : Nat}

/-- the coefficient vector `[θ, 0]` is read back from its synthesis -/
theorem genVecC_injective (S : Scalars ℂ) (hS : S.Valid dim) (hd : 1 ≤ dim) (θ θ' : Nat → ℝ)
    (h : synthesis S dim (genVecC dim θ) = synthesis S dim (genVecC dim θ')) : ∀ p, p < dim * dim - 1 → θ p = θ' p := by
  intro p hp
  have hp' : p < dim * dim := by omega
  have e1 := Gellmann.coef_synthesis S hS hd (genVecC dim θ) hp'
  rw [h, Gellmann.coef_synthesis S hS hd (genVecC dim θ') hp'] at e1
  simp only [genVecC, if_pos hp] at e1
  exact_mod_cast e1.symm

/-- **the real placement (antisymmetric block, `.imag`) is injective** — the real Cayley/exp chart is not constant -/
theorem soGenerator_real_injective (S : Scalars ℂ) (hS : S.Valid dim) (hd : 1 ≤ dim) (θ θ' : Nat → ℝ)
    (h : toM dim dim (soGenerator S dim true θ) = toM dim dim (soGenerator S dim true θ')) :
    ∀ p, p < dim * (dim - 1) / 2 → θ p = θ' p := by
  rw [toM_soGenerator_real, toM_soGenerator_real] at h
  have him : ∀ r c : Fin dim, (synthesis S dim (genVecR dim θ) r c).im = (synthesis S dim (genVecR dim θ') r c).im := by
    intro r c
    have := congrFun (congrFun h r) c
    simp only [Matrix.of_apply] at this
    exact_mod_cast this
  -- coefficient `N0 + p` of a Hermitian `H` depends only on `im H_ji` for the `p`-th pair `(i,j)`
  have key : ∀ (t : Nat → ℝ) (x : Fin dim × Fin dim), x.1 < x.2 →
      Gellmann.coef S dim (synthesis S dim (genVecR dim t)) (Gellmann.Kind.asym x).pos
        = (-(2 * (((synthesis S dim (genVecR dim t) x.2 x.1).im : ℝ) : ℂ)) * Complex.I) * (S.half * S.I) := by
    intro t x hx
    have hmem : Gellmann.Kind.asym x ∈ Gellmann.kinds dim := Gellmann.mem_kinds_of_wf hd (k := Gellmann.Kind.asym x) hx
    rw [Gellmann.coef_pos S _ hmem]
    have hH := Gellmann.synthesis_hermitian S hS hd (genVecR dim t) (fun a _ => genVecR_real t a)
    have hji := congrFun (congrFun hH x.1) x.2
    simp only [conjTranspose_apply, Matrix.of_apply] at hji
    simp only [Gellmann.coefK]
    rw [← hji]
    congr 1
    apply Complex.ext <;> simp [Complex.star_def]
    ring
  intro p hp
  have hlen : (Gellmann.pairs dim).length = dim * (dim - 1) / 2 := (Gellmann.half_pairs (d := dim)).symm
  have hp' : p < (Gellmann.pairs dim).length := by rw [hlen]; exact hp
  set x := (Gellmann.pairs dim)[p] with hx
  have hxmem : x ∈ Gellmann.pairs dim := List.getElem_mem hp'
  have hxlt : x.1 < x.2 := Gellmann.mem_pairs.1 hxmem
  have hidx : (Gellmann.pairs dim).idxOf x = p := Gellmann.nodup_pairs.idxOf_getElem p hp'
  have hpos : (Gellmann.Kind.asym x).pos = dim * (dim - 1) / 2 + p := by
    simp only [Gellmann.Kind.pos, hidx, hlen]
  have hlt : dim * (dim - 1) / 2 + p < dim * dim := by
    have := Gellmann.length_pairs (d := dim)
    obtain ⟨n, rfl⟩ : ∃ n, dim = n + 1 := ⟨dim - 1, by omega⟩
    simp only [Nat.add_sub_cancel] at this hlen hp ⊢
    have : (n + 1) * (n + 1) = (n + 1) * n + n + 1 := by ring
    omega
  have e1 := Gellmann.coef_synthesis S hS hd (genVecR dim θ) hlt
  have e2 := Gellmann.coef_synthesis S hS hd (genVecR dim θ') hlt
  rw [← hpos, key θ x hxlt] at e1
  rw [← hpos, key θ' x hxlt, ← him x.2 x.1, e1, hpos] at e2
  have hv : ∀ t : Nat → ℝ, genVecR dim t (dim * (dim - 1) / 2 + p) = ((t p : ℝ) : ℂ) := by
    intro t
    unfold genVecR
    rw [if_neg (by omega), if_pos (by omega)]
    congr 2; omega
  rw [hv, hv] at e2
  exact_mod_cast e2

end Numqi.Manifold
