/- Matrix-algebra lemmas behind the manifold maps (C01): exp / Cayley of skew-Hermitian matrices, Stiefel contracts. -/
import NumqiProofs.ManifoldLemmas
import Mathlib.Analysis.Normed.Algebra.MatrixExponential
import Mathlib.LinearAlgebra.Matrix.PosDef
import Mathlib.LinearAlgebra.Matrix.NonsingularInverse
import Mathlib.LinearAlgebra.UnitaryGroup

namespace Numqi.Manifold
open Matrix
open scoped ComplexOrder
local notation "mexp" => NormedSpace.exp

variable {n : Type} [Fintype n] [DecidableEq n]

/-- `exp` of a skew-Hermitian matrix is unitary -/
theorem exp_unitary_of_skew (A : Matrix n n ℂ) (hA : Aᴴ = -A) : (mexp A)ᴴ * mexp A = 1 := by
  rw [← Matrix.exp_conjTranspose, hA, Matrix.exp_neg]
  exact Matrix.nonsing_inv_mul _ ((Matrix.isUnit_iff_isUnit_det _).1 (Matrix.isUnit_exp A))

/-- `det (mexp A) = 1` when `Aᵀ = -A` (real antisymmetric generators) -/
theorem det_exp_of_transpose_neg (A : Matrix n n ℂ) (hA : Aᵀ = -A) : det (mexp A) = 1 := by
  set B : Matrix n n ℂ := (1 / 2 : ℂ) • A with hB
  have h2 : A = (2 : ℕ) • B := by rw [hB]; ext i j; simp
  have hBt : Bᵀ = -B := by rw [hB, transpose_smul, hA, smul_neg]
  have hO : (mexp B)ᵀ * mexp B = 1 := by
    rw [← Matrix.exp_transpose, hBt, Matrix.exp_neg]
    exact Matrix.nonsing_inv_mul _ ((Matrix.isUnit_iff_isUnit_det _).1 (Matrix.isUnit_exp B))
  have hd : det (mexp B) * det (mexp B) = 1 := by
    have := congrArg det hO
    rwa [det_mul, det_transpose, det_one] at this
  rw [h2, Matrix.exp_nsmul, det_pow, pow_two, hd]

/-- `1 + A` is invertible for skew-Hermitian `A` -/
theorem isUnit_one_add_of_skew (A : Matrix n n ℂ) (hA : Aᴴ = -A) : IsUnit (1 + A).det := by
  have hpd : ((1 + A)ᴴ * (1 + A)).PosDef := by
    have h1 : (1 + A)ᴴ * (1 + A) = 1 + Aᴴ * A := by
      rw [conjTranspose_add, conjTranspose_one, hA]; noncomm_ring
    rw [h1]
    exact Matrix.PosDef.one.add_posSemidef (Matrix.posSemidef_conjTranspose_mul_self A)
  have hu : IsUnit ((1 + A)ᴴ * (1 + A)).det := (Matrix.isUnit_iff_isUnit_det _).1 (Matrix.PosDef.isUnit hpd)
  rw [det_mul] at hu
  exact isUnit_of_mul_isUnit_right hu

/-- **Cayley transform**: for skew-Hermitian `A` and any left inverse `Pinv` of `1 + A`, `Pinv (1 - A)` is unitary. -/
theorem cayley_unitary (A Pinv : Matrix n n ℂ) (hA : Aᴴ = -A) (hinv : Pinv * (1 + A) = 1) :
    (Pinv * (1 - A))ᴴ * (Pinv * (1 - A)) = 1 := by
  have hu := isUnit_one_add_of_skew A hA
  have hP : Pinv = (1 + A)⁻¹ := (Matrix.inv_eq_left_inv hinv).symm
  have huQ : IsUnit (1 - A).det := by
    have := isUnit_one_add_of_skew (-A) (by rw [conjTranspose_neg, hA])
    rwa [← sub_eq_add_neg] at this
  have hPH : (1 + A)ᴴ = 1 - A := by rw [conjTranspose_add, conjTranspose_one, hA, sub_eq_add_neg]
  have hQH : (1 - A)ᴴ = 1 + A := by rw [conjTranspose_sub, conjTranspose_one, hA, sub_neg_eq_add]
  have hcomm : (1 + A) * (1 - A) = (1 - A) * (1 + A) := by noncomm_ring
  rw [hP, conjTranspose_mul, conjTranspose_nonsing_inv, hPH, hQH]
  have h1 : (1 - A)⁻¹ * (1 + A)⁻¹ = (1 + A)⁻¹ * (1 - A)⁻¹ := by
    rw [← Matrix.mul_inv_rev, ← Matrix.mul_inv_rev, hcomm]
  calc (1 + A) * (1 - A)⁻¹ * ((1 + A)⁻¹ * (1 - A))
      = (1 + A) * ((1 - A)⁻¹ * (1 + A)⁻¹) * (1 - A) := by simp only [Matrix.mul_assoc]
    _ = (1 + A) * ((1 + A)⁻¹ * (1 - A)⁻¹) * (1 - A) := by rw [h1]
    _ = ((1 + A) * (1 + A)⁻¹) * ((1 - A)⁻¹ * (1 - A)) := by simp only [Matrix.mul_assoc]
    _ = 1 := by rw [Matrix.mul_nonsing_inv _ hu, Matrix.nonsing_inv_mul _ huQ, Matrix.one_mul]

theorem pow_unitary (T : Matrix n n ℂ) (hT : Tᴴ * T = 1) (k : Nat) : (T ^ k)ᴴ * T ^ k = 1 := by
  induction k with
  | zero => simp
  | succ k ih =>
    rw [pow_succ, conjTranspose_mul]
    calc Tᴴ * (T ^ k)ᴴ * (T ^ k * T) = Tᴴ * ((T ^ k)ᴴ * T ^ k) * T := by simp only [Matrix.mul_assoc]
      _ = 1 := by rw [ih, Matrix.mul_one, hT]

/-- real case: `det = 1` for the Cayley transform of a matrix with `Aᵀ = -A` -/
theorem cayley_det_one (A Pinv : Matrix n n ℂ) (hA : Aᵀ = -A) (hinv : Pinv * (1 + A) = 1) :
    (Pinv * (1 - A)).det = 1 := by
  have h1 : (1 - A).det = (1 + A).det := by
    rw [← det_transpose, transpose_sub, transpose_one, hA, sub_neg_eq_add]
  have := congrArg det hinv
  rw [det_mul, det_one] at this
  rw [det_mul, h1, this]

section rect
variable {m r : Type} [Fintype m] [DecidableEq m] [Fintype r] [DecidableEq r]

/-- `to_stiefel_choleskyL`: with the contracts `C Cᴴ = LᴴL` (`cholesky`) and `Rinv Cᴴ = 1` (`inv`), `L Rinv` has orthonormal columns -/
theorem stiefel_cholL_contract (L : Matrix m r ℂ) (C Rinv : Matrix r r ℂ) (hC : C * Cᴴ = Lᴴ * L) (hR : Rinv * Cᴴ = 1) :
    (L * Rinv)ᴴ * (L * Rinv) = 1 := by
  have hR' : Cᴴ * Rinv = 1 := mul_eq_one_comm.1 hR
  have hR'' : Rinvᴴ * C = 1 := by
    have := congrArg conjTranspose hR'
    rwa [conjTranspose_mul, conjTranspose_conjTranspose, conjTranspose_one] at this
  calc (L * Rinv)ᴴ * (L * Rinv) = Rinvᴴ * (Lᴴ * L) * Rinv := by rw [conjTranspose_mul]; simp only [Matrix.mul_assoc]
    _ = (Rinvᴴ * C) * (Cᴴ * Rinv) := by rw [← hC]; simp only [Matrix.mul_assoc]
    _ = 1 := by rw [hR'', hR', Matrix.one_mul]

/-- `to_stiefel_polar`: with the contract `Sᴴ = S`, `S (MᴴM) S = 1` (inverse square root), `M S` has orthonormal columns -/
theorem stiefel_polar_contract (M : Matrix m r ℂ) (S : Matrix r r ℂ) (hS : Sᴴ = S) (hSS : S * (Mᴴ * M) * S = 1) :
    (M * S)ᴴ * (M * S) = 1 := by
  rw [conjTranspose_mul, hS, ← hSS]; simp only [Matrix.mul_assoc]

theorem trace_mul_conjTranspose_self (L : Matrix m r ℂ) :
    trace (L * Lᴴ) = ∑ i, ∑ j, ((Complex.normSq (L i j) : ℝ) : ℂ) := by
  simp only [trace, diag_apply, Matrix.mul_apply, conjTranspose_apply]
  refine Finset.sum_congr rfl (fun i _ => Finset.sum_congr rfl (fun j _ => ?_))
  rw [Complex.star_def, Complex.mul_conj]

end rect

end Numqi.Manifold
