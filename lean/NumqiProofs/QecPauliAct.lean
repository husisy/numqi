/-
C19: algebra of the Pauli action `pauliAct` on state vectors (product law, (anti)commutation,
unitarity), the inner product, isometry of the gates.
-/
import NumqiProofs.QecClifford
import Mathlib.Algebra.Star.Basic
import Mathlib.Algebra.BigOperators.Group.Finset.Basic

namespace Numqi.Qec
variable {R : Type} [CommRing R]

/-- an operator differs from the one with phase exponent 0 by the scalar `I^k` -/
theorem pauliAct_phase {I : R} (p : MP) (v : Nat → R) (i : Nat) :
    pauliAct I p v i = ipow I p.k * pauliAct I ⟨0, p.x, p.z⟩ v i := by
  simp only [pauliAct, ipow_add, Nat.zero_add, mul_assoc]

theorem pauliAct_one {I : R} (v : Nat → R) : pauliAct I MP.one v = v := by
  funext i; simp [pauliAct, MP.one, ipow]

section act
variable {I : R} (hI : I * I = -1)
include hI

/-- **product law**: `(a·b) v = a (b v)` for the product `MP.mul` on the masks, phase included -/
theorem pauliAct_mul (a b : MP) (v : Nat → R) :
    pauliAct I (MP.mul a b) v = pauliAct I a (pauliAct I b v) := by
  funext i
  simp only [pauliAct, MP.mul, Nat.and_xor_distrib_left, Nat.and_xor_distrib_right, par_xor, ← Nat.xor_assoc]
  rw [← mul_assoc, ← ipow_add]
  congr 1
  apply ipow_congr hI
  simp only [toNat_xor]
  omega

/-- **commutation test**: the operators commute or anticommute according to `MP.acomm` -/
theorem pauliAct_comm (a b : MP) (v : Nat → R) :
    pauliAct I a (pauliAct I b v)
      = fun i => (if MP.acomm a b then -1 else 1) * pauliAct I b (pauliAct I a v) i := by
  rw [← pauliAct_mul hI, ← pauliAct_mul hI]
  funext i
  rw [pauliAct_phase (MP.mul a b), pauliAct_phase (MP.mul b a)]
  have hx : (MP.mul a b).x = (MP.mul b a).x := by simp [MP.mul, Nat.xor_comm]
  have hz : (MP.mul a b).z = (MP.mul b a).z := by simp [MP.mul, Nat.xor_comm]
  rw [hx, hz, ← mul_assoc]
  congr 1
  simp only [MP.mul, MP.acomm, par_xor, Nat.and_comm a.x b.z]
  cases h1 : par (a.z &&& b.x) <;> cases h2 : par (b.z &&& a.x) <;>
    simp [ipow_mod hI, ipow_add, ipow_two hI, mul_comm]

end act

/-! ### inner product on the first `2^n` positions -/

variable [StarRing R]

/-- `⟨u|v⟩ = Σ_{i < 2^n} conj(u_i) v_i` -/
def ip (n : Nat) (u v : Nat → R) : R := ∑ i ∈ Finset.range (2 ^ n), star (u i) * v i

theorem ip_congr {n : Nat} {u u' v v' : Nat → R} (hu : ∀ i < 2 ^ n, u i = u' i) (hv : ∀ i < 2 ^ n, v i = v' i) :
    ip n u v = ip n u' v' := by
  unfold ip
  apply Finset.sum_congr rfl
  intro i hi
  rw [Finset.mem_range] at hi
  rw [hu i hi, hv i hi]

theorem ip_smul_right (n : Nat) (c : R) (u v : Nat → R) : ip n u (fun i => c * v i) = c * ip n u v := by
  unfold ip; rw [Finset.mul_sum]; apply Finset.sum_congr rfl; intro i _; ring

theorem ip_neg_right (n : Nat) (u v : Nat → R) : ip n u (fun i => -(v i)) = - ip n u v := by
  unfold ip; rw [← Finset.sum_neg_distrib]; apply Finset.sum_congr rfl; intro i _; ring

omit [StarRing R] in
/-- reindexing the sum by `i ↦ i ⊕ x` -/
theorem sum_xor {n : Nat} (x : Nat) (hx : x < 2 ^ n) (f : Nat → R) :
    ∑ i ∈ Finset.range (2 ^ n), f (i ^^^ x) = ∑ i ∈ Finset.range (2 ^ n), f i := by
  apply Finset.sum_nbij' (fun i => i ^^^ x) (fun i => i ^^^ x)
  · intro i hi; rw [Finset.mem_range] at *; exact Nat.xor_lt_two_pow hi hx
  · intro i hi; rw [Finset.mem_range] at *; exact Nat.xor_lt_two_pow hi hx
  · intro i _; rw [Nat.xor_assoc, Nat.xor_self, Nat.xor_zero]
  · intro i _; rw [Nat.xor_assoc, Nat.xor_self, Nat.xor_zero]
  · intro i _; rfl

section unitary
variable {I : R} (hI : I * I = -1) (hs : star I = -I)
include hI hs

theorem star_ipow_mul (k : Nat) : star (ipow I k) * ipow I k = 1 := by
  induction k with
  | zero => simp [ipow]
  | succ k ih =>
    rw [ipow, star_mul, hs]
    calc -I * star (ipow I k) * (ipow I k * I) = (star (ipow I k) * ipow I k) * (-(I * I)) := by ring
      _ = 1 := by rw [ih, hI]; ring

/-- **Pauli operators are unitary** -/
theorem ip_pauliAct {n : Nat} (p : MP) (hx : p.x < 2 ^ n) (u v : Nat → R) :
    ip n (pauliAct I p u) (pauliAct I p v) = ip n u v := by
  unfold ip
  rw [← sum_xor p.x hx (fun i => star (u i) * v i)]
  apply Finset.sum_congr rfl
  intro i _
  simp only [pauliAct, star_mul]
  calc star (u (i ^^^ p.x)) * star (ipow I (p.k + 2 * (par (p.z &&& (i ^^^ p.x))).toNat))
        * (ipow I (p.k + 2 * (par (p.z &&& (i ^^^ p.x))).toNat) * v (i ^^^ p.x))
      = (star (ipow I (p.k + 2 * (par (p.z &&& (i ^^^ p.x))).toNat)) * ipow I (p.k + 2 * (par (p.z &&& (i ^^^ p.x))).toNat))
        * (star (u (i ^^^ p.x)) * v (i ^^^ p.x)) := by ring
    _ = _ := by rw [star_ipow_mul hI hs]; ring

end unitary

/-! ### the gates are isometries (`H` up to the factor 2 of its scaling) -/

theorem bit_lt {q n : Nat} (h : q < n) : bit q < 2 ^ n := by
  rw [bit, Nat.one_shiftLeft]; exact Nat.pow_lt_pow_right (by norm_num) h

/-- the permutation `i ↦ i ⊕ [i_c] e_t` of a controlled gate -/
def ctlFlip (c t i : Nat) : Nat := if tb i c then i ^^^ bit t else i

omit [StarRing R] in
theorem sum_ctlFlip {n c t : Nat} (hc : c < n) (ht : t < n) (hct : c ≠ t) (f : Nat → R) :
    ∑ i ∈ Finset.range (2 ^ n), f (ctlFlip c t i) = ∑ i ∈ Finset.range (2 ^ n), f i := by
  have hinv : ∀ i, ctlFlip c t (ctlFlip c t i) = i := by
    intro i
    unfold ctlFlip tb
    by_cases h : i.testBit c
    · have htc : ¬ (t = c) := fun e => hct e.symm
      have : (i ^^^ bit t).testBit c = true := by rw [testBit_fl]; simp [h, htc]
      simp [h, this, xor_bit_cancel]
    · simp [h]
  have hlt : ∀ i, i < 2 ^ n → ctlFlip c t i < 2 ^ n := by
    intro i hi; unfold ctlFlip; split
    · exact Nat.xor_lt_two_pow hi (bit_lt ht)
    · exact hi
  apply Finset.sum_nbij' (ctlFlip c t) (ctlFlip c t)
  · intro i hi; rw [Finset.mem_range] at *; exact hlt i hi
  · intro i hi; rw [Finset.mem_range] at *; exact hlt i hi
  · intro i _; exact hinv i
  · intro i _; exact hinv i
  · intro i _; rfl

section iso
variable {I : R} (hI : I * I = -1) (hs : star I = -I)
include hI hs

theorem star_I_mul (a b : R) : star (I * a) * (I * b) = star a * b := by
  rw [star_mul, hs]
  calc star a * -I * (I * b) = -(I * I) * (star a * b) := by ring
    _ = _ := by rw [hI]; ring

/-- every gate except `H` preserves the inner product; `H` (stored as `√2·H`) doubles it -/
theorem ip_applyGate {n : Nat} (h2 : ∀ a b : R, 2 * a = 2 * b → a = b) (g : Gate) (hg : gateOk n g = true) (u v : Nat → R) :
    ip n (applyGate I g u) (applyGate I g v) = (match g with | .h _ => 2 | _ => 1) * ip n u v := by
  have hII := star_I_mul hI hs
  cases g with
  | x q =>
    simp only [gateOk, decide_eq_true_eq] at hg
    simp only [one_mul, ip, applyGate, fl]
    exact sum_xor (bit q) (bit_lt hg) (fun i => star (u i) * v i)
  | z q =>
    simp only [one_mul, ip, applyGate]
    apply Finset.sum_congr rfl; intro i _
    split <;> simp
  | s q =>
    simp only [one_mul, ip, applyGate]
    apply Finset.sum_congr rfl; intro i _
    split
    · exact hII _ _
    · rfl
  | cz c t =>
    simp only [one_mul, ip, applyGate]
    apply Finset.sum_congr rfl; intro i _
    split <;> simp
  | y q =>
    simp only [gateOk, decide_eq_true_eq] at hg
    simp only [one_mul, ip, applyGate, fl]
    rw [← sum_xor (bit q) (bit_lt hg) (fun i => star (u i) * v i)]
    apply Finset.sum_congr rfl; intro i _
    split
    · exact hII _ _
    · rw [star_neg, neg_mul_neg]; exact hII _ _
  | cx c t =>
    simp only [gateOk, Bool.and_eq_true, decide_eq_true_eq, bne_iff_ne, ne_eq] at hg
    simp only [one_mul, ip, applyGate, fl]
    rw [← sum_ctlFlip hg.1.1 hg.1.2 hg.2 (fun i => star (u i) * v i)]
    apply Finset.sum_congr rfl; intro i _
    unfold ctlFlip
    split <;> rfl
  | cy c t =>
    simp only [gateOk, Bool.and_eq_true, decide_eq_true_eq, bne_iff_ne, ne_eq] at hg
    simp only [one_mul, ip, applyGate, fl]
    rw [← sum_ctlFlip hg.1.1 hg.1.2 hg.2 (fun i => star (u i) * v i)]
    apply Finset.sum_congr rfl; intro i _
    unfold ctlFlip
    by_cases h1 : tb i c = true
    · simp only [h1, if_true]
      split
      · exact hII _ _
      · rw [star_neg, neg_mul_neg]; exact hII _ _
    · simp only [h1, if_false]; rfl
  | h q =>
    simp only [gateOk, decide_eq_true_eq] at hg
    apply h2
    -- 2 ΣG = ΣG + ΣG∘fl = 2 (Σg + Σg∘fl) = 4 Σg
    have hpair : ∀ i, star (applyGate I (.h q) u i) * applyGate I (.h q) v i
        + star (applyGate I (.h q) u (i ^^^ bit q)) * applyGate I (.h q) v (i ^^^ bit q)
        = 2 * (star (u i) * v i + star (u (i ^^^ bit q)) * v (i ^^^ bit q)) := by
      intro i
      have hb : tb (i ^^^ bit q) q = !tb i q := by
        unfold tb; rw [testBit_fl]; simp
      simp only [applyGate, fl, hb, xor_bit_cancel]
      rcases Bool.eq_false_or_eq_true (tb i q) with h1 | h1
      · simp only [h1, Bool.not_true, if_true, Bool.false_eq_true, if_false, star_add, star_sub]; ring
      · simp only [h1, Bool.not_false, if_true, Bool.false_eq_true, if_false, star_add, star_sub]; ring
    have e1 := sum_xor (bit q) (bit_lt hg) (fun i => star (applyGate I (.h q) u i) * applyGate I (.h q) v i)
    have e2 := sum_xor (bit q) (bit_lt hg) (fun i => star (u i) * v i)
    have e3 := Finset.sum_congr (s₁ := Finset.range (2 ^ n)) rfl (fun i _ => hpair i)
    rw [Finset.sum_add_distrib, ← Finset.mul_sum, Finset.sum_add_distrib] at e3
    simp only [e1, e2] at e3
    unfold ip
    calc 2 * ∑ i ∈ Finset.range (2 ^ n), star (applyGate I (.h q) u i) * applyGate I (.h q) v i
        = ∑ i ∈ Finset.range (2 ^ n), star (applyGate I (.h q) u i) * applyGate I (.h q) v i
          + ∑ i ∈ Finset.range (2 ^ n), star (applyGate I (.h q) u i) * applyGate I (.h q) v i := by ring
      _ = 2 * (∑ i ∈ Finset.range (2 ^ n), star (u i) * v i + ∑ i ∈ Finset.range (2 ^ n), star (u i) * v i) := e3
      _ = _ := by ring
  | unknown => simp [gateOk] at hg

/-- a circuit with `h` Hadamards multiplies inner products by `2^h` -/
theorem ip_run {n : Nat} (h2 : ∀ a b : R, 2 * a = 2 * b → a = b) (gs : List Gate) (hg : gs.all (gateOk n) = true) (u v : Nat → R) :
    ip n (run I gs u) (run I gs v) = 2 ^ countH gs * ip n u v := by
  induction gs generalizing u v with
  | nil => simp [run, countH]
  | cons g gs ih =>
    simp only [List.all_cons, Bool.and_eq_true] at hg
    simp only [run]
    rw [ih hg.2, ip_applyGate hI hs h2 g hg.1]
    cases g <;> simp [countH, pow_succ] <;> ring

end iso
end Numqi.Qec
