/-
The phase exponent `2 s0 + s1` of a phased Pauli operator under product, inverse and the string form: the sign-bit
formulas of `_pauli.py` are addition of exponents mod 4.
-/
import NumqiProofs.PauliLemmas

namespace Numqi
open Numqi.Pauli

variable {n : Nat}

theorem toNat_xor (a b : Bool) : (a ^^ b).toNat = (a.toNat + b.toNat) % 2 := by
  cases a <;> cases b <;> rfl

namespace Pauli

theorem phaseExp_lt (p : Pauli n) : p.phaseExp < 4 := by
  have := Bool.toNat_lt p.s0
  have := Bool.toNat_lt p.s1
  unfold Pauli.phaseExp
  omega

theorem beq_iff (p q : Pauli n) : Pauli.beq p q = true ↔ p = q := by
  cases p; cases q
  simp [Pauli.beq, Bits.beq_iff, and_assoc]

/-- the two sign bits are the binary digits of the phase exponent -/
theorem ext_phaseExp {p q : Pauli n} (h : p.phaseExp = q.phaseExp) (hx : p.x = q.x) (hz : p.z = q.z) : p = q := by
  obtain ⟨a0, a1, _, _⟩ := p
  obtain ⟨b0, b1, _, _⟩ := q
  have h0 : a0 = b0 ∧ a1 = b1 := by
    revert h
    cases a0 <;> cases a1 <;> cases b0 <;> cases b1 <;> simp [Pauli.phaseExp]
  cases hx; cases hz; rw [h0.1, h0.2]

/-- `X^x Z^z · X^x' Z^z' = (-1)^(z·x') X^(x+x') Z^(z+z')`: the phases add, with `2 z·x'` for the reordering -/
theorem phaseExp_mul (p q : Pauli n) :
    (p.mul q).phaseExp % 4 = (p.phaseExp + q.phaseExp + 2 * Bits.dotN p.z q.x) % 4 := by
  have := Bool.toNat_lt p.s0
  have := Bool.toNat_lt p.s1
  have := Bool.toNat_lt q.s0
  have := Bool.toNat_lt q.s1
  simp only [Pauli.phaseExp, Pauli.mul, toNat_mod2_beq, toNat_xor]
  omega

/-- `(i^k X^x Z^z)⁻¹ = i^(-k) Z^z X^x = i^(-k + 2 x·z) X^x Z^z` -/
theorem phaseExp_inv (p : Pauli n) :
    p.inv.phaseExp % 4 = (3 * p.phaseExp + 2 * Bits.dotN p.x p.z) % 4 := by
  have := Bool.toNat_lt p.s0
  have := Bool.toNat_lt p.s1
  simp only [Pauli.phaseExp, Pauli.inv, toNat_mod2_beq]
  omega

theorem toStr_lt (p : Pauli n) : ∀ s ∈ p.toStr.1, s < 4 := by
  intro s hs
  simp only [Pauli.toStr, List.mem_map] at hs
  obtain ⟨i, _, rfl⟩ := hs
  cases p.x i <;> cases p.z i <;> decide

/-- the sign bits written by `pauli_str_to_F2` are the binary digits of `(x·z + e) % 4` -/
theorem phaseExp_ofStr (syms : List Nat) (e : Nat) :
    (ofStr n syms e).phaseExp = (Bits.dotN (ofStr n syms e).x (ofStr n syms e).z + e) % 4 := by
  have key : ∀ t, t < 4 → 2 * (t / 2 == 1).toNat + (t % 2 == 1).toNat = t := by decide
  exact key _ (Nat.mod_lt _ (by norm_num))

end Pauli
end Numqi
