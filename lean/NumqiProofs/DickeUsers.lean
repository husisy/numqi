/-
Lemmas for the users of the Dicke reduction (C17, Part 4): the tensor form and the list form of the table give the same reduced
matrix, the tensor entries are the closed-form coefficients and are symmetric, and permutation-invariant vectors are constant on
occupation classes.
-/
import Mathlib.Tactic
import Mathlib.Algebra.Star.BigOperators
import NumqiModel.Dicke
import NumqiProofs.PartialTrace
import NumqiProofs.DickeReduction

namespace Numqi
namespace Dicke
open Finset PT

variable {R : Type} [CommRing R] [StarRing R]

theorem maskAB_length (k c : ℕ) : (maskAB k c).length = k + 1 := by simp [maskAB]

/-! ### the tensor form (`return_tensor=True`) and the list form of the table give the same reduced matrix -/

/-- value stored for `(i,j)` in a list of triples (first match), `0` if there is none -/
def valOf (T : List (ℕ × ℕ × R)) (i j : ℕ) : R :=
  match T.find? fun e => e.1 == i && e.2.1 == j with
  | some e => e.2.2
  | none => 0

theorem valOf_cons (e0 : ℕ × ℕ × R) (T : List (ℕ × ℕ × R)) (i j : ℕ) :
    valOf (e0 :: T) i j = if e0.1 = i ∧ e0.2.1 = j then e0.2.2 else valOf T i j := by
  unfold valOf
  rw [List.find?_cons]
  by_cases h : e0.1 = i ∧ e0.2.1 = j
  · simp [h.1, h.2]
  · have : (e0.1 == i && e0.2.1 == j) = false := by
      rw [Bool.and_eq_false_iff]; simp only [beq_eq_false_iff_ne]; tauto
    simp [this, h]

theorem valOf_eq_zero (T : List (ℕ × ℕ × R)) (i j : ℕ) (h : ∀ e ∈ T, ¬ (e.1 = i ∧ e.2.1 = j)) : valOf T i j = 0 := by
  unfold valOf
  have : (T.find? fun e => e.1 == i && e.2.1 == j) = none := by
    rw [List.find?_eq_none]; intro e he; have := h e he; simp; tauto
  rw [this]

/-- a list of triples with indices in range and no repeated index pair sums like its tensor -/
theorem sum_table_eq_tensor (L : ℕ) (T : List (ℕ × ℕ × R)) (F : ℕ → ℕ → R → R)
    (hF0 : ∀ i j, F i j 0 = 0) (h1 : ∀ e ∈ T, e.1 < L ∧ e.2.1 < L)
    (h2 : T.Pairwise fun e e' => ¬ (e.1 = e'.1 ∧ e.2.1 = e'.2.1)) :
    T.foldr (fun e acc => F e.1 e.2.1 e.2.2 + acc) 0 = ∑ i ∈ range L, ∑ j ∈ range L, F i j (valOf T i j) := by
  induction T with
  | nil => simp [valOf, hF0]
  | cons e0 T ih =>
    rw [List.pairwise_cons] at h2
    rw [List.foldr_cons, ih (fun e he => h1 e (List.mem_cons_of_mem _ he)) h2.2]
    have h0 := h1 e0 List.mem_cons_self
    have hz : valOf T e0.1 e0.2.1 = 0 := valOf_eq_zero T _ _ (fun e he hc => h2.1 e he ⟨hc.1.symm, hc.2.symm⟩)
    have hsplit : ∀ i j, F i j (valOf (e0 :: T) i j)
        = F i j (valOf T i j) + (if i = e0.1 ∧ j = e0.2.1 then F i j e0.2.2 else 0) := by
      intro i j
      rw [valOf_cons]
      by_cases h : e0.1 = i ∧ e0.2.1 = j
      · rw [if_pos h, if_pos ⟨h.1.symm, h.2.symm⟩, ← h.1, ← h.2, hz, hF0, zero_add]
      · rw [if_neg h, if_neg fun h' => h ⟨h'.1.symm, h'.2.symm⟩, add_zero]
    simp only [hsplit, sum_add_distrib]
    rw [add_comm, sum_sum_ite_pair h0.1 h0.2 fun i j => F i j e0.2.2]

/-- selecting the triples with index pair `(i, j)` is selecting row `i` and then column `j` -/
theorem filter_fst_and_snd {β : Type} (t : List (ℕ × ℕ × β)) (i j : ℕ) :
    (t.filter fun e => decide (e.1 = i ∧ e.2.1 = j))
      = (t.filter fun e => decide (e.1 = i)).filter fun e => decide (e.2.1 = j) := by
  rw [List.filter_filter]
  congr 1
  funext e
  rw [Bool.decide_and, Bool.and_comm]

theorem tensorOfTable_eq_valOf [inst : Conj R] (dimB : ℕ) (table : ℕ → List (ℕ × ℕ × R)) (r s i j : ℕ) :
    tensorOfTable dimB table r s i j = valOf (table (r * dimB + s)) i j := rfl

/-- **list form = tensor form of the reduction** -/
theorem assembleAB_eq_assembleTensor (dimB L : ℕ) (table : ℕ → List (ℕ × ℕ × R)) (ψ : ℕ → ℕ → R)
    (h1 : ∀ q, ∀ e ∈ table q, e.1 < L ∧ e.2.1 < L)
    (h2 : ∀ q, (table q).Pairwise fun e e' => ¬ (e.1 = e'.1 ∧ e.2.1 = e'.2.1)) (x y : ℕ) :
    assembleAB dimB table ψ x y = assembleTensor dimB L (tensorOfTable dimB table) ψ x y := by
  unfold assembleAB assembleTensor
  simp only [sumRange_eq_sum, tensorOfTable_eq_valOf]
  exact sum_table_eq_tensor L (table (x % dimB * dimB + y % dimB))
    (fun i j v => ψ (x / dimB) i * v * conj (ψ (y / dimB) j)) (fun i j => by simp) (h1 _) (h2 _)

theorem rowEntry_spec (N d r s i : ℕ) (hi : i < (klist d N).length) (e : ℕ × ℕ × ℚ) (h : rowEntry N d r s i = some e) :
    e.1 = i ∧ e.2.1 < (klist d N).length := by
  unfold rowEntry at h
  simp only at h
  by_cases hrs : r = s
  · rw [if_pos hrs] at h; cases h; exact ⟨rfl, hi⟩
  · rw [if_neg hrs] at h
    cases hsh : shift ((klist d N).getD i []) r s with
    | none => rw [hsh] at h; cases h
    | some b =>
      rw [hsh] at h
      simp only at h
      cases hidx : indexOf? (klist d N) b with
      | none => rw [hidx] at h; cases h
      | some j =>
        rw [hidx] at h; simp only at h; cases h
        refine ⟨rfl, ?_⟩
        unfold indexOf? at hidx
        simp only at hidx
        split at hidx
        · cases hidx; assumption
        · cases hidx

/-- the table has indices in range and lists no index pair twice -/
theorem bijTable_wf (N d r s : ℕ) :
    (∀ e ∈ bijTable N d r s, e.1 < (klist d N).length ∧ e.2.1 < (klist d N).length) ∧
    (bijTable N d r s).Pairwise fun e e' => ¬ (e.1 = e'.1 ∧ e.2.1 = e'.2.1) := by
  rw [bijTable_eq]
  constructor
  · intro e he
    rw [List.mem_filterMap] at he
    obtain ⟨i, hi, hie⟩ := he
    have hi' : i < (klist d N).length := by simpa using hi
    have := rowEntry_spec N d r s i hi' e hie
    exact ⟨by rw [this.1]; exact hi', this.2⟩
  · rw [List.pairwise_filterMap]
    refine (List.pairwise_lt_range).imp_of_mem ?_
    intro a a' ha ha' hlt b hb b' hb'
    have ha1 : a < (klist d N).length := by simpa using ha
    have ha2 : a' < (klist d N).length := by simpa using ha'
    have e1 := (rowEntry_spec N d r s a ha1 b (by simpa using hb)).1
    have e2 := (rowEntry_spec N d r s a' ha2 b' (by simpa using hb')).1
    rintro ⟨h, _⟩
    omega

/-! ### the tensor entries are the closed-form coefficients; overlap symmetry for every `(n, d)` -/

/-- the table over ℂ (`value = √value²`), entry `(r, s)` -/
noncomputable def tableCq (N d r s : ℕ) : List (ℕ × ℕ × ℂ) := (bijTable N d r s).map fun e => (e.1, e.2.1, wRoot e.2.2)

theorem tableCq_wf (N d r s : ℕ) :
    (∀ e ∈ tableCq N d r s, e.1 < (klist d N).length ∧ e.2.1 < (klist d N).length) ∧
    (tableCq N d r s).Pairwise fun e e' => ¬ (e.1 = e'.1 ∧ e.2.1 = e'.2.1) := by
  constructor
  · intro e he
    simp only [tableCq, List.mem_map] at he
    obtain ⟨e0, he0, rfl⟩ := he
    exact (bijTable_wf N d r s).1 e0 he0
  · simp only [tableCq]; rw [List.pairwise_map]; exact (bijTable_wf N d r s).2

/-- **every entry of the tensor is the closed-form overlap coefficient** (all `(N, d)`, `r, s < d`, Dicke indices in range) -/
theorem valOf_tableCq (N d r s : ℕ) (hd : 1 ≤ d) (hr : r < d) (hs : s < d) (i0 j0 : ℕ)
    (hi : i0 < (klist d N).length) (hj : j0 < (klist d N).length) :
    valOf (tableCq N d r s) i0 j0 = ((coefN N r s ((klist d N).getD i0 []) ((klist d N).getD j0 []) : ℝ) : ℂ) := by
  set L := (klist d N).length with hL
  have h1 := sum_table_eq_tensor L (tableCq N d r s) (fun i j v => if i = i0 ∧ j = j0 then v else 0)
    (fun i j => by simp) (tableCq_wf N d r s).1 (tableCq_wf N d r s).2
  rw [sum_sum_ite_pair hi hj (valOf (tableCq N d r s))] at h1
  rw [← h1, foldr_eq_sum_map, tableCq, List.map_map]
  have hfun : ((fun e : ℕ × ℕ × ℂ => if e.1 = i0 ∧ e.2.1 = j0 then e.2.2 else 0) ∘ fun e : ℕ × ℕ × ℚ => (e.1, e.2.1, wRoot e.2.2))
      = fun e : ℕ × ℕ × ℚ => (fun i j => if i = i0 ∧ j = j0 then (1 : ℂ) else 0) e.1 e.2.1 * wRoot e.2.2 := by
    funext e; simp only [Function.comp]; split <;> simp
  rw [hfun, bijTable_sum N d r s hd hr hs fun i j => if i = i0 ∧ j = j0 then (1 : ℂ) else 0]
  simp only [ite_mul, one_mul, zero_mul]
  exact sum_sum_ite_pair hi hj fun i j => ((coefN N r s ((klist d N).getD i []) ((klist d N).getD j []) : ℝ) : ℂ)

theorem cond_symm (r s : ℕ) (a b : List ℕ) : Cond r s a b ↔ Cond s r b a := by
  unfold Cond
  constructor
  · rintro ⟨h1, h2, h3⟩; exact ⟨h2, h1, h3.symm⟩
  · rintro ⟨h1, h2, h3⟩; exact ⟨h2, h1, h3.symm⟩

theorem coefN_symm (N r s : ℕ) (a b : List ℕ) : coefN N r s a b = coefN N s r b a := by
  unfold coefN
  by_cases h : Cond r s a b
  · rw [if_pos h, if_pos ((cond_symm r s a b).1 h), mul_comm]
  · rw [if_neg h, if_neg (fun h' => h ((cond_symm r s a b).2 h'))]

/-- **overlap symmetry `B[r,s,i,j] = B[s,r,j,i]` of the executed tensor, for every `(N, d)`** -/
theorem tensor_symm (N d r s i j : ℕ) (hd : 1 ≤ d) (hr : r < d) (hs : s < d)
    (hi : i < (klist d N).length) (hj : j < (klist d N).length) :
    valOf (tableCq N d r s) i j = valOf (tableCq N d s r) j i := by
  rw [valOf_tableCq N d r s hd hr hs i j hi hj, valOf_tableCq N d s r hd hs hr j i hj hi, coefN_symm]

/-! ### spanning: permutation-invariant vectors are constant on occupation classes -/

theorem digits_length (d n x : ℕ) : (digits d n x).length = n := by
  induction n generalizing x with
  | zero => simp [digits_zero]
  | succ n ih => rw [digits_succ]; simp [ih]

theorem digits_lt (d n x : ℕ) (hx : x < d ^ n) : ∀ q ∈ digits d n x, q < d := by
  induction n generalizing x with
  | zero => simp [digits_zero]
  | succ n ih =>
    rw [digits_succ]
    intro q hq
    rw [pow_succ'] at hx
    obtain ⟨hdiv, hmod⟩ := div_mod_lt hx
    rcases List.mem_cons.1 hq with rfl | hq
    · exact hdiv
    · exact ih _ hmod q hq

theorem occ_sum (d : ℕ) (l : List ℕ) (hl : ∀ q ∈ l, q < d) : (occ d l).sum = l.length := by
  induction l with
  | nil =>
    have : occ d [] = List.replicate d 0 := by
      apply List.ext_getElem
      · simp [occ_length]
      · intro i h1 h2; rw [occ_getElem]; simp
    rw [this]; simp
  | cons q l ih =>
    have hq : q < d := hl q List.mem_cons_self
    rw [occ_cons d q l hq, sum_set_incr _ q (by rw [occ_length]; exact hq), ih (fun x hx => hl x (List.mem_cons_of_mem _ hx))]
    simp

/-- equal occupation numbers ⇒ the digit strings are permutations of each other -/
theorem perm_of_occ_eq (d : ℕ) (l l' : List ℕ) (hl : ∀ q ∈ l, q < d) (hl' : ∀ q ∈ l', q < d) (h : occ d l = occ d l') :
    l.Perm l' := by
  rw [List.perm_iff_count]
  intro a
  by_cases ha : a < d
  · have h1 := occ_getD d l a ha
    have h2 := occ_getD d l' a ha
    rw [← h1, ← h2, h]
  · have n1 : a ∉ l := fun hm => ha (hl a hm)
    have n2 : a ∉ l' := fun hm => ha (hl' a hm)
    rw [List.count_eq_zero_of_not_mem n1, List.count_eq_zero_of_not_mem n2]

/-- **a permutation-invariant vector is constant on occupation classes** -/
theorem symmetric_const_on_occ {β : Type} (d n : ℕ) (v : ℕ → β)
    (hsym : ∀ x y, x < d ^ n → y < d ^ n → (digits d n x).Perm (digits d n y) → v x = v y)
    (x y : ℕ) (hx : x < d ^ n) (hy : y < d ^ n) (h : occ d (digits d n x) = occ d (digits d n y)) : v x = v y :=
  hsym x y hx hy (perm_of_occ_eq d _ _ (digits_lt d n x hx) (digits_lt d n y hy) h)

theorem occ_digits_mem_klist (d n x : ℕ) (hd : 1 ≤ d) (hx : x < d ^ n) : occ d (digits d n x) ∈ klist d n := by
  obtain ⟨e, rfl⟩ : ∃ e, d = e + 1 := ⟨d - 1, by omega⟩
  rw [mem_klist_iff]
  exact ⟨occ_length _ _, by rw [occ_sum _ _ (digits_lt _ n x hx), digits_length]⟩

theorem sum_map_single {β : Type} [DecidableEq β] (l : List β) (hnd : l.Nodup) (a0 : β) (ha : a0 ∈ l) (f : β → ℝ) :
    (l.map fun a => if a0 = a then f a else 0).sum = f a0 := by
  rw [← List.sum_toFinset _ hnd, Finset.sum_ite_eq]
  simp [ha]

end Dicke
end Numqi
