/-
The Gell-Mann branches of `get_matrix_orthogonal_basis` (C20): `gellmann_basis_to_matrix` doubles inner products (from C16), and
the Hermitian branch `C_H` as an instance of `orth_basis_claims`.
-/
import NumqiProofs.MatrixSpaceOrth
import NumqiProps.C16
import Mathlib.Analysis.Complex.Order

namespace Numqi.MatrixSpace
open Numqi.Gellmann Numqi.C16 Matrix Finset

/-- **`gellmann_basis_to_matrix` doubles inner products**: `tr(AᴴB) = 2·Σ conj(a_p) b_p` for `A, B` synthesised from `a, b`
(C16 `parseval_half` + `analysis_synthesis`) -/
theorem synthesis_isometry {R : Type} [CommRing R] [StarRing R] {d : ℕ} (S : Scalars R) (hS : S.Valid d) (hd : 1 ≤ d) (a b : ℕ → R) :
    trace ((Matrix.of (synthesis S d a))ᴴ * Matrix.of (synthesis S d b))
      = 2 * ∑ p ∈ range (d * d), star (a p) * b p := by
  have h := parseval_half S hS hd (synthesis S d a) (synthesis S d b)
  rw [analysis_synthesis S hS hd a, analysis_synthesis S hS hd b] at h
  have hg : ∀ (v : ℕ → R), ∀ p ∈ range (d * d), ((List.range (d * d)).map v).getD p 0 = v p := by
    intro v p hp
    rw [Finset.mem_range] at hp
    simp [List.getD_eq_getElem?_getD, hp]
  rw [Finset.sum_congr rfl (fun p hp => by rw [hg a p hp, hg b p hp])] at h
  rw [h, ← mul_assoc, mul_comm 2 S.half, hS.half_two, one_mul]

/-- branch `C_H` (Hermitian matrices over ℝ): real coordinate row ↦ `gellmann_basis_to_matrix` -/
noncomputable def synthL (d : ℕ) (hd : 1 ≤ d) : (Fin (d * d) → ℝ) →ₗ[ℝ] Matrix (Fin d) (Fin d) ℂ where
  toFun x := Matrix.of (synthesis (complexScalars d) d fun p => ((gd x p : ℝ) : ℂ))
  map_add' x y := by
    rw [synthesis_eq_sum _ hd, synthesis_eq_sum _ hd, synthesis_eq_sum _ hd, ← Finset.sum_add_distrib]
    refine Finset.sum_congr rfl fun p _ => ?_
    rw [gd_add]; push_cast; rw [add_smul]
  map_smul' c x := by
    rw [synthesis_eq_sum _ hd, synthesis_eq_sum _ hd, Finset.smul_sum]
    refine Finset.sum_congr rfl fun p _ => ?_
    rw [gd_smul]; push_cast
    rw [mul_smul]
    ext i j
    simp [Matrix.smul_apply, Complex.real_smul]

theorem synthL_iso (d : ℕ) (hd : 1 ≤ d) (x y : Fin (d * d) → ℝ) :
    (trace ((synthL d hd x)ᴴ * synthL d hd y)).re = 2 * dotS x y := by
  have h := synthesis_isometry (complexScalars d) (complexScalars_valid hd) hd (fun p => ((gd x p : ℝ) : ℂ)) (fun p => ((gd y p : ℝ) : ℂ))
  have e : trace ((synthL d hd x)ᴴ * synthL d hd y)
      = 2 * ∑ p ∈ range (d * d), star ((gd x p : ℝ) : ℂ) * ((gd y p : ℝ) : ℂ) := h
  rw [e]
  have hs : ∑ p ∈ range (d * d), star ((gd x p : ℝ) : ℂ) * ((gd y p : ℝ) : ℂ) = ((dotS x y : ℝ) : ℂ) := by
    unfold dotS
    rw [Finset.sum_range]
    push_cast
    refine Finset.sum_congr rfl fun p _ => ?_
    simp [gd]
  rw [hs]
  simp

end Numqi.MatrixSpace
