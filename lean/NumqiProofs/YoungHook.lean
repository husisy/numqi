/-
C14 helper (tableaux, part 6): a function on shapes that obeys the corner-removal recurrence on the partitions of at
most `n` cells is the number of standard tableaux there.  `NumqiProps/C14.lean` applies this to `hookLength`, so that
a finite table has to check the recurrence of the hook-length numbers only, not count tableaux.
-/
import NumqiProofs.YoungCount

namespace Numqi.Young

/-- the right-hand side of the recurrence in `sytCount`, with the recursive call replaced by `f` -/
def cornerSum (f : List Nat → Nat) (shape : List Nat) : Nat :=
  ((List.range shape.length).map fun r =>
    let a := shape.getD r 0
    if a > 0 && a > shape.getD (r + 1) 0 then f ((shape.set r (a - 1)).filter (0 < ·)) else 0).sum

theorem sytCount_succ (fuel : Nat) {shape : List Nat} (h : shape.sum ≠ 0) :
    sytCount (fuel + 1) shape = cornerSum (sytCount fuel) shape := by
  simp only [sytCount, h, if_false, cornerSum]

theorem cornerSum_congr {f g : List Nat → Nat} {shape : List Nat}
    (h : ∀ r < shape.length, shape.getD (r + 1) 0 < shape.getD r 0 →
      f ((shape.set r (shape.getD r 0 - 1)).filter (0 < ·)) = g ((shape.set r (shape.getD r 0 - 1)).filter (0 < ·))) :
    cornerSum f shape = cornerSum g shape := by
  unfold cornerSum
  refine congrArg List.sum (List.map_congr_left fun r hr => ?_)
  by_cases hc : shape.getD (r + 1) 0 < shape.getD r 0
  · simp only [h r (List.mem_range.1 hr) hc]
  · simp only [gt_iff_lt, hc, decide_false, Bool.and_false, Bool.false_eq_true, if_false]

/-- a partition without one of its removable corners is a partition with one cell less -/
theorem partition_sub_corner {shape : List Nat} {r : Nat} (hp : shape.Pairwise (· ≥ ·)) (hr : r < shape.length)
    (hc : shape.getD (r + 1) 0 < shape.getD r 0) :
    ((shape.set r (shape.getD r 0 - 1)).filter (0 < ·)).Pairwise (· ≥ ·) ∧
      ((shape.set r (shape.getD r 0 - 1)).filter (0 < ·)).sum + 1 = shape.sum := by
  have ha : shape.getD r 0 = shape[r] := List.getD_eq_getElem _ _ hr
  constructor
  · refine List.Pairwise.filter _ (List.pairwise_iff_getElem.2 fun i j hi hj hij => ?_)
    rw [List.length_set] at hi hj
    have hij' := List.pairwise_iff_getElem.1 hp i j hi hj hij
    simp only [List.getElem_set, ge_iff_le]
    by_cases h1 : r = i
    · -- below the corner everything is at most the next row, which is smaller than the corner
      subst h1
      have h2 : r ≠ j := by omega
      have hnext : shape[j] ≤ shape.getD (r + 1) 0 := by
        rw [List.getD_eq_getElem _ _ (by omega : r + 1 < shape.length)]
        rcases Nat.lt_or_ge (r + 1) j with h | h
        · exact List.pairwise_iff_getElem.1 hp (r + 1) j (by omega) hj h
        · exact le_of_eq (by congr 1; omega)
      simp only [h2, if_false, if_true]; omega
    · by_cases h2 : r = j
      · subst h2; simp only [h1, if_false, if_true]; omega
      · simpa only [h1, h2, if_false] using hij'
  · rw [sum_filter_pos]
    have := sum_set_add hr (shape.getD r 0 - 1)
    omega

/-- **a solution of the corner-removal recurrence is the number of standard tableaux**: if `f [] = 1` and
`f λ = Σ_{removable corners} f (λ − corner)` for every partition `λ` of `1 … n`, then `f λ = sytCount |λ| λ` for
every partition of at most `n` -/
theorem sytCount_eq_of_cornerSum (f : List Nat → Nat) (n : Nat) (h0 : f [] = 1)
    (hf : ∀ shape : List Nat, shape.Pairwise (· ≥ ·) → (∀ x ∈ shape, 0 < x) → shape.sum ≠ 0 → shape.sum ≤ n →
      f shape = cornerSum f shape) :
    ∀ (N : Nat) (shape : List Nat), shape.Pairwise (· ≥ ·) → (∀ x ∈ shape, 0 < x) → shape.sum = N → N ≤ n →
      sytCount N shape = f shape
  | 0, shape, _, hpos, hs, _ => by
    have : shape = [] := by
      rcases shape with _ | ⟨a, l⟩
      · rfl
      · have := hpos a List.mem_cons_self; simp at hs; omega
    subst this; simp [sytCount, h0]
  | N + 1, shape, hp, hpos, hs, hn => by
    have hne : shape.sum ≠ 0 := by omega
    rw [sytCount_succ N hne, hf shape hp hpos hne (by omega)]
    refine cornerSum_congr fun r hr hc => ?_
    obtain ⟨hp', hs'⟩ := partition_sub_corner hp hr hc
    exact sytCount_eq_of_cornerSum f n h0 hf N _ hp' (fun x hx => by simpa using (List.mem_filter.1 hx).2)
      (by omega) (by omega)

end Numqi.Young
