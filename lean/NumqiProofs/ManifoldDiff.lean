/- C02: the differential of the Cayley transform wherever `1 + A` is invertible, and the charts built on it. -/
import Mathlib.Analysis.SpecialFunctions.Exponential
import Mathlib.Analysis.Calculus.FDeriv.Mul
import Mathlib.Analysis.Calculus.FDeriv.Add

namespace Numqi.Manifold
open NormedSpace

/-- the Cayley transform `A ↦ (1+A)⁻¹ (1-A)` in any ring (`Ring.inverse` is the inverse on units) -/
noncomputable def cayleyMap {𝔸 : Type*} [Ring 𝔸] (A : 𝔸) : 𝔸 := Ring.inverse (1 + A) * (1 - A)

variable {𝔸 : Type*} [NormedRing 𝔸] [NormedAlgebra ℝ 𝔸] [CompleteSpace 𝔸]

/-- the differential of the Cayley transform at `A` (`u = 1 + A` invertible): `δ ↦ -2 u⁻¹ δ u⁻¹` -/
noncomputable def cayleyD (u : 𝔸ˣ) : 𝔸 →L[ℝ] 𝔸 := (-2 : ℝ) • ContinuousLinearMap.mulLeftRight ℝ 𝔸 ↑u⁻¹ ↑u⁻¹

theorem cayleyD_apply (u : 𝔸ˣ) (δ : 𝔸) : cayleyD u δ = (-2 : ℝ) • ((↑u⁻¹ : 𝔸) * δ * ↑u⁻¹) := by
  rfl

/-- **the Cayley transform is differentiable at every `A` with `1 + A` invertible, with differential `δ ↦ -2 (1+A)⁻¹ δ (1+A)⁻¹`** -/
theorem hasFDerivAt_cayley (A : 𝔸) (u : 𝔸ˣ) (hu : (↑u : 𝔸) = 1 + A) : HasFDerivAt (cayleyMap : 𝔸 → 𝔸) (cayleyD u) A := by
  have h1 : HasFDerivAt (fun B : 𝔸 => 1 + B) (ContinuousLinearMap.id ℝ 𝔸) A := (hasFDerivAt_id A).const_add 1
  have hinv : HasFDerivAt (Ring.inverse : 𝔸 → 𝔸) (-ContinuousLinearMap.mulLeftRight ℝ 𝔸 ↑u⁻¹ ↑u⁻¹) ((fun B : 𝔸 => 1 + B) A) := by
    have := hasFDerivAt_ringInverse (𝕜 := ℝ) u
    rwa [hu] at this
  have hg : HasFDerivAt (fun B : 𝔸 => Ring.inverse (1 + B)) ((-ContinuousLinearMap.mulLeftRight ℝ 𝔸 ↑u⁻¹ ↑u⁻¹).comp (ContinuousLinearMap.id ℝ 𝔸)) A :=
    hinv.comp A h1
  have hh : HasFDerivAt (fun B : 𝔸 => 1 - B) (-ContinuousLinearMap.id ℝ 𝔸) A := (hasFDerivAt_id A).const_sub 1
  have := hg.mul' hh
  refine this.congr_fderiv ?_
  ext δ
  have hri : Ring.inverse (1 + A) = (↑u⁻¹ : 𝔸) := by rw [← hu, Ring.inverse_unit]
  have h1A : (1 : 𝔸) - A = 2 - ↑u := by
    rw [hu, show (2 : 𝔸) = 1 + 1 by norm_num]; abel
  simp only [cayleyD_apply, ContinuousLinearMap.add_apply, ContinuousLinearMap.smul_apply, ContinuousLinearMap.neg_apply,
    ContinuousLinearMap.id_apply, ContinuousLinearMap.comp_apply, ContinuousLinearMap.mulLeftRight_apply, hri, h1A]
  simp only [smul_eq_mul, MulOpposite.smul_eq_mul_unop, MulOpposite.unop_op]
  have e : (↑u⁻¹ : 𝔸) * δ * ↑u⁻¹ * ↑u = ↑u⁻¹ * δ := by rw [mul_assoc, Units.inv_mul, mul_one]
  have key : (↑u⁻¹ : 𝔸) * -δ + -((↑u⁻¹ : 𝔸) * δ * ↑u⁻¹) * (2 - ↑u) = -(((↑u⁻¹ : 𝔸) * δ * ↑u⁻¹) * 2) := by
    rw [neg_mul, mul_sub, e]; noncomm_ring
  rw [key, neg_smul, two_smul, mul_two]

/-- **the differential of the Cayley transform at `0` is `-2·id`** -/
theorem hasFDerivAt_cayley_zero : HasFDerivAt (cayleyMap : 𝔸 → 𝔸) ((-2 : ℝ) • ContinuousLinearMap.id ℝ 𝔸) 0 := by
  refine (hasFDerivAt_cayley 0 1 (by rw [Units.val_one, add_zero])).congr_fderiv ?_
  ext δ
  rw [cayleyD_apply, inv_one, Units.val_one, one_mul, mul_one]
  rfl

theorem cayleyD_injective (u : 𝔸ˣ) : Function.Injective (cayleyD u : 𝔸 → 𝔸) := by
  rw [injective_iff_map_eq_zero]
  intro δ h
  rw [cayleyD_apply] at h
  have h2 : (↑u⁻¹ : 𝔸) * δ * ↑u⁻¹ = 0 := by
    rcases smul_eq_zero.1 h with h | h
    · norm_num at h
    · exact h
  have := congrArg (fun x => (↑u : 𝔸) * x * ↑u) h2
  simp only [mul_zero, zero_mul] at this
  rw [← this]
  simp [mul_assoc]

/-- **chart level**: for an injective continuous linear placement `P` of the parameters (e.g. `θ ↦ generator`), the chart `θ ↦ cayley(P θ)`
has injective differential — full rank — at every θ where `1 + P θ` is invertible (always, for skew generators) -/
theorem cayley_chart_full_rank {E : Type*} [NormedAddCommGroup E] [NormedSpace ℝ E] (P : E →L[ℝ] 𝔸) (hP : Function.Injective P)
    (θ : E) (u : 𝔸ˣ) (hu : (↑u : 𝔸) = 1 + P θ) :
    HasFDerivAt (fun t => cayleyMap (P t)) ((cayleyD u).comp P) θ ∧ Function.Injective ((cayleyD u).comp P) := by
  refine ⟨(hasFDerivAt_cayley (P θ) u hu).comp θ P.hasFDerivAt, ?_⟩
  intro a b h
  exact hP (cayleyD_injective u h)

end Numqi.Manifold
