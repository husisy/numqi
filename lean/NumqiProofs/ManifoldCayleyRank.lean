/- C02: the real Cayley chart of SO(d) has full rank at every theta (linear placement + Cayley differential everywhere). -/
import NumqiProofs.ManifoldPlacement
import NumqiProofs.ManifoldDiff
import Mathlib.Analysis.Matrix.Normed
namespace Numqi.Manifold
open Matrix
open Numqi.Gellmann (Scalars synthesis)
open scoped Matrix.Norms.Operator

variable {dim : Nat}

/-- a finite parameter vector extended by zero -/
def extZero {n : Nat} (t : Fin n → ℝ) : Nat → ℝ := fun p => if h : p < n then t ⟨p, h⟩ else 0

theorem extZero_apply {n : Nat} (t : Fin n → ℝ) (p : Fin n) : extZero t p.val = t p := dif_pos p.isLt

theorem extZero_add {n : Nat} (t t' : Fin n → ℝ) : extZero (t + t') = fun q => extZero t q + extZero t' q := by
  funext q; unfold extZero; split_ifs <;> simp

theorem extZero_smul {n : Nat} (k : ℝ) (t : Fin n → ℝ) : extZero (k • t) = fun q => k * extZero t q := by
  funext q; unfold extZero; split_ifs <;> simp

theorem genVecR_add (θ θ' : Nat → ℝ) (p : Nat) : genVecR dim (fun q => θ q + θ' q) p = genVecR dim θ p + genVecR dim θ' p := by
  unfold genVecR; split_ifs <;> simp

theorem genVecR_smul (c : ℝ) (θ : Nat → ℝ) (p : Nat) : genVecR dim (fun q => c * θ q) p = (c : ℂ) * genVecR dim θ p := by
  unfold genVecR; split_ifs <;> simp

theorem synthesis_add (S : Scalars ℂ) (hd : 1 ≤ dim) (v w : Nat → ℂ) :
    synthesis S dim (fun p => v p + w p) = fun r c => synthesis S dim v r c + synthesis S dim w r c := by
  have h := Gellmann.synthesis_eq_sum' S hd (fun p => v p + w p)
  have hv := Gellmann.synthesis_eq_sum' S hd v
  have hw := Gellmann.synthesis_eq_sum' S hd w
  have : Matrix.of (synthesis S dim fun p => v p + w p) = Matrix.of (synthesis S dim v) + Matrix.of (synthesis S dim w) := by
    rw [h, hv, hw, ← Finset.sum_add_distrib]; exact Finset.sum_congr rfl (fun a _ => add_smul _ _ _)
  funext r c
  exact congrFun (congrFun this r) c

theorem synthesis_smul (S : Scalars ℂ) (hd : 1 ≤ dim) (k : ℂ) (v : Nat → ℂ) :
    synthesis S dim (fun p => k * v p) = fun r c => k * synthesis S dim v r c := by
  have h := Gellmann.synthesis_eq_sum' S hd (fun p => k * v p)
  have hv := Gellmann.synthesis_eq_sum' S hd v
  have : Matrix.of (synthesis S dim fun p => k * v p) = k • Matrix.of (synthesis S dim v) := by
    rw [h, hv, Finset.smul_sum]; exact Finset.sum_congr rfl (fun a _ => by rw [smul_smul])
  funext r c
  exact congrFun (congrFun this r) c

/-- the real placement `θ ↦ generator` as an `ℝ`-linear map on `ℝ^n`, `n = d(d-1)/2` -/
noncomputable def genLin (S : Scalars ℂ) (hd : 1 ≤ dim) : (Fin (dim * (dim - 1) / 2) → ℝ) →ₗ[ℝ] Matrix (Fin dim) (Fin dim) ℂ where
  toFun t := toM dim dim (soGenerator S dim true (extZero t))
  map_add' t t' := by
    rw [toM_soGenerator_real, toM_soGenerator_real, toM_soGenerator_real]
    have e2 : genVecR dim (extZero (t + t')) = fun p => genVecR dim (extZero t) p + genVecR dim (extZero t') p := by
      funext p; rw [extZero_add]; exact genVecR_add _ _ p
    ext r c
    simp only [Matrix.of_apply, Matrix.add_apply, e2, synthesis_add S hd]
    simp
  map_smul' k t := by
    rw [toM_soGenerator_real, toM_soGenerator_real]
    have e2 : genVecR dim (extZero (k • t)) = fun p => (k : ℂ) * genVecR dim (extZero t) p := by
      funext p; rw [extZero_smul]; exact genVecR_smul k _ p
    ext r c
    simp only [Matrix.of_apply, Matrix.smul_apply, e2, synthesis_smul S hd, RingHom.id_apply]
    simp

theorem genLin_injective (S : Scalars ℂ) (hS : S.Valid dim) (hd : 1 ≤ dim) : Function.Injective (genLin S hd) := by
  intro t t' h
  funext p
  have := soGenerator_real_injective S hS hd (extZero t) (extZero t') h p.val p.isLt
  rwa [extZero_apply, extZero_apply] at this

end Numqi.Manifold
