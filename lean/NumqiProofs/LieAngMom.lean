/-
Helper lemmas for C15, Part C: the angular-momentum matrices of `get_angular_momentum_op` for every `j2`,
via the ladder matrices `J₊ = Jx + i Jy`, `J₋ = Jx - i Jy`.
-/
import NumqiProofs.Lie
import Mathlib.Algebra.BigOperators.Fin
import Mathlib.Algebra.BigOperators.Ring.Finset

set_option linter.unusedSectionVars false

namespace Numqi.Lie
open Matrix Finset

variable {K : Type} [CommRing K]

/-- the matrices of the model, as Mathlib matrices of size `j2+1` -/
def JxM (half : K) (sq : ℕ → K) (j2 : ℕ) : Matrix (Fin (j2 + 1)) (Fin (j2 + 1)) K :=
  fun i k => jxEntry half sq j2 i.val k.val
def JyM (I half : K) (sq : ℕ → K) (j2 : ℕ) : Matrix (Fin (j2 + 1)) (Fin (j2 + 1)) K :=
  fun i k => jyEntry I half sq j2 i.val k.val
def JzM (half : K) (j2 : ℕ) : Matrix (Fin (j2 + 1)) (Fin (j2 + 1)) K :=
  fun i k => jzEntry half (fun n : ℕ => (n : K)) j2 i.val k.val

/-- raising / lowering matrices: `√((i+1)(j2-i))` on the super- / sub-diagonal -/
def JpM (sq : ℕ → K) (j2 : ℕ) : Matrix (Fin (j2 + 1)) (Fin (j2 + 1)) K :=
  fun i k => if k.val = i.val + 1 then sq ((i.val + 1) * (j2 - i.val)) else 0
def JmM (sq : ℕ → K) (j2 : ℕ) : Matrix (Fin (j2 + 1)) (Fin (j2 + 1)) K :=
  fun i k => if i.val = k.val + 1 then sq ((k.val + 1) * (j2 - k.val)) else 0

theorem JxM_eq (half : K) (sq : ℕ → K) (j2 : ℕ) : JxM half sq j2 = half • (JpM sq j2 + JmM sq j2) := by
  ext i k
  simp only [JxM, jxEntry, ladder, JpM, JmM, Matrix.smul_apply, Matrix.add_apply, smul_eq_mul]
  split_ifs with h1 h2 <;> first | (exfalso; omega) | ring

theorem JyM_eq (I half : K) (sq : ℕ → K) (j2 : ℕ) :
    JyM I half sq j2 = (-(I * half)) • JpM sq j2 + (I * half) • JmM sq j2 := by
  ext i k
  simp only [JyM, jyEntry, ladder, JpM, JmM, Matrix.smul_apply, Matrix.add_apply, smul_eq_mul]
  split_ifs with h1 h2 <;> first | (exfalso; omega) | ring

/-- `z i = (j2 - i) - j2/2` -/
def zval (half : K) (j2 i : ℕ) : K := ((j2 - i : ℕ) : K) - half * (j2 : K)

theorem JzM_apply (half : K) (j2 : ℕ) (i k : Fin (j2 + 1)) :
    JzM half j2 i k = if i = k then zval half j2 i.val else 0 := by
  simp only [JzM, jzEntry, zval, Fin.ext_iff]

theorem JzM_mul (half : K) (j2 : ℕ) (A : Matrix (Fin (j2 + 1)) (Fin (j2 + 1)) K) (i k : Fin (j2 + 1)) :
    (JzM half j2 * A) i k = zval half j2 i.val * A i k := by
  rw [Matrix.mul_apply, Finset.sum_eq_single i]
  · rw [JzM_apply, if_pos rfl]
  · intro m _ hm; rw [JzM_apply, if_neg (Ne.symm hm), zero_mul]
  · intro h; exact absurd (mem_univ _) h

theorem mul_JzM (half : K) (j2 : ℕ) (A : Matrix (Fin (j2 + 1)) (Fin (j2 + 1)) K) (i k : Fin (j2 + 1)) :
    (A * JzM half j2) i k = A i k * zval half j2 k.val := by
  rw [Matrix.mul_apply, Finset.sum_eq_single k]
  · rw [JzM_apply, if_pos rfl]
  · intro m _ hm; rw [JzM_apply, if_neg hm, mul_zero]
  · intro h; exact absurd (mem_univ _) h

variable (sq : ℕ → K) (hsq : ∀ n, sq n * sq n = (n : K))
include hsq

/-- `J₊ J₋ = diag((i+1)(j2-i))` -/
theorem JpM_mul_JmM (j2 : ℕ) (i k : Fin (j2 + 1)) :
    (JpM sq j2 * JmM sq j2) i k = if i = k then (((i.val + 1) * (j2 - i.val) : ℕ) : K) else 0 := by
  rw [Matrix.mul_apply]
  by_cases hi : i.val + 1 < j2 + 1
  · rw [Finset.sum_eq_single (⟨i.val + 1, hi⟩ : Fin (j2 + 1))]
    · simp only [JpM, JmM, if_true]
      by_cases hik : i = k
      · subst hik; simp [hsq]
      · have hv : ¬ (i.val = k.val) := fun e => hik (Fin.ext e)
        simp [hv, hik]
    · intro m _ hm
      have : ¬ (m.val = i.val + 1) := fun e => hm (Fin.ext e)
      simp [JpM, this]
    · intro h; exact absurd (mem_univ _) h
  · have hij : i.val = j2 := by have := i.isLt; omega
    rw [Finset.sum_eq_zero]
    · split_ifs <;> simp [hij]
    · intro m _
      have : ¬ (m.val = i.val + 1) := by have := m.isLt; omega
      simp [JpM, this]

omit hsq in
/-- reversing the order of the basis exchanges `J₊` and `J₋` -/
theorem JmM_eq_rev (j2 : ℕ) (i k : Fin (j2 + 1)) : JmM sq j2 i k = JpM sq j2 i.rev k.rev := by
  have hi := i.isLt
  have hk := k.isLt
  simp only [JmM, JpM, Fin.val_rev]
  by_cases h : i.val = k.val + 1
  · rw [if_pos h, if_pos (by omega), mul_comm]
    congr 2 <;> omega
  · rw [if_neg h, if_neg (by omega)]

/-- `J₋ J₊ = diag(i (j2+1-i))`: `J₊ J₋` in the reversed basis -/
theorem JmM_mul_JpM (j2 : ℕ) (i k : Fin (j2 + 1)) :
    (JmM sq j2 * JpM sq j2) i k = if i = k then ((i.val * (j2 + 1 - i.val) : ℕ) : K) else 0 := by
  have h := JpM_mul_JmM sq hsq j2 i.rev k.rev
  rw [Matrix.mul_apply, ← Equiv.sum_comp Fin.revPerm] at h
  simp only [Fin.revPerm_apply, JmM_eq_rev, Fin.rev_rev] at h
  rw [Matrix.mul_apply]
  simp only [JmM_eq_rev sq j2 i]
  have hi := i.isLt
  rw [h]
  simp only [Fin.rev_inj, Fin.val_rev]
  rw [mul_comm]
  congr 3 <;> omega

omit hsq in
/-- `[Jz, J₊] = J₊` -/
theorem Jz_comm_Jp (half : K) (j2 : ℕ) :
    JzM half j2 * JpM sq j2 - JpM sq j2 * JzM half j2 = JpM sq j2 := by
  ext i k
  rw [Matrix.sub_apply, JzM_mul, mul_JzM]
  simp only [JpM]
  split_ifs with h
  · have hk := k.isLt
    have e : ((j2 - i.val : ℕ) : K) = ((j2 - k.val : ℕ) : K) + 1 := by
      rw [h]; have : j2 - i.val = (j2 - (i.val + 1)) + 1 := by omega
      rw [this]; push_cast; ring
    simp only [zval, e]; ring
  · ring

omit hsq in
theorem JzM_transpose (half : K) (j2 : ℕ) : (JzM half j2)ᵀ = JzM half j2 := by
  ext i k
  rw [Matrix.transpose_apply, JzM_apply, JzM_apply]
  by_cases h : i = k
  · subst h; rfl
  · rw [if_neg h, if_neg (Ne.symm h)]

omit hsq in
/-- `[Jz, J₋] = -J₋`: the transpose of `[Jz, J₊] = J₊`, as `J₋ = J₊ᵀ` -/
theorem Jz_comm_Jm (half : K) (j2 : ℕ) :
    JzM half j2 * JmM sq j2 - JmM sq j2 * JzM half j2 = -JmM sq j2 := by
  have h := congrArg Matrix.transpose (Jz_comm_Jp sq half j2)
  rw [Matrix.transpose_sub, Matrix.transpose_mul, Matrix.transpose_mul, JzM_transpose] at h
  rw [← neg_sub]
  exact congrArg Neg.neg h

/-- `[J₊, J₋] = 2 Jz` -/
theorem Jp_comm_Jm {half : K} (h2 : 2 * half = 1) (j2 : ℕ) :
    JpM sq j2 * JmM sq j2 - JmM sq j2 * JpM sq j2 = (2 : K) • JzM half j2 := by
  ext i k
  rw [Matrix.sub_apply, JpM_mul_JmM sq hsq, JmM_mul_JpM sq hsq, Matrix.smul_apply, JzM_apply, smul_eq_mul]
  split_ifs with h
  · have hi := i.isLt
    simp only [zval]
    have e1 : ((j2 + 1 - i.val : ℕ) : K) = (j2 : K) - (i.val : K) + 1 := by
      rw [Nat.cast_sub (by omega)]; push_cast; ring
    have e2 : ((j2 - i.val : ℕ) : K) = (j2 : K) - (i.val : K) := by
      rw [Nat.cast_sub (by omega)]
    push_cast
    rw [e1, e2]
    linear_combination (j2 : K) * h2
  · ring

end Numqi.Lie
