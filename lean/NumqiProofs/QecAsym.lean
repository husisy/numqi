/-
C19: the model of `make_asymmetric_error_set` lists exactly the non-identity Pauli strings with
`n_x + n_y + (p/q) n_z < d`, each once (all `n d p q`, `p q > 0`).
-/
import NumqiProofs.QecErrorList

namespace Numqi.Qec

/-! ### `val` on the lists built by the asymmetric generator -/

theorem val_append (e1 e2 : List (Nat × Nat)) (q : Nat) :
    val (e1 ++ e2) q = if (e1.any fun p => p.1 == q) then val e1 q else val e2 q := by
  unfold val
  rw [List.find?_append]
  cases h : e1.find? (fun p => p.1 == q) with
  | none =>
    have : (e1.any fun p => p.1 == q) = false := by
      rw [List.find?_eq_none] at h
      rw [Bool.eq_false_iff]; intro ha
      rw [List.any_eq_true] at ha
      obtain ⟨x, hx, hp⟩ := ha
      exact h x hx hp
    simp [this]
  | some p =>
    have : (e1.any fun p => p.1 == q) = true := by
      rw [List.any_eq_true]
      exact ⟨p, List.mem_of_find?_eq_some h, by have := List.find?_some h; simpa using this⟩
    simp [this]

theorem any_map_const (l : List Nat) (c q : Nat) : ((l.map (·, c)).any fun p => p.1 == q) = decide (q ∈ l) := by
  induction l with
  | nil => simp
  | cons a l ih =>
    simp only [List.map_cons, List.any_cons, ih, List.mem_cons]
    by_cases h : a = q
    · subst h; simp
    · have : ¬ (q = a) := fun e => h e.symm
      simp [h, this]

theorem val_map_const (l : List Nat) (c q : Nat) : val (l.map (·, c)) q = if q ∈ l then c else 0 := by
  induction l with
  | nil => simp [val_nil]
  | cons a l ih =>
    simp only [List.map_cons, val_cons, ih, List.mem_cons]
    by_cases h : a = q
    · subst h; simp
    · have : ¬ (q = a) := fun e => h e.symm
      simp [h, this]

/-- the error built from three index sets -/
def triple (ix iy iz : List Nat) : List (Nat × Nat) := ix.map (·, 1) ++ iy.map (·, 2) ++ iz.map (·, 3)

theorem val_triple (ix iy iz : List Nat) (q : Nat) :
    val (triple ix iy iz) q = if q ∈ ix then 1 else if q ∈ iy then 2 else if q ∈ iz then 3 else 0 := by
  unfold triple
  rw [List.append_assoc, val_append, any_map_const, val_map_const, val_append, any_map_const, val_map_const, val_map_const]
  by_cases h1 : q ∈ ix <;> by_cases h2 : q ∈ iy <;> simp [h1, h2]

/-! ### `split` with three counts -/

theorem mem_split3 (l : List Nat) (a b c : Nat) (ss : List (List Nat)) :
    ss ∈ split l [a, b, c] ↔ ∃ ix iy iz, ss = [ix, iy, iz] ∧ ix ∈ combs l a
      ∧ iy ∈ combs (l.filter fun i => !ix.contains i) b
      ∧ iz ∈ combs ((l.filter fun i => !ix.contains i).filter fun i => !iy.contains i) c := by
  simp only [split, List.mem_flatMap, List.mem_map, List.mem_singleton]
  constructor
  · rintro ⟨ix, hix, r1, ⟨iy, hiy, r2, ⟨iz, hiz, r3, rfl, rfl⟩, rfl⟩, rfl⟩
    exact ⟨ix, iy, iz, rfl, hix, hiy, hiz⟩
  · rintro ⟨ix, iy, iz, rfl, hix, hiy, hiz⟩
    exact ⟨ix, hix, [iy, iz], ⟨iy, hiy, [iz], ⟨iz, hiz, [], rfl, rfl⟩, rfl⟩, rfl⟩

theorem ceilDiv_lt (a b p : Nat) (hp : 0 < p) : a < ceilDiv b p ↔ a * p < b := by
  unfold ceilDiv
  rw [Nat.lt_iff_add_one_le, Nat.le_div_iff_mul_le hp]
  have e : (a + 1) * p = a * p + p := by ring
  rw [e]
  omega

/-! ### positions of the symbols -/

theorem not_contains_iff (l : List Nat) (i : Nat) : (!l.contains i) = true ↔ i ∉ l := by simp

/-- the three index sets of a generated error: sublists of `range n`, pairwise disjoint -/
structure TripleOk (n : Nat) (ix iy iz : List Nat) : Prop where
  hx : ix.Sublist (List.range n)
  hy : iy.Sublist (List.range n)
  hz : iz.Sublist (List.range n)
  dxy : ∀ i ∈ iy, i ∉ ix
  dxz : ∀ i ∈ iz, i ∉ ix
  dyz : ∀ i ∈ iz, i ∉ iy

theorem tripleOk_of_combs (n a b c : Nat) (ix iy iz : List Nat) (hix : ix ∈ combs (List.range n) a)
    (hiy : iy ∈ combs ((List.range n).filter fun i => !ix.contains i) b)
    (hiz : iz ∈ combs (((List.range n).filter fun i => !ix.contains i).filter fun i => !iy.contains i) c) :
    TripleOk n ix iy iz ∧ ix.length = a ∧ iy.length = b ∧ iz.length = c := by
  rw [mem_combs] at hix hiy hiz
  refine ⟨⟨hix.1, hiy.1.trans List.filter_sublist, hiz.1.trans (List.filter_sublist.trans List.filter_sublist), ?_, ?_, ?_⟩,
    hix.2, hiy.2, hiz.2⟩
  · exact fun i hi => (not_contains_iff ix i).1 (List.mem_filter.1 (hiy.1.subset hi)).2
  · exact fun i hi => (not_contains_iff ix i).1 (List.mem_filter.1 (List.mem_filter.1 (hiz.1.subset hi)).1).2
  · exact fun i hi => (not_contains_iff iy i).1 (List.mem_filter.1 (hiz.1.subset hi)).2

theorem combs_of_tripleOk (n : Nat) (ix iy iz : List Nat) (h : TripleOk n ix iy iz) :
    ix ∈ combs (List.range n) ix.length
    ∧ iy ∈ combs ((List.range n).filter fun i => !ix.contains i) iy.length
    ∧ iz ∈ combs (((List.range n).filter fun i => !ix.contains i).filter fun i => !iy.contains i) iz.length := by
  simp only [mem_combs, and_true]
  refine ⟨h.hx, ?_, ?_⟩
  · have := h.hy.filter fun i => !ix.contains i
    rwa [List.filter_eq_self.2 fun i hi => (not_contains_iff ix i).2 (h.dxy i hi)] at this
  · have := (h.hz.filter fun i => !ix.contains i).filter fun i => !iy.contains i
    rwa [List.filter_eq_self.2 fun i hi => (not_contains_iff ix i).2 (h.dxz i hi),
      List.filter_eq_self.2 fun i hi => (not_contains_iff iy i).2 (h.dyz i hi)] at this

/-- the positions of X, Y, Z in the string of `triple ix iy iz` are `ix`, `iy`, `iz` -/
theorem positions_triple (n : Nat) (ix iy iz : List Nat) (h : TripleOk n ix iy iz) :
    (List.range n).filter (fun q => val (triple ix iy iz) q == 1) = ix
    ∧ (List.range n).filter (fun q => val (triple ix iy iz) q == 2) = iy
    ∧ (List.range n).filter (fun q => val (triple ix iy iz) q == 3) = iz := by
  have key : ∀ (c : Nat) (l : List Nat), l.Sublist (List.range n) →
      (∀ q, (val (triple ix iy iz) q == c) = decide (q ∈ l)) →
      (List.range n).filter (fun q => val (triple ix iy iz) q == c) = l := fun c l hl hc => by
    rw [← sublist_eq_filter hl List.nodup_range]
    exact List.filter_congr fun q _ => hc q
  refine ⟨key 1 ix h.hx fun q => ?_, key 2 iy h.hy fun q => ?_, key 3 iz h.hz fun q => ?_⟩ <;> rw [val_triple]
  · by_cases h1 : q ∈ ix <;> by_cases h2 : q ∈ iy <;> by_cases h3 : q ∈ iz <;> simp [h1, h2, h3]
  · by_cases h2 : q ∈ iy
    · simp [h2, h.dxy q h2]
    · by_cases h1 : q ∈ ix <;> by_cases h3 : q ∈ iz <;> simp [h1, h2, h3]
  · by_cases h3 : q ∈ iz
    · simp [h3, h.dxz q h3, h.dyz q h3]
    · by_cases h1 : q ∈ ix <;> by_cases h2 : q ∈ iy <;> simp [h1, h2, h3]

/-! ### counts -/

/-- number of symbols `c` in a string -/
def cnt (c : Nat) (s : List Nat) : Nat := s.countP (· == c)

theorem cnt_syms (n : Nat) (e : List (Nat × Nat)) (c : Nat) :
    cnt c (sparseToSyms n e) = ((List.range n).filter (fun q => val e q == c)).length := by
  rw [cnt, sparseToSyms_eq, List.countP_map, List.countP_eq_length_filter]; rfl

/-- the filter by a disjunction of exclusive conditions splits -/
theorem length_filter_or {α : Type} (l : List α) (p q : α → Bool) (h : ∀ x, ¬(p x = true ∧ q x = true)) :
    (l.filter fun x => p x || q x).length = (l.filter p).length + (l.filter q).length := by
  induction l with
  | nil => rfl
  | cons a l ih =>
    have := h a
    cases hp : p a <;> cases hq : q a <;> simp_all <;> omega

theorem asymCond_eq (d p q : Nat) (s : List Nat) :
    asymCond d p q s = ((cnt 1 s + cnt 2 s + cnt 3 s != 0) && decide ((cnt 1 s + cnt 2 s) * q + cnt 3 s * p < d * q)) := by
  have h12 : (s.filter fun x => x == 1 || x == 2).length = cnt 1 s + cnt 2 s := by
    rw [length_filter_or s _ _ (by intro x; simp; omega), cnt, cnt, List.countP_eq_length_filter, List.countP_eq_length_filter]
  have h3 : (s.filter (· == 3)).length = cnt 3 s := by
    rw [cnt, List.countP_eq_length_filter]
  simp only [asymCond, h12, h3]

/-! ### membership in `asymErrorSet` -/

theorem mem_asymErrorSetB (n d : Nat) (bound : Nat → Nat) (e : List (Nat × Nat)) :
    e ∈ asymErrorSetB n d bound ↔ ∃ ix iy iz : List Nat, TripleOk n ix iy iz ∧ e = triple ix iy iz
      ∧ ix.length + iy.length < min (n + 1) d
      ∧ iz.length < min (n - (ix.length + iy.length) + 1) (bound (ix.length + iy.length))
      ∧ ¬ (ix.length + iy.length = 0 ∧ iz.length = 0) := by
  unfold asymErrorSetB
  simp only [List.mem_flatMap, List.mem_range]
  constructor
  · rintro ⟨nxy, hnxy, nz, hnz, he⟩
    by_cases h0 : (nxy == 0 && nz == 0) = true
    · simp [h0] at he
    · simp only [h0, Bool.false_eq_true, if_false, List.mem_flatMap, List.mem_range, List.mem_map, mem_split3] at he
      obtain ⟨nx, hnx, ss, ⟨ix, iy, iz, rfl, hix, hiy, hiz⟩, rfl⟩ := he
      obtain ⟨hok, lx, ly, lz⟩ := tripleOk_of_combs n _ _ _ ix iy iz hix hiy hiz
      have hs : ix.length + iy.length = nxy := by omega
      refine ⟨ix, iy, iz, hok, rfl, by rw [hs]; exact hnxy, by rw [hs, lz]; exact hnz, ?_⟩
      rw [hs, lz]
      simpa using h0
  · rintro ⟨ix, iy, iz, hok, rfl, h1, h2, h3⟩
    refine ⟨ix.length + iy.length, h1, iz.length, h2, ?_⟩
    have h0 : ¬ ((ix.length + iy.length == 0 && iz.length == 0) = true) := by simpa using h3
    simp only [h0, Bool.false_eq_true, if_false, List.mem_flatMap, List.mem_range, List.mem_map, mem_split3]
    obtain ⟨cx, cy, cz⟩ := combs_of_tripleOk n ix iy iz hok
    refine ⟨ix.length, by omega, [ix, iy, iz], ⟨ix, iy, iz, rfl, cx, ?_, cz⟩, rfl⟩
    have : ix.length + iy.length - ix.length = iy.length := by omega
    rw [this]; exact cy

theorem mem_asymErrorSet (n d p q : Nat) (e : List (Nat × Nat)) :
    e ∈ asymErrorSet n d p q ↔ ∃ ix iy iz : List Nat, TripleOk n ix iy iz ∧ e = triple ix iy iz
      ∧ ix.length + iy.length < min (n + 1) d
      ∧ iz.length < min (n - (ix.length + iy.length) + 1) (ceilDiv ((d - (ix.length + iy.length)) * q) p)
      ∧ ¬ (ix.length + iy.length = 0 ∧ iz.length = 0) :=
  mem_asymErrorSetB n d _ e

/-- counts of the string of `triple ix iy iz` -/
theorem cnt_triple (n : Nat) (ix iy iz : List Nat) (h : TripleOk n ix iy iz) :
    cnt 1 (sparseToSyms n (triple ix iy iz)) = ix.length ∧ cnt 2 (sparseToSyms n (triple ix iy iz)) = iy.length
    ∧ cnt 3 (sparseToSyms n (triple ix iy iz)) = iz.length := by
  obtain ⟨a, b, c⟩ := positions_triple n ix iy iz h
  simp only [cnt_syms, a, b, c, and_self]

theorem syms_triple_lt (n : Nat) (ix iy iz : List Nat) : ∀ x ∈ sparseToSyms n (triple ix iy iz), x < 4 := by
  intro x hx
  rw [sparseToSyms_eq, List.mem_map] at hx
  obtain ⟨q, _, rfl⟩ := hx
  rw [val_triple]
  split_ifs <;> omega

theorem bound_iff (n d p q nxy nz : Nat) (hp : 0 < p) (hn : nxy + nz ≤ n) :
    (nxy < min (n + 1) d ∧ nz < min (n - nxy + 1) (ceilDiv ((d - nxy) * q) p)) ↔ nxy * q + nz * p < d * q := by
  rw [Nat.lt_min, Nat.lt_min, ceilDiv_lt _ _ _ hp]
  constructor
  · rintro ⟨⟨_, h1⟩, _, h2⟩
    have : (d - nxy) * q = d * q - nxy * q := Nat.sub_mul d nxy q
    have h3 : nxy * q ≤ d * q := Nat.mul_le_mul_right q (by omega)
    omega
  · intro h
    have h1 : nxy < d := by
      by_contra hc
      have : d * q ≤ nxy * q := Nat.mul_le_mul_right q (by omega)
      omega
    have : (d - nxy) * q = d * q - nxy * q := Nat.sub_mul d nxy q
    exact ⟨⟨by omega, h1⟩, by omega, by omega⟩

/-- **soundness**: every generated string is a non-identity Pauli string with `n_x+n_y+(p/q) n_z < d` -/
theorem asym_sound (n d p q : Nat) (hp : 0 < p) (s : List Nat)
    (h : s ∈ (asymErrorSet n d p q).map (sparseToSyms n)) :
    s.length = n ∧ (∀ x ∈ s, x < 4) ∧ asymCond d p q s = true := by
  rw [List.mem_map] at h
  obtain ⟨e, he, rfl⟩ := h
  rw [mem_asymErrorSet] at he
  obtain ⟨ix, iy, iz, hok, rfl, h1, h2, h3⟩ := he
  obtain ⟨c1, c2, c3⟩ := cnt_triple n ix iy iz hok
  refine ⟨by simp [sparseToSyms_eq], syms_triple_lt n ix iy iz, ?_⟩
  rw [asymCond_eq, c1, c2, c3]
  have hn : ix.length + iy.length + iz.length ≤ n := by
    rw [Nat.lt_min] at h1 h2; omega
  have := (bound_iff n d p q _ _ hp hn).1 ⟨h1, h2⟩
  simp only [Bool.and_eq_true, bne_iff_ne, ne_eq, decide_eq_true_eq]
  exact ⟨by omega, this⟩

theorem three_filters_le (l : List Nat) (f : Nat → Nat) :
    (l.filter (fun q => f q == 1)).length + (l.filter (fun q => f q == 2)).length + (l.filter (fun q => f q == 3)).length
      ≤ l.length := by
  rw [← length_filter_or l _ _ (by intro x; simp; omega), ← length_filter_or l _ _ (by intro x; simp; omega)]
  exact List.length_filter_le _ _

/-- **completeness**: every non-identity Pauli string with `n_x+n_y+(p/q) n_z < d` is generated -/
theorem asym_complete (n d p q : Nat) (hp : 0 < p) (s : List Nat) (hl : s.length = n) (h4 : ∀ x ∈ s, x < 4)
    (hc : asymCond d p q s = true) : s ∈ (asymErrorSet n d p q).map (sparseToSyms n) := by
  subst hl
  set f : Nat → Nat := fun q => s.getD q 0 with hf
  have hsf : s = (List.range s.length).map f := list_eq_map_getD s
  set ix := (List.range s.length).filter (fun q => f q == 1) with hix
  set iy := (List.range s.length).filter (fun q => f q == 2) with hiy
  set iz := (List.range s.length).filter (fun q => f q == 3) with hiz
  have hok : TripleOk s.length ix iy iz := by
    refine ⟨List.filter_sublist, List.filter_sublist, List.filter_sublist, ?_, ?_, ?_⟩ <;>
    · intro i hi hi'
      simp only [hix, hiy, hiz, List.mem_filter, beq_iff_eq] at hi hi'
      omega
  have hcnt : ∀ c, cnt c s = ((List.range s.length).filter (fun q => f q == c)).length := by
    intro c
    conv_lhs => rw [hsf]
    rw [cnt, List.countP_map, List.countP_eq_length_filter]; rfl
  have hflt : ∀ q, q < s.length → f q < 4 := by
    intro q hq
    simp only [hf, List.getD_eq_getElem?_getD, List.getElem?_eq_getElem hq, Option.getD_some]
    exact h4 _ (List.getElem_mem hq)
  rw [List.mem_map]
  refine ⟨triple ix iy iz, ?_, ?_⟩
  · rw [mem_asymErrorSet]
    rw [asymCond_eq, hcnt 1, hcnt 2, hcnt 3] at hc
    simp only [Bool.and_eq_true, bne_iff_ne, ne_eq, decide_eq_true_eq] at hc
    rw [← hix, ← hiy, ← hiz] at hc
    have hn := three_filters_le (List.range s.length) f
    rw [List.length_range, ← hix, ← hiy, ← hiz] at hn
    have hb := (bound_iff s.length d p q (ix.length + iy.length) iz.length hp (by omega)).2 hc.2
    exact ⟨ix, iy, iz, hok, rfl, hb.1, hb.2, by omega⟩
  · rw [sparseToSyms_eq]
    conv_rhs => rw [hsf]
    apply List.map_congr_left
    intro q hq
    rw [List.mem_range] at hq
    rw [val_triple]
    have := hflt q hq
    simp only [hix, hiy, hiz, List.mem_filter, List.mem_range, hq, true_and, beq_iff_eq]
    split_ifs <;> omega

/-- **exact characterisation for an arbitrary bound**: a string is generated iff it is a non-identity Pauli
string with `n_x + n_y < d` and `n_z < bound (n_x + n_y)`. -/
theorem mem_asymB_strings (n d : Nat) (bound : Nat → Nat) (s : List Nat) :
    s ∈ (asymErrorSetB n d bound).map (sparseToSyms n) ↔
      s.length = n ∧ (∀ x ∈ s, x < 4) ∧ cnt 1 s + cnt 2 s + cnt 3 s ≠ 0
        ∧ cnt 1 s + cnt 2 s < d ∧ cnt 3 s < bound (cnt 1 s + cnt 2 s) := by
  constructor
  · intro h
    rw [List.mem_map] at h
    obtain ⟨e, he, rfl⟩ := h
    rw [mem_asymErrorSetB] at he
    obtain ⟨ix, iy, iz, hok, rfl, h1, h2, h3⟩ := he
    obtain ⟨c1, c2, c3⟩ := cnt_triple n ix iy iz hok
    rw [c1, c2, c3]
    rw [Nat.lt_min] at h1 h2
    exact ⟨by simp [sparseToSyms_eq], syms_triple_lt n ix iy iz, by omega, h1.2, h2.2⟩
  · rintro ⟨hl, h4, hne, hd, hb⟩
    subst hl
    set f : Nat → Nat := fun q => s.getD q 0 with hf
    have hsf : s = (List.range s.length).map f := list_eq_map_getD s
    set ix := (List.range s.length).filter (fun q => f q == 1) with hix
    set iy := (List.range s.length).filter (fun q => f q == 2) with hiy
    set iz := (List.range s.length).filter (fun q => f q == 3) with hiz
    have hok : TripleOk s.length ix iy iz := by
      refine ⟨List.filter_sublist, List.filter_sublist, List.filter_sublist, ?_, ?_, ?_⟩ <;>
      · intro i hi hi'
        simp only [hix, hiy, hiz, List.mem_filter, beq_iff_eq] at hi hi'
        omega
    have hcnt : ∀ c, cnt c s = ((List.range s.length).filter (fun q => f q == c)).length := by
      intro c
      conv_lhs => rw [hsf]
      rw [cnt, List.countP_map, List.countP_eq_length_filter]; rfl
    have hflt : ∀ q, q < s.length → f q < 4 := by
      intro q hq
      simp only [hf, List.getD_eq_getElem?_getD, List.getElem?_eq_getElem hq, Option.getD_some]
      exact h4 _ (List.getElem_mem hq)
    simp only [hcnt 1, hcnt 2, hcnt 3] at hne hd hb
    rw [← hix, ← hiy] at hd
    rw [← hix, ← hiy, ← hiz] at hne hb
    rw [List.mem_map]
    refine ⟨triple ix iy iz, ?_, ?_⟩
    · rw [mem_asymErrorSetB]
      have hn := three_filters_le (List.range s.length) f
      rw [List.length_range, ← hix, ← hiy, ← hiz] at hn
      refine ⟨ix, iy, iz, hok, rfl, ?_, ?_, by omega⟩
      · rw [Nat.lt_min]; exact ⟨by omega, hd⟩
      · rw [Nat.lt_min]; exact ⟨by omega, hb⟩
    · rw [sparseToSyms_eq]
      conv_rhs => rw [hsf]
      apply List.map_congr_left
      intro q hq
      rw [List.mem_range] at hq
      rw [val_triple]
      have := hflt q hq
      simp only [hix, hiy, hiz, List.mem_filter, List.mem_range, hq, true_and, beq_iff_eq]
      split_ifs <;> omega

/-! ### no duplicates -/

theorem nodup_flatMap_key {α β : Type} (l : List α) (F : α → List β) (key : β → α) (hl : l.Nodup)
    (hF : ∀ x ∈ l, (F x).Nodup) (hk : ∀ x ∈ l, ∀ y ∈ F x, key y = x) : (l.flatMap F).Nodup := by
  rw [List.nodup_flatMap]
  refine ⟨hF, hl.imp_of_mem ?_⟩
  intro a b ha hb hab
  simp only [Function.onFun, List.disjoint_left]
  intro y hya hyb
  exact hab ((hk a ha y hya).symm.trans (hk b hb y hyb))

theorem nodup_split (l : List Nat) (hl : l.Nodup) (counts : List Nat) : (split l counts).Nodup := by
  induction counts generalizing l with
  | nil => simp [split]
  | cons c rest ih =>
    simp only [split]
    apply nodup_flatMap_key _ _ (fun ss => ss.headD []) (nodup_combs l hl c)
    · intro s _
      exact (ih _ (hl.filter _)).map (fun x y h => by simpa using h)
    · intro s _ y hy
      rw [List.mem_map] at hy
      obtain ⟨r, _, rfl⟩ := hy
      rfl

theorem triple_fst (ix iy iz : List Nat) :
    ((triple ix iy iz).filter (fun p => p.2 == 1)).map (·.1) = ix
    ∧ ((triple ix iy iz).filter (fun p => p.2 == 2)).map (·.1) = iy
    ∧ ((triple ix iy iz).filter (fun p => p.2 == 3)).map (·.1) = iz := by
  simp [triple, List.filter_map, Function.comp_def]

theorem asymErrorSetB_raw_nodup (n d : Nat) (bound : Nat → Nat) : (asymErrorSetB n d bound).Nodup := by
  unfold asymErrorSetB
  -- keys: n_x + n_y, then n_z, then n_x, read off the (qubit, symbol) list
  apply nodup_flatMap_key _ _ (fun e => (e.filter fun pr => pr.2 == 1 || pr.2 == 2).length) List.nodup_range
  · intro nxy _
    apply nodup_flatMap_key _ _ (fun e => (e.filter fun pr => pr.2 == 3).length) List.nodup_range
    · intro nz _
      split
      · exact List.nodup_nil
      · apply nodup_flatMap_key _ _ (fun e => (e.filter fun pr => pr.2 == 1).length) List.nodup_range
        · intro nx _
          refine (nodup_split _ List.nodup_range _).map_on ?_
          intro ss hss ss' hss' h
          rw [mem_split3] at hss hss'
          obtain ⟨ix, iy, iz, rfl, _, _, _⟩ := hss
          obtain ⟨ix', iy', iz', rfl, _, _, _⟩ := hss'
          have h' : triple ix iy iz = triple ix' iy' iz' := h
          obtain ⟨a1, a2, a3⟩ := triple_fst ix iy iz
          obtain ⟨b1, b2, b3⟩ := triple_fst ix' iy' iz'
          rw [h'] at a1 a2 a3
          rw [← a1, ← a2, ← a3, b1, b2, b3]
        · intro nx hnx e he
          rw [List.mem_map] at he
          obtain ⟨ss, hss, rfl⟩ := he
          rw [mem_split3] at hss
          obtain ⟨ix, iy, iz, rfl, hix, _, _⟩ := hss
          rw [mem_combs] at hix
          have := (triple_fst ix iy iz).1
          have hl := congrArg List.length this
          rw [List.length_map] at hl
          show ((triple ix iy iz).filter fun pr => pr.2 == 1).length = nx
          rw [hl, hix.2]
    · intro nz _ e he
      split at he
      · simp at he
      · simp only [List.mem_flatMap, List.mem_map, mem_split3] at he
        obtain ⟨nx, _, ss, ⟨ix, iy, iz, rfl, _, _, hiz⟩, rfl⟩ := he
        rw [mem_combs] at hiz
        have := (triple_fst ix iy iz).2.2
        have hl := congrArg List.length this
        rw [List.length_map] at hl
        show ((triple ix iy iz).filter fun pr => pr.2 == 3).length = nz
        rw [hl, hiz.2]
  · intro nxy _ e he
    simp only [List.mem_flatMap, List.mem_range] at he
    obtain ⟨nz, _, he⟩ := he
    split at he
    · simp at he
    · simp only [List.mem_flatMap, List.mem_range, List.mem_map, mem_split3] at he
      obtain ⟨nx, hnx, ss, ⟨ix, iy, iz, rfl, hix, hiy, _⟩, rfl⟩ := he
      rw [mem_combs] at hix hiy
      show ((triple ix iy iz).filter fun pr => pr.2 == 1 || pr.2 == 2).length = nxy
      have : ((triple ix iy iz).filter fun pr => pr.2 == 1 || pr.2 == 2).length = ix.length + iy.length := by
        simp [triple, List.filter_map, Function.comp_def]
      rw [this, hix.2, hiy.2]; omega

/-- **no duplicates**: no string is generated twice (whatever the bound on the number of Z's) -/
theorem asymB_nodup (n d : Nat) (bound : Nat → Nat) : ((asymErrorSetB n d bound).map (sparseToSyms n)).Nodup := by
  refine (asymErrorSetB_raw_nodup n d bound).map_on ?_
  intro e he e' he' h
  rw [mem_asymErrorSetB] at he he'
  obtain ⟨ix, iy, iz, hok, rfl, _, _, _⟩ := he
  obtain ⟨ix', iy', iz', hok', rfl, _, _, _⟩ := he'
  rw [sparseToSyms_eq, sparseToSyms_eq] at h
  have hv : ∀ q, q ∈ List.range n → val (triple ix iy iz) q = val (triple ix' iy' iz') q :=
    fun q hq => List.map_inj_left.1 h q hq
  obtain ⟨a1, a2, a3⟩ := positions_triple n ix iy iz hok
  obtain ⟨b1, b2, b3⟩ := positions_triple n ix' iy' iz' hok'
  have e1 : ix = ix' := by
    rw [← a1, ← b1]; apply List.filter_congr; intro q hq; rw [hv q hq]
  have e2 : iy = iy' := by
    rw [← a2, ← b2]; apply List.filter_congr; intro q hq; rw [hv q hq]
  have e3 : iz = iz' := by
    rw [← a3, ← b3]; apply List.filter_congr; intro q hq; rw [hv q hq]
  rw [e1, e2, e3]

theorem asym_nodup (n d p q : Nat) : ((asymErrorSet n d p q).map (sparseToSyms n)).Nodup :=
  asymB_nodup n d _

end Numqi.Qec
