/-
`forceNat` (`NumqiModel/Qec.lean`) for integers and along lists: the kernel evaluates every entry once, to a literal,
before the continuation uses the value (several times).  Nothing here is about codes: the file sits in `Numqi.Qec` because
`forceNat` and its equation `forceNat_eq` (`QecBits`) do; the C20 table check (`MatrixSpaceMinors`) uses it too.
-/
import NumqiProofs.QecBits

namespace Numqi.Qec
variable {α β : Type}

def forceInt (z : Int) (f : Int → α) : α :=
  match z with
  | .ofNat n => forceNat n fun n' => f (.ofNat n')
  | .negSucc n => forceNat n fun n' => f (.negSucc n')

/-- force every entry of a list with `force1` -/
def forceEach (force1 : β → (β → α) → α) : List β → (List β → α) → α
  | [], f => f []
  | x :: xs, f => force1 x fun x' => forceEach force1 xs fun xs' => f (x' :: xs')

@[simp] theorem forceInt_eq (z : Int) (f : Int → α) : forceInt z f = f z := by
  cases z <;> simp [forceInt]

theorem forceEach_eq {force1 : β → (β → α) → α} (h : ∀ x f, force1 x f = f x) (l : List β) (f : List β → α) :
    forceEach force1 l f = f l := by
  induction l generalizing f with
  | nil => rfl
  | cons x xs ih => simp [forceEach, h, ih]

end Numqi.Qec
