/-
Polarised minors: the mathematics behind `has_rank_hierarchical_method` at level `k = 1` (C20).

`polMinor A I J = Σ_{σ,τ ∈ S_q} sgn σ · sgn τ · ∏_m A_m[I(σ m), J(τ m)]` is the full (not coset-reduced) form of
`q! · tensor2d_project_to_antisym_basis([A_0..A_{q-1}])[I, J]`.
-/
import NumqiProofs.MatrixSpaceLemmas
import Mathlib.LinearAlgebra.Matrix.Determinant.Basic
import Mathlib.LinearAlgebra.Matrix.Rank
import Mathlib.LinearAlgebra.Matrix.NonsingularInverse
import Mathlib.Data.Fin.Tuple.Sort
import Mathlib.GroupTheory.Perm.DomMulAct
import Mathlib.GroupTheory.Perm.Fin
import NumqiProofs.ForceList

namespace Numqi.MatrixSpace
open Equiv Finset

section
variable {R : Type} [CommRing R] {q : ℕ}

/-- sign of a permutation as a ring element -/
def sgn (σ : Perm (Fin q)) : R := ((Perm.sign σ : ℤ) : R)

theorem sgn_mul_self (σ : Perm (Fin q)) : (sgn σ : R) * sgn σ = 1 := by
  unfold sgn
  rw [← Int.cast_mul, Int.units_coe_mul_self, Int.cast_one]

theorem sgn_mul (σ π : Perm (Fin q)) : (sgn (σ * π) : R) = sgn σ * sgn π := by
  unfold sgn; simp [Perm.sign_mul]

theorem sgn_inv (σ : Perm (Fin q)) : (sgn σ⁻¹ : R) = sgn σ := by
  unfold sgn; simp [Perm.sign_inv]

theorem sgn_mul_inv (σ π : Perm (Fin q)) : (sgn (σ * π⁻¹) : R) * sgn π = sgn σ := by
  rw [sgn_mul, sgn_inv, mul_assoc, sgn_mul_self, mul_one]

/-- the polarised `q × q` minor of the matrices `A 0, …, A (q-1)` on rows `I`, columns `J` -/
def polMinor (A : Fin q → Nat → Nat → R) (I J : Fin q → Nat) : R :=
  ∑ σ : Perm (Fin q), ∑ τ : Perm (Fin q), sgn σ * sgn τ * ∏ m, A m (I (σ m)) (J (τ m))

/-- the `q × q` sub-matrix on rows `I`, columns `J` -/
def subMat (M : Nat → Nat → R) (I J : Fin q → Nat) : Matrix (Fin q) (Fin q) R :=
  Matrix.of fun r c => M (I r) (J c)

/-- **on the diagonal the polarised minor is `q!` times the minor** -/
theorem polMinor_diag (M : Nat → Nat → R) (I J : Fin q → Nat) :
    polMinor (fun _ => M) I J = (q.factorial : R) * (subMat M I J).det := by
  unfold polMinor
  have inner : ∀ σ : Perm (Fin q),
      ∑ τ : Perm (Fin q), sgn σ * sgn τ * ∏ m, M (I (σ m)) (J (τ m)) = (subMat M I J).det := by
    intro σ
    have h1 : ∑ τ : Perm (Fin q), (sgn τ : R) * ∏ m, M (I (σ m)) (J (τ m))
        = ((subMat M I J).submatrix σ id).det := by
      rw [← Matrix.det_transpose, Matrix.det_apply']
      refine Finset.sum_congr rfl fun τ _ => ?_
      simp [sgn, subMat, Matrix.transpose_apply]
    calc ∑ τ : Perm (Fin q), sgn σ * sgn τ * ∏ m, M (I (σ m)) (J (τ m))
        = sgn σ * ∑ τ : Perm (Fin q), (sgn τ : R) * ∏ m, M (I (σ m)) (J (τ m)) := by
          rw [Finset.mul_sum]; exact Finset.sum_congr rfl fun τ _ => by ring
      _ = sgn σ * (sgn σ * (subMat M I J).det) := by rw [h1, Matrix.det_permute]; rfl
      _ = (subMat M I J).det := by rw [← mul_assoc, sgn_mul_self, one_mul]
  simp only [inner]
  rw [Finset.sum_const, Finset.card_univ, Fintype.card_perm, Fintype.card_fin, nsmul_eq_mul]

/-- **multilinear expansion**: with every slot equal to `Σ_i c_i S_i`, the polarised minor is the sum over all index maps
`t` of `∏_m c_{t m}` times the polarised minor of `(S_{t 0}, …, S_{t (q-1)})`. -/
theorem polMinor_expand {N : ℕ} (c : Fin N → R) (S : Fin N → Nat → Nat → R) (I J : Fin q → Nat) :
    polMinor (fun _ => fun r s => ∑ i, c i * S i r s) I J
      = ∑ t : Fin q → Fin N, (∏ m, c (t m)) * polMinor (fun m => S (t m)) I J := by
  unfold polMinor
  have hprod : ∀ σ τ : Perm (Fin q), ∏ m, (∑ i, c i * S i (I (σ m)) (J (τ m)))
      = ∑ t : Fin q → Fin N, (∏ m, c (t m)) * ∏ m, S (t m) (I (σ m)) (J (τ m)) := by
    intro σ τ
    rw [Finset.prod_univ_sum, Fintype.piFinset_univ]
    exact Finset.sum_congr rfl fun t _ => Finset.prod_mul_distrib
  simp only [hprod, Finset.mul_sum]
  rw [Finset.sum_congr rfl (fun σ _ => Finset.sum_comm), Finset.sum_comm]
  refine Finset.sum_congr rfl fun t _ => Finset.sum_congr rfl fun σ _ => Finset.sum_congr rfl fun τ _ => by ring

/-- **symmetry**: the polarised minor does not depend on the order of its matrix arguments -/
theorem polMinor_perm (A : Fin q → Nat → Nat → R) (I J : Fin q → Nat) (π : Perm (Fin q)) :
    polMinor (fun m => A (π m)) I J = polMinor A I J := by
  unfold polMinor
  have hterm : ∀ σ τ : Perm (Fin q), ∏ m, A (π m) (I (σ m)) (J (τ m))
      = ∏ m, A m (I ((σ * π⁻¹) m)) (J ((τ * π⁻¹) m)) := by
    intro σ τ
    rw [← Equiv.prod_comp π (fun m => A m (I ((σ * π⁻¹) m)) (J ((τ * π⁻¹) m)))]
    simp
  simp only [hterm]
  have hs : ∀ σ τ : Perm (Fin q), (sgn σ : R) * sgn τ = sgn (σ * π⁻¹) * sgn (τ * π⁻¹) := by
    intro σ τ
    rw [← sgn_mul_inv (R := R) σ π, ← sgn_mul_inv (R := R) τ π]
    linear_combination (sgn (σ * π⁻¹) * sgn (τ * π⁻¹) : R) * sgn_mul_self (R := R) π
  rw [Finset.sum_congr rfl (fun σ _ => Finset.sum_congr rfl (fun τ _ => by rw [hs σ τ]))]
  exact Fintype.sum_equiv (Equiv.mulRight π⁻¹) _
    (fun σ => ∑ τ : Perm (Fin q), sgn σ * sgn τ * ∏ m, A m (I (σ m)) (J (τ m)))
    (fun σ => Fintype.sum_equiv (Equiv.mulRight π⁻¹) _
      (fun τ => sgn (σ * π⁻¹) * sgn τ * ∏ m, A m (I ((σ * π⁻¹) m)) (J (τ m))) (fun τ => rfl))

/-- **linear dependence of the antisymmetrised family**: if every `q × q` minor of `M = Σ_i c_i S_i` on the rows `I` and
columns `J` vanishes, then the polarised minors of the generators satisfy the linear relation with coefficients the monomials
`∏_m c_{t m}`. -/
theorem polMinor_dependence {N : ℕ} (c : Fin N → R) (S : Fin N → Nat → Nat → R) (I J : Fin q → Nat)
    (hminor : (subMat (fun r s => ∑ i, c i * S i r s) I J).det = 0) :
    ∑ t : Fin q → Fin N, (∏ m, c (t m)) * polMinor (fun m => S (t m)) I J = 0 := by
  rw [← polMinor_expand, polMinor_diag, hminor, mul_zero]

end

/-- **rank `≤ r` ⇒ all `(r+1)`-minors vanish** (over a field): a matrix that factors through `r < q` columns has zero
`q × q` minors. -/
theorem det_eq_zero_of_factor {K : Type} [Field K] {q r : ℕ} (h : r < q)
    (X : Matrix (Fin q) (Fin r) K) (Y : Matrix (Fin r) (Fin q) K) : (X * Y).det = 0 := by
  by_contra hne
  have hu : IsUnit (X * Y) := (Matrix.isUnit_iff_isUnit_det _).2 (isUnit_iff_ne_zero.2 hne)
  have h1 : (X * Y).rank = q := by simpa using Matrix.rank_of_isUnit (X * Y) hu
  have h2 : (X * Y).rank ≤ r := (Matrix.rank_mul_le_left X Y).trans (by simpa using Matrix.rank_le_card_width X)
  omega


/-- hence the minors of a matrix of rank `≤ r < q` vanish on all rows and columns taken from the antisymmetric index -/
theorem subMat_det_eq_zero {K : Type} [Field K] {q r dA dB : ℕ} (hr : r < q) (M : ℕ → ℕ → K)
    (X : ℕ → Fin r → K) (Y : Fin r → ℕ → K) (hrank : ∀ a < dA, ∀ b < dB, M a b = ∑ s : Fin r, X a s * Y s b)
    (rows cols : List ℕ) (hrows : rows ∈ antisymIndex dA q) (hcols : cols ∈ antisymIndex dB q) :
    (subMat M (fun i : Fin q => rows.getD i.val 0) (fun i => cols.getD i.val 0)).det = 0 := by
  have hlt : ∀ {d : ℕ} {x : List ℕ}, x ∈ antisymIndex d q → ∀ i : Fin q, x.getD i.val 0 < d := by
    intro d x hx i
    obtain ⟨hs, hl⟩ := mem_combos.1 hx
    rw [List.getD_eq_getElem?_getD, List.getElem?_eq_getElem (hl ▸ i.isLt), Option.getD_some]
    exact List.mem_range.1 (hs.subset (List.getElem_mem _))
  have hsub : subMat M (fun i : Fin q => rows.getD i.val 0) (fun i => cols.getD i.val 0)
      = (Matrix.of fun (i : Fin q) (s : Fin r) => X (rows.getD i.val 0) s)
        * (Matrix.of fun (s : Fin r) (j : Fin q) => Y s (cols.getD j.val 0)) := by
    ext i j
    simp only [subMat, Matrix.of_apply, Matrix.mul_apply]
    exact hrank _ (hlt hrows i) _ (hlt hcols j)
  rw [hsub]
  exact det_eq_zero_of_factor hr _ _

/-! ### the table of `permutation_with_antisymmetric_factor` only depends on the pattern of its argument -/

section relabel
variable (f : ℕ → ℕ) (hf : StrictMono f)
include hf

theorem insertBy_map (x : ℕ) (ys : List ℕ) :
    insertBy (fun a b => decide (a ≤ b)) (f x) (ys.map f) = (insertBy (fun a b => decide (a ≤ b)) x ys).map f := by
  induction ys with
  | nil => rfl
  | cons y ys ih =>
    simp only [List.map_cons, insertBy, hf.le_iff_le]
    split
    · rfl
    · rw [ih]; rfl

theorem sortBy_map (l : List ℕ) :
    sortBy (fun a b => decide (a ≤ b)) (l.map f) = (sortBy (fun a b => decide (a ≤ b)) l).map f := by
  induction l with
  | nil => rfl
  | cons x xs ih => simp only [List.map_cons, sortBy, ih, insertBy_map f hf]

theorem dedupe_map (s : List ℕ) :
    (s.map f).foldr (fun x acc => if acc.head? = some x then acc else x :: acc) []
      = (s.foldr (fun x acc => if acc.head? = some x then acc else x :: acc) []).map f := by
  induction s with
  | nil => rfl
  | cons x xs ih =>
    simp only [List.map_cons, List.foldr_cons, ih]
    generalize xs.foldr (fun x acc => if acc.head? = some x then acc else x :: acc) [] = acc
    cases acc with
    | nil => simp
    | cons a as =>
      simp only [List.map_cons, List.head?_cons, Option.some.injEq, hf.injective.eq_iff]
      split <;> rfl

theorem distinctSorted_map (l : List ℕ) : distinctSorted (l.map f) = (distinctSorted l).map f := by
  unfold distinctSorted
  rw [sortBy_map f hf, dedupe_map f hf]

theorem positionsOf_map (l : List ℕ) (v : ℕ) : positionsOf (l.map f) (f v) = positionsOf l v := by
  unfold positionsOf
  rw [List.length_map]
  apply List.filter_congr
  intro i hi
  rw [List.mem_range] at hi
  simp [List.getD_eq_getElem?_getD, List.getElem?_eq_getElem, hi, hf.injective.eq_iff]

theorem antisymFactorTable_map (l : List ℕ) : antisymFactorTable (l.map f) = antisymFactorTable l := by
  have hg : (distinctSorted (l.map f)).map (positionsOf (l.map f)) = (distinctSorted l).map (positionsOf l) := by
    rw [distinctSorted_map f hf, List.map_map]
    exact List.map_congr_left fun v _ => positionsOf_map f hf l v
  unfold antisymFactorTable
  simp only [List.length_map, hg]

end relabel

/-! ### the coset-reduced sum of the implementation equals the full polarised minor -/

section bridge
variable {R : Type} [CommRing R] {q : ℕ}

theorem nsmulN_eq (n : ℕ) (x : R) : nsmulN n x = (n : R) * x := by
  induction n with
  | zero => simp [nsmulN]
  | succ k ih => simp [nsmulN, ih]; ring

theorem zsmulI_eq (z : ℤ) (x : R) : zsmulI z x = (z : R) * x := by
  cases z with
  | ofNat n => simp [zsmulI, nsmulN_eq]
  | negSucc n => simp [zsmulI, nsmulN_eq, Int.negSucc_eq]; ring

/-- a row of a table read as a map on positions -/
def toFn (q : ℕ) (l : List ℕ) : Fin q → ℕ := fun m => l.getD m.val 0

/-- the multiset of all permutations of `Fin q` with their signs, as position maps -/
def fullMS (q : ℕ) : Multiset ((Fin q → ℕ) × ℤ) :=
  (Finset.univ : Finset (Perm (Fin q))).val.map fun σ => ((fun m => ((σ m : Fin q) : ℕ)), (Perm.sign σ : ℤ))

/-- the table enumerates every permutation exactly once, with its sign -/
def FullTableOK (q : ℕ) (tab : List (List ℕ × ℤ)) : Prop :=
  (↑(tab.map fun e => (toFn q e.1, e.2)) : Multiset ((Fin q → ℕ) × ℤ)) = fullMS q

instance (q : ℕ) (tab : List (List ℕ × ℤ)) : Decidable (FullTableOK q tab) := by
  unfold FullTableOK; infer_instance

/-- permutations of the positions that leave the multi-index `α` unchanged -/
def stab (q : ℕ) (α : Fin q → ℕ) : Finset (Perm (Fin q)) := Finset.univ.filter fun π => ∀ m, α (π m) = α m

/-- the table is a transversal of the cosets `σ·Stab(α)`, each row weighted by `sign · |Stab(α)|`:
expanding every row over the stabiliser gives every permutation exactly once with its sign. -/
def CosetTableOK (q : ℕ) (α : Fin q → ℕ) (tab : List (List ℕ × ℤ)) : Prop :=
  (∀ e ∈ tab, e.2 = ((stab q α).card : ℤ) * (e.2 / ((stab q α).card : ℤ))) ∧
  (Multiset.bind (↑tab : Multiset (List ℕ × ℤ)) fun e => (stab q α).val.map fun π =>
      ((fun m => toFn q e.1 (π m)), e.2 / ((stab q α).card : ℤ) * (Perm.sign π : ℤ))) = fullMS q

instance (q : ℕ) (α : Fin q → ℕ) (tab : List (List ℕ × ℤ)) : Decidable (CosetTableOK q α tab) := by
  unfold CosetTableOK; infer_instance

theorem stab_comp (α : Fin q → ℕ) (f : ℕ → ℕ) (hf : Function.Injective f) : stab q (fun m => f (α m)) = stab q α := by
  unfold stab
  congr 1
  funext π
  simp [hf.eq_iff]

theorem sum_fullMS (G : (Fin q → ℕ) → ℤ → R) :
    ((fullMS q).map fun e => G e.1 e.2).sum = ∑ σ : Perm (Fin q), G (fun m => ((σ m : Fin q) : ℕ)) (Perm.sign σ : ℤ) := by
  unfold fullMS
  rw [Multiset.map_map]
  rfl

theorem listSum_map_eq {ι : Type} (l : List ι) (g : ι → R) : listSum (l.map g) = ((↑l : Multiset ι).map g).sum := by
  rw [listSum_eq]; simp

/-- summing over a full table is summing over all permutations with their signs -/
theorem full_sum (tab : List (List ℕ × ℤ)) (h : FullTableOK q tab) (G : (Fin q → ℕ) → R) :
    listSum (tab.map fun e => (e.2 : R) * G (toFn q e.1))
      = ∑ σ : Perm (Fin q), sgn σ * G (fun m => ((σ m : Fin q) : ℕ)) := by
  refine Eq.trans ?_ (sum_fullMS fun s v => (v : R) * G s)
  rw [listSum_map_eq, ← h, Multiset.map_coe, Multiset.map_coe, List.map_map]
  rfl

/-- the row-picked determinant: fixed row selection `s`, antisymmetrised over the columns -/
def rowDet (A : Fin q → ℕ → ℕ → R) (I : ℕ → ℕ) (J : Fin q → ℕ) (s : Fin q → ℕ) : R :=
  ∑ τ : Perm (Fin q), sgn τ * ∏ m, A m (I (s m)) (J (τ m))

theorem polMinor_eq_rowDet (A : Fin q → ℕ → ℕ → R) (I : ℕ → ℕ) (J : Fin q → ℕ) :
    polMinor A (fun i => I i.val) J = ∑ σ : Perm (Fin q), sgn σ * rowDet A I J (fun m => ((σ m : Fin q) : ℕ)) := by
  unfold polMinor rowDet
  refine Finset.sum_congr rfl fun σ _ => ?_
  rw [Finset.mul_sum]
  exact Finset.sum_congr rfl fun τ _ => by ring

/-- permuting the row selection by a permutation that fixes the matrix arguments only changes the sign -/
theorem rowDet_stab (A : Fin q → ℕ → ℕ → R) (I : ℕ → ℕ) (J : Fin q → ℕ) (π : Perm (Fin q))
    (hπ : ∀ m, A (π m) = A m) (s : Fin q → ℕ) :
    rowDet A I J (fun m => s (π m)) = sgn π * rowDet A I J s := by
  unfold rowDet
  have hterm : ∀ τ : Perm (Fin q), ∏ m, A m (I (s (π m))) (J (τ m))
      = ∏ m, A m (I (s m)) (J ((τ * π⁻¹) m)) := by
    intro τ
    rw [← Equiv.prod_comp π (fun m => A m (I (s m)) (J ((τ * π⁻¹) m)))]
    refine Finset.prod_congr rfl fun m _ => ?_
    simp [hπ m]
  simp only [hterm]
  rw [Finset.mul_sum]
  refine Fintype.sum_equiv (Equiv.mulRight π⁻¹) _ _ fun τ => ?_
  simp only [Equiv.coe_mulRight]
  rw [← sgn_mul_inv τ π]; ring

theorem coset_sum (α : Fin q → ℕ) (tab : List (List ℕ × ℤ)) (h : CosetTableOK q α tab)
    (G : (Fin q → ℕ) → R) (hG : ∀ π ∈ stab q α, ∀ s, G (fun m => s (π m)) = sgn π * G s) :
    listSum (tab.map fun e => (e.2 : R) * G (toFn q e.1))
      = ∑ σ : Perm (Fin q), sgn σ * G (fun m => ((σ m : Fin q) : ℕ)) := by
  refine Eq.trans ?_ (sum_fullMS fun s v => (v : R) * G s)
  rw [← h.2, Multiset.map_bind, Multiset.sum_bind, listSum_map_eq]
  congr 1
  refine Multiset.map_congr rfl fun e he => ?_
  have he' : e ∈ tab := by simpa using he
  rw [Multiset.map_map]
  change _ = ∑ π ∈ stab q α, _
  have hterm : ∀ π ∈ stab q α,
      ((fun e' : (Fin q → ℕ) × ℤ => (e'.2 : R) * G e'.1) ∘ fun π : Perm (Fin q) =>
          ((fun m => toFn q e.1 (π m)), e.2 / ((stab q α).card : ℤ) * (Perm.sign π : ℤ))) π
        = ((e.2 / ((stab q α).card : ℤ) : ℤ) : R) * G (toFn q e.1) := by
    intro π hπ
    simp only [Function.comp]
    rw [hG π hπ, Int.cast_mul]
    have := sgn_mul_self (R := R) π
    unfold sgn at this ⊢
    linear_combination (((e.2 / ((stab q α).card : ℤ) : ℤ) : R) * G (toFn q e.1)) * this
  rw [Finset.sum_congr rfl hterm, Finset.sum_const, nsmul_eq_mul]
  conv_lhs => rw [h.1 e he']
  push_cast; ring

/-- **the implementation's coset-reduced double sum is the full polarised minor**, for any table pair passing the two
(decidable) table checks. -/
theorem polMinorScaled_eq_polMinor (mats : ℕ → ℕ → ℕ → R) (INDEX : List ℕ) (tabI tabJ : List (List ℕ × ℤ))
    (rows cols : List ℕ) (hlen : INDEX.length = q)
    (hJ : FullTableOK q tabJ) (hI : CosetTableOK q (fun m : Fin q => INDEX.getD m.val 0) tabI) :
    polMinorScaled mats INDEX tabI tabJ rows cols
      = polMinor (fun m : Fin q => mats (INDEX.getD m.val 0)) (fun i => rows.getD i.val 0) (fun i => cols.getD i.val 0) := by
  set A : Fin q → ℕ → ℕ → R := fun m => mats (INDEX.getD m.val 0)
  set I : ℕ → ℕ := fun i => rows.getD i 0
  set J : Fin q → ℕ := fun i => cols.getD i.val 0
  -- the product over `range q` as a product over `Fin q`
  have hprod : ∀ s t : List ℕ,
      listProd ((List.range INDEX.length).map fun m =>
        mats (INDEX.getD m 0) (rows.getD (s.getD m 0) 0) (cols.getD (t.getD m 0) 0))
      = ∏ m : Fin q, A m (I (toFn q s m)) (cols.getD (toFn q t m) 0) := by
    intro s t
    rw [listProd_eq, hlen, ← List.prod_toFinset _ List.nodup_range, List.toFinset_range, Finset.prod_range]
    rfl
  -- inner sum over the full table = row-picked determinant
  have hinner : ∀ sv : List ℕ × ℤ,
      listSum (tabJ.map fun tw => zsmulI (sv.2 * tw.2) (listProd ((List.range INDEX.length).map fun m =>
        mats (INDEX.getD m 0) (rows.getD (sv.1.getD m 0) 0) (cols.getD (tw.1.getD m 0) 0))))
      = (sv.2 : R) * rowDet A I J (toFn q sv.1) := by
    intro sv
    have h1 := full_sum tabJ hJ fun t => (sv.2 : R) * ∏ m : Fin q, A m (I (toFn q sv.1 m)) (cols.getD (t m) 0)
    unfold rowDet
    rw [Finset.mul_sum, ← Finset.sum_congr rfl fun τ _ => mul_left_comm (sgn τ : R) _ _]
    refine Eq.trans (congrArg listSum (List.map_congr_left fun tw _ => ?_)) h1
    rw [zsmulI_eq, hprod, Int.cast_mul]; ring
  unfold polMinorScaled
  simp only [hinner]
  rw [coset_sum (fun m : Fin q => INDEX.getD m.val 0) tabI hI (rowDet A I J)]
  · exact (polMinor_eq_rowDet A I J).symm
  · exact fun π hπ s => rowDet_stab A I J π (fun m => congrArg mats ((Finset.mem_filter.1 hπ).2 m)) s

end bridge

/-! ### every sorted multi-index is a strictly monotone relabelling of a normalised pattern -/

/-- normalised sorted patterns of length `n`: start at 0, every step `+0` or `+1` -/
def sortedPatterns : ℕ → List (List ℕ)
  | 0 => [[]]
  | 1 => [[0]]
  | n + 2 => (sortedPatterns (n + 1)).flatMap fun p => [p ++ [p.getLastD 0], p ++ [p.getLastD 0 + 1]]

theorem exists_pattern (l : List ℕ) (hs : l.Pairwise (· ≤ ·)) (hne : l ≠ []) :
    ∃ (p : List ℕ) (f : ℕ → ℕ), StrictMono f ∧ l = p.map f ∧ p ∈ sortedPatterns l.length
      ∧ (∀ y ∈ p, y ≤ p.getLastD 0) ∧ p ≠ [] := by
  induction l using List.reverseRecOn with
  | nil => exact absurd rfl hne
  | append_singleton l x ih =>
    by_cases hl : l = []
    · subst hl
      refine ⟨[0], fun y => x + y, fun a b h => by simpa using h, by simp, by simp [sortedPatterns], by simp, by simp⟩
    · have hs' : l.Pairwise (· ≤ ·) := (List.pairwise_append.1 hs).1
      obtain ⟨p, f, hf, hlp, hmem, hle, hpne⟩ := ih hs' hl
      set k := p.getLastD 0 with hk
      have hkmem : k ∈ p := by
        rw [hk, List.getLastD_eq_getLast?]
        cases hp : p.getLast? with
        | none => exact absurd (List.getLast?_eq_none_iff.1 hp) hpne
        | some a => simpa using List.mem_of_getLast? hp
      have hxk : f k ≤ x := by
        have := (List.pairwise_append.1 hs).2.2 (f k) (by rw [hlp]; exact List.mem_map_of_mem hkmem) x (by simp)
        exact this
      have hlen : (l ++ [x]).length = (p.length - 1) + 2 := by
        have : p.length ≠ 0 := by simpa using hpne
        rw [hlp]; simp; omega
      have hlen' : l.length = (p.length - 1) + 1 := by
        have : p.length ≠ 0 := by simpa using hpne
        rw [hlp]; simp; omega
      -- appending `k` or `k + 1` to the pattern keeps it a pattern with its maximum at the end
      have hstep : ∀ z, z = k ∨ z = k + 1 → p ++ [z] ∈ sortedPatterns (l ++ [x]).length
          ∧ (∀ y ∈ p ++ [z], y ≤ (p ++ [z]).getLastD 0) ∧ p ++ [z] ≠ [] := by
        intro z hz
        refine ⟨?_, fun y hy => ?_, by simp⟩
        · rw [hlen, sortedPatterns, List.mem_flatMap]
          exact ⟨p, by rw [← hlen']; exact hmem, by rcases hz with rfl | rfl <;> simp [hk]⟩
        · rw [List.getLastD_concat]
          rcases List.mem_append.1 hy with h | h
          · have := hle y h; omega
          · simp at h; omega
      rcases Nat.eq_or_lt_of_le hxk with hx | hx
      · refine ⟨p ++ [k], f, hf, ?_, hstep k (Or.inl rfl)⟩
        rw [List.map_append, ← hlp, List.map_singleton, hx]
      · refine ⟨p ++ [k + 1], fun y => if y ≤ k then f y else x + (y - (k + 1)), ?_, ?_, hstep _ (Or.inr rfl)⟩
        · intro a b hab
          simp only
          by_cases ha : a ≤ k <;> by_cases hb : b ≤ k
          · simp [ha, hb, hf hab]
          · simp only [ha, hb, if_true, if_false]
            have : f a ≤ f k := hf.monotone ha
            omega
          · omega
          · simp only [ha, hb, if_false]; omega
        · rw [List.map_append, List.map_singleton]
          congr 1
          · rw [hlp]
            exact List.map_congr_left fun y hy => by simp [hle y hy]
          · simp

/-- both table checks, for every normalised sorted pattern of length `q` (decidable) -/
def TablesOK (q : ℕ) : Prop :=
  FullTableOK q (antisymFactorTableInt q) ∧
    ∀ p ∈ sortedPatterns q, CosetTableOK q (fun m : Fin q => p.getD m.val 0) (antisymFactorTable p)

instance (q : ℕ) : Decidable (TablesOK q) := by unfold TablesOK; infer_instance

/-! ### the table checks from a computation on lists

Deciding `CosetTableOK` as it stands makes the kernel enumerate `Perm (Fin q)`.  Instead: a table whose rows are permutation
rows lying in pairwise different cosets of the stabiliser, signed by their inversion count and weighted by the order of the
stabiliser, expands to as many distinct signed permutations as there are permutations, if there are enough rows. -/

theorem prod_map_neg_one (l : List ℕ) (P : ℕ → Prop) [DecidablePred P] :
    (l.map fun y => if P y then (-1 : ℤ) else 1).prod = (-1) ^ (l.filter fun y => P y).length := by
  induction l with
  | nil => rfl
  | cons y ys ih => by_cases hy : P y <;> simp [hy, ih, pow_succ]

theorem prod_inversions {n : ℕ} (f : Fin n → ℕ) :
    ∏ i, ∏ j ∈ Ioi i, (if f j < f i then (-1 : ℤ) else 1) = (-1) ^ inversions (List.ofFn f) := by
  induction n with
  | zero => simp [inversions]
  | succ n ih =>
    rw [Fin.prod_univ_succ, Fin.prod_Ioi_zero]
    simp_rw [Fin.prod_Ioi_succ]
    rw [ih fun i => f i.succ, List.ofFn_succ, inversions, pow_add, ← List.prod_ofFn, ← prod_map_neg_one, List.map_ofFn]
    rfl

/-- **the sign of a permutation is the parity of the inversion count of its row** -/
theorem sign_eq_inversions {n : ℕ} (σ : Perm (Fin n)) :
    (Perm.sign σ : ℤ) = (-1) ^ inversions (List.ofFn fun m => (σ m).val) := by
  rw [← prod_inversions, Perm.sign_eq_prod_prod_Ioi]
  push_cast
  refine Finset.prod_congr rfl fun i _ => Finset.prod_congr rfl fun j hj => ?_
  have hne : σ i ≠ σ j := fun h => (Finset.mem_Ioi.1 hj).ne (σ.injective h)
  by_cases h : σ i < σ j
  · simp [h, (Fin.lt_def.1 h).not_gt]
  · simp [h, Fin.lt_def.1 (lt_of_le_of_ne (not_lt.1 h) hne.symm)]

/-- a duplicate-free list of `q` numbers below `q` is the row of a permutation -/
theorem exists_perm_of_row {q : ℕ} (l : List ℕ) (hlen : l.length = q) (hnd : l.Nodup) (hlt : ∀ x ∈ l, x < q) :
    ∃ σ : Perm (Fin q), l = List.ofFn fun m => (σ m).val := by
  subst hlen
  have hinj : Function.Injective fun m : Fin l.length => (⟨l[m], hlt _ (List.getElem_mem _)⟩ : Fin l.length) :=
    fun a b h => Fin.ext (hnd.getElem_inj_iff.1 (Fin.mk.inj h))
  refine ⟨Equiv.ofBijective _ (Finite.injective_iff_bijective.1 hinj), ?_⟩
  exact List.ext_getElem (by simp) fun i h1 h2 => by simp

theorem toFn_ofFn {q : ℕ} (f : Fin q → ℕ) : toFn q (List.ofFn f) = f := by
  funext m
  simp [toFn, List.getD_eq_getElem?_getD]

/-- list form of `α ∘ σ⁻¹` for the row `l` of `σ` and `α = p[·]`: the entry at `l[m]` is `p[m]`; equal for two rows iff they
lie in the same coset of the stabiliser of `α` -/
def scatter (p l : List ℕ) : List ℕ := (List.range l.length).map fun k => p.getD (l.idxOf k) 0

theorem scatter_ofFn {q : ℕ} (p : List ℕ) (σ : Perm (Fin q)) :
    scatter p (List.ofFn fun m => (σ m).val) = List.ofFn fun k => p.getD (σ⁻¹ k).val 0 := by
  refine List.ext_getElem (by simp [scatter]) fun k h1 h2 => ?_
  have hk : k < q := by simpa [scatter] using h1
  have hnd : (List.ofFn fun m => (σ m).val).Nodup := List.nodup_ofFn.2 (Fin.val_injective.comp σ.injective)
  have h := hnd.idxOf_getElem (σ⁻¹ ⟨k, hk⟩).val (by simp)
  have hk' : σ (σ⁻¹ ⟨k, hk⟩) = ⟨k, hk⟩ := by simp
  rw [List.getElem_ofFn, Fin.eta, hk'] at h
  simp [scatter, h]

/-- `∏ multiplicity!` over the values of `α` -/
def stabOrder {q : ℕ} (α : Fin q → ℕ) : ℕ :=
  ∏ i ∈ Finset.univ.image α, ((Finset.univ.filter fun a => α a = i).card).factorial

theorem stab_card {q : ℕ} (α : Fin q → ℕ) : (stab q α).card = stabOrder α := by
  have h := DomMulAct.stabilizer_card' α
  simp only [Fintype.card_subtype, funext_iff, Function.comp_apply] at h
  exact h

/-- the part of `CosetTableOK` that is a computation on lists; `c` stands for the order of the stabiliser, and the rows come
sorted by their coset -/
def CosetCheck (q c : ℕ) (p : List ℕ) (tab : List (List ℕ × ℤ)) : Prop :=
  q.factorial ≤ tab.length * c ∧
  (∀ e ∈ tab, e.1.length = q ∧ e.1.Nodup ∧ (∀ x ∈ e.1, x < q) ∧ e.2 = (-1) ^ inversions e.1 * c) ∧
  (tab.map fun e => scatter p e.1).IsChain (· < ·)

instance (q c : ℕ) (p : List ℕ) (tab : List (List ℕ × ℤ)) : Decidable (CosetCheck q c p tab) := by
  unfold CosetCheck; infer_instance

/-- `q!` distinct signed permutations are all of them -/
theorem eq_fullMS {q : ℕ} (M : Multiset ((Fin q → ℕ) × ℤ)) (hnd : M.Nodup)
    (hsub : ∀ x ∈ M, ∃ σ : Perm (Fin q), x = ((fun m => (σ m).val), (Perm.sign σ : ℤ)))
    (hcard : q.factorial ≤ M.card) : M = fullMS q := by
  refine Multiset.eq_of_le_of_card_le ((Multiset.le_iff_subset hnd).2 fun x hx => ?_) ?_
  · obtain ⟨σ, rfl⟩ := hsub x hx
    exact Multiset.mem_map.2 ⟨σ, Finset.mem_univ σ, rfl⟩
  · simpa [fullMS, Fintype.card_perm] using hcard

theorem cosetTableOK_of_check {q : ℕ} (p : List ℕ) (tab : List (List ℕ × ℤ))
    (h : CosetCheck q (stabOrder fun m : Fin q => p.getD m.val 0) p tab) :
    CosetTableOK q (fun m : Fin q => p.getD m.val 0) tab := by
  rw [← stab_card] at h
  obtain ⟨hcard, hrows, hch⟩ := h
  have hnd : (tab.map fun e => scatter p e.1).Nodup := (List.isChain_iff_pairwise.1 hch).imp ne_of_lt
  set α : Fin q → ℕ := fun m => p.getD m.val 0
  set c := (stab q α).card
  have hc0 : (c : ℤ) ≠ 0 := by
    have : (1 : Perm (Fin q)) ∈ stab q α := by simp [stab]
    exact_mod_cast (Finset.card_pos.2 ⟨1, this⟩).ne'
  have hs : ∀ τ ∈ stab q α, ∀ m, α (τ m) = α m := fun τ hτ => (Finset.mem_filter.1 hτ).2
  have hrow : ∀ e ∈ tab, ∃ σ : Perm (Fin q),
      e.1 = List.ofFn (fun m => (σ m).val) ∧ e.2 = (Perm.sign σ : ℤ) * c := by
    intro e he
    obtain ⟨h1, h2, h3, h4⟩ := hrows e he
    obtain ⟨σ, hσ⟩ := exists_perm_of_row e.1 h1 h2 h3
    exact ⟨σ, hσ, by rw [h4, hσ, sign_eq_inversions]⟩
  refine ⟨fun e he => ?_, eq_fullMS _ ?_ ?_ ?_⟩
  · obtain ⟨σ, -, h2⟩ := hrow e he
    rw [h2, Int.mul_ediv_cancel _ hc0, mul_comm]
  · rw [Multiset.nodup_bind]
    refine ⟨fun e he => ?_, tab, rfl, (List.pairwise_map.1 hnd).imp_of_mem fun {e e'} he he' hne => ?_⟩
    · -- one coset: `π ↦ σ π` is injective
      obtain ⟨σ, h1, -⟩ := hrow e he
      refine (stab q α).nodup.map fun π π' hππ' => ?_
      have hfst := congrArg Prod.fst hππ'
      simp only [h1, toFn_ofFn] at hfst
      exact Equiv.ext fun m => σ.injective (Fin.val_injective (congrFun hfst m))
    · -- two rows: a common element `σ π = σ' π'` would give `α ∘ σ⁻¹ = α ∘ σ'⁻¹`
      rw [Function.onFun, Multiset.disjoint_left]
      intro x hx hx'
      obtain ⟨σ, h1, -⟩ := hrow e he
      obtain ⟨σ', h1', -⟩ := hrow e' he'
      obtain ⟨π, hπ, rfl⟩ := Multiset.mem_map.1 hx
      obtain ⟨π', hπ', hx'⟩ := Multiset.mem_map.1 hx'
      have hfst := congrArg Prod.fst hx'
      simp only [h1, h1', toFn_ofFn] at hfst
      have hmul : ∀ m, σ' (π' m) = σ (π m) := fun m => Fin.val_injective (congrFun hfst m)
      refine hne ?_
      rw [h1, h1', scatter_ofFn, scatter_ofFn]
      congr 1
      funext k
      have e1 : σ⁻¹ k = π (π⁻¹ (σ⁻¹ k)) := by simp
      have e2 : σ'⁻¹ k = π' (π⁻¹ (σ⁻¹ k)) := by rw [Perm.inv_eq_iff_eq, hmul]; simp
      change α (σ⁻¹ k) = α (σ'⁻¹ k)
      rw [e1, e2, hs π hπ, hs π' hπ']
  · intro x hx
    obtain ⟨e, he, hx⟩ := Multiset.mem_bind.1 hx
    obtain ⟨π, -, rfl⟩ := Multiset.mem_map.1 hx
    obtain ⟨σ, h1, h2⟩ := hrow e he
    refine ⟨σ * π, ?_⟩
    rw [h1, toFn_ofFn, h2, Int.mul_ediv_cancel _ hc0, Perm.sign_mul, Units.val_mul]
    rfl
  · rw [Multiset.card_bind]
    simpa [Function.comp_def] using hcard

/-- with a trivial stabiliser the coset table is the full table -/
theorem fullTableOK_of_coset {q : ℕ} (α : Fin q → ℕ) (hα : Function.Injective α) (tab : List (List ℕ × ℤ))
    (h : CosetTableOK q α tab) : FullTableOK q tab := by
  have hs : stab q α = {1} := by
    ext π
    simp only [stab, Finset.mem_filter, Finset.mem_univ, true_and, Finset.mem_singleton, hα.eq_iff]
    exact ⟨fun h => Equiv.ext h, fun h m => by rw [h]; rfl⟩
  have h2 := h.2
  simp only [hs, Finset.singleton_val, Multiset.map_singleton, Multiset.bind_singleton, Finset.card_singleton,
    Nat.cast_one, Int.ediv_one, Perm.sign_one, Units.val_one, mul_one, Perm.coe_one, id] at h2
  exact h2

/-- evaluate a table once, every entry to a literal, before it is used -/
def forceRows {β : Type} : List (List ℕ × ℤ) → (List (List ℕ × ℤ) → β) → β :=
  Qec.forceEach fun e f => Qec.forceEach Qec.forceNat e.1 fun l => Qec.forceInt e.2 fun z => f (l, z)

theorem forceRows_eq {β : Type} (t : List (List ℕ × ℤ)) (k : List (List ℕ × ℤ) → β) : forceRows t k = k t :=
  Qec.forceEach_eq (fun e f => by rw [Qec.forceEach_eq Qec.forceNat_eq, Qec.forceInt_eq]) t k

/-- `CosetCheck` for the table of every normalised sorted pattern of length `q` -/
def tablesCheck (q : ℕ) : Bool :=
  decide (List.range q ∈ sortedPatterns q) && (sortedPatterns q).all fun p =>
    Qec.forceEach Qec.forceNat p fun p => Qec.forceNat (stabOrder fun m : Fin q => p.getD m.val 0) fun c =>
      forceRows (antisymFactorTable p) fun tab => decide (CosetCheck q c p tab)

theorem tablesOK_of_check {q : ℕ} (h : tablesCheck q = true) : TablesOK q := by
  simp only [tablesCheck, Qec.forceEach_eq Qec.forceNat_eq, Qec.forceNat_eq, forceRows_eq, Bool.and_eq_true, decide_eq_true_eq,
    List.all_eq_true] at h
  have hc : ∀ p ∈ sortedPatterns q, CosetTableOK q (fun m : Fin q => p.getD m.val 0) (antisymFactorTable p) :=
    fun p hp => cosetTableOK_of_check p _ (h.2 p hp)
  refine ⟨fullTableOK_of_coset _ (fun a b hab => ?_) _ (hc _ h.1), hc⟩
  simpa [List.getD_eq_getElem?_getD, Fin.ext_iff] using hab

theorem tablesCheck_le_five : ∀ q < 6, 0 < q → tablesCheck q = true := by decide +kernel

/-- **`tensor2d_project_to_antisym_basis` is the polarised minor map** (times `q!`), for every sorted multi-index of a length
whose tables pass the check. -/
theorem polMinorScaled_sorted {R : Type} [CommRing R] {q : ℕ} (hT : TablesOK q) (mats : ℕ → ℕ → ℕ → R)
    (INDEX rows cols : List ℕ) (hlen : INDEX.length = q) (hq : 0 < q) (hs : INDEX.Pairwise (· ≤ ·)) :
    polMinorScaled mats INDEX (antisymFactorTable INDEX) (antisymFactorTableInt q) rows cols
      = polMinor (fun m : Fin q => mats (INDEX.getD m.val 0)) (fun i => rows.getD i.val 0) (fun i => cols.getD i.val 0) := by
  have hne : INDEX ≠ [] := by intro h; rw [h] at hlen; simp at hlen; omega
  obtain ⟨p, f, hf, hip, hmem, -, -⟩ := exists_pattern INDEX hs hne
  rw [hlen] at hmem
  refine polMinorScaled_eq_polMinor mats INDEX _ _ rows cols hlen hT.1 ?_
  have hplen : p.length = q := by rw [← hlen, hip, List.length_map]
  have hα : (fun m : Fin q => INDEX.getD m.val 0) = fun m : Fin q => f (p.getD m.val 0) := by
    funext m
    have hm : m.val < p.length := by rw [hplen]; exact m.isLt
    rw [hip]
    simp [List.getD_eq_getElem?_getD, List.getElem?_eq_getElem hm]
  have hc := hT.2 p hmem
  unfold CosetTableOK at hc ⊢
  rw [hα, stab_comp _ f hf.injective, hip, antisymFactorTable_map f hf]
  exact hc


/-! ### the multi-index of a tuple of generators -/

/-- the sorted multi-index (`combinations_with_replacement` element) of a tuple `t` of generator labels -/
def sortedIndex {q N : ℕ} (t : Fin q → Fin N) : List ℕ := List.ofFn fun m => ((t (Tuple.sort t m) : Fin N) : ℕ)

theorem sortedIndex_length {q N : ℕ} (t : Fin q → Fin N) : (sortedIndex t).length = q := by simp [sortedIndex]

theorem sortedIndex_sorted {q N : ℕ} (t : Fin q → Fin N) : (sortedIndex t).Pairwise (· ≤ ·) := by
  unfold sortedIndex
  rw [List.pairwise_ofFn]
  intro i j hij
  exact Fin.le_def.1 (Tuple.monotone_sort t hij.le)

theorem sortedIndex_getD {q N : ℕ} (t : Fin q → Fin N) (m : Fin q) :
    (sortedIndex t).getD m.val 0 = ((t (Tuple.sort t m) : Fin N) : ℕ) := by
  simp [sortedIndex, List.getD_eq_getElem?_getD]

/-- a function of the entries of the sorted multi-index is the function of the labels, rearranged by the sorting permutation -/
theorem sortedIndex_comp {q N : ℕ} {β : Type} (t : Fin q → Fin N) (f : ℕ → β) :
    (fun m : Fin q => f ((sortedIndex t).getD m.val 0)) = fun m => (fun m' => f (t m').val) (Tuple.sort t m) := by
  funext m; rw [sortedIndex_getD]

theorem sortedIndex_lt {q N : ℕ} (t : Fin q → Fin N) : ∀ i ∈ sortedIndex t, i < N := by
  intro i hi
  simp only [sortedIndex, List.mem_ofFn] at hi
  obtain ⟨m, rfl⟩ := hi
  exact Fin.isLt _

end Numqi.MatrixSpace
