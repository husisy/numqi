/-
Quotient and remainder bounds for a flat index `x < d * n` (C12).
-/
import Mathlib.Tactic
import Mathlib.Algebra.BigOperators.Fin
import Mathlib.Algebra.Star.BigOperators
import NumqiModel.Channel
import NumqiProofs.PartialTrace

namespace Numqi
namespace Channel
open Finset

theorem div_lt_of_lt_mul {x d n : ℕ} (h : x < d * n) : x / n < d :=
  Nat.div_lt_of_lt_mul (Nat.mul_comm d n ▸ h)

theorem mod_lt_of_lt_mul {x d n : ℕ} (h : x < d * n) : x % n < n :=
  Nat.mod_lt _ (Nat.pos_of_ne_zero (by rintro rfl; simp at h))

/-- the outermost of three sums moved innermost -/
theorem sum_comm₃ {M ι κ τ : Type} [AddCommMonoid M] (A : Finset ι) (B : Finset κ) (C : Finset τ) (f : ι → κ → τ → M) :
    ∑ s ∈ A, ∑ i ∈ B, ∑ j ∈ C, f s i j = ∑ i ∈ B, ∑ j ∈ C, ∑ s ∈ A, f s i j := by
  rw [sum_comm]
  exact sum_congr rfl fun i _ => sum_comm

end Channel
end Numqi
