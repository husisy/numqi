/-
Lemmas for the matrix-subspace model (C20): list folds as `Finset` sums, `itertools.combinations` with and without replacement, real
bipartite forms, the Rayleigh quotient `rayleigh` of the numerical-range statements, arithmetic of the structure classes.
-/
import Mathlib.Tactic
import Mathlib.Algebra.BigOperators.Fin
import Mathlib.Data.Nat.Choose.Basic
import Mathlib.Data.List.Sublists
import Mathlib.Data.Complex.Basic
import NumqiModel.MatrixSpace

namespace Numqi.MatrixSpace

/-! ### list folds as `Finset` sums -/

theorem foldr_add_range {M : Type} [AddCommMonoid M] (n : Nat) (f : Nat → M) :
    ((List.range n).map f).foldr (· + ·) 0 = ∑ i ∈ Finset.range n, f i := by
  have h : ((List.range n).map f).foldr (· + ·) 0 = ((List.range n).map f).sum := rfl
  rw [h, ← List.sum_toFinset f (List.nodup_range), List.toFinset_range]

theorem listSum_eq {M : Type} [AddCommMonoid M] (l : List M) : listSum l = l.sum := rfl

theorem listProd_eq {M : Type} [CommMonoid M] (l : List M) : listProd l = l.prod := rfl

/-! ### `itertools.combinations` -/

theorem combos_zero (l : List Nat) : combos l 0 = [[]] := by cases l <;> rfl

/-- the same sub-lists as Mathlib's `sublistsLen`, in `itertools` order -/
theorem combos_perm (l : List Nat) (k : Nat) : (combos l k).Perm (List.sublistsLen k l) := by
  induction l generalizing k with
  | nil => cases k <;> simp [combos]
  | cons x xs ih =>
    cases k with
    | zero => simp [combos]
    | succ k =>
      rw [combos, List.sublistsLen_succ_cons]
      exact List.perm_append_comm.trans ((ih (k + 1)).append ((ih k).map _))

theorem combos_length (l : List Nat) (k : Nat) : (combos l k).length = l.length.choose k :=
  (combos_perm l k).length_eq.trans (List.length_sublistsLen k l)

theorem mem_combos {l x : List Nat} {k : Nat} : x ∈ combos l k ↔ x.Sublist l ∧ x.length = k :=
  (combos_perm l k).mem_iff.trans List.mem_sublistsLen

theorem combos_nodup {l : List Nat} (hl : l.Nodup) (k : Nat) : (combos l k).Nodup :=
  (combos_perm l k).nodup_iff.2 (List.nodup_sublistsLen k hl)

/-! ### `itertools.combinations_with_replacement` -/

theorem combosRepAux_length (fuel : Nat) (l : List Nat) (k : Nat) (h : l.length + k ≤ fuel) :
    (combosRepAux fuel l k).length = Nat.multichoose l.length k := by
  induction fuel generalizing l k with
  | zero =>
    have hl : l = [] := by cases l with | nil => rfl | cons _ _ => simp at h
    have hk : k = 0 := by omega
    subst hl; subst hk; simp [combosRepAux]
  | succ fuel ih =>
    cases k with
    | zero => cases l <;> simp [combosRepAux]
    | succ k =>
      cases l with
      | nil => simp [combosRepAux]
      | cons x xs =>
        simp only [combosRepAux, List.length_append, List.length_map, List.length_cons]
        rw [ih (x :: xs) k (by simp at h ⊢; omega), ih xs (k + 1) (by simp at h ⊢; omega)]
        simp [Nat.multichoose_succ_succ, Nat.add_comm]

theorem combosRep_length (l : List Nat) (k : Nat) :
    (combosRep l k).length = Nat.multichoose l.length k :=
  combosRepAux_length _ l k le_rfl


/-! ### real bipartite forms (`detect_real_matrix_subspace_rank_one`) -/

section bip
variable {R : Type} [CommRing R]
open Finset

theorem quad4_eq (dA dB : Nat) (f : Nat → Nat → Nat → Nat → R) (x : Nat → Nat → R) :
    quad4 dA dB f x = ∑ a ∈ range dA, ∑ b ∈ range dB, ∑ a' ∈ range dA, ∑ b' ∈ range dB,
      x a b * f a b a' b' * x a' b' := by
  simp only [quad4, foldr_add_range]

theorem projector_eq (K : Nat) (B : Nat → Nat → Nat → R) (a b a' b' : Nat) :
    projector K B a b a' b' = ∑ k ∈ range K, B k a b * B k a' b' := by
  simp only [projector, foldr_add_range]

/-- the quadratic form as a sum over pairs -/
theorem quad4_pairs (dA dB : Nat) (f : Nat → Nat → Nat → Nat → R) (x : Nat → Nat → R) :
    quad4 dA dB f x = ∑ p ∈ range dA ×ˢ range dB, ∑ q ∈ range dA ×ˢ range dB,
      x p.1 p.2 * f p.1 p.2 q.1 q.2 * x q.1 q.2 := by
  rw [quad4_eq, Finset.sum_product]
  refine sum_congr rfl fun a _ => sum_congr rfl fun b _ => ?_
  rw [Finset.sum_product]

theorem quad_gram {ι κ : Type} (s : Finset ι) (t : Finset κ) (B : κ → ι → R) (x : ι → R) :
    ∑ p ∈ s, ∑ q ∈ s, x p * (∑ k ∈ t, B k p * B k q) * x q = ∑ k ∈ t, (∑ p ∈ s, B k p * x p) ^ 2 := by
  have h1 : ∀ k, (∑ p ∈ s, B k p * x p) ^ 2 = ∑ p ∈ s, ∑ q ∈ s, (B k p * x p) * (B k q * x q) := by
    intro k; rw [sq, Finset.sum_mul_sum]
  calc ∑ p ∈ s, ∑ q ∈ s, x p * (∑ k ∈ t, B k p * B k q) * x q
      = ∑ p ∈ s, ∑ q ∈ s, ∑ k ∈ t, (B k p * x p) * (B k q * x q) := by
        refine sum_congr rfl fun p _ => sum_congr rfl fun q _ => ?_
        rw [Finset.mul_sum, Finset.sum_mul]; exact sum_congr rfl fun k _ => by ring
    _ = ∑ p ∈ s, ∑ k ∈ t, ∑ q ∈ s, (B k p * x p) * (B k q * x q) :=
        sum_congr rfl fun p _ => Finset.sum_comm
    _ = ∑ k ∈ t, ∑ p ∈ s, ∑ q ∈ s, (B k p * x p) * (B k q * x q) := Finset.sum_comm
    _ = ∑ k ∈ t, (∑ p ∈ s, B k p * x p) ^ 2 := by simp only [h1]

/-- Parseval inside the span of an orthonormal family -/
theorem parseval_span {ι κ : Type} [DecidableEq κ] (s : Finset ι) (t : Finset κ) (B : κ → ι → R) (x : ι → R) (c : κ → R)
    (hspan : ∀ p ∈ s, x p = ∑ k ∈ t, c k * B k p)
    (horth : ∀ k ∈ t, ∀ l ∈ t, ∑ p ∈ s, B k p * B l p = if k = l then 1 else 0) :
    (∀ k ∈ t, ∑ p ∈ s, B k p * x p = c k) ∧ ∑ p ∈ s, x p ^ 2 = ∑ k ∈ t, c k ^ 2 := by
  have hip : ∀ k ∈ t, ∑ p ∈ s, B k p * x p = c k := by
    intro k hk
    calc ∑ p ∈ s, B k p * x p = ∑ p ∈ s, ∑ l ∈ t, c l * (B k p * B l p) := by
          refine sum_congr rfl fun p hp => ?_
          rw [hspan p hp, Finset.mul_sum]; exact sum_congr rfl fun l _ => by ring
      _ = ∑ l ∈ t, c l * ∑ p ∈ s, B k p * B l p := by
          rw [Finset.sum_comm]; exact sum_congr rfl fun l _ => by rw [Finset.mul_sum]
      _ = ∑ l ∈ t, c l * (if k = l then 1 else 0) := sum_congr rfl fun l hl => by rw [horth k hk l hl]
      _ = c k := by simp [hk]
  refine ⟨hip, ?_⟩
  calc ∑ p ∈ s, x p ^ 2 = ∑ p ∈ s, ∑ k ∈ t, c k * (B k p * x p) := by
        refine sum_congr rfl fun p hp => ?_
        rw [sq]; nth_rewrite 1 [hspan p hp]; rw [Finset.sum_mul]; exact sum_congr rfl fun l _ => by ring
    _ = ∑ k ∈ t, c k * ∑ p ∈ s, B k p * x p := by
        rw [Finset.sum_comm]; exact sum_congr rfl fun l _ => by rw [Finset.mul_sum]
    _ = ∑ k ∈ t, c k ^ 2 := sum_congr rfl fun k hk => by rw [hip k hk, sq]

theorem quad4_ptB_prod (dA dB : Nat) (f : Nat → Nat → Nat → Nat → R) (u v : Nat → R) :
    quad4 dA dB (ptB f) (fun a b => u a * v b) = quad4 dA dB f (fun a b => u a * v b) := by
  simp only [quad4_eq, ptB]
  refine sum_congr rfl fun a _ => ?_
  rw [Finset.sum_comm]
  conv_rhs => rw [Finset.sum_comm]
  refine sum_congr rfl fun a' _ => ?_
  rw [Finset.sum_comm]
  exact sum_congr rfl fun b _ => sum_congr rfl fun b' _ => by ring

theorem quad4_mixPT (dA dB : Nat) (p : R) (f : Nat → Nat → Nat → Nat → R) (x : Nat → Nat → R) :
    quad4 dA dB (mixPT p f) x = p * quad4 dA dB f x + (1 - p) * quad4 dA dB (ptB f) x := by
  simp only [quad4_eq, mixPT, Finset.mul_sum, ← Finset.sum_add_distrib]
  exact sum_congr rfl fun a _ => sum_congr rfl fun b _ => sum_congr rfl fun a' _ => sum_congr rfl fun b' _ => by ring

end bip


/-! ### numerical range: Rayleigh quotient of the Hermitian part -/

/-- in theorem files the model's conjugation is `star` -/
scoped instance starConj {R : Type} [Star R] : Conj R := ⟨star⟩

theorem conj_eq_star {R : Type} [Star R] (a : R) : conj a = star a := rfl

section nr
variable {R : Type} [CommRing R] [StarRing R]
open Finset

/-- `y† A y` -/
def rayleigh (n : Nat) (A : Nat → Nat → R) (y : Nat → R) : R :=
  ∑ i ∈ range n, ∑ j ∈ range n, star (y i) * A i j * y j

theorem rayleigh_hermPart (n : Nat) (w : R) (A : Nat → Nat → R) (y : Nat → R) :
    rayleigh n (hermPart w A) y = w * rayleigh n A y + star (w * rayleigh n A y) := by
  have key : star (w * rayleigh n A y)
      = ∑ i ∈ range n, ∑ j ∈ range n, star w * (y j * star (A j i) * star (y i)) := by
    simp only [rayleigh, star_mul', star_sum, star_star, Finset.mul_sum]
    exact Finset.sum_comm
  rw [key]
  simp only [rayleigh, hermPart, conj_eq_star, Finset.mul_sum, ← Finset.sum_add_distrib]
  exact sum_congr rfl fun i _ => sum_congr rfl fun j _ => by ring

end nr

/-! ### structure classes: arithmetic and list shuffles -/

theorem two_mul_nOff (n : Nat) : 2 * nOff n = n * (n - 1) := by
  unfold nOff
  have h : Even (n * (n - 1)) := by
    cases n with
    | zero => simp
    | succ m => simpa [Nat.mul_comm] using Nat.even_mul_succ_self m
  obtain ⟨c, hc⟩ := h
  omega

theorem sq_sub_two_nOff (n : Nat) : n * n - 2 * nOff n = n := by
  rw [two_mul_nOff]
  cases n with
  | zero => rfl
  | succ m => simp [Nat.mul_succ]

theorem nOff_add_self (n : Nat) : nOff n + n = n * (n + 1) / 2 := by
  have h := two_mul_nOff n
  have h2 : n * (n + 1) = n * (n - 1) + 2 * n := by
    cases n with
    | zero => rfl
    | succ m => simp [Nat.mul_succ, Nat.succ_mul]; ring
  omega

section lists
variable {α : Type} [Zero α]

theorem symSelect_symEmbed (n : Nat) (x : List α) (h : nOff n ≤ x.length) :
    symSelect n (symEmbed n x) = x := by
  unfold symSelect symEmbed
  have h1 : (x.take (nOff n)).length = nOff n := by simp [h]
  have e : 2 * nOff n = (x.take (nOff n) ++ List.replicate (nOff n) (0 : α)).length := by simp [h]; omega
  rw [List.append_assoc, List.take_append_of_le_length (by simp [h]), List.take_of_length_le (by simp [h]),
    ← List.append_assoc, e, List.drop_left]
  exact List.take_append_drop _ _

theorem symEmbed_symSelect (n : Nat) (v : List α) (hlen : 2 * nOff n ≤ v.length)
    (hz : (v.drop (nOff n)).take (nOff n) = List.replicate (nOff n) 0) :
    symEmbed n (symSelect n v) = v := by
  unfold symSelect symEmbed
  have h1 : (v.take (nOff n)).length = nOff n := by simp; omega
  rw [List.take_append_of_le_length (by omega), List.take_of_length_le (by omega)]
  have : List.drop (nOff n) (List.take (nOff n) v ++ List.drop (2 * nOff n) v) = List.drop (2 * nOff n) v :=
    List.drop_left' h1
  rw [this, ← hz]
  have : List.drop (2 * nOff n) v = List.drop (nOff n) (List.drop (nOff n) v) := by
    rw [List.drop_drop]; congr 1; omega
  rw [this, List.append_assoc, List.take_append_drop, List.take_append_drop]

theorem getD_flatMap_range (d : α) (m n : Nat) (g : Nat → Nat → α) (a b : Nat) (ha : a < m) (hb : b < n) :
    ((List.range m).flatMap fun a => (List.range n).map (g a)).getD (a * n + b) d = g a b := by
  induction m with
  | zero => omega
  | succ m ih =>
    have hlen : ((List.range m).flatMap fun a => (List.range n).map (g a)).length = m * n := by
      clear ih ha
      induction m with
      | zero => simp
      | succ k ihk => simp [List.range_succ, List.flatMap_append, ihk, Nat.succ_mul]
    rw [List.range_succ, List.flatMap_append]
    by_cases h : a < m
    · have hlt : a * n + b < m * n := by
        calc a * n + b < a * n + n := by omega
          _ = (a + 1) * n := by ring
          _ ≤ m * n := Nat.mul_le_mul_right _ h
      rw [List.getD_eq_getElem?_getD, List.getElem?_append_left (by rw [hlen]; exact hlt), ← List.getD_eq_getElem?_getD]
      exact ih h
    · have ham : a = m := by omega
      subst ham
      rw [List.getD_eq_getElem?_getD, List.getElem?_append_right (by rw [hlen]; omega), hlen]
      simp [hb]

end lists

section block
variable {R : Type} [CommRing R]
open Finset

/-- Frobenius inner product of two `np.block([[r,-i],[i,r]])` forms `= 2·Re tr(A†B)` -/
theorem blockRealify_inner (N1 N2 : Nat) (re im re' im' : Nat → Nat → R) :
    ∑ p ∈ range (N1 + N1), ∑ q ∈ range (N2 + N2),
        blockRealify N1 N2 re im p q * blockRealify N1 N2 re' im' p q
      = 2 * ∑ a ∈ range N1, ∑ b ∈ range N2, (re a b * re' a b + im a b * im' a b) := by
  rw [Finset.sum_range_add]
  have hq : ∀ (F : Nat → R), ∑ q ∈ range (N2 + N2), F q = ∑ q ∈ range N2, F q + ∑ q ∈ range N2, F (N2 + q) :=
    fun F => Finset.sum_range_add F N2 N2
  simp only [hq]
  have e1 : ∀ a ∈ range N1, ∀ b ∈ range N2,
      blockRealify N1 N2 re im a b = re a b ∧ blockRealify N1 N2 re im a (N2 + b) = -im a b
      ∧ blockRealify N1 N2 re im (N1 + a) b = im a b ∧ blockRealify N1 N2 re im (N1 + a) (N2 + b) = re a b := by
    intro a ha b hb
    rw [Finset.mem_range] at ha hb
    simp [blockRealify, ha, hb]
  have e2 : ∀ a ∈ range N1, ∀ b ∈ range N2,
      blockRealify N1 N2 re' im' a b = re' a b ∧ blockRealify N1 N2 re' im' a (N2 + b) = -im' a b
      ∧ blockRealify N1 N2 re' im' (N1 + a) b = im' a b ∧ blockRealify N1 N2 re' im' (N1 + a) (N2 + b) = re' a b := by
    intro a ha b hb
    rw [Finset.mem_range] at ha hb
    simp [blockRealify, ha, hb]
  rw [Finset.mul_sum, ← Finset.sum_add_distrib]
  refine sum_congr rfl fun a ha => ?_
  rw [Finset.mul_sum, ← Finset.sum_add_distrib, ← Finset.sum_add_distrib, ← Finset.sum_add_distrib]
  refine sum_congr rfl fun b hb => ?_
  obtain ⟨h1, h2, h3, h4⟩ := e1 a ha b hb
  obtain ⟨k1, k2, k3, k4⟩ := e2 a ha b hb
  rw [h1, h2, h3, h4, k1, k2, k3, k4]; ring

end block

end Numqi.MatrixSpace
