/-
Helper lemmas for the boundary model (C06).
-/
import Mathlib.Tactic
import Mathlib.Algebra.BigOperators.Fin
import Mathlib.LinearAlgebra.Matrix.PosDef
import Mathlib.Analysis.Matrix.Order
import Mathlib.Data.Complex.Basic
import Mathlib.Analysis.Complex.Order
import Mathlib.Order.ConditionallyCompleteLattice.Basic
import Mathlib.GroupTheory.Perm.Fin
import Mathlib.Data.Fin.Tuple.Basic
import NumqiModel.Boundary

namespace Numqi.Boundary
open Matrix
open scoped ComplexOrder

/-- in theorem files the model's conjugation is `star` -/
scoped instance starConj {R : Type} [Star R] : Conj R := ⟨star⟩

theorem conj_eq_star {R : Type} [Star R] (a : R) : conj a = star a := rfl

theorem sumFin_eq {M : Type} [AddCommMonoid M] {n : ℕ} (f : Fin n → M) : sumFin f = ∑ i, f i := by
  unfold sumFin
  have h : ((List.finRange n).map f).foldr (· + ·) 0 = ((List.finRange n).map f).sum := rfl
  rw [h, Fin.sum_univ_def]

/-! ### the threshold lemma for one Hermitian direction -/

section threshold
variable {n : Type} [Fintype n] [DecidableEq n]

/-- `x†((c·1 + β·v))x = c·x†x + β·x†vx` -/
theorem quad_affine (c β : ℂ) (v : Matrix n n ℂ) (x : n → ℂ) :
    star x ⬝ᵥ ((c • (1 : Matrix n n ℂ) + β • v) *ᵥ x) = c * (star x ⬝ᵥ x) + β * (star x ⬝ᵥ (v *ᵥ x)) := by
  rw [add_mulVec, dotProduct_add, smul_mulVec, smul_mulVec, one_mulVec, dotProduct_smul, dotProduct_smul]
  simp [smul_eq_mul]

/-- a positive-semidefinite `c·1 + β·v`, tested on `x` with `x†x = s` and `x†vx = l`, gives `0 ≤ c·s + β·l` -/
theorem affine_rayleigh_nonneg (c β s l : ℝ) (v : Matrix n n ℂ) (x : n → ℂ) (hs : star x ⬝ᵥ x = (s : ℂ))
    (hl : star x ⬝ᵥ (v *ᵥ x) = (l : ℂ)) (h : ((c : ℂ) • (1 : Matrix n n ℂ) + (β : ℂ) • v).PosSemidef) :
    0 ≤ c * s + β * l := by
  have h1 := h.dotProduct_mulVec_nonneg x
  rw [quad_affine, hs, hl] at h1
  have : ((c : ℂ) * (s : ℂ) + (β : ℂ) * (l : ℂ)) = ((c * s + β * l : ℝ) : ℂ) := by push_cast; ring
  rw [this] at h1; exact_mod_cast h1

/-- **threshold lemma**: `v` with extreme Rayleigh values `lmin < 0 < lmax` (both attained on unit vectors);
`c·1 + β·v ⪰ 0` iff `-c/lmax ≤ β ≤ -c/lmin`. -/
theorem psd_affine_iff (c : ℝ) (v : Matrix n n ℂ) (lmin lmax : ℝ) (hneg : lmin < 0) (hpos : 0 < lmax)
    (hlo : (v - (lmin : ℂ) • (1 : Matrix n n ℂ)).PosSemidef) (hhi : ((lmax : ℂ) • (1 : Matrix n n ℂ) - v).PosSemidef)
    (xlo xhi : n → ℂ) (hxlo : star xlo ⬝ᵥ xlo = 1) (halo : star xlo ⬝ᵥ (v *ᵥ xlo) = (lmin : ℂ))
    (hxhi : star xhi ⬝ᵥ xhi = 1) (hahi : star xhi ⬝ᵥ (v *ᵥ xhi) = (lmax : ℂ)) (β : ℝ) :
    ((c : ℂ) • (1 : Matrix n n ℂ) + (β : ℂ) • v).PosSemidef ↔ -c / lmax ≤ β ∧ β ≤ -c / lmin := by
  constructor
  · intro h
    have h1 := affine_rayleigh_nonneg c β 1 lmin v xlo (by rw [hxlo, Complex.ofReal_one]) halo h
    have h2 := affine_rayleigh_nonneg c β 1 lmax v xhi (by rw [hxhi, Complex.ofReal_one]) hahi h
    constructor
    · rw [div_le_iff₀ hpos]; linarith
    · rw [le_div_iff_of_neg hneg]; linarith
  · rintro ⟨hl, hu⟩
    rw [div_le_iff₀ hpos] at hl
    rw [le_div_iff_of_neg hneg] at hu
    rcases le_total 0 β with hb | hb
    · -- β ≥ 0 : c·1 + β v = β (v - lmin 1) + (c + β lmin) 1
      have e : (c : ℂ) • (1 : Matrix n n ℂ) + (β : ℂ) • v
          = (β : ℂ) • (v - (lmin : ℂ) • (1 : Matrix n n ℂ)) + ((c + β * lmin : ℝ) : ℂ) • (1 : Matrix n n ℂ) := by
        push_cast; module
      rw [e]
      refine (hlo.smul (by exact_mod_cast hb)).add (PosSemidef.one.smul ?_)
      have : (0 : ℝ) ≤ c + β * lmin := by linarith
      exact_mod_cast this
    · have e : (c : ℂ) • (1 : Matrix n n ℂ) + (β : ℂ) • v
          = ((-β : ℝ) : ℂ) • ((lmax : ℂ) • (1 : Matrix n n ℂ) - v) + ((c + β * lmax : ℝ) : ℂ) • (1 : Matrix n n ℂ) := by
        push_cast; module
      rw [e]
      refine (hhi.smul ?_).add (PosSemidef.one.smul ?_)
      · have : (0 : ℝ) ≤ -β := by linarith
        exact_mod_cast this
      · have : (0 : ℝ) ≤ c + β * lmax := by linarith
        exact_mod_cast this

end threshold

/-! ### the ray from the maximally mixed state -/

section ray
variable {n : Type} [Fintype n] [DecidableEq n]

/-- `1/N + β·v̂`, `v̂ = (ρ - 1/N)/d`: the point at Gell-Mann distance `β` on the ray of `ρ` (`d = dm_norm`) -/
noncomputable def rayPoint (N d : ℝ) (ρ : Matrix n n ℂ) (β : ℝ) : Matrix n n ℂ :=
  ((1 / N : ℝ) : ℂ) • (1 : Matrix n n ℂ) + (β : ℂ) • (((1 / d : ℝ) : ℂ) • (ρ - ((1 / N : ℝ) : ℂ) • (1 : Matrix n n ℂ)))

end ray

/-! ### partial transpose -/

section pt
variable {dA dB : ℕ}

theorem ptB_add (M N : Matrix (Fin dA × Fin dB) (Fin dA × Fin dB) ℂ) :
    (ptB (M + N) : Matrix (Fin dA × Fin dB) (Fin dA × Fin dB) ℂ) = ptB M + ptB N := by
  ext p q; simp [ptB]

theorem ptB_sub (M N : Matrix (Fin dA × Fin dB) (Fin dA × Fin dB) ℂ) :
    (ptB (M - N) : Matrix (Fin dA × Fin dB) (Fin dA × Fin dB) ℂ) = ptB M - ptB N := by
  ext p q; simp [ptB]

theorem ptB_smul (c : ℂ) (M : Matrix (Fin dA × Fin dB) (Fin dA × Fin dB) ℂ) :
    (ptB (c • M) : Matrix (Fin dA × Fin dB) (Fin dA × Fin dB) ℂ) = c • ptB M := by
  ext p q; simp [ptB]

theorem ptB_one : (ptB (1 : Matrix (Fin dA × Fin dB) (Fin dA × Fin dB) ℂ) : Matrix (Fin dA × Fin dB) (Fin dA × Fin dB) ℂ) = (1 : Matrix (Fin dA × Fin dB) (Fin dA × Fin dB) ℂ) := by
  ext p q
  simp only [ptB, Matrix.one_apply, Prod.mk.injEq]
  by_cases h : p = q
  · subst h; simp
  · have : ¬ (p.1 = q.1 ∧ q.2 = p.2) := fun ⟨h1, h2⟩ => h (Prod.ext h1 h2.symm)
    rw [if_neg this]; exact (Matrix.one_apply_ne h).symm

/-- the model's `ptB`, typed as a `Matrix` (reducible: it *is* `ptB`) -/
abbrev ptM (M : Matrix (Fin dA × Fin dB) (Fin dA × Fin dB) ℂ) : Matrix (Fin dA × Fin dB) (Fin dA × Fin dB) ℂ := ptB M

end pt

/-- the partial transpose commutes with the ray: `(1/N + β v̂)^Γ = 1/N + β (v̂)^Γ` -/
theorem ptB_rayPoint {dA dB : ℕ} (N d : ℝ) (ρ : Matrix (Fin dA × Fin dB) (Fin dA × Fin dB) ℂ) (β : ℝ) :
    (ptB (rayPoint N d ρ β) : Matrix (Fin dA × Fin dB) (Fin dA × Fin dB) ℂ) = rayPoint N d (ptB ρ) β := by
  unfold rayPoint
  rw [ptB_add, ptB_smul, ptB_smul, ptB_smul, ptB_sub, ptB_smul, ptB_one]
  rfl

/-! ### Gell-Mann norm and interpolation -/

section interp
variable {R : Type} [CommRing R] [StarRing R] {n : ℕ}

/-- the traceless part of the interpolated matrix is `α` times the traceless part of `ρ` (no trace condition needed) -/
theorem gmNorm2_interp (invN half α : R) (hN : (n : R) * invN = 1) (hα : star α = α) (ρ : Fin n → Fin n → R) :
    gmNorm2 invN half (interp invN α ρ) = α * α * gmNorm2 invN half ρ := by
  unfold gmNorm2
  simp only [sumFin_eq, conj_eq_star]
  have htr : (∑ l : Fin n, interp invN α ρ l l) * invN = α * ((∑ l : Fin n, ρ l l) * invN) + (1 - α) * invN := by
    simp only [interp, if_true, Finset.sum_add_distrib, ← Finset.mul_sum, Finset.sum_const, Finset.card_univ,
      Fintype.card_fin, nsmul_eq_mul]
    linear_combination ((1 - α) * invN) * hN
  have hX : ∀ r c : Fin n, interp invN α ρ r c - (if r = c then (∑ l : Fin n, interp invN α ρ l l) * invN else 0)
      = α * (ρ r c - (if r = c then (∑ l : Fin n, ρ l l) * invN else 0)) := by
    intro r c
    rw [htr]; unfold interp; split_ifs <;> ring
  simp only [hX, star_mul', hα]
  rw [← mul_assoc, Finset.mul_sum]
  congr 1
  refine Finset.sum_congr rfl fun r _ => ?_
  rw [Finset.mul_sum]
  exact Finset.sum_congr rfl fun c _ => by ring

end interp

/-! ### product projectors and their mixtures -/

section sep
variable {dA dB : ℕ}

theorem prodProj_eq_vecMulVec (a : Fin dA → ℂ) (b : Fin dB → ℂ) :
    (prodProj a b : Matrix (Fin dA × Fin dB) (Fin dA × Fin dB) ℂ)
      = vecMulVec (fun p : Fin dA × Fin dB => a p.1 * b p.2) (star fun p : Fin dA × Fin dB => a p.1 * b p.2) := by
  ext p q
  simp only [prodProj, conj_eq_star, vecMulVec_apply, Pi.star_apply, star_mul']
  ring

theorem prodProj_posSemidef (a : Fin dA → ℂ) (b : Fin dB → ℂ) :
    Matrix.PosSemidef (Matrix.of (prodProj a b) : Matrix (Fin dA × Fin dB) (Fin dA × Fin dB) ℂ) := by
  have : (Matrix.of (prodProj a b) : Matrix (Fin dA × Fin dB) (Fin dA × Fin dB) ℂ)
      = vecMulVec (fun p : Fin dA × Fin dB => a p.1 * b p.2) (star fun p : Fin dA × Fin dB => a p.1 * b p.2) :=
    prodProj_eq_vecMulVec a b
  rw [this]; exact posSemidef_vecMulVec_self_star _

/-- the partial transpose of a product projector is the product projector with `b` conjugated -/
theorem ptB_prodProj (a : Fin dA → ℂ) (b : Fin dB → ℂ) :
    ptB (prodProj a b) = prodProj a (fun j => star (b j)) := by
  funext p q
  simp only [ptB, prodProj, conj_eq_star, star_star]
  ring

theorem mixture_eq_sum {K : ℕ} (lam : Fin K → ℂ) (a : Fin K → Fin dA → ℂ) (b : Fin K → Fin dB → ℂ) :
    (Matrix.of (mixture lam a b) : Matrix (Fin dA × Fin dB) (Fin dA × Fin dB) ℂ)
      = ∑ i, lam i • (Matrix.of (prodProj (a i) (b i)) : Matrix (Fin dA × Fin dB) (Fin dA × Fin dB) ℂ) := by
  ext p q
  simp only [mixture, sumFin_eq, Matrix.sum_apply, Matrix.smul_apply, smul_eq_mul, Matrix.of_apply]

theorem ptB_mixture {K : ℕ} (lam : Fin K → ℂ) (a : Fin K → Fin dA → ℂ) (b : Fin K → Fin dB → ℂ) :
    ptB (mixture lam a b) = mixture lam a (fun i j => star (b i j)) := by
  funext p q
  simp only [ptB, mixture]
  congr 1
  funext i
  have := congrFun (congrFun (ptB_prodProj (a i) (b i)) p) q
  simp only [ptB] at this
  rw [this]

theorem mixture_posSemidef {K : ℕ} (lam : Fin K → ℂ) (hlam : ∀ i, 0 ≤ lam i) (a : Fin K → Fin dA → ℂ) (b : Fin K → Fin dB → ℂ) :
    Matrix.PosSemidef (Matrix.of (mixture lam a b) : Matrix (Fin dA × Fin dB) (Fin dA × Fin dB) ℂ) := by
  rw [mixture_eq_sum]
  exact posSemidef_sum _ fun i _ => (prodProj_posSemidef (a i) (b i)).smul (hlam i)

end sep

/-! ### symmetric extensions: tracing out one copy -/

/-- summing a positive-semidefinite matrix over a family of index maps (a partial trace) keeps it positive semidefinite -/
theorem posSemidef_sum_reindex {m n ι : Type} [Fintype m] [Fintype n] [Fintype ι] (σ : Matrix m m ℂ) (h : σ.PosSemidef)
    (f : ι → n → m) : Matrix.PosSemidef (fun p q => ∑ r, σ (f r p) (f r q) : Matrix n n ℂ) := by
  have e : (fun p q => ∑ r, σ (f r p) (f r q) : Matrix n n ℂ) = ∑ r, σ.submatrix (f r) (f r) := by
    ext p q
    simp only [Matrix.sum_apply, Matrix.submatrix_apply]
  rw [e]
  exact posSemidef_sum _ fun r _ => h.submatrix _

section ext
variable {dA dB : ℕ}

/-- `σ` on `A ⊗ B^{⊗k}` is a symmetric `k`-extension of `ρ` (positive, invariant under permutations of the copies,
reducing to `ρ` on `A` and the last copy) -/
def IsSymExt (k : ℕ) (ρ : Matrix (Fin dA × Fin dB) (Fin dA × Fin dB) ℂ)
    (σ : Matrix (Fin dA × (Fin (k + 1) → Fin dB)) (Fin dA × (Fin (k + 1) → Fin dB)) ℂ) : Prop :=
  σ.PosSemidef ∧ (∀ π : Equiv.Perm (Fin (k + 1)), ∀ p q, σ (p.1, p.2 ∘ π) (q.1, q.2 ∘ π) = σ p q) ∧
    ∀ p q, ρ p q = ∑ r : Fin k → Fin dB, σ (p.1, Fin.snoc r p.2) (q.1, Fin.snoc r q.2)

/-- the partial trace over the first copy -/
def traceFirst {k : ℕ} (σ : Matrix (Fin dA × (Fin (k + 2) → Fin dB)) (Fin dA × (Fin (k + 2) → Fin dB)) ℂ) :
    Matrix (Fin dA × (Fin (k + 1) → Fin dB)) (Fin dA × (Fin (k + 1) → Fin dB)) ℂ :=
  fun p q => ∑ x : Fin dB, σ (p.1, Fin.cons x p.2) (q.1, Fin.cons x q.2)

theorem traceFirst_posSemidef {k : ℕ} (σ : Matrix (Fin dA × (Fin (k + 2) → Fin dB)) (Fin dA × (Fin (k + 2) → Fin dB)) ℂ)
    (h : σ.PosSemidef) : (traceFirst σ).PosSemidef :=
  posSemidef_sum_reindex σ h fun (x : Fin dB) (p : Fin dA × (Fin (k + 1) → Fin dB)) => (p.1, Fin.cons x p.2)

/-- **a `(k+1)`-extension traced over one copy is a `k`-extension** -/
theorem isSymExt_traceFirst {k : ℕ} (ρ : Matrix (Fin dA × Fin dB) (Fin dA × Fin dB) ℂ)
    (σ : Matrix (Fin dA × (Fin (k + 2) → Fin dB)) (Fin dA × (Fin (k + 2) → Fin dB)) ℂ) (h : IsSymExt (k + 1) ρ σ) :
    IsSymExt k ρ (traceFirst σ) := by
  obtain ⟨hpsd, hsym, hred⟩ := h
  refine ⟨traceFirst_posSemidef σ hpsd, ?_, ?_⟩
  · intro π p q
    simp only [traceFirst]
    refine Finset.sum_congr rfl fun x _ => ?_
    -- extend π to the (k+2) copies, fixing the first
    have key : ∀ f : Fin (k + 1) → Fin dB,
        (Fin.cons x (f ∘ π) : Fin (k + 2) → Fin dB) = (Fin.cons x f : Fin (k + 2) → Fin dB) ∘ (Equiv.Perm.decomposeFin.symm (0, π)) := by
      intro f
      funext i
      refine Fin.cases ?_ (fun j => ?_) i
      · simp [Equiv.Perm.decomposeFin_symm_apply_zero]
      · simp [Equiv.Perm.decomposeFin_symm_apply_succ]
    rw [key p.2, key q.2]
    exact hsym (Equiv.Perm.decomposeFin.symm (0, π)) (p.1, Fin.cons x p.2) (q.1, Fin.cons x q.2)
  · intro p q
    rw [hred p q]
    simp only [traceFirst]
    rw [Finset.sum_comm]
    rw [← (Fin.consEquiv (fun _ : Fin (k + 1) => Fin dB)).sum_comp, Fintype.sum_prod_type]
    refine Finset.sum_congr rfl fun x _ => Finset.sum_congr rfl fun r _ => ?_
    show σ (p.1, Fin.snoc (Fin.cons x r) p.2) (q.1, Fin.snoc (Fin.cons x r) q.2) = σ (p.1, Fin.cons x (Fin.snoc r p.2)) (q.1, Fin.cons x (Fin.snoc r q.2))
    rw [Fin.cons_snoc_eq_snoc_cons, Fin.cons_snoc_eq_snoc_cons]

/-- the reduction of an operator on `A ⊗ B^{⊗(k+1)}` to `A` and the last copy -/
def reduceLast {k : ℕ} (σ : Matrix (Fin dA × (Fin (k + 1) → Fin dB)) (Fin dA × (Fin (k + 1) → Fin dB)) ℂ) :
    Matrix (Fin dA × Fin dB) (Fin dA × Fin dB) ℂ :=
  fun p q => ∑ r : Fin k → Fin dB, σ (p.1, Fin.snoc r p.2) (q.1, Fin.snoc r q.2)

theorem reduceLast_posSemidef {k : ℕ} (σ : Matrix (Fin dA × (Fin (k + 1) → Fin dB)) (Fin dA × (Fin (k + 1) → Fin dB)) ℂ)
    (h : σ.PosSemidef) : (reduceLast σ).PosSemidef :=
  posSemidef_sum_reindex σ h fun (r : Fin k → Fin dB) (p : Fin dA × Fin dB) => (p.1, Fin.snoc r p.2)

theorem isSymExt_posSemidef {k : ℕ} (ρ : Matrix (Fin dA × Fin dB) (Fin dA × Fin dB) ℂ)
    (σ : Matrix (Fin dA × (Fin (k + 1) → Fin dB)) (Fin dA × (Fin (k + 1) → Fin dB)) ℂ) (h : IsSymExt k ρ σ) :
    ρ.PosSemidef := by
  have : ρ = reduceLast σ := by ext p q; exact h.2.2 p q
  rw [this]; exact reduceLast_posSemidef σ h.1

end ext

/-! ### star-shaped sets and boundary lengths -/

section star
variable {E : Type} [AddCommGroup E] [Module ℝ E]

/-- the values `β ≥ 0` for which `c + β·v` lies in `S` -/
def feasible (S : Set E) (c v : E) : Set ℝ := {β | 0 ≤ β ∧ c + β • v ∈ S}

/-- `S` is star-shaped about `c` -/
def StarShaped (S : Set E) (c : E) : Prop := ∀ x ∈ S, ∀ t : ℝ, 0 ≤ t → t ≤ 1 → c + t • (x - c) ∈ S

theorem feasible_mono {A B : Set E} (h : A ⊆ B) (c v : E) : feasible A c v ⊆ feasible B c v :=
  fun _ hβ => ⟨hβ.1, h hβ.2⟩

theorem feasible_interval {S : Set E} {c : E} (hS : StarShaped S c) (v : E) {β β' : ℝ}
    (hβ : β ∈ feasible S c v) (h0 : 0 ≤ β') (hle : β' ≤ β) : β' ∈ feasible S c v := by
  refine ⟨h0, ?_⟩
  rcases eq_or_lt_of_le hβ.1 with h | h
  · have : β' = β := le_antisymm hle (by rw [← h]; exact h0)
    rw [this]; exact hβ.2
  · have := hS _ hβ.2 (β' / β) (div_nonneg h0 h.le) ((div_le_one h).2 hle)
    have e : c + (β' / β) • (c + β • v - c) = c + β' • v := by
      rw [add_sub_cancel_left, smul_smul, div_mul_cancel₀ _ h.ne']
    rwa [e] at this

end star

end Numqi.Boundary
