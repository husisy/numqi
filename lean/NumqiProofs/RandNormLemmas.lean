/-
C10 helper (validity): the normalisation steps of `NumqiModel/RandNorm.lean` at `K = ℂ`, bridged to Mathlib matrices.
-/
import Mathlib.Tactic
import Mathlib.LinearAlgebra.Matrix.PosDef
import Mathlib.LinearAlgebra.UnitaryGroup
import Mathlib.Analysis.Complex.Order
import Mathlib.Analysis.SpecialFunctions.Pow.Real
import NumqiModel.RandNorm

namespace Numqi.RandNorm
open Matrix
open scoped ComplexOrder

/-- conjugation of the model is `star` on ℂ -/
scoped instance conjComplex : Conj ℂ := ⟨star⟩

/-- the real operations on ℂ (acting on the real part) -/
noncomputable scoped instance randOpsComplex : RandOps ℂ where
  rsqrt z := ((Real.sqrt z.re : ℝ) : ℂ)
  invSqrt0 z := ((1 / Real.sqrt (max 0 z.re) : ℝ) : ℂ)
  rootN z n := ((z.re ^ ((1 : ℝ) / n) : ℝ) : ℂ)
  sgn1 z := if z.re < 0 then -1 else 1

theorem conj_eq_star (z : ℂ) : conj z = star z := rfl

theorem sumR_eq (n : Nat) (f : Nat → ℂ) : sumR n f = ∑ i : Fin n, f i.val := by
  unfold sumR
  induction n with
  | zero => simp
  | succ n ih => rw [List.range_succ, List.map_append, List.sum_append, ih, Fin.sum_univ_castSucc]; simp

/-- a matrix function as a Mathlib matrix -/
def toMat (m n : Nat) (f : Nat → Nat → ℂ) : Matrix (Fin m) (Fin n) ℂ := Matrix.of fun i j => f i.val j.val

theorem toMat_gram (n k : Nat) (G : Nat → Nat → ℂ) : toMat n n (gram k G) = toMat n k G * (toMat n k G)ᴴ := by
  ext i j
  simp [toMat, gram, sumR_eq, Matrix.mul_apply, conj_eq_star]

theorem traceN_eq (n : Nat) (A : Nat → Nat → ℂ) : traceN n A = (toMat n n A).trace := by
  simp [traceN, sumR_eq, Matrix.trace, toMat]

theorem toMat_specMat (n : Nat) (V : Nat → Nat → ℂ) (w : Nat → ℂ) :
    toMat n n (specMat n V w) = toMat n n V * Matrix.diagonal (fun a : Fin n => w a.val) * (toMat n n V)ᴴ := by
  ext i j
  simp [toMat, specMat, sumR_eq, Matrix.mul_apply, Matrix.diagonal_apply, conj_eq_star]

/-- real weights give a Hermitian matrix -/
theorem specMat_hermitian (n : Nat) (V : Nat → Nat → ℂ) (w : Nat → ℂ) (hw : ∀ a, star (w a) = w a) :
    (toMat n n (specMat n V w))ᴴ = toMat n n (specMat n V w) := by
  rw [toMat_specMat]
  simp only [Matrix.conjTranspose_mul, Matrix.conjTranspose_conjTranspose, Matrix.diagonal_conjTranspose, Matrix.mul_assoc]
  congr 3
  funext a
  exact hw a.val

theorem toMat_conj3 (n : Nat) (T A : Nat → Nat → ℂ) : toMat n n (conj3 n T A) = toMat n n T * toMat n n A * toMat n n T := by
  ext i j
  simp only [toMat, conj3, sumR_eq, Matrix.mul_apply, Matrix.of_apply, Finset.sum_mul]
  rw [Finset.sum_comm]

/-! ### unit vectors -/

theorem normSq_eq (n : Nat) (v : Nat → ℂ) : normSq n v = ((∑ i : Fin n, Complex.normSq (v i.val) : ℝ) : ℂ) := by
  simp only [normSq, sumR_eq, conj_eq_star]
  push_cast
  refine Finset.sum_congr rfl fun i _ => ?_
  rw [Complex.star_def, Complex.mul_conj]

theorem normSq_smul (n : Nat) (v : Nat → ℂ) (ρ : ℝ) : normSq n (fun i => v i * (ρ : ℂ)) = normSq n v * ((ρ * ρ : ℝ) : ℂ) := by
  simp only [normSq, sumR_eq, conj_eq_star]
  rw [Finset.sum_mul]
  refine Finset.sum_congr rfl fun i _ => ?_
  simp only [star_mul', Complex.star_def, Complex.conj_ofReal]
  push_cast; ring

theorem normSq_normalize (n : Nat) (v : Nat → ℂ) (h : normSq n v ≠ 0) : normSq n (normalize n v) = 1 := by
  have hS := normSq_eq n v
  set s : ℝ := ∑ i : Fin n, Complex.normSq (v i.val)
  have hs0 : 0 ≤ s := Finset.sum_nonneg fun i _ => Complex.normSq_nonneg _
  have hs : s ≠ 0 := fun e => h (by rw [hS, e]; simp)
  have : normalize n v = fun i => v i * (((Real.sqrt s)⁻¹ : ℝ) : ℂ) := by
    funext i
    show v i / ((Real.sqrt (normSq n v).re : ℝ) : ℂ) = _
    rw [hS, Complex.ofReal_re, div_eq_mul_inv, Complex.ofReal_inv]
  rw [this, normSq_smul, hS, ← Complex.ofReal_mul, ← mul_inv, Real.mul_self_sqrt hs0, mul_inv_cancel₀ hs, Complex.ofReal_one]

/-! ### ball -/

theorem ballPoint_normSq (n : Nat) (v : Nat → ℂ) (u : ℂ) (h : normSq n v ≠ 0) :
    normSq n (ballPoint n v u) = (((u.re ^ ((1 : ℝ) / n)) * (u.re ^ ((1 : ℝ) / n)) : ℝ) : ℂ) := by
  have : ballPoint n v u = fun i => normalize n v i * ((u.re ^ ((1 : ℝ) / n) : ℝ) : ℂ) := rfl
  rw [this, normSq_smul, normSq_normalize n v h, one_mul]

/-! ### sign fix -/

theorem toMat_signFix (n : Nat) (Q : Nat → Nat → ℂ) (d : Nat → ℂ) :
    toMat n n (signFix Q d) = toMat n n Q * Matrix.diagonal (fun j : Fin n => sgn1 (d j.val)) := by
  ext i j
  simp [toMat, signFix, Matrix.mul_apply, Matrix.diagonal_apply]

theorem sgn1_unimodular (z : ℂ) : star (sgn1 z) * sgn1 z = 1 := by
  show star (if z.re < 0 then (-1 : ℂ) else 1) * (if z.re < 0 then (-1 : ℂ) else 1) = 1
  split <;> simp

/-! ### density matrix -/

theorem toMat_densityMatrix (n k : Nat) (G : Nat → Nat → ℂ) :
    toMat n n (densityMatrix n k G) =
      ((toMat n k G * (toMat n k G)ᴴ).trace)⁻¹ • (toMat n k G * (toMat n k G)ᴴ) := by
  rw [← toMat_gram, ← traceN_eq]
  ext i j
  simp [toMat, densityMatrix, div_eq_inv_mul]

/-! ### inverse square root from the `eigh` contract -/

theorem invSqrt0_mul (x : ℝ) (hx : 0 < x) : invSqrt0 (x : ℂ) * (x : ℂ) * invSqrt0 (x : ℂ) = 1 := by
  show ((1 / Real.sqrt (max 0 (x : ℂ).re) : ℝ) : ℂ) * (x : ℂ) * ((1 / Real.sqrt (max 0 (x : ℂ).re) : ℝ) : ℂ) = 1
  rw [Complex.ofReal_re, max_eq_right hx.le, ← Complex.ofReal_mul, ← Complex.ofReal_mul, one_div, mul_right_comm, ← mul_inv,
    Real.mul_self_sqrt hx.le, inv_mul_cancel₀ hx.ne', Complex.ofReal_one]

/-- **`T S T = 1`** for `T = (V·diag(1/√λ))·Vᴴ` — from the contract of `np.linalg.eigh`: `V` unitary, `S = V·diag(λ)·Vᴴ`, `λ > 0` -/
theorem invSqrt_contract (n : Nat) (V : Nat → Nat → ℂ) (lam : Nat → ℝ) (S : Matrix (Fin n) (Fin n) ℂ)
    (hV : (toMat n n V)ᴴ * toMat n n V = 1) (hV' : toMat n n V * (toMat n n V)ᴴ = 1) (hpos : ∀ a, a < n → 0 < lam a)
    (hS : S = toMat n n V * Matrix.diagonal (fun a : Fin n => ((lam a.val : ℝ) : ℂ)) * (toMat n n V)ᴴ) :
    toMat n n (invSqrtMat n V fun a => (lam a : ℂ)) * S * toMat n n (invSqrtMat n V fun a => (lam a : ℂ)) = 1 := by
  unfold invSqrtMat
  rw [toMat_specMat, hS]
  set W := toMat n n V
  set D := Matrix.diagonal (fun a : Fin n => invSqrt0 ((lam a.val : ℝ) : ℂ))
  set L := Matrix.diagonal (fun a : Fin n => ((lam a.val : ℝ) : ℂ))
  have : W * D * Wᴴ * (W * L * Wᴴ) * (W * D * Wᴴ) = W * (D * (Wᴴ * W) * L * (Wᴴ * W) * D) * Wᴴ := by
    simp only [Matrix.mul_assoc]
  rw [this, hV, Matrix.mul_one, Matrix.mul_one]
  have hD : D * L * D = 1 := by
    simp only [D, L, Matrix.diagonal_mul_diagonal]
    rw [← Matrix.diagonal_one]
    congr 1
    funext a
    exact invSqrt0_mul (lam a.val) (hpos a.val a.isLt)
  rw [hD, Matrix.mul_one, hV']

theorem invSqrtMat_hermitian (n : Nat) (V : Nat → Nat → ℂ) (lam : Nat → ℝ) :
    (toMat n n (invSqrtMat n V fun a => (lam a : ℂ)))ᴴ = toMat n n (invSqrtMat n V fun a => (lam a : ℂ)) :=
  specMat_hermitian n V _ fun _ => Complex.conj_ofReal _

/-! ### POVM -/

theorem toMat_povm (n : Nat) (B : Nat → Nat → Nat → ℂ) (V : Nat → Nat → ℂ) (evl : Nat → ℂ) (s : Nat) :
    toMat n n (povm n B V evl s) =
      toMat n n (invSqrtMat n V evl) * (toMat n n (B s) * (toMat n n (B s))ᴴ) * toMat n n (invSqrtMat n V evl) := by
  unfold povm
  rw [toMat_conj3, toMat_gram]

theorem toMat_povmSum (n m : Nat) (B : Nat → Nat → Nat → ℂ) :
    toMat n n (povmSum n m B) = ∑ s : Fin m, toMat n n (B s.val) * (toMat n n (B s.val))ᴴ := by
  ext i j
  simp only [toMat, povmSum, sumR_eq, Matrix.of_apply, Matrix.sum_apply]
  refine Finset.sum_congr rfl fun s _ => ?_
  have := congrFun (congrFun (toMat_gram n n (B s.val)) i) j
  simpa [toMat] using this

/-! ### Kraus -/

theorem toMat_krausOut (dout din : Nat) (Z : Nat → Nat → Nat → ℂ) (Minv : Nat → Nat → ℂ) (s : Nat) :
    toMat dout din (krausOut din Z Minv s) = toMat dout din (Z s) * (toMat din din Minv)ᴴ := by
  ext a i
  simp [toMat, krausOut, sumR_eq, Matrix.mul_apply, conj_eq_star]

/-! ### Hermitian matrix with prescribed spectrum -/

theorem hermEig_hermitian (n : Nat) (V : Nat → Nat → ℂ) (lam : Nat → ℝ) :
    (toMat n n (hermEig n V fun a => (lam a : ℂ)))ᴴ = toMat n n (hermEig n V fun a => (lam a : ℂ)) :=
  specMat_hermitian n V _ fun _ => Complex.conj_ofReal _

/-! ### Choi operator -/

theorem choiOut_partial_trace (din dout r : Nat) (G T : Nat → Nat → ℂ) (i j : Nat) :
    sumR dout (fun a => choiOut din dout r G T (i * dout + a) (j * dout + a)) =
      sumR din fun k => sumR din fun l => conj (T k i) * choiPT din dout r G k l * T l j := by
  simp only [sumR_eq, choiOut, choiPT]
  have hdm : ∀ (x : Nat) (a : Fin dout), (x * dout + a.val) / dout = x ∧ (x * dout + a.val) % dout = a.val := by
    intro x a
    have hpos : 0 < dout := Nat.lt_of_le_of_lt (Nat.zero_le _) a.isLt
    constructor
    · rw [Nat.add_comm, Nat.add_mul_div_right _ _ hpos, Nat.div_eq_of_lt a.isLt, Nat.zero_add]
    · rw [Nat.add_comm, Nat.add_mul_mod_self_right, Nat.mod_eq_of_lt a.isLt]
  simp only [hdm]
  rw [Finset.sum_comm]
  refine Finset.sum_congr rfl fun k _ => ?_
  rw [Finset.sum_comm]
  refine Finset.sum_congr rfl fun l _ => ?_
  rw [Finset.mul_sum, Finset.sum_mul]

/-! ### adjacency matrix -/

theorem adjacency_symm (D : Nat → Nat → Nat) (i j : Nat) : adjacency D i j = adjacency D j i := by
  unfold adjacency; omega

theorem adjacency_diag (D : Nat → Nat → Nat) (i : Nat) : adjacency D i i = 0 := by
  simp [adjacency]

theorem adjacency_le_one (D : Nat → Nat → Nat) (hD : ∀ i j, D i j ≤ 1) (i j : Nat) : adjacency D i j ≤ 1 := by
  unfold adjacency
  have := hD i j; have := hD j i
  split <;> split <;> omega

/-! ### `rand_F2` -/

theorem f2Result_spec (nz no : Bool) : ∀ (draws : List (List Nat)) (r : List Nat) (k : Nat),
    f2Result nz no draws = some (r, k) →
      f2Rejected nz no r = false ∧ 1 ≤ k ∧ draws[k - 1]? = some r ∧ ∀ j, j < k - 1 → ∃ x, draws[j]? = some x ∧ f2Rejected nz no x = true := by
  intro draws
  induction draws with
  | nil => intro r k h; simp [f2Result] at h
  | cons x rest ih =>
    intro r k h
    by_cases hx : f2Rejected nz no x = true
    · simp only [f2Result, hx, if_true, Option.map_eq_some_iff] at h
      obtain ⟨⟨r', k'⟩, h', he⟩ := h
      simp only [Prod.mk.injEq] at he
      obtain ⟨rfl, rfl⟩ := he
      obtain ⟨a1, a2, a3, a4⟩ := ih r' k' h'
      refine ⟨a1, by omega, ?_, ?_⟩
      · have : k' + 1 - 1 = (k' - 1) + 1 := by omega
        rw [this, List.getElem?_cons_succ]; exact a3
      · intro j hj
        cases j with
        | zero => exact ⟨x, by simp, hx⟩
        | succ j => rw [List.getElem?_cons_succ]; exact a4 j (by omega)
    · have hx' : f2Rejected nz no x = false := by simpa using hx
      simp only [f2Result, hx', Bool.false_eq_true, if_false, Option.some.injEq, Prod.mk.injEq] at h
      obtain ⟨rfl, rfl⟩ := h
      exact ⟨hx', le_refl _, by simp, by intro j hj; omega⟩

end Numqi.RandNorm
