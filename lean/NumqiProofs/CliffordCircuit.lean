/-
C07: unitarity of the circuit operator, the tie to C03's `toUnitary` of the exported circuit,
and soundness of tableau extraction (`clifford_array_to_F2`).
-/
import NumqiProofs.CliffordGates
namespace Numqi.Clifford
open Numqi Matrix
variable {R : Type} [CommRing R]

/-! ### the unitary form `U† P U`, and the tie to C03's `toUnitary` -/

/-- with a unitary `U` the intertwining relation is `U† P U = answer` -/
theorem conj_of_inter [StarRing R] {n : Nat} (U P Q : Matrix (Bits n) (Bits n) R) (hU : Uᴴ * U = 1)
    (h : P * U = U * Q) : Uᴴ * P * U = Q := by
  rw [Matrix.mul_assoc, h, ← Matrix.mul_assoc, hU, Matrix.one_mul]

/-- an entry of a C03 gate list realises a recorded gate: well formed, and its operator is the gate's operator -/
def OpRealises (I h : R) {n : Nat} (g : Gate) (op : Numqi.Op n R) : Prop :=
  op.WF ∧ Matrix.of op.matrix = gateMatrixN I h n g

/-- for a C03 gate list that realises the record gate by gate, `Circuit.to_unitary` is `circuitUnitary` -/
theorem toUnitary_eq_circuitUnitary (I h : R) {n : Nat} (gates : List Gate) (ops : List (Numqi.Op n R))
    (hr : List.Forall₂ (OpRealises I h) gates ops) :
    Matrix.of (toUnitary ops) = circuitUnitary I h n gates := by
  have hwf : ∀ op ∈ ops, op.WF := by
    intro op hop
    induction hr with
    | nil => cases hop
    | cons h1 _ ih =>
      rcases List.mem_cons.1 hop with e | e
      · subst e; exact h1.1
      · exact ih e
  rw [C03.toUnitary_eq ops hwf]
  induction hr with
  | nil => simp [circuitMatrix_nil, circuitUnitary]
  | cons h1 _ ih =>
    rw [circuitMatrix_cons, circuitUnitary_cons, h1.2, ih (fun op hop => hwf op (List.mem_cons_of_mem _ hop))]

/-! ### the exported universal circuit, resolved by C03's `RawOp.compile` -/

/-- `to_universal_circuit` (`clifford.py:180-190`) as a raw C03 gate list: one-qubit gates as `single_qubit_gate(G, q)`,
two-qubit gates as `controlled_single_qubit_gate(base, q0, q1)`; the arrays are the flat row-major matrices -/
def exportRaw (I h : R) (g : Gate) : RawOp R :=
  match g.idx with
  | [q] => .unitary (tabulateMat (k := 1) ((if g.key = .H then h else 1) • gateMat1 I g.key)) [(q : Int)]
  | [q0, q1] => .control (tabulateMat (k := 1) (gateMat1 I g.key.base)) [(q0 : Int)] [(q1 : Int)]
  | _ => .custom #[]

/-- whatever C03's index resolution returns for an exported gate realises the recorded gate -/
theorem compile_exportRaw (I h : R) (n : Nat) (g : Gate) (hlen : g.idx.length = g.key.arity)
    (hlt : ∀ q ∈ g.idx, q < n) (op : Numqi.Op n R) (hc : (exportRaw I h g).compile n = some op) :
    OpRealises I h g op := by
  refine ⟨C03.compile_wf n _ op hc, ?_⟩
  obtain ⟨key, idx⟩ := g
  simp only at hlen hlt
  obtain ⟨n, rfl⟩ := compile_pos hc
  rcases idx_cases hlen with ⟨q0, rfl, _⟩ | ⟨q0, q1, rfl, _⟩
  · have hq : q0 < n + 1 := hlt q0 (by simp)
    simp only [exportRaw] at hc
    simp only [gateMatrixN, dif_pos hq]
    generalize (if key = GateKey.H then h else 1) = c at hc ⊢
    obtain ⟨hv, _, rfl⟩ := compile_unitary_some hc
    simp only [Op.matrix]
    congr 2
    · exact lookupMat_tabulateMat (k := 1) _
    · funext j
      apply Fin.ext
      obtain ⟨jv, hjv⟩ := j
      have hj0 : jv = 0 := by have : jv < 1 := hjv; omega
      subst hj0
      have := mkTarget_val (n := n) (t := [(q0 : Int)]) hv.1 ⟨0, hjv⟩
      simp only [List.getElem_cons_zero] at this
      exact_mod_cast this
  · have hq0 : q0 < n + 1 := hlt q0 (by simp)
    have hq1 : q1 < n + 1 := hlt q1 (by simp)
    simp only [exportRaw] at hc
    obtain ⟨n', hlen', hv, _, rfl⟩ := compile_control_some hc
    obtain ⟨_, _, _, h4⟩ := ctrl_data (n' := n') hlen' hv.1 hv.2
    simp only [Op.matrix, gateMatrixN, dif_pos (And.intro hq0 hq1)]
    congr 2
    · exact lookupMat_tabulateMat (k := 1) _
    · funext i
      rw [List.contains_cons, List.contains_nil, Bool.or_false, Bool.eq_iff_iff]
      simp only [beq_iff_eq, decide_eq_true_eq]
      exact Int.natCast_inj
    · funext j
      apply Fin.ext
      obtain ⟨jv, hjv⟩ := j
      have hj0 : jv = 0 := by have : jv < 1 := hjv; omega
      subst hj0
      have := h4 ⟨0, hjv⟩
      simp only [List.getElem_cons_zero] at this
      exact_mod_cast this

/-- C03's index resolution of the whole exported circuit realises the record gate by gate -/
theorem compileCircuit_export (I h : R) (n : Nat) (gates : List Gate) (hwf : GatesWF gates)
    (hlt : ∀ g ∈ gates, ∀ q ∈ g.idx, q < n) (ops : List (Numqi.Op n R))
    (hc : compileCircuit n (gates.map (exportRaw I h)) = some ops) :
    List.Forall₂ (OpRealises I h) gates ops := by
  induction gates generalizing ops with
  | nil =>
    simp [compileCircuit] at hc
    subst hc; exact List.Forall₂.nil
  | cons g gates ih =>
    simp only [compileCircuit, List.map_cons, List.mapM_cons, Option.bind_eq_bind, Option.pure_def] at hc
    cases h1 : (exportRaw I h g).compile n with
    | none => simp [h1] at hc
    | some op =>
      cases h2 : (gates.map (exportRaw I h)).mapM (RawOp.compile n) with
      | none => simp [h1, h2] at hc
      | some ops' =>
        simp only [h1, h2, Option.bind_some, Option.some.injEq] at hc
        subst hc
        exact List.Forall₂.cons
          (compile_exportRaw I h n g (hwf g List.mem_cons_self).1 (hlt g List.mem_cons_self) op h1)
          (ih (fun g' hg' => hwf g' (List.mem_cons_of_mem _ hg')) (fun g' hg' => hlt g' (List.mem_cons_of_mem _ hg'))
            ops' h2)

/-- **End to end, against C03**: `U` is `Circuit.to_unitary` of the exported universal circuit as resolved by C03's
model (`compileCircuit`), for which C03 proves `toUnitary = product of the embedded gate operators`. -/
theorem circuit_conjugation_toUnitary {I : R} (hI : I * I = -1) (h : R) (gates : List Gate) (hwf : GatesWF gates)
    (t : Tab) (ht : symplecticOf gates = .ok t) :
    ∃ n, numQubit gates = .ok n ∧ t.n = n ∧
      ∀ ops : List (Numqi.Op n R), compileCircuit n (gates.map (exportRaw I h)) = some ops →
        ∀ p : PauliB, p.v < 4 ^ n →
          PM n I p * Matrix.of (toUnitary ops) = Matrix.of (toUnitary ops) * PM n I (applyOnPauli p t) := by
  obtain ⟨n, h1, h2, h3⟩ := circuit_conjugation_all hI h gates hwf t ht
  refine ⟨n, h1, h2, fun ops hc p hp => ?_⟩
  rw [toUnitary_eq_circuitUnitary I h gates ops
    (compileCircuit_export I h n gates hwf (fun g hg q hq => numQubit_spec h1 g hg q hq) ops hc)]
  exact h3 p hp

/-- the exported circuit is accepted by C03's index resolution (so the theorem above is not vacuous) -/
theorem compile_exportRaw_isSome (I h : R) (n : Nat) (g : Gate) (hlen : g.idx.length = g.key.arity)
    (hnd : g.idx.Nodup) (hlt : ∀ q ∈ g.idx, q < n) : ((exportRaw I h g).compile n).isSome = true := by
  obtain ⟨key, idx⟩ := g
  simp only at hlen hlt hnd
  rcases idx_cases hlen with ⟨q0, rfl, _⟩ | ⟨q0, q1, rfl, _⟩
  · have hq : q0 < n := hlt q0 (by simp)
    obtain ⟨n, rfl⟩ : ∃ m, n = m + 1 := ⟨n - 1, by omega⟩
    simp only [exportRaw]
    generalize (if key = GateKey.H then h else 1) = c
    have hval : validIndex (n + 1) [(q0 : Int)] = true := by
      rw [validIndex_iff]; refine ⟨?_, by simp⟩
      intro x hx; simp at hx; subst hx; omega
    simp [RawOp.compile, hval, tabulateMat]
  · have hq0 : q0 < n := hlt q0 (by simp)
    have hq1 : q1 < n := hlt q1 (by simp)
    have hne : q0 ≠ q1 := by intro e; subst e; simp at hnd
    obtain ⟨n, rfl⟩ : ∃ m, n = m + 1 := ⟨n - 1, by omega⟩
    simp only [exportRaw, RawOp.compile]
    have hmem : q1 ∈ freeQubits (n + 1) [(q0 : Int)] := by
      rw [freeQubits_mem]; refine ⟨hq1, ?_⟩
      rw [List.contains_cons, List.contains_nil, Bool.or_false]
      simp only [beq_eq_false_iff_ne, ne_eq]
      exact fun e => hne (Int.natCast_inj.1 e).symm
    have hpos : (freeQubits (n + 1) [(q0 : Int)]).length ≠ 0 := by
      intro e; rw [List.length_eq_zero_iff] at e; rw [e] at hmem; cases hmem
    have hval : validIndex (n + 1) ([(q0 : Int)] ++ [(q1 : Int)]) = true := by
      rw [validIndex_iff]; refine ⟨?_, ?_⟩
      · intro x hx; simp at hx; rcases hx with hx | hx <;> subst hx <;> omega
      · simp only [List.cons_append, List.nil_append, List.nodup_cons, List.mem_singleton, List.not_mem_nil,
          not_false_eq_true, List.nodup_nil, and_true]
        exact fun e => hne (Int.natCast_inj.1 e)
    split
    · rename_i e; exact absurd e hpos
    · simp only [List.cons_append, List.nil_append] at hval
      simp [hval, tabulateMat]

theorem compileCircuit_export_isSome (I h : R) (n : Nat) (gates : List Gate) (hwf : GatesWF gates)
    (hlt : ∀ g ∈ gates, ∀ q ∈ g.idx, q < n) :
    ∃ ops : List (Numqi.Op n R), compileCircuit n (gates.map (exportRaw I h)) = some ops := by
  induction gates with
  | nil => exact ⟨[], rfl⟩
  | cons g gates ih =>
    obtain ⟨ops, hops⟩ := ih (fun g' hg' => hwf g' (List.mem_cons_of_mem _ hg'))
      (fun g' hg' => hlt g' (List.mem_cons_of_mem _ hg'))
    obtain ⟨w1, w2⟩ := hwf g List.mem_cons_self
    have := compile_exportRaw_isSome I h n g w1 w2 (hlt g List.mem_cons_self)
    obtain ⟨op, hop⟩ := Option.isSome_iff_exists.1 this
    refine ⟨op :: ops, ?_⟩
    simp only [compileCircuit] at hops ⊢
    simp [List.mapM_cons, hop, hops]

/-! ### unitarity (star ring with `star I = -I`; `h` real with `2 h² = 1`) -/

theorem sum_bits1 (f : Bits 1 → R) : ∑ w, f w = f (fun _ => false) + f (fun _ => true) := by
  rw [← Equiv.sum_comp (Equiv.funUnique (Fin 1) Bool).symm]
  simp [add_comm]
  rfl

theorem gateMat1_unitary [StarRing R] {I h : R} (hI : I * I = -1) (hs : star I = -I) (hh : star h = h)
    (h2 : 2 * (h * h) = 1) (key : GateKey) (hk : key.arity = 1) :
    ((if key = .H then h else 1) • gateMat1 I key) ∈ Matrix.unitaryGroup (Bits 1) R := by
  rw [Matrix.mem_unitaryGroup_iff]
  ext a b
  rw [Matrix.mul_apply, sum_bits1]
  simp only [Matrix.star_apply, Matrix.smul_apply, Matrix.one_apply, gateMat1, Bits.toNat, smul_eq_mul]
  have hab : (a = b) ↔ a 0 = b 0 := by
    constructor
    · intro e; rw [e]
    · intro e; funext j; rw [Fin.fin_one_eq_zero j]; exact e
  cases key <;> simp [GateKey.arity] at hk <;>
    rcases Bool.eq_false_or_eq_true (a 0) with ha | ha <;> rcases Bool.eq_false_or_eq_true (b 0) with hb | hb <;>
    simp [ha, hb, hab, Mat.get, GateKey.mat, gintTo, hs, hh, hI] <;>
    linear_combination h2

theorem gateMatrixN_unitary [StarRing R] {I h : R} (hI : I * I = -1) (hs : star I = -I) (hh : star h = h)
    (h2 : 2 * (h * h) = 1) (n : Nat) (g : Gate) (hlen : g.idx.length = g.key.arity) (hnd : g.idx.Nodup) :
    gateMatrixN I h n g ∈ Matrix.unitaryGroup (Bits n) R := by
  obtain ⟨key, idx⟩ := g
  simp only at hlen hnd
  rcases idx_cases hlen with ⟨q0, rfl, hk⟩ | ⟨q0, q1, rfl, hk⟩
  · simp only [gateMatrixN]
    split
    · exact C03.embed_unitary (fun a b _ => Subsingleton.elim a b) (gateMat1_unitary hI hs hh h2 key hk)
    · exact one_mem _
  · have hne : q0 ≠ q1 := by intro e; subst e; simp at hnd
    have hb : key.base.arity = 1 := by cases key <;> simp [GateKey.arity] at hk <;> rfl
    have hbH : key.base ≠ .H := by cases key <;> simp [GateKey.arity] at hk <;> simp [GateKey.base]
    simp only [gateMatrixN]
    split
    · have hu := gateMat1_unitary hI hs hh h2 key.base hb
      rw [if_neg hbH, one_smul] at hu
      refine C03.ctrlEmbed_unitary (fun a b _ => Subsingleton.elim a b) ?_ hu
      intro j; simp only [decide_eq_false_iff_not]; exact fun e => hne e.symm
    · exact one_mem _

/-- the unitary of the exported circuit is unitary -/
theorem circuitUnitary_unitary [StarRing R] {I h : R} (hI : I * I = -1) (hs : star I = -I) (hh : star h = h)
    (h2 : 2 * (h * h) = 1) (n : Nat) (gates : List Gate) (hwf : GatesWF gates) :
    circuitUnitary I h n gates ∈ Matrix.unitaryGroup (Bits n) R := by
  induction gates with
  | nil => simp [circuitUnitary]
  | cons g gates ih =>
    rw [circuitUnitary_cons]
    obtain ⟨w1, w2⟩ := hwf g List.mem_cons_self
    exact mul_mem (ih (fun g' hg' => hwf g' (List.mem_cons_of_mem _ hg'))) (gateMatrixN_unitary hI hs hh h2 n g w1 w2)

/-! ### `clifford_array_to_F2`: a tableau built from the images of the generators reproduces the conjugation -/

theorem mapM_option_spec {α β : Type} (f : α → Option β) (d : β) (l : List α) (out : List β)
    (h : l.mapM f = some out) :
    out.length = l.length ∧ ∀ i (hi : i < l.length), f l[i] = some (out.getD i d) := by
  induction l generalizing out with
  | nil =>
    simp at h; subst h; exact ⟨rfl, fun i hi => by simp at hi⟩
  | cons a l ih =>
    simp only [List.mapM_cons, Option.bind_eq_bind, Option.pure_def] at h
    cases h1 : f a with
    | none => simp [h1] at h
    | some b =>
      cases h2 : l.mapM f with
      | none => simp [h1, h2] at h
      | some bs =>
        simp only [h1, h2, Option.bind_some, Option.some.injEq] at h
        subst h
        obtain ⟨e1, e2⟩ := ih bs h2
        refine ⟨by simp [e1], ?_⟩
        intro i hi
        cases i with
        | zero => simpa using h1
        | succ i =>
          have := e2 i (by simpa using hi)
          simpa using this

/-- what `clifford_array_to_F2` returns: the tableau stored from the images recognised by `from_full_matrix` -/
theorem arrayToF2_spec {k : Nat} {U : Mat} {T : Tab} (h : arrayToF2 k U = some T) :
    ∃ imgs : List PauliB, imgs.length = 2 * k ∧ T = tabOfImages k imgs ∧
      ∀ j, j < 2 * k → ofFullMatrix k ((Mat.mul (2 ^ k) U (Mat.dagger (2 ^ k) U)).get 0 0)
        (Mat.mul (2 ^ k) (Mat.mul (2 ^ k) U (pauliMat k (genPauli k (j % k) (decide (k ≤ j))))) (Mat.dagger (2 ^ k) U))
          = some (imgs.getD j ⟨false, false, 0⟩) := by
  unfold arrayToF2 at h
  simp only at h
  split at h
  · cases h
  · split at h
    · cases h
    · rename_i imgs hm
      cases h
      obtain ⟨e1, e2⟩ := mapM_option_spec _ ⟨false, false, 0⟩ _ imgs hm
      refine ⟨imgs, by simpa using e1, rfl, fun j hj => ?_⟩
      have := e2 j (by simpa using hj)
      simpa using this

/-- the image stored for generator `j` is recovered from the tableau, provided it is Hermitian (`s1 = x·z mod 2`, which
holds for `U X U†`, `U Z U†`) -/
theorem genImage_tabOfImages (k : Nat) (imgs : List PauliB) (j : Nat) (hj : j < 2 * k)
    (hherm : (imgs.getD j ⟨false, false, 0⟩).s1 =
      (cnt k (imgs.getD j ⟨false, false, 0⟩).v ((imgs.getD j ⟨false, false, 0⟩).v >>> k) % 2 == 1)) :
    genImage (tabOfImages k imgs) j = imgs.getD j ⟨false, false, 0⟩ := by
  set b := imgs.getD j ⟨false, false, 0⟩ with hb
  have hcol : (tabOfImages k imgs).cols.getD j 0 = b.v := by
    simp only [tabOfImages]; rw [SpF2.getD_map_range _ _ _ hj]
  have hd : (tabOfImages k imgs).d j = cnt k b.v (b.v >>> k) := by
    simp only [Tab.d, hcol]; rfl
  have hr : (tabOfImages k imgs).r.testBit j = ((b.s0.toNat + (cnt k b.v (b.v >>> k) % 4) / 2) % 2 == 1) := by
    simp only [tabOfImages]; rw [SpF2.testBit_ofFn]; simp [hj, hb]
  obtain ⟨s0, s1, v⟩ := b
  simp only at hherm hcol hd hr
  simp only [genImage, hd, hr, hcol, hherm, toNat_mod2_beq]
  congr 1
  generalize cnt k v (v >>> k) = D
  cases s0 <;> simp <;> omega

/-- **Tableau extraction is sound.**  Let `T` be the tableau stored from Hermitian images `W_j` (`j < 2n`), symplectic, and
let `U` satisfy `U · X_j = W_j · U`, `U · Z_j = W_{n+j} · U` (i.e. `W = U g U†`).  Then for every phased Pauli `P`:
`U · P = apply(P, T) · U`, i.e. `apply_clifford_on_pauli(P, clifford_array_to_F2(U))` is the F2 form of `U P U†`. -/
theorem tableau_of_images {n : Nat} {I : R} (hI : I * I = -1) (imgs : List PauliB)
    (hherm : ∀ j, j < 2 * n → (imgs.getD j ⟨false, false, 0⟩).s1 =
      (cnt n (imgs.getD j ⟨false, false, 0⟩).v ((imgs.getD j ⟨false, false, 0⟩).v >>> n) % 2 == 1))
    (hsp : (tabOfImages n imgs).colSp = true) (U : Matrix (Bits n) (Bits n) R)
    (himg : ∀ j, j < 2 * n → U * PM n I (gen j) = PM n I (imgs.getD j ⟨false, false, 0⟩) * U)
    (p : PauliB) (hp : p.v < 4 ^ n) :
    U * PM n I p = PM n I (applyOnPauli p (tabOfImages n imgs)) * U := by
  refine inter_of_gens_n' (n := n) hI (tabOfImages n imgs) rfl hsp U ?_ p hp
  intro j hj
  rw [apply_gen _ j hj, genImage_tabOfImages n imgs j hj (hherm j hj)]
  exact himg j hj

end Numqi.Clifford
