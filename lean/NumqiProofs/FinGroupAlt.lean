/-
C14 helper: the parity of `Σ (cycle length − 1)` computed by the model of
`permutation_to_cycle_notation` is the sign of the permutation, for every `n`.
-/
import NumqiProofs.FinGroupPerm
import Mathlib.GroupTheory.Perm.Cycle.Concrete
import Mathlib.GroupTheory.Perm.Sign
import Mathlib.GroupTheory.SpecificGroups.Alternating

namespace Numqi.FinGroup

/-- the map `k ↦ p[k]` -/
def sig (p : List Nat) (k : Nat) : Nat := p.getD k 0

/-! ### 1. one cycle: `cycleFrom` walks the orbit -/

theorem cycleFrom_succ (p : List Nat) (x0 fuel cur : Nat) :
    cycleFrom p x0 (fuel + 1) cur = if sig p cur = x0 then [cur] else cur :: cycleFrom p x0 fuel (sig p cur) := by
  simp [cycleFrom, sig]

theorem cycleFrom_spec (p : List Nat) (x0 : Nat) : ∀ (fuel cur : Nat),
    ∃ m, m ≤ fuel ∧ cycleFrom p x0 fuel cur = (List.range m).map (fun j => (sig p)^[j] cur) ∧
      (∀ j, j + 1 < m → (sig p)^[j + 1] cur ≠ x0) ∧ (0 < fuel → 0 < m) ∧ ((sig p)^[m] cur = x0 ∨ m = fuel) := by
  intro fuel
  induction fuel with
  | zero => intro cur; exact ⟨0, le_refl _, rfl, by intro j hj; omega, by intro h; omega, Or.inr rfl⟩
  | succ fuel ih =>
    intro cur
    by_cases h : sig p cur = x0
    · refine ⟨1, by omega, ?_, by intro j hj; omega, by intro _; omega, Or.inl (by simpa using h)⟩
      rw [cycleFrom_succ, if_pos h]; rfl
    · obtain ⟨m, hm, hl, hint, _, hend⟩ := ih (sig p cur)
      refine ⟨m + 1, by omega, ?_, ?_, by intro _; omega, ?_⟩
      · rw [cycleFrom_succ, if_neg h, hl, List.range_succ_eq_map, List.map_cons, List.map_map]
        simp [Function.iterate_succ_apply, Function.comp_def]
      · intro j hj
        cases j with
        | zero => simpa using h
        | succ j =>
          have := hint j (by omega)
          rwa [← Function.iterate_succ_apply] at this
      · rcases hend with hend | hend
        · left; rwa [Function.iterate_succ_apply]
        · right; omega

/-! ### facts about `sig p` for a permutation tuple -/

section
variable {n : Nat} {p : List Nat}

theorem sig_of_lt {x : Nat} (h : x < p.length) : sig p x = p[x] := by
  simp [sig, List.getD_eq_getElem?_getD, List.getElem?_eq_getElem h]

theorem sig_lt (hp : p.Perm (List.range n)) {x : Nat} (hx : x < n) : sig p x < n := by
  have hx' : x < p.length := by rw [perm_length hp]; exact hx
  rw [sig_of_lt hx']
  exact perm_lt hp (List.getElem_mem hx')

theorem sig_inj (hp : p.Perm (List.range n)) {x y : Nat} (hx : x < n) (hy : y < n) (h : sig p x = sig p y) : x = y := by
  have hl := perm_length hp
  rw [sig_of_lt (by omega), sig_of_lt (by omega)] at h
  exact (List.Nodup.getElem_inj_iff (perm_nodup hp)).1 h

theorem iter_lt (hp : p.Perm (List.range n)) {x : Nat} (hx : x < n) (j : Nat) : (sig p)^[j] x < n := by
  induction j with
  | zero => simpa using hx
  | succ j ih => rw [Function.iterate_succ_apply']; exact sig_lt hp ih

theorem iter_inj (hp : p.Perm (List.range n)) {a b : Nat} (ha : a < n) (hb : b < n) (i : Nat)
    (h : (sig p)^[i] a = (sig p)^[i] b) : a = b := by
  induction i with
  | zero => simpa using h
  | succ i ih =>
    rw [Function.iterate_succ_apply', Function.iterate_succ_apply'] at h
    exact ih (sig_inj hp (iter_lt hp ha i) (iter_lt hp hb i) h)

theorem nodup_orbit {f : Nat → Nat} {x m : Nat} (h : ∀ i j, i < j → j < m → f^[i] x ≠ f^[j] x) :
    ((List.range m).map fun j => f^[j] x).Nodup := by
  rw [List.nodup_map_iff_inj_on List.nodup_range]
  intro i hi j hj hij
  by_contra hne
  rcases Nat.lt_or_gt_of_ne hne with h' | h'
  · exact h i j h' (by simpa using hj) hij
  · exact h j i h' (by simpa using hi) hij.symm

/-- **the walk closes**: `cycleFrom p x len(p) x` is the orbit `x, σx, …, σ^{m-1}x` with pairwise different
entries and `σ^m x = x`. -/
theorem cycle_props (hp : p.Perm (List.range n)) {x : Nat} (hx : x < n) :
    ∃ m, 0 < m ∧ cycleFrom p x p.length x = (List.range m).map (fun j => (sig p)^[j] x) ∧
      (∀ i j, i < j → j < m → (sig p)^[i] x ≠ (sig p)^[j] x) ∧ (sig p)^[m] x = x := by
  have hl := perm_length hp
  obtain ⟨m, hm, hlist, hint, hpos, hend⟩ := cycleFrom_spec p x p.length x
  have hm0 : 0 < m := hpos (by omega)
  have hdist : ∀ i j, i < j → j < m → (sig p)^[i] x ≠ (sig p)^[j] x := by
    intro i j hij hj heq
    have hj' : j = i + (j - i) := by omega
    rw [hj', Function.iterate_add_apply] at heq
    have := iter_inj hp hx (iter_lt hp hx (j - i)) i heq
    have hd : j - i = (j - i - 1) + 1 := by omega
    rw [hd] at this
    exact hint (j - i - 1) (by omega) this.symm
  refine ⟨m, hm0, hlist, hdist, ?_⟩
  rcases hend with hend | hend
  · exact hend
  · -- fuel exhausted: the `n` pairwise different entries are all of `0..n-1`
    have hcperm : ((List.range m).map fun j => (sig p)^[j] x).Perm (List.range n) :=
      perm_of_nodup (nodup_orbit hdist) (by simp; omega) fun y hy => by
        obtain ⟨j, _, rfl⟩ := List.mem_map.1 hy
        exact iter_lt hp hx j
    obtain ⟨i, hi, hieq⟩ := List.mem_map.1 (perm_mem hcperm (iter_lt hp hx m))
    rw [List.mem_range] at hi
    cases i with
    | zero => simpa using hieq.symm
    | succ i =>
      exfalso
      have hm' : m = (m - 1) + 1 := by omega
      rw [hm', Function.iterate_succ_apply', Function.iterate_succ_apply'] at hieq
      have := sig_inj hp (iter_lt hp hx i) (iter_lt hp hx (m - 1)) hieq
      exact hdist i (m - 1) (by omega) (by omega) this

/-- what one entry of `cycles p` is: a duplicate-free list of numbers `< n` on which `σ` acts as the cyclic shift -/
structure GoodCycle (n : Nat) (p : List Nat) (cy : List Nat) : Prop where
  pos : 0 < cy.length
  nodup : cy.Nodup
  lt : ∀ y ∈ cy, y < n
  next : ∀ i (h : i < cy.length), sig p cy[i] = cy[(i + 1) % cy.length]'(Nat.mod_lt _ (Nat.lt_of_le_of_lt (Nat.zero_le i) h))

theorem goodCycle_cycleFrom (hp : p.Perm (List.range n)) {x : Nat} (hx : x < n) :
    GoodCycle n p (cycleFrom p x p.length x) ∧ x ∈ cycleFrom p x p.length x := by
  obtain ⟨m, hm0, hlist, hdist, hclose⟩ := cycle_props hp hx
  rw [hlist]
  refine ⟨⟨by simpa using hm0, nodup_orbit hdist, ?_, ?_⟩, ?_⟩
  · intro y hy
    simp only [List.mem_map, List.mem_range] at hy
    obtain ⟨j, _, rfl⟩ := hy
    exact iter_lt hp hx j
  · intro i h
    have hi : i < m := by simpa using h
    simp only [List.getElem_map, List.getElem_range, List.length_map, List.length_range]
    have e : sig p ((sig p)^[i] x) = (sig p)^[i + 1] x := (Function.iterate_succ_apply' _ _ _).symm
    rw [e]
    by_cases hlast : i + 1 < m
    · rw [Nat.mod_eq_of_lt hlast]
    · have : i + 1 = m := by omega
      rw [this, Nat.mod_self, hclose]; rfl
  · simp only [List.mem_map, List.mem_range]
    exact ⟨0, hm0, rfl⟩

theorem GoodCycle.fwd {cy : List Nat} (hc : GoodCycle n p cy) {y : Nat} (hy : y ∈ cy) : sig p y ∈ cy := by
  obtain ⟨i, hi, rfl⟩ := List.getElem_of_mem hy
  rw [hc.next i hi]
  exact List.getElem_mem _

theorem GoodCycle.bwd (hp : p.Perm (List.range n)) {cy : List Nat} (hc : GoodCycle n p cy) {y : Nat} (hy : y < n)
    (h : sig p y ∈ cy) : y ∈ cy := by
  obtain ⟨j, hj, hjeq⟩ := List.getElem_of_mem h
  have hpos := hc.pos
  -- the predecessor position
  have key : ∃ i, ∃ hi : i < cy.length, (i + 1) % cy.length = j := by
    cases j with
    | zero => exact ⟨cy.length - 1, by omega, by rw [Nat.sub_add_cancel hpos, Nat.mod_self]⟩
    | succ j => exact ⟨j, by omega, Nat.mod_eq_of_lt hj⟩
  obtain ⟨i, hi, hij⟩ := key
  have h1 := hc.next i hi
  have h2 : sig p cy[i] = sig p y := by
    rw [h1, ← hjeq]; congr 1
  have := sig_inj hp (hc.lt _ (List.getElem_mem hi)) hy h2
  rw [← this]; exact List.getElem_mem hi

/-! ### 2. the outer loop: the cycles found are pairwise disjoint and cover `0..n-1` -/

/-- `seen` is a union of whole orbits -/
def Closed (n : Nat) (p : List Nat) (seen : List Nat) : Prop :=
  ∀ y, y < n → (y ∈ seen ↔ sig p y ∈ seen)

theorem cyclesAux_spec (hp : p.Perm (List.range n)) : ∀ (todo seen : List Nat),
    (∀ x ∈ todo, x < n) → Closed n p seen →
    (∀ cy ∈ cyclesAux p todo seen, GoodCycle n p cy ∧ ∀ y ∈ cy, y ∉ seen) ∧
    (cyclesAux p todo seen).Pairwise List.Disjoint ∧
    (∀ x ∈ todo, x ∈ seen ∨ ∃ cy ∈ cyclesAux p todo seen, x ∈ cy) := by
  intro todo
  induction todo with
  | nil => intro seen _ _; simp [cyclesAux]
  | cons x todo ih =>
    intro seen htodo hcl
    have hx : x < n := htodo x (List.mem_cons_self)
    have htodo' : ∀ t ∈ todo, t < n := fun t ht => htodo t (List.mem_cons_of_mem _ ht)
    by_cases hseen : x ∈ seen
    · have : seen.contains x = true := by simpa using hseen
      simp only [cyclesAux, this, if_true]
      obtain ⟨h1, h2, h3⟩ := ih seen htodo' hcl
      refine ⟨h1, h2, ?_⟩
      intro t ht
      rcases List.mem_cons.1 ht with rfl | ht
      · exact Or.inl hseen
      · exact h3 t ht
    · have : seen.contains x = false := by simpa using hseen
      simp only [cyclesAux, this, Bool.false_eq_true, ↓reduceIte]
      obtain ⟨hgood, hxc⟩ := goodCycle_cycleFrom hp hx
      set cy := cycleFrom p x p.length x with hc
      -- cy is disjoint from seen
      have hdisj : ∀ y ∈ cy, y ∉ seen := by
        obtain ⟨m, hm0, hlist, _, _⟩ := cycle_props hp hx
        intro y hy hys
        rw [← hc] at hlist
        rw [hlist] at hy
        simp only [List.mem_map, List.mem_range] at hy
        obtain ⟨j, _, rfl⟩ := hy
        -- walk back along the orbit
        have back : ∀ j, (sig p)^[j] x ∈ seen → x ∈ seen := by
          intro j
          induction j with
          | zero => intro h; simpa using h
          | succ j ihj =>
            intro h
            rw [Function.iterate_succ_apply'] at h
            exact ihj ((hcl _ (iter_lt hp hx j)).2 h)
        exact hseen (back j hys)
      have hcl' : Closed n p (cy ++ seen) := by
        intro y hy
        simp only [List.mem_append]
        constructor
        · rintro (h | h)
          · exact Or.inl (hgood.fwd h)
          · exact Or.inr ((hcl y hy).1 h)
        · rintro (h | h)
          · exact Or.inl (hgood.bwd hp hy h)
          · exact Or.inr ((hcl y hy).2 h)
      obtain ⟨h1, h2, h3⟩ := ih (cy ++ seen) htodo' hcl'
      refine ⟨?_, ?_, ?_⟩
      · intro d hd
        rcases List.mem_cons.1 hd with rfl | hd
        · exact ⟨hgood, hdisj⟩
        · exact ⟨(h1 d hd).1, fun y hy hys => (h1 d hd).2 y hy (List.mem_append_right _ hys)⟩
      · rw [List.pairwise_cons]
        refine ⟨?_, h2⟩
        intro d hd
        rw [List.disjoint_left]
        intro y hyc hyd
        exact (h1 d hd).2 y hyd (List.mem_append_left _ hyc)
      · intro t ht
        rcases List.mem_cons.1 ht with rfl | ht
        · exact Or.inr ⟨cy, List.mem_cons_self, hxc⟩
        · rcases h3 t ht with h | ⟨d, hd, htd⟩
          · rcases List.mem_append.1 h with h | h
            · exact Or.inr ⟨cy, List.mem_cons_self, h⟩
            · exact Or.inl h
          · exact Or.inr ⟨d, List.mem_cons_of_mem _ hd, htd⟩

/-- **`cycles p`**: good cycles, pairwise disjoint, covering `0..n-1` -/
theorem cycles_spec (hp : p.Perm (List.range n)) :
    (∀ cy ∈ cycles p, GoodCycle n p cy) ∧ (cycles p).Pairwise List.Disjoint ∧ ∀ x, x < n → ∃ cy ∈ cycles p, x ∈ cy := by
  have hl := perm_length hp
  obtain ⟨h1, h2, h3⟩ := cyclesAux_spec hp (List.range p.length) []
    (by intro x hx; rw [hl] at hx; simpa using hx) (by intro y _; simp)
  refine ⟨fun cy hc => (h1 cy hc).1, h2, ?_⟩
  intro x hx
  rcases h3 x (by rw [hl]; simpa using hx) with h | h
  · simp at h
  · exact h

end

/-! ### 3. the permutation of `Fin n`, and its sign as a product over the cycles found -/

/-- product of the cyclic permutations of pairwise disjoint lists: on a member of one list only that list acts -/
theorem prod_formPerm_fix {α : Type} [DecidableEq α] : ∀ (L : List (List α)) (x : α),
    (∀ l ∈ L, x ∉ l) → (L.map List.formPerm).prod x = x := by
  intro L
  induction L with
  | nil => intro x _; simp
  | cons d L ih =>
    intro x hx
    rw [List.map_cons, List.prod_cons, Equiv.Perm.mul_apply, ih x (fun l hl => hx l (List.mem_cons_of_mem _ hl))]
    exact List.formPerm_apply_of_notMem (hx d List.mem_cons_self)

theorem prod_formPerm_apply {α : Type} [DecidableEq α] : ∀ (L : List (List α)), L.Pairwise List.Disjoint →
    ∀ l ∈ L, ∀ x ∈ l, (L.map List.formPerm).prod x = l.formPerm x := by
  intro L
  induction L with
  | nil => intro _ l hl; simp at hl
  | cons d L ih =>
    intro hpw l hl x hx
    rw [List.pairwise_cons] at hpw
    rw [List.map_cons, List.prod_cons, Equiv.Perm.mul_apply]
    rcases List.mem_cons.1 hl with rfl | hl
    · rw [prod_formPerm_fix L x (fun l' hl' hx' => (List.disjoint_left.1 (hpw.1 l' hl')) hx hx')]
    · rw [ih hpw.2 l hl x hx]
      exact List.formPerm_apply_of_notMem
        (fun h => (List.disjoint_left.1 (hpw.1 l hl)) h (List.formPerm_apply_mem_of_mem hx))

section
variable {n : Nat} {p : List Nat}

/-- the permutation of `Fin n` denoted by the tuple: `i ↦ p[i]` -/
noncomputable def permOf (hp : p.Perm (List.range n)) : Equiv.Perm (Fin n) :=
  Equiv.ofBijective (fun i => ⟨sig p i.val, sig_lt hp i.isLt⟩)
    (Finite.injective_iff_bijective.1 (fun a b h =>
      Fin.ext (sig_inj hp a.isLt b.isLt (by simpa using congrArg Fin.val h))))

theorem permOf_val (hp : p.Perm (List.range n)) (i : Fin n) : (permOf hp i).val = sig p i.val := rfl

variable [NeZero n]

def toFin (n : Nat) [NeZero n] (k : Nat) : Fin n := ⟨k % n, Nat.mod_lt _ (NeZero.pos n)⟩

theorem toFin_val {k : Nat} (hk : k < n) : (toFin n k).val = k := Nat.mod_eq_of_lt hk

theorem toFin_inj {a b : Nat} (ha : a < n) (hb : b < n) (h : toFin n a = toFin n b) : a = b := by
  have := congrArg Fin.val h
  rwa [toFin_val ha, toFin_val hb] at this

theorem toFin_of_fin (x : Fin n) : toFin n x.val = x := Fin.ext (toFin_val x.isLt)

theorem GoodCycle.nodup_toFin {cy : List Nat} (hg : GoodCycle n p cy) : (cy.map (toFin n)).Nodup :=
  List.Nodup.map_on (fun a ha b hb h => toFin_inj (hg.lt a ha) (hg.lt b hb) h) hg.nodup

omit [NeZero n] in
theorem sign_formPerm_nodup : ∀ (l : List (Fin n)), l.Nodup → Equiv.Perm.sign l.formPerm = (-1) ^ (l.length - 1)
  | [], _ => by simp
  | [a], _ => by simp
  | a :: b :: t, h => by
    have hc : (a :: b :: t).formPerm.IsCycle := List.isCycle_formPerm h (by simp)
    rw [hc.sign, List.support_formPerm_of_nodup _ h (by intro x hx; simp at hx), List.toFinset_card_of_nodup h]
    simp [pow_succ]

theorem prod_neg_one_pow (l : List Nat) : ((l.map fun a => ((-1 : ℤˣ)) ^ a)).prod = (-1) ^ l.sum := by
  induction l with
  | nil => simp
  | cons a l ih => simp [ih, pow_add]

/-- **the product of the cyclic shifts on the cycles found is the permutation** -/
theorem prod_cycles_eq_permOf (hp : p.Perm (List.range n)) :
    (((cycles p).map (·.map (toFin n))).map List.formPerm).prod = permOf hp := by
  obtain ⟨hgood, hpw, hcover⟩ := cycles_spec hp
  ext x
  obtain ⟨cy, hcy, hx⟩ := hcover x.val x.isLt
  have hg := hgood cy hcy
  have hmem : cy.map (toFin n) ∈ (cycles p).map (·.map (toFin n)) := List.mem_map.2 ⟨cy, hcy, rfl⟩
  have hxm : x ∈ cy.map (toFin n) := List.mem_map.2 ⟨x.val, hx, toFin_of_fin x⟩
  have hpwF : ((cycles p).map (·.map (toFin n))).Pairwise List.Disjoint := by
    rw [List.pairwise_map]
    refine (List.Pairwise.and_mem.1 hpw).imp ?_
    rintro a b ⟨ha, hb, hab⟩
    rw [List.disjoint_left]
    intro y hya hyb
    obtain ⟨u, hu, rfl⟩ := List.mem_map.1 hya
    obtain ⟨v, hv, huv⟩ := List.mem_map.1 hyb
    have := toFin_inj ((hgood b hb).lt v hv) ((hgood a ha).lt u hu) huv
    subst this
    exact (List.disjoint_left.1 hab) hu hv
  rw [prod_formPerm_apply _ hpwF _ hmem x hxm]
  obtain ⟨i, hi, hix⟩ := List.getElem_of_mem hx
  have hi' : i < (cy.map (toFin n)).length := by simpa using hi
  have hxi : x = (cy.map (toFin n))[i] := by
    rw [List.getElem_map, hix, toFin_of_fin]
  rw [permOf_val, hxi, List.formPerm_apply_getElem _ hg.nodup_toFin i hi']
  simp only [List.getElem_map, List.length_map]
  rw [toFin_val (hg.lt _ (List.getElem_mem _)), toFin_val (hg.lt _ (List.getElem_mem _)), hg.next i hi]

/-- **the code's parity is the sign**: `cycleEven p ↔ sign = 1` -/
theorem cycleEven_iff_sign (hp : p.Perm (List.range n)) :
    cycleEven p = true ↔ Equiv.Perm.sign (permOf hp) = 1 := by
  obtain ⟨hgood, _, _⟩ := cycles_spec hp
  rw [← prod_cycles_eq_permOf hp, map_list_prod, List.map_map, List.map_map]
  have : (cycles p).map ((⇑Equiv.Perm.sign ∘ List.formPerm) ∘ fun x => x.map (toFin n)) =
      ((cycles p).map fun cy => cy.length - 1).map fun a => ((-1 : ℤˣ)) ^ a := by
    rw [List.map_map]
    apply List.map_congr_left
    intro cy hcy
    simp only [Function.comp_apply]
    rw [sign_formPerm_nodup _ (hgood cy hcy).nodup_toFin]; simp
  rw [this, prod_neg_one_pow]
  unfold cycleEven
  rw [beq_iff_eq, neg_one_pow_eq_one_iff_even (by decide), Nat.even_iff]

end

/-! ### 4. consequences: the even tuples form a subgroup of index 2, for every `n` -/

section
variable {n : Nat} {p q : List Nat}

theorem sig_compose (hq : q.Perm (List.range n)) {i : Nat} (hi : i < n) :
    sig (compose p q) i = sig p (sig q i) := by
  have hl := perm_length hq
  have hi' : i < q.length := by omega
  simp [sig, compose, List.getD_eq_getElem?_getD, List.getElem?_map, List.getElem?_eq_getElem hi']

theorem permOf_compose (hp : p.Perm (List.range n)) (hq : q.Perm (List.range n)) :
    permOf (compose_perm hp hq) = permOf hp * permOf hq := by
  ext i
  rw [Equiv.Perm.mul_apply, permOf_val, permOf_val, permOf_val, sig_compose hq i.isLt]

theorem permOf_range : permOf (List.Perm.refl (List.range n)) = 1 := by
  ext i
  rw [permOf_val, Equiv.Perm.one_apply]
  simp [sig, List.getD_eq_getElem?_getD]

theorem permOf_congr {p' : List Nat} (hp : p.Perm (List.range n)) (hp' : p'.Perm (List.range n)) (h : p = p') :
    permOf hp = permOf hp' := by subst h; rfl

/-- with the trivial case `n = 0` included -/
theorem cycleEven_iff_sign' (hp : p.Perm (List.range n)) :
    cycleEven p = true ↔ Equiv.Perm.sign (permOf hp) = 1 := by
  rcases Nat.eq_zero_or_pos n with h0 | hpos
  · subst h0
    have : p = [] := by simpa using hp.length_eq
    subst this
    constructor
    · intro _; rw [Subsingleton.elim (permOf hp) 1, map_one]
    · intro _; decide
  · have : NeZero n := ⟨by omega⟩
    exact cycleEven_iff_sign hp

theorem cycleEven_range (n : Nat) : cycleEven (List.range n) = true := by
  rw [cycleEven_iff_sign' (List.Perm.refl _), permOf_range, map_one]

theorem cycleEven_compose (hp : p.Perm (List.range n)) (hq : q.Perm (List.range n))
    (h1 : cycleEven p = true) (h2 : cycleEven q = true) : cycleEven (compose p q) = true := by
  rw [cycleEven_iff_sign' (compose_perm hp hq), permOf_compose hp hq, map_mul,
    (cycleEven_iff_sign' hp).1 h1, (cycleEven_iff_sign' hq).1 h2, one_mul]

theorem cycleEven_invPerm (hp : p.Perm (List.range n)) (h1 : cycleEven p = true) :
    cycleEven (invPerm n p) = true := by
  have hi := invPerm_perm hp
  rw [cycleEven_iff_sign' hi]
  have hmul : permOf hp * permOf hi = 1 := by
    rw [← permOf_compose hp hi, ← permOf_range]
    exact permOf_congr _ _ (compose_invPerm_right hp)
  have := congrArg Equiv.Perm.sign hmul
  rw [map_mul, (cycleEven_iff_sign' hp).1 h1, one_mul, map_one] at this
  exact this

/-! #### index 2: composing with the transposition of the first two points exchanges even and odd tuples -/

/-- the tuple `(1, 0, 2, 3, …, n-1)` -/
def swap01 (n : Nat) : List Nat := 1 :: 0 :: List.range' 2 (n - 2)

theorem swap01_perm (hn : 2 ≤ n) : (swap01 n).Perm (List.range n) := by
  have : List.range n = 0 :: 1 :: List.range' 2 (n - 2) := by
    obtain ⟨k, rfl⟩ : ∃ k, n = k + 2 := ⟨n - 2, by omega⟩
    rw [List.range_eq_range', List.range'_succ, List.range'_succ]
    simp
  rw [this]
  exact List.Perm.swap _ _ _

theorem sig_swap01 (hn : 2 ≤ n) {i : Nat} (hi : i < n) :
    sig (swap01 n) i = if i = 0 then 1 else if i = 1 then 0 else i := by
  match i, hi with
  | 0, _ => rfl
  | 1, _ => rfl
  | i + 2, hi =>
    show (List.range' 2 (n - 2)).getD i 0 = _
    rw [List.getD_eq_getElem?_getD, List.getElem?_range' (by omega)]
    simp; omega

theorem sig_swap01_invol (hn : 2 ≤ n) {i : Nat} (hi : i < n) : sig (swap01 n) (sig (swap01 n) i) = i := by
  rw [sig_swap01 hn hi]
  split_ifs with h0 h1
  · rw [sig_swap01 hn (by omega), h0]; rfl
  · rw [sig_swap01 hn (by omega), h1]; rfl
  · rw [sig_swap01 hn hi, if_neg h0, if_neg h1]

theorem permOf_swap01 (hn : 2 ≤ n) :
    permOf (swap01_perm hn) = Equiv.swap (⟨0, by omega⟩ : Fin n) ⟨1, by omega⟩ := by
  ext i
  rw [permOf_val, sig_swap01 hn i.isLt, Equiv.swap_apply_def]
  simp only [Fin.ext_iff]
  split_ifs <;> rfl

theorem cycleEven_compose_swap01 (hn : 2 ≤ n) (hp : p.Perm (List.range n)) :
    cycleEven (compose p (swap01 n)) = !cycleEven p := by
  have hs := swap01_perm hn
  have hsign : Equiv.Perm.sign (permOf hs) = -1 := by
    rw [permOf_swap01 hn]
    exact Equiv.Perm.sign_swap (by intro h; simpa using congrArg Fin.val h)
  rw [Bool.eq_iff_iff, Bool.not_eq_true', ← Bool.not_eq_true, cycleEven_iff_sign' (compose_perm hp hs),
    cycleEven_iff_sign' hp, permOf_compose hp hs, map_mul, hsign]
  rcases Int.units_eq_one_or (Equiv.Perm.sign (permOf hp)) with h | h <;> simp [h]

theorem compose_swap01_swap01 (hn : 2 ≤ n) (hp : p.Perm (List.range n)) :
    compose (compose p (swap01 n)) (swap01 n) = p := by
  have hs := swap01_perm hn
  have hl := perm_length hs
  rw [compose_assoc hl (fun x hx => perm_lt hs hx)]
  have : compose (swap01 n) (swap01 n) = List.range n := by
    apply List.ext_getElem
    · simp [compose, hl]
    · intro i h1 h2
      have hi : i < n := by simpa using h2
      simp only [compose, List.getElem_map, List.getElem_range]
      rw [← sig_of_lt (by omega)]
      exact sig_swap01_invol hn hi
  rw [this, compose_range_right (perm_length hp)]

/-- **index 2**: exactly half of the `n!` tuples are kept by the filter (`n ≥ 2`) -/
theorem two_mul_length_altPerms (hn : 2 ≤ n) : 2 * (altPerms n).length = (perms n).length := by
  have hs := swap01_perm hn
  let φ : List Nat → List Nat := fun p => compose p (swap01 n)
  have hsplit := List.length_eq_length_filter_add (l := perms n) cycleEven
  have hperm : ((perms n).filter cycleEven).map φ |>.Perm ((perms n).filter (fun x => !cycleEven x)) := by
    rw [List.perm_ext_iff_of_nodup]
    · intro q
      simp only [List.mem_map, List.mem_filter, mem_perms]
      constructor
      · rintro ⟨p, ⟨hp, he⟩, rfl⟩
        exact ⟨compose_perm hp hs, by rw [cycleEven_compose_swap01 hn hp, he]; rfl⟩
      · rintro ⟨hq, ho⟩
        refine ⟨φ q, ⟨compose_perm hq hs, ?_⟩, compose_swap01_swap01 hn hq⟩
        show cycleEven (compose q (swap01 n)) = true
        rw [cycleEven_compose_swap01 hn hq]; simpa using ho
    · refine List.Nodup.map_on ?_ ((nodup_perms n).filter _)
      intro a ha b hb hab
      have ha' := mem_perms.1 (List.mem_filter.1 ha).1
      have hb' := mem_perms.1 (List.mem_filter.1 hb).1
      have := congrArg φ hab
      simp only [φ] at this
      rwa [compose_swap01_swap01 hn ha', compose_swap01_swap01 hn hb'] at this
    · exact (nodup_perms n).filter _
  have hlen := hperm.length_eq
  rw [List.length_map] at hlen
  unfold altPerms
  omega

end

end Numqi.FinGroup
