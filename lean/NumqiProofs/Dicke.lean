/-
Helper lemmas for the Dicke model (C17).
-/
import Mathlib.Tactic
import Mathlib.Algebra.BigOperators.Fin
import Mathlib.Algebra.BigOperators.Intervals
import Mathlib.Data.Nat.Choose.Basic
import Mathlib.Data.Nat.Choose.Sum
import Mathlib.Data.List.GetD
import NumqiModel.Dicke
import NumqiProofs.PartialTrace

namespace Numqi
namespace Dicke
open Finset

theorem fact_eq (n : ℕ) : fact n = n.factorial := by
  induction n with
  | zero => rfl
  | succ n ih => rw [fact, ih, Nat.factorial_succ]

theorem fact_pos (n : ℕ) : 0 < fact n := by rw [fact_eq]; exact Nat.factorial_pos n

theorem prodFact_pos (a : List ℕ) : 0 < prodFact a := by
  induction a with
  | nil => simp [prodFact]
  | cons x xs ih => simp only [prodFact]; exact Nat.mul_pos (fact_pos x) ih

theorem prodFact_dvd (a : List ℕ) : prodFact a ∣ fact a.sum := by
  induction a with
  | nil => simp [prodFact]
  | cons x xs ih =>
    simp only [prodFact, List.sum_cons]
    calc fact x * prodFact xs ∣ fact x * fact xs.sum := Nat.mul_dvd_mul_left _ ih
      _ ∣ fact (x + xs.sum) := by
        simp only [fact_eq]; exact Nat.factorial_mul_factorial_dvd_factorial_add x xs.sum

/-- `M(a) · ∏ aᵢ! = (Σ a)!` -/
theorem multinomial_mul (a : List ℕ) : multinomial a * prodFact a = fact a.sum :=
  Nat.div_mul_cancel (prodFact_dvd a)

theorem multinomial_pos (a : List ℕ) : 0 < multinomial a :=
  Nat.div_pos (Nat.le_of_dvd (fact_pos _) (prodFact_dvd a)) (prodFact_pos a)

theorem prodFact_set (a : List ℕ) (r : ℕ) (hr : r < a.length) (hpos : 0 < a.getD r 0) :
    prodFact a = a.getD r 0 * prodFact (a.set r (a.getD r 0 - 1)) := by
  induction a generalizing r with
  | nil => simp at hr
  | cons x xs ih =>
    cases r with
    | zero =>
      simp only [List.getD_cons_zero, List.set_cons_zero, prodFact] at hpos ⊢
      obtain ⟨y, rfl⟩ : ∃ y, x = y + 1 := ⟨x - 1, by omega⟩
      simp only [fact, Nat.add_sub_cancel]; ring
    | succ r =>
      simp only [List.getD_cons_succ, List.set_cons_succ, prodFact] at hpos ⊢
      rw [ih r (by simpa using hr) hpos]; ring

/-- overwriting entry `i` by `x` trades the old entry for `x` in the sum -/
theorem sum_set_add (l : List ℕ) (i x : ℕ) (h : i < l.length) : (l.set i x).sum + l.getD i 0 = l.sum + x := by
  induction l generalizing i with
  | nil => simp at h
  | cons y ys ih =>
    cases i with
    | zero => simp only [List.getD_cons_zero, List.set_cons_zero, List.sum_cons]; omega
    | succ i =>
      simp only [List.getD_cons_succ, List.set_cons_succ, List.sum_cons]
      have := ih i (by simpa using h); omega

theorem sum_set (a : List ℕ) (r : ℕ) (hr : r < a.length) (hpos : 0 < a.getD r 0) :
    (a.set r (a.getD r 0 - 1)).sum + 1 = a.sum := by
  have := sum_set_add a r (a.getD r 0 - 1) hr
  omega

/-- **`n · M(a − e_r) = a_r · M(a)`** -/
theorem multinomial_shift' (a : List ℕ) (r : ℕ) (hr : r < a.length) (hpos : 0 < a.getD r 0) :
    a.sum * multinomial (a.set r (a.getD r 0 - 1)) = a.getD r 0 * multinomial a := by
  set a' := a.set r (a.getD r 0 - 1) with ha'
  have h1 := multinomial_mul a
  have h2 := multinomial_mul a'
  have hs := sum_set a r hr hpos
  have hp := prodFact_set a r hr hpos
  rw [← ha'] at hs hp
  have hf : fact a.sum = a.sum * fact a'.sum := by rw [← hs, fact]
  have key : a.sum * multinomial a' * prodFact a' = a.getD r 0 * multinomial a * prodFact a' := by
    calc a.sum * multinomial a' * prodFact a' = a.sum * (multinomial a' * prodFact a') := by ring
      _ = fact a.sum := by rw [h2, hf]
      _ = multinomial a * prodFact a := h1.symm
      _ = a.getD r 0 * multinomial a * prodFact a' := by rw [hp]; ring
  exact Nat.eq_of_mul_eq_mul_right (prodFact_pos a') key

/-! ### `klist` -/

theorem klist_one (n : ℕ) : klist 1 n = [[n]] := by simp [klist]

theorem klist_succ (d n : ℕ) (hd : d ≠ 0) :
    klist (d + 1) n = (List.range (n + 1)).flatMap fun x => (klist d (n - x)).map (x :: ·) := by
  rw [klist]; simp [hd]

theorem mem_klist_iff (d n : ℕ) (a : List ℕ) : a ∈ klist (d + 1) n ↔ a.length = d + 1 ∧ a.sum = n := by
  induction d generalizing n a with
  | zero =>
    rw [klist_one, List.mem_singleton]
    constructor
    · rintro rfl; simp
    · rintro ⟨hl, hs⟩
      match a, hl with
      | [x], _ => simp at hs; rw [hs]
  | succ d ih =>
    rw [klist_succ _ _ (Nat.succ_ne_zero d)]
    simp only [List.mem_flatMap, List.mem_range, List.mem_map]
    constructor
    · rintro ⟨x, hx, y, hy, rfl⟩
      obtain ⟨hl, hs⟩ := (ih _ _).1 hy
      have hx' : x + (n - x) = n := Nat.add_sub_cancel' (Nat.lt_succ_iff.1 hx)
      simp only [List.length_cons, List.sum_cons, hl, hs, hx', and_self]
    · rintro ⟨hl, hs⟩
      match a, hl with
      | x :: y, hl =>
        simp only [List.sum_cons] at hs
        refine ⟨x, by omega, y, (ih _ _).2 ⟨by simpa using hl, by omega⟩, rfl⟩

theorem klist_nodup (d n : ℕ) : (klist (d + 1) n).Nodup := by
  induction d generalizing n with
  | zero => rw [klist_one]; simp
  | succ d ih =>
    rw [klist_succ _ _ (Nat.succ_ne_zero d)]
    rw [List.nodup_flatMap]
    refine ⟨fun x _ => (ih _).map (fun _ _ h => (List.cons_injective h)), ?_⟩
    refine (List.nodup_range).pairwise_of_forall_ne ?_
    intro x _ y _ hxy
    simp only [Function.onFun, List.disjoint_left, List.mem_map]
    rintro a ⟨u, _, rfl⟩ ⟨v, _, h⟩
    exact hxy (List.cons_eq_cons.1 h).1.symm

theorem list_sum_range_eq (m : ℕ) (f : ℕ → ℕ) : ((List.range m).map f).sum = ∑ i ∈ range m, f i := by
  induction m with
  | zero => simp
  | succ m ih => rw [List.sum_range_succ, ih, Finset.sum_range_succ]

theorem hockey (n d : ℕ) : ∑ m ∈ range (n + 1), (m + d).choose d = (n + d + 1).choose (d + 1) := by
  induction n with
  | zero => simp
  | succ n ih =>
    rw [Finset.sum_range_succ, ih]
    have : n + 1 + d + 1 = (n + d + 1) + 1 := by omega
    rw [this, Nat.choose_succ_succ (n + d + 1) d]
    have : n + 1 + d = n + d + 1 := by omega
    rw [this]; ring

/-- **the number of Dicke vectors**: `#klist = C(n+d-1, d-1)` -/
theorem klist_length (d n : ℕ) : (klist (d + 1) n).length = (n + d).choose d := by
  induction d generalizing n with
  | zero => rw [klist_one]; simp
  | succ d ih =>
    rw [klist_succ _ _ (Nat.succ_ne_zero d), List.length_flatMap]
    simp only [List.length_map, ih]
    rw [list_sum_range_eq, ← Finset.sum_range_reflect]
    rw [← Nat.add_assoc, ← hockey n d]
    refine Finset.sum_congr rfl fun j hj => ?_
    have := mem_range.1 hj
    congr 1; omega

theorem choose_eq (n k : ℕ) : Dicke.choose n k = n.choose k := by
  induction n generalizing k with
  | zero => cases k <;> simp [Dicke.choose]
  | succ n ih => cases k <;> simp [Dicke.choose, ih, Nat.choose_succ_succ]

/-! ### occupation numbers and the number of strings of a given occupation -/

theorem occ_length (d : ℕ) (l : List ℕ) : (occ d l).length = d := by simp [occ]

theorem occ_getElem (d : ℕ) (l : List ℕ) (v : ℕ) (hv : v < (occ d l).length) : (occ d l)[v] = l.count v := by
  simp [occ]

theorem occ_getD (d : ℕ) (l : List ℕ) (v : ℕ) (hv : v < d) : (occ d l).getD v 0 = l.count v := by
  rw [List.getD_eq_getElem _ _ (by rw [occ_length]; exact hv), occ_getElem]

theorem occ_cons (d q : ℕ) (l : List ℕ) (hq : q < d) :
    occ d (q :: l) = (occ d l).set q ((occ d l).getD q 0 + 1) := by
  rw [occ_getD d l q hq]
  apply List.ext_getElem
  · simp [occ_length]
  · intro i h1 h2
    rw [occ_getElem, List.getElem_set, List.count_cons]
    by_cases h : q = i
    · subst h; simp
    · have : (q == i) = false := by simpa using h
      simp [this, h, occ_getElem]

theorem occ_cons_eq_iff (d q : ℕ) (l a : List ℕ) (hq : q < d) (ha : a.length = d) :
    occ d (q :: l) = a ↔ 0 < a.getD q 0 ∧ occ d l = a.set q (a.getD q 0 - 1) := by
  rw [occ_cons d q l hq]
  have hql : q < (occ d l).length := by rw [occ_length]; exact hq
  have hqa : q < a.length := by rw [ha]; exact hq
  constructor
  · intro h
    subst h
    have hg : ((occ d l).set q ((occ d l).getD q 0 + 1)).getD q 0 = (occ d l).getD q 0 + 1 := by
      rw [List.getD_eq_getElem _ _ (by simpa using hql), List.getElem_set_self]
    refine ⟨by omega, ?_⟩
    rw [hg, Nat.add_sub_cancel, List.set_set, List.getD_eq_getElem _ _ hql, List.set_getElem_self]
  · rintro ⟨hpos, h⟩
    rw [h, List.set_set]
    have : (a.set q (a.getD q 0 - 1)).getD q 0 = a.getD q 0 - 1 := by
      rw [List.getD_eq_getElem _ _ (by simpa using hqa), List.getElem_set_self]
    rw [this, Nat.sub_add_cancel hpos, List.getD_eq_getElem _ _ hqa, List.set_getElem_self]

theorem occ_perm (d : ℕ) {l l' : List ℕ} (h : l.Perm l') : occ d l = occ d l' := by
  simp only [occ]; exact List.map_congr_left fun v _ => h.count_eq v

theorem prodDims_replicate (n d : ℕ) : PT.prodDims (List.replicate n d) = d ^ n := by
  induction n with
  | zero => rfl
  | succ n ih => simp [List.replicate_succ, PT.prodDims, ih, pow_succ, Nat.mul_comm]

theorem digits_succ (d n x : ℕ) : digits d (n + 1) x = (x / d ^ n) :: digits d n (x % d ^ n) := by
  simp [digits, List.replicate_succ, PT.unravel, prodDims_replicate]

theorem digits_zero (d x : ℕ) : digits d 0 x = [] := by simp [digits, PT.unravel]

/-- number of flat indices `x < d^n` whose digit string has occupation `a` -/
def cnt (d n : ℕ) (a : List ℕ) : ℕ := ∑ x ∈ range (d ^ n), if occ d (digits d n x) = a then 1 else 0

theorem sum_getD_eq_sum (a : List ℕ) : ∑ q ∈ range a.length, a.getD q 0 = a.sum := by
  induction a with
  | nil => simp
  | cons x xs ih =>
    rw [List.length_cons, Finset.sum_range_succ', List.sum_cons]
    simp only [List.getD_cons_succ, List.getD_cons_zero, ih]; ring

theorem multinomial_of_sum_zero (a : List ℕ) (h : a.sum = 0) : multinomial a = 1 := by
  have := multinomial_mul a
  rw [h] at this
  exact Nat.eq_one_of_mul_eq_one_right this

/-- Σ_q [a_q>0] M(a − e_q) = M(a) -/
theorem sum_multinomial_decr (a : List ℕ) (hs : 0 < a.sum) :
    ∑ q ∈ range a.length, (if 0 < a.getD q 0 then multinomial (a.set q (a.getD q 0 - 1)) else 0) = multinomial a := by
  apply Nat.eq_of_mul_eq_mul_left hs
  rw [Finset.mul_sum]
  have : ∀ q ∈ range a.length,
      a.sum * (if 0 < a.getD q 0 then multinomial (a.set q (a.getD q 0 - 1)) else 0) = a.getD q 0 * multinomial a := by
    intro q hq
    by_cases h : 0 < a.getD q 0
    · rw [if_pos h, multinomial_shift' a q (mem_range.1 hq) h]
    · rw [if_neg h]; have : a.getD q 0 = 0 := by omega
      rw [this]; simp
  rw [Finset.sum_congr rfl this, ← Finset.sum_mul, sum_getD_eq_sum]

/-- **the number of strings of occupation `a` is the multinomial coefficient** -/
theorem cnt_eq_multinomial (d n : ℕ) (a : List ℕ) (hl : a.length = d) (hs : a.sum = n) :
    cnt d n a = multinomial a := by
  induction n generalizing a with
  | zero =>
    have hz : ∀ x ∈ a, x = 0 := List.sum_eq_zero_iff.1 hs
    have ha : occ d (digits d 0 0) = a := by
      apply List.ext_getElem
      · rw [occ_length, hl]
      · intro i h1 h2
        rw [occ_getElem, digits_zero]; simp [hz _ (List.getElem_mem h2)]
    rw [cnt, pow_zero, Finset.sum_range_one, if_pos ha, multinomial_of_sum_zero a hs]
  | succ n ih =>
    rw [cnt, pow_succ, Nat.mul_comm, sum_range_mul]
    have hq : ∀ q ∈ range d, ∑ r ∈ range (d ^ n), (if occ d (digits d (n + 1) (q * d ^ n + r)) = a then 1 else 0)
        = if 0 < a.getD q 0 then multinomial (a.set q (a.getD q 0 - 1)) else 0 := by
      intro q hq
      have hq' := mem_range.1 hq
      by_cases hpos : 0 < a.getD q 0
      · rw [if_pos hpos, ← ih (a.set q (a.getD q 0 - 1)) (by simpa using hl)
          (by have := sum_set a q (by omega) hpos; omega), cnt]
        refine Finset.sum_congr rfl fun r hr => ?_
        have hr' := mem_range.1 hr
        rw [digits_succ, div_of_lt hr', mod_of_lt hr']
        simp only [occ_cons_eq_iff d q _ a hq' hl, hpos, true_and]
      · rw [if_neg hpos]
        refine Finset.sum_eq_zero fun r hr => ?_
        have hr' := mem_range.1 hr
        rw [digits_succ, div_of_lt hr', mod_of_lt hr', if_neg]
        rw [occ_cons_eq_iff d q _ a hq' hl]; tauto
    rw [Finset.sum_congr rfl hq, ← hl]
    exact sum_multinomial_decr a (by omega)

/-- number of `y < d^n` for which the string `(r, y)` has occupation `a` and `(s, y)` has occupation `b`
(`√(M(a) M(b))` times the overlap `Σ_y ⟨r,y|D_a⟩⟨D_b|s,y⟩`) -/
def common (d n r s : ℕ) (a b : List ℕ) : ℕ :=
  ∑ y ∈ range (d ^ n),
    if occ d (digits d (n + 1) (r * d ^ n + y)) = a ∧ occ d (digits d (n + 1) (s * d ^ n + y)) = b then 1 else 0

theorem common_eq (d n r s : ℕ) (a b : List ℕ) (hr : r < d) (hs : s < d) (hla : a.length = d) (hlb : b.length = d)
    (hsa : a.sum = n + 1) :
    common d n r s a b =
      if 0 < a.getD r 0 ∧ 0 < b.getD s 0 ∧ a.set r (a.getD r 0 - 1) = b.set s (b.getD s 0 - 1)
      then multinomial (a.set r (a.getD r 0 - 1)) else 0 := by
  by_cases hC : 0 < a.getD r 0 ∧ 0 < b.getD s 0 ∧ a.set r (a.getD r 0 - 1) = b.set s (b.getD s 0 - 1)
  · rw [if_pos hC]
    obtain ⟨h1, h2, h3⟩ := hC
    rw [← cnt_eq_multinomial d n (a.set r (a.getD r 0 - 1)) (by simpa using hla)
      (by have := sum_set a r (by omega) h1; omega), cnt, common]
    refine Finset.sum_congr rfl fun y hy => ?_
    have hy' := mem_range.1 hy
    rw [digits_succ, digits_succ, div_of_lt hy', mod_of_lt hy', div_of_lt hy', mod_of_lt hy']
    simp only [occ_cons_eq_iff d r _ a hr hla, occ_cons_eq_iff d s _ b hs hlb, h1, h2, true_and, ← h3, and_self]
  · rw [if_neg hC, common]
    refine Finset.sum_eq_zero fun y hy => ?_
    have hy' := mem_range.1 hy
    rw [digits_succ, digits_succ, div_of_lt hy', mod_of_lt hy', div_of_lt hy', mod_of_lt hy', if_neg]
    rw [occ_cons_eq_iff d r _ a hr hla, occ_cons_eq_iff d s _ b hs hlb]
    rintro ⟨⟨p1, e1⟩, ⟨p2, e2⟩⟩
    exact hC ⟨p1, p2, e1.symm.trans e2⟩

end Dicke
end Numqi
