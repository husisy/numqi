/-
Tripartite test `is_ABC_completely_entangled_subspace` at level 2 (C20): the model's vector entry for a multi-index of length 3 is the
symmetrised form `abcW` (every slot in turn is the plain factor, the other two go through both cuts), `abcW` is multilinear and
symmetric, and it vanishes on a product tensor — the level-2 linear relation.
-/
import NumqiProofs.MatrixSpaceTripartite
import NumqiProofs.MatrixSpaceLevel2
namespace Numqi.MatrixSpace
open Finset Equiv

section
variable {R : Type} [CommRing R]

/-- level-2 entry of the tripartite test: each of the three slots in turn is the plain factor, the other two go through both cuts -/
def abcW (dB dC : ℕ) (A : Fin 3 → ℕ → ℕ → ℕ → R) (a b c a' b' c' : ℕ) (K : ℕ) : R :=
  ∑ m : Fin 3, abcEntry dB dC (A (m.succAbove 0)) (A (m.succAbove 1)) a b c a' b' c' * matA_BC dC (A m) (K / (dB * dC)) (K % (dB * dC))

theorem sum_fun_fin_two {N : ℕ} (f : Fin N → Fin N → R) : ∑ t : Fin 2 → Fin N, f (t 0) (t 1) = ∑ i, ∑ j, f i j := by
  rw [← (Fin.insertNthEquiv (fun _ => Fin N) 0).sum_comp, Fintype.sum_prod_type]
  refine Finset.sum_congr rfl fun i _ => ?_
  rw [← (Equiv.funUnique (Fin 1) (Fin N)).symm.sum_comp]
  refine Finset.sum_congr rfl fun j _ => ?_
  simp [Fin.insertNthEquiv]

theorem abcW_diag (dB dC : ℕ) (P : ℕ → ℕ → ℕ → R) (a b c a' b' c' K : ℕ) :
    abcW dB dC (fun _ => P) a b c a' b' c' K
      = 3 * (abcEntry dB dC P P a b c a' b' c' * matA_BC dC P (K / (dB * dC)) (K % (dB * dC))) := by
  unfold abcW
  rw [Finset.sum_const, Finset.card_univ, Fintype.card_fin, nsmul_eq_mul]; norm_num

theorem abcW_expand {N : ℕ} (dB dC : ℕ) (cf : Fin N → R) (S : Fin N → ℕ → ℕ → ℕ → R) (a b c a' b' c' K : ℕ) :
    abcW dB dC (fun _ => fun x y z => ∑ i, cf i * S i x y z) a b c a' b' c' K
      = ∑ t : Fin 3 → Fin N, (∏ m, cf (t m)) * abcW dB dC (fun m => S (t m)) a b c a' b' c' K := by
  unfold abcW
  have hR : ∑ t : Fin 3 → Fin N, (∏ m, cf (t m)) *
        ∑ m : Fin 3, abcEntry dB dC (S (t (m.succAbove 0))) (S (t (m.succAbove 1))) a b c a' b' c'
          * matA_BC dC (S (t m)) (K / (dB * dC)) (K % (dB * dC))
      = ∑ m : Fin 3, ∑ t : Fin 3 → Fin N, (∏ m', cf (t m')) *
          (abcEntry dB dC (S (t (m.succAbove 0))) (S (t (m.succAbove 1))) a b c a' b' c'
            * matA_BC dC (S (t m)) (K / (dB * dC)) (K % (dB * dC))) := by
    simp only [Finset.mul_sum]; exact Finset.sum_comm
  rw [hR]
  refine Finset.sum_congr rfl fun m _ => ?_
  rw [abcEntry_bilinear, matA_BC_sum, ← (Fin.insertNthEquiv (fun _ => Fin N) m).sum_comp, Fintype.sum_prod_type]
  rw [← sum_fun_fin_two (fun i j => cf i * cf j * abcEntry dB dC (S i) (S j) a b c a' b' c'), Finset.sum_mul_sum]
  refine Finset.sum_comm.trans ?_
  refine Finset.sum_congr rfl fun i _ => Finset.sum_congr rfl fun t' _ => ?_
  simp only [Fin.insertNthEquiv_apply, Fin.insertNth_apply_same, Fin.insertNth_apply_succAbove]
  rw [Fin.prod_univ_succAbove _ m]
  simp only [Fin.insertNth_apply_same, Fin.insertNth_apply_succAbove, Fin.prod_univ_two]
  ring

theorem abcW_perm (dB dC : ℕ) (A : Fin 3 → ℕ → ℕ → ℕ → R) (a b c a' b' c' K : ℕ) (π : Perm (Fin 3)) :
    abcW dB dC (fun m => A (π m)) a b c a' b' c' K = abcW dB dC A a b c a' b' c' K := by
  unfold abcW
  rw [← Equiv.sum_comp π (fun m => abcEntry dB dC (A (m.succAbove 0)) (A (m.succAbove 1)) a b c a' b' c'
    * matA_BC dC (A m) (K / (dB * dC)) (K % (dB * dC)))]
  refine Finset.sum_congr rfl fun m _ => ?_
  obtain ⟨π', hπ'⟩ := exists_perm_succAbove π m
  show abcEntry dB dC (A (π (m.succAbove 0))) (A (π (m.succAbove 1))) a b c a' b' c' * matA_BC dC (A (π m)) (K / (dB * dC)) (K % (dB * dC)) = _
  rw [hπ' 0, hπ' 1]
  congr 1
  have h01 : π' 0 ≠ π' 1 := π'.injective.ne (by decide)
  rcases Fin.exists_fin_two.1 ⟨π' 0, rfl⟩ with h0 | h0 <;> rcases Fin.exists_fin_two.1 ⟨π' 1, rfl⟩ with h1 | h1
  · exact (h01 (h0.trans h1.symm)).elim
  · rw [h0, h1]
  · rw [h0, h1, abcEntry_symm]
  · exact (h01 (h0.trans h1.symm)).elim

/-- **level-2 relation of the tripartite test** -/
theorem abcW_dependence {N : ℕ} (dB dC : ℕ) (cf : Fin N → R) (S : Fin N → ℕ → ℕ → ℕ → R) (x y z : ℕ → R)
    (hprod : ∀ a b e, ∑ i, cf i * S i a b e = x a * y b * z e) (a b c a' b' c' K : ℕ) :
    ∑ t : Fin 3 → Fin N, (∏ m, cf (t m)) * abcW dB dC (fun m => S (t m)) a b c a' b' c' K = 0 := by
  have hfun : (fun a b e => ∑ i, cf i * S i a b e) = fun a b e => x a * y b * z e := by
    funext a b e; exact hprod a b e
  rw [← abcW_expand, abcW_diag, hfun, abcEntry_product]; ring

/-- **the model's level-2 entry of the tripartite test is `abcW`** for every multi-index of length 3 -/
theorem abcLevelEntry_level2 {N : ℕ} (dB dC : ℕ) (T : ℕ → ℕ → ℕ → ℕ → R) (INDEX : List ℕ) (a b c a' b' c' K : ℕ)
    (hlen : INDEX.length = 3) (hlt : ∀ i ∈ INDEX, i < N) :
    abcLevelEntry dB dC N T INDEX a b c a' b' c' [K]
      = abcW dB dC (fun m : Fin 3 => T (INDEX.getD m.val 0)) a b c a' b' c' K := by
  have hc : combos (List.range 3) 2 = [[0, 1], [0, 2], [1, 2]] := by decide
  have hget : ∀ m, m < 3 → INDEX.getD m 0 < N := by
    intro m hm
    rw [getD_eq_getElem' _ (by omega)]
    exact hlt _ (List.getElem_mem _)
  unfold abcLevelEntry abcW
  simp only [hlen, hc, List.map_cons, List.map_nil]
  have f0 : (List.range 3).filter (fun x => !([0, 1] : List ℕ).contains x) = [2] := by decide
  have f1 : (List.range 3).filter (fun x => !([0, 2] : List ℕ).contains x) = [1] := by decide
  have f2 : (List.range 3).filter (fun x => !([1, 2] : List ℕ).contains x) = [0] := by decide
  simp only [f0, f1, f2, List.map_cons, List.map_nil, List.isEmpty_cons, Bool.false_eq_true, if_false, List.getD_cons_zero,
    List.getD_cons_succ, symPartEntry_singleton _ _ _ _ (hget 0 (by omega)), symPartEntry_singleton _ _ _ _ (hget 1 (by omega)),
    symPartEntry_singleton _ _ _ _ (hget 2 (by omega)), flatEntry, listSum, List.foldr]
  rw [Fin.sum_univ_three]
  simp only [Fin.succAbove]
  simp
  ring

end
end Numqi.MatrixSpace
