/-
Helper lemmas for the Gell-Mann model (C16; reused by C01/C02 for the placements that go through
`gellmann_basis_to_matrix`).
-/
import Mathlib.Tactic
import Mathlib.Data.Matrix.Basis
import Mathlib.LinearAlgebra.Matrix.Trace
import Mathlib.Data.Matrix.Mul
import Mathlib.Algebra.BigOperators.Fin
import Mathlib.Algebra.Star.Basic
import Mathlib.Data.Fintype.Fin
import NumqiModel.Gellmann

namespace Numqi.Gellmann
open Matrix

/-! ### the index lists -/
section lists
variable {d : Nat}
theorem mem_pairs {p : Fin d × Fin d} : p ∈ pairs d ↔ p.1 < p.2 := by
  simp only [pairs, List.mem_flatMap, List.mem_finRange, true_and, List.mem_map, List.mem_filter, decide_eq_true_eq]
  constructor
  · rintro ⟨i, j, hij, rfl⟩; exact hij
  · intro h; exact ⟨p.1, p.2, h, rfl⟩
theorem nodup_pairs : (pairs d).Nodup := by
  unfold pairs
  refine List.nodup_flatMap.2 ⟨fun i _ => ((List.nodup_finRange d).filter _).map fun a b h => (Prod.mk.inj h).2,
    (List.nodup_finRange d).imp fun {a b} hab => ?_⟩
  simp only [Function.onFun, List.disjoint_left, List.mem_map]
  rintro _ ⟨j, _, rfl⟩ ⟨j', _, h⟩
  exact hab (Prod.mk.inj h).1.symm

theorem length_pairs : (pairs d).length * 2 = d * (d - 1) := by
  have h : ∀ i : Fin d, ((List.finRange d).filter fun j => i < j).length = d - 1 - i := fun i => by
    rw [← Fin.card_Ioi, ← Finset.filter_lt_eq_Ioi]; rfl
  simp only [pairs, List.length_flatMap, List.length_map, h]
  rw [← Fin.sum_univ_def, Fin.sum_univ_eq_sum_range (fun i => d - 1 - i), Finset.sum_range_reflect (fun i => i),
    Finset.sum_range_id_mul_two]

theorem mem_diagIdx {k : Fin d} : k ∈ diagIdx d ↔ 0 < k.val := by
  simp [diagIdx]

theorem nodup_diagIdx : (diagIdx d).Nodup := (List.nodup_finRange d).filter _

/-- `diagIdx (d+1) = [1, …, d]` -/
theorem diagIdx_eq : (diagIdx (d+1)) = (List.finRange d).map Fin.succ := by
  unfold diagIdx
  rw [List.finRange_succ]
  simp [List.filter_map, Function.comp_def]

theorem length_diagIdx : (diagIdx d).length = d - 1 := by
  cases d with
  | zero => simp [diagIdx]
  | succ n => simp [diagIdx_eq]

end lists

variable {R : Type} [CommRing R] {d : Nat}

/-- basis element as a Mathlib matrix -/
def G (S : Scalars R) (d i j : Nat) : Matrix (Fin d) (Fin d) R := Matrix.of (gm S d i j)

theorem G_sym (S : Scalars R) {i j : Fin d} (h : i < j) :
    G S d i.val j.val = single i j 1 + single j i 1 := by
  ext r c
  have h' : i.val < j.val := h
  simp only [G, of_apply, gm, not_lt_of_gt h', if_false, h', if_true, Matrix.add_apply, Matrix.single_apply, ← Fin.ext_iff, eq_comm (b := i),
    eq_comm (b := j)]
  by_cases h1 : i = r ∧ j = c
  · obtain ⟨rfl, rfl⟩ := h1
    simp [h.ne']
  · simp [h1]

theorem G_asym (S : Scalars R) {i j : Fin d} (h : i < j) :
    G S d j.val i.val = single i j (-S.I) + single j i S.I := by
  ext r c
  have h' : i.val < j.val := h
  simp only [G, of_apply, gm, h', if_true, Matrix.add_apply, Matrix.single_apply, ← Fin.ext_iff, eq_comm (b := i), eq_comm (b := j)]
  by_cases h1 : j = r ∧ i = c
  · obtain ⟨rfl, rfl⟩ := h1
    simp [h.ne]
  · simp [h1]

def wD (S : Scalars R) (k : Nat) (r : Fin d) : R :=
  if r.val < k then S.cD k else if r.val = k then S.cD k * -(k : R) else 0

theorem wD_of_lt (S : Scalars R) {k : Nat} {r : Fin d} (h : r.val < k) : wD S k r = S.cD k := if_pos h

theorem wD_self (S : Scalars R) (k : Fin d) : wD S k.val k = S.cD k * -(k.val : R) := by simp [wD]

theorem G_diag (S : Scalars R) {k : Nat} (h : 0 < k) :
    G S d k k = diagonal (wD S k) := by
  ext r c
  simp only [G, Matrix.of_apply, gm, lt_irrefl, if_false, Nat.ne_of_gt h, diagonal_apply, wD]

theorem G_ident (S : Scalars R) : G S d 0 0 = diagonal (fun _ => S.cI) := by
  ext r c
  simp only [G, Matrix.of_apply, gm, lt_irrefl, if_false, if_true, diagonal_apply]

/-! ### inner products `tr (G_a X)` -/

theorem tr_off_mul (i j : Fin d) (a b : R) (X : Matrix (Fin d) (Fin d) R) :
    trace ((single i j a + single j i b) * X) = a * X j i + b * X i j := by
  rw [add_mul, trace_add, trace_single_mul, trace_single_mul, smul_eq_mul, smul_eq_mul]

theorem tr_diagonal_mul (w : Fin d → R) (X : Matrix (Fin d) (Fin d) R) :
    trace (diagonal w * X) = ∑ r, w r * X r r := by
  simp [trace, diagonal_mul]

/-- two off-diagonal elements on index pairs `i < j`, `i' < j'` -/
theorem tr_off_mul_off {i j i' j' : Fin d} (h : i < j) (h' : i' < j') (a b a' b' : R) :
    trace ((single i j a + single j i b) * (single i' j' a' + single j' i' b'))
      = if (i, j) = (i', j') then a * b' + b * a' else 0 := by
  rw [tr_off_mul]
  by_cases e : (i, j) = (i', j')
  · obtain ⟨rfl, rfl⟩ := Prod.mk.inj e
    simp [h.ne, h.ne']
  · have e1 : ¬ (i' = i ∧ j' = j) := fun e' => e (by rw [e'.1, e'.2])
    have e2 : ¬ (j' = i ∧ i' = j) := fun e' => absurd (e'.2 ▸ e'.1 ▸ h') (not_lt_of_gt h)
    have e3 : ¬ (i' = j ∧ j' = i) := fun e' => e2 ⟨e'.2, e'.1⟩
    have e4 : ¬ (j' = j ∧ i' = i) := fun e' => e1 ⟨e'.2, e'.1⟩
    simp [e, e1, e2, e3, e4]

theorem tr_off_mul_diagonal {i j : Fin d} (h : i ≠ j) (a b : R) (w : Fin d → R) :
    trace ((single i j a + single j i b) * diagonal w) = 0 := by
  rw [tr_off_mul, diagonal_apply_ne _ h, diagonal_apply_ne _ h.symm, mul_zero, mul_zero, add_zero]

theorem sum_lt_const (k : Fin d) (c : R) : ∑ r : Fin d, (if r.val < k.val then c else 0) = (k.val : R) * c := by
  rw [← Finset.sum_filter, Finset.sum_const, Fin.card_filter_val_lt, min_eq_right (le_of_lt k.isLt)]
  simp

theorem sum_wD_mul (S : Scalars R) (k : Fin d) (f : Fin d → R) :
    ∑ r : Fin d, wD S k.val r * f r = S.cD k * ((∑ r : Fin d, if r.val < k.val then f r else 0) - (k.val : R) * f k) := by
  have : ∀ r : Fin d, wD S k.val r * f r = S.cD k * ((if r.val < k.val then f r else 0) - if r = k then (k.val : R) * f k else 0) := by
    intro r
    rcases lt_trichotomy r k with h | rfl | h
    · simp [wD_of_lt S h, h, h.ne]
    · simp [wD_self]; ring
    · simp [wD, (Fin.lt_def.1 h).not_gt, (Fin.lt_def.1 h).ne', h.ne']
  simp only [this, ← Finset.mul_sum, Finset.sum_sub_distrib, Finset.sum_ite_eq', Finset.mem_univ, if_true]

theorem sum_wD (S : Scalars R) (k : Fin d) : ∑ r : Fin d, wD S k.val r = 0 := by
  have := sum_wD_mul S k fun _ => 1
  simp only [mul_one, sum_lt_const, sub_self, mul_zero] at this
  exact this

/-- `Σ_r w_k(r) w_k'(r)` for `k ≤ k'`: the weights `w_k'` are constant on the support `r ≤ k` of `w_k`, except at `r = k = k'` -/
theorem sum_wD_mul_wD (S : Scalars R) {k k' : Fin d} (h : k ≤ k') :
    ∑ r : Fin d, wD S k.val r * wD S k'.val r = S.cD k * (k.val : R) * (S.cD k' - wD S k'.val k) := by
  have : ∀ r : Fin d, (if r.val < k.val then wD S k'.val r else 0) = if r.val < k.val then S.cD k' else 0 := fun r => by
    split_ifs with hr
    · exact wD_of_lt S (lt_of_lt_of_le hr h)
    · rfl
  rw [sum_wD_mul, Finset.sum_congr rfl fun r _ => this r, sum_lt_const]; ring

variable [StarRing R]

/-- the algebraic relations satisfied by the exact square roots -/
structure Scalars.Valid (S : Scalars R) (d : Nat) : Prop where
  half_two : S.half * 2 = 1
  I_sq : S.I * S.I = -1
  star_I : star S.I = -S.I
  star_half : star S.half = S.half
  cD_sq : ∀ k, 1 ≤ k → k < d → S.cD k * S.cD k * ((k : R) * ((k : R) + 1)) = 2
  star_cD : ∀ k, star (S.cD k) = S.cD k
  cI_sq : S.cI * S.cI * (d : R) = 2
  star_cI : star S.cI = S.cI
  aD_eq : ∀ k, S.aD k = S.half * S.cD k
  aI_eq : S.aI = S.half * S.cI
  invD_mul : S.invD * (d : R) = 1


/-! ### the basis as a list of tagged indices -/

inductive Kind (d : Nat) where
  | sym (p : Fin d × Fin d)
  | asym (p : Fin d × Fin d)
  | diag (k : Fin d)
  | ident
  deriving DecidableEq

/-- the documented order `sym ++ antisym ++ diag ++ [I]` -/
def kinds (d : Nat) : List (Kind d) :=
  (pairs d).map Kind.sym ++ (pairs d).map Kind.asym ++ (diagIdx d).map Kind.diag ++ [Kind.ident]

def Kind.mat (S : Scalars R) : Kind d → Matrix (Fin d) (Fin d) R
  | .sym p => G S d p.1.val p.2.val
  | .asym p => G S d p.2.val p.1.val
  | .diag k => G S d k.val k.val
  | .ident => G S d 0 0

def Kind.WF : Kind d → Prop
  | .sym p => p.1 < p.2
  | .asym p => p.1 < p.2
  | .diag k => 0 < k.val
  | .ident => True

omit [StarRing R] in
theorem allGellmann_eq (S : Scalars R) : (allGellmann S d).map Matrix.of = (kinds d).map (Kind.mat S) := by
  simp [allGellmann, kinds, List.map_append, List.map_map, Function.comp_def, Kind.mat, G]

theorem kinds_wf {k : Kind d} (h : k ∈ kinds d) : k.WF := by
  simp only [kinds, List.mem_append, List.mem_map, List.mem_singleton] at h
  rcases h with ((⟨p, hp, rfl⟩ | ⟨p, hp, rfl⟩) | ⟨k, hk, rfl⟩) | rfl
  · exact mem_pairs.1 hp
  · exact mem_pairs.1 hp
  · exact mem_diagIdx.1 hk
  · trivial

theorem kinds_nodup : (kinds d).Nodup := by
  unfold kinds
  refine List.Nodup.append (List.Nodup.append (List.Nodup.append ?_ ?_ ?_) ?_ ?_) (List.nodup_singleton _) ?_
  · exact nodup_pairs.map (fun a b h => by injection h)
  · exact nodup_pairs.map (fun a b h => by injection h)
  · simp only [List.disjoint_left, List.mem_map]
    rintro a ⟨p, _, rfl⟩ ⟨q, _, h⟩; cases h
  · exact nodup_diagIdx.map (fun a b h => by injection h)
  · simp only [List.disjoint_left, List.mem_map, List.mem_append]
    rintro a (⟨p, _, rfl⟩ | ⟨p, _, rfl⟩) ⟨q, _, h⟩ <;> cases h
  · simp only [List.disjoint_left, List.mem_map, List.mem_append, List.mem_singleton]
    rintro a ((⟨p, _, rfl⟩ | ⟨p, _, rfl⟩) | ⟨p, _, rfl⟩) h <;> cases h

theorem length_kinds (hd : 1 ≤ d) : (kinds d).length = d * d := by
  simp only [kinds, List.length_append, List.length_map, List.length_singleton, length_diagIdx]
  have := length_pairs (d := d)
  obtain ⟨n, rfl⟩ : ∃ n, d = n + 1 := ⟨d - 1, by omega⟩
  simp only [Nat.add_sub_cancel] at this ⊢
  have : (n+1) * (n+1) = (n+1) * n + (n+1) := by ring
  omega

theorem orth (S : Scalars R) (hS : S.Valid d) {k k' : Kind d} (hk : k.WF) (hk' : k'.WF) :
    trace (k.mat S * k'.mat S) = if k = k' then 2 else 0 := by
  have hI : -S.I * S.I + S.I * -S.I = 2 := by linear_combination (-2 : R) * hS.I_sq
  rcases k with ⟨i, j⟩ | ⟨i, j⟩ | k | _ <;> rcases k' with ⟨i', j'⟩ | ⟨i', j'⟩ | k' | _
  · rw [Kind.mat, Kind.mat, G_sym S hk, G_sym S hk', tr_off_mul_off hk hk']; norm_num
  · rw [Kind.mat, Kind.mat, G_sym S hk, G_asym S hk', tr_off_mul_off hk hk']; simp
  · rw [Kind.mat, Kind.mat, G_sym S hk, G_diag S hk', tr_off_mul_diagonal hk.ne]; simp
  · rw [Kind.mat, Kind.mat, G_sym S hk, G_ident, tr_off_mul_diagonal hk.ne]; simp
  · rw [Kind.mat, Kind.mat, G_asym S hk, G_sym S hk', tr_off_mul_off hk hk']; simp
  · rw [Kind.mat, Kind.mat, G_asym S hk, G_asym S hk', tr_off_mul_off hk hk', hI]; simp
  · rw [Kind.mat, Kind.mat, G_asym S hk, G_diag S hk', tr_off_mul_diagonal hk.ne]; simp
  · rw [Kind.mat, Kind.mat, G_asym S hk, G_ident, tr_off_mul_diagonal hk.ne]; simp
  · rw [Kind.mat, Kind.mat, G_diag S hk, G_sym S hk', trace_mul_comm, tr_off_mul_diagonal hk'.ne]; simp
  · rw [Kind.mat, Kind.mat, G_diag S hk, G_asym S hk', trace_mul_comm, tr_off_mul_diagonal hk'.ne]; simp
  · rw [Kind.mat, Kind.mat, G_diag S hk, G_diag S hk', tr_diagonal_mul]
    simp only [diagonal_apply_eq, Kind.diag.injEq]
    rcases lt_trichotomy k k' with h | rfl | h
    · rw [sum_wD_mul_wD S h.le, wD_of_lt S h, sub_self, mul_zero, if_neg h.ne]
    · rw [sum_wD_mul_wD S le_rfl, wD_self, if_pos rfl, ← hS.cD_sq _ hk k.isLt]; ring
    · rw [Finset.sum_congr rfl fun r _ => mul_comm _ _, sum_wD_mul_wD S h.le, wD_of_lt S h, sub_self, mul_zero, if_neg h.ne']
  · rw [Kind.mat, Kind.mat, G_diag S hk, G_ident, tr_diagonal_mul]
    simp [← Finset.sum_mul, sum_wD]
  · rw [Kind.mat, Kind.mat, G_ident, G_sym S hk', trace_mul_comm, tr_off_mul_diagonal hk'.ne]; simp
  · rw [Kind.mat, Kind.mat, G_ident, G_asym S hk', trace_mul_comm, tr_off_mul_diagonal hk'.ne]; simp
  · rw [Kind.mat, Kind.mat, G_ident, G_diag S hk', tr_diagonal_mul]
    simp [← Finset.mul_sum, sum_wD]
  · rw [Kind.mat, G_ident, tr_diagonal_mul, ← hS.cI_sq]
    simp; ring

section general
variable {β : Type} [DecidableEq β] {M : Type} [AddCommMonoid M]

theorem sum_range_nodup (l : List β) (hl : l.Nodup) (f : Nat → β → M) (dflt : β) :
    ∑ a ∈ Finset.range l.length, f a (l.getD a dflt) = (l.map fun x => f (l.idxOf x) x).sum := by
  rw [← Fin.sum_univ_fun_getElem, Finset.sum_range]
  refine Finset.sum_congr rfl fun i _ => ?_
  rw [hl.idxOf_getElem, List.getD_eq_getElem?_getD, List.getElem?_eq_getElem i.isLt, Option.getD_some]

end general

variable {R : Type} [CommRing R] {d : Nat}

/-- position of a basis element in the documented order -/
def Kind.pos : Kind d → Nat
  | .sym p => (pairs d).idxOf p
  | .asym p => (pairs d).length + (pairs d).idxOf p
  | .diag k => (pairs d).length + (pairs d).length + (k.val - 1)
  | .ident => (pairs d).length + (pairs d).length + (d - 1)

theorem idxOf_map_of_injective {α β : Type} [BEq α] [LawfulBEq α] [BEq β] [LawfulBEq β] {f : α → β} (hf : Function.Injective f) (l : List α)
    (a : α) : (l.map f).idxOf (f a) = l.idxOf a := by
  induction l with
  | nil => rfl
  | cons b t ih =>
    have : (f b == f a) = (b == a) := by rw [Bool.eq_iff_iff, beq_iff_eq, beq_iff_eq, hf.eq_iff]
    rw [List.map_cons, List.idxOf_cons, List.idxOf_cons, ih, this]

theorem idxOf_diagIdx {k : Fin d} (hk : 0 < k.val) : (diagIdx d).idxOf k = k.val - 1 := by
  obtain ⟨n, rfl⟩ : ∃ n, d = n + 1 := ⟨d - 1, by omega⟩
  obtain ⟨j, rfl⟩ := Fin.exists_succ_eq.2 (Fin.pos_iff_ne_zero.1 hk)
  rw [diagIdx_eq, idxOf_map_of_injective (Fin.succ_injective n), List.idxOf_finRange, Fin.val_succ, Nat.add_sub_cancel]

theorem idxOf_kinds {k : Kind d} (hk : k ∈ kinds d) : (kinds d).idxOf k = k.pos := by
  have hk' := kinds_wf hk
  unfold kinds
  cases k <;> rw [Kind.pos]
  case sym p =>
    rw [List.append_assoc, List.append_assoc, List.idxOf_append_of_mem (List.mem_map_of_mem (mem_pairs.2 hk')),
      idxOf_map_of_injective fun _ _ => Kind.sym.inj]
  case asym p =>
    rw [List.append_assoc, List.append_assoc, List.idxOf_append_of_notMem (by simp),
      List.idxOf_append_of_mem (List.mem_map_of_mem (mem_pairs.2 hk')), idxOf_map_of_injective fun _ _ => Kind.asym.inj, List.length_map]
  case diag k =>
    rw [List.idxOf_append_of_mem (List.mem_append_right _ (List.mem_map_of_mem (mem_diagIdx.2 hk'))), List.idxOf_append_of_notMem (by simp),
      idxOf_map_of_injective fun _ _ => Kind.diag.inj, idxOf_diagIdx hk']
    simp
  case ident =>
    rw [List.idxOf_append_of_notMem (by simp)]
    simp [length_diagIdx, Nat.add_assoc]
theorem pos_inj {k k' : Kind d} (hk : k ∈ kinds d) (hk' : k' ∈ kinds d) : k.pos = k'.pos ↔ k = k' := by
  rw [← idxOf_kinds hk, ← idxOf_kinds hk', List.idxOf_inj hk]

/-- element `a` of `all_gellmann_matrix(d)` as a Mathlib matrix (`0` outside the range) -/
def basis (S : Scalars R) (d a : Nat) : Matrix (Fin d) (Fin d) R := ((allGellmann S d).map Matrix.of).getD a 0

theorem length_allGellmann (S : Scalars R) (hd : 1 ≤ d) : (allGellmann S d).length = d * d := by
  have := congrArg List.length (allGellmann_eq S (d := d))
  simpa [length_kinds hd] using this

/-- every position below `d²` is the position of a basis element -/
theorem exists_pos_eq (hd : 1 ≤ d) {a : Nat} (ha : a < d * d) : ∃ k ∈ kinds d, k.pos = a := by
  have hl : a < (kinds d).length := by rw [length_kinds hd]; exact ha
  exact ⟨(kinds d)[a], List.getElem_mem hl, by rw [← idxOf_kinds (List.getElem_mem hl)]; exact kinds_nodup.idxOf_getElem a hl⟩

theorem getD_pos {k : Kind d} (hk : k ∈ kinds d) (dflt : Kind d) : (kinds d).getD k.pos dflt = k := by
  rw [List.getD_eq_getElem?_getD, ← idxOf_kinds hk, List.getElem?_idxOf hk]; rfl

theorem basis_pos (S : Scalars R) {k : Kind d} (hk : k ∈ kinds d) : basis S d k.pos = k.mat S := by
  unfold basis
  rw [allGellmann_eq, List.getD_eq_getElem?_getD, List.getElem?_map, ← idxOf_kinds hk, List.getElem?_idxOf hk]; rfl

theorem basis_orthogonal [StarRing R] (S : Scalars R) (hS : S.Valid d) (hd : 1 ≤ d) {a b : Nat} (ha : a < d * d) (hb : b < d * d) :
    trace (basis S d a * basis S d b) = if a = b then 2 else 0 := by
  obtain ⟨k, hk, rfl⟩ := exists_pos_eq hd ha
  obtain ⟨k', hk', rfl⟩ := exists_pos_eq hd hb
  simp only [basis_pos S hk, basis_pos S hk', orth S hS (kinds_wf hk) (kinds_wf hk'), pos_inj hk hk']

/-- a sum over the positions of the basis is a sum over the four blocks -/
theorem sum_basis {M : Type} [AddCommMonoid M] (S : Scalars R) (hd : 1 ≤ d) (f : Nat → Matrix (Fin d) (Fin d) R → M) :
    ∑ a ∈ Finset.range (d * d), f a (basis S d a)
      = ((pairs d).map fun p => f (Kind.sym p).pos ((Kind.sym p).mat S)).sum
      + ((pairs d).map fun p => f (Kind.asym p).pos ((Kind.asym p).mat S)).sum
      + ((diagIdx d).map fun k => f (Kind.diag k).pos ((Kind.diag k).mat S)).sum
      + f (Kind.ident (d := d)).pos ((Kind.ident (d := d)).mat S) := by
  have h1 : ∑ a ∈ Finset.range (d * d), f a (basis S d a)
      = ∑ a ∈ Finset.range (kinds d).length, f a (((kinds d).getD a Kind.ident).mat S) := by
    rw [length_kinds hd]
    refine Finset.sum_congr rfl (fun a ha => ?_)
    rw [Finset.mem_range] at ha
    obtain ⟨k, hk, rfl⟩ := exists_pos_eq hd ha
    rw [basis_pos S hk, getD_pos hk]
  rw [h1, sum_range_nodup (kinds d) kinds_nodup (fun a k => f a (k.mat S)) Kind.ident]
  have h2 : (kinds d).map (fun x => f ((kinds d).idxOf x) (x.mat S)) = (kinds d).map (fun x => f x.pos (x.mat S)) :=
    List.map_congr_left (fun k hk => by rw [idxOf_kinds hk])
  rw [h2]
  simp [kinds, List.map_append, List.sum_append, List.map_map, Function.comp_def, add_assoc]

/-! ### per-element facts -/

theorem sumFin_eq {M : Type} [AddCommMonoid M] (f : Fin d → M) : sumFin f = ∑ i, f i := by
  unfold sumFin; rw [Fin.sum_univ_def]

theorem sum_filter_lt (k : Fin d) (f : Fin d → R) :
    (((List.finRange d).filter fun l => l.val < k.val).map f).sum = ∑ r : Fin d, if r.val < k.val then f r else 0 := by
  rw [← Finset.sum_filter]; rfl

/-- closed-form coefficient of `matrix_to_gellmann_basis` for a basis element -/
def coefK (S : Scalars R) (A : Mat d R) : Kind d → R
  | .sym p => (A p.1 p.2 + A p.2 p.1) * S.half
  | .asym p => (A p.1 p.2 - A p.2 p.1) * (S.half * S.I)
  | .diag k => ((((List.finRange d).filter fun l => l.val < k.val).map fun l => A l l).sum - (k.val : R) * A k k) * S.aD k.val
  | .ident => sumFin (fun l => A l l) * S.aI

theorem analysis_eq_map (S : Scalars R) (A : Mat d R) : analysis S d A = (kinds d).map (coefK S A) := by
  simp [analysis, kinds, List.map_append, List.map_map, Function.comp_def, coefK]

theorem coefK_eq [StarRing R] (S : Scalars R) (hS : S.Valid d) (A : Mat d R) {k : Kind d} (hk : k.WF) :
    coefK S A k = S.half * trace (k.mat S * Matrix.of A) := by
  cases k with
  | sym p => rw [coefK, Kind.mat, G_sym S hk, tr_off_mul]; simp only [Matrix.of_apply]; ring
  | asym p => rw [coefK, Kind.mat, G_asym S hk, tr_off_mul]; simp only [Matrix.of_apply]; ring
  | diag k =>
    rw [coefK, Kind.mat, G_diag S hk, tr_diagonal_mul, sum_wD_mul, sum_filter_lt, hS.aD_eq]
    simp only [Matrix.of_apply]; ring
  | ident =>
    simp only [coefK, Kind.mat, G_ident, tr_diagonal_mul, Matrix.of_apply, sumFin_eq, hS.aI_eq, ← Finset.mul_sum]; ring

theorem mat_hermitian [StarRing R] (S : Scalars R) (hS : S.Valid d) {k : Kind d} (hk : k.WF) : (k.mat S)ᴴ = k.mat S := by
  cases k with
  | sym p => rw [Kind.mat, G_sym S hk, conjTranspose_add, conjTranspose_single, conjTranspose_single, star_one, add_comm]
  | asym p =>
    rw [Kind.mat, G_asym S hk, conjTranspose_add, conjTranspose_single, conjTranspose_single, star_neg, hS.star_I, neg_neg, add_comm]
  | diag k =>
    rw [Kind.mat, G_diag S hk, diagonal_conjTranspose]
    congr 1; funext r
    simp only [Pi.star_apply, wD]
    split_ifs <;> simp [hS.star_cD]
  | ident =>
    rw [Kind.mat, G_ident, diagonal_conjTranspose]
    congr 1; funext r; exact hS.star_cI

theorem mat_trace (S : Scalars R) {k : Kind d} (hk : k.WF) :
    trace (k.mat S) = if k = Kind.ident then (d : R) * S.cI else 0 := by
  cases k with
  | sym p => simp [Kind.mat, G_sym S hk, trace_single_eq_of_ne _ _ _ hk.ne, trace_single_eq_of_ne _ _ _ hk.ne']
  | asym p => simp [Kind.mat, G_asym S hk, trace_single_eq_of_ne _ _ _ hk.ne, trace_single_eq_of_ne _ _ _ hk.ne']
  | diag k => simp [Kind.mat, G_diag S hk, trace_diagonal, sum_wD]
  | ident => simp [Kind.mat, G_ident, trace_diagonal]

end Numqi.Gellmann
