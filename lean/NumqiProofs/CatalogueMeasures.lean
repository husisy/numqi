/-
Helper lemmas for C18: binomial by the multiplicative formula, Dicke GME range, W-type ket normalisation, the singlet
fraction of the isotropic state on the separable range.
-/
import NumqiProofs.Catalogue
import Mathlib.Data.Nat.Choose.Sum
import Mathlib.Data.Nat.Log

set_option linter.unusedSectionVars false

namespace Numqi.Catalogue
open Finset

theorem binomN_succ (n k : ℕ) : binomN n (k + 1) = binomN n k * (n - k) / (k + 1) := by
  unfold binomN; rw [List.range_succ, List.foldl_append]; rfl

theorem binomN_eq_choose (n k : ℕ) : binomN n k = n.choose k := by
  induction k with
  | zero => simp [binomN]
  | succ k ih =>
    rw [binomN_succ, ih]
    have h := Nat.choose_succ_right_eq n k
    rw [← h, Nat.mul_div_cancel _ (Nat.succ_pos k)]

/-- `0 ≤ 1 - C(n,k) p^k (1-p)^(n-k) < 1` for `p = k/n`: one term of the binomial expansion of `(p + (1-p))^n = 1` -/
theorem dickeGME_range (n k : ℕ) (hn : 0 < n) (hk : k ≤ n) : 0 ≤ dickeGME n k ∧ dickeGME n k < 1 := by
  unfold dickeGME
  rw [binomN_eq_choose]
  have hnq : (0 : ℚ) < n := by exact_mod_cast hn
  set p : ℚ := (k : ℚ) / n with hp
  have hq : (((n - k : ℕ) : ℚ)) / n = 1 - p := by
    rw [hp, Nat.cast_sub hk]; field_simp
  rw [hq]
  have hp0 : 0 ≤ p := by positivity
  have hp1 : 0 ≤ 1 - p := by
    rw [hp, sub_nonneg, div_le_one hnq]; exact_mod_cast hk
  have hsum : ∑ m ∈ Finset.range (n + 1), p ^ m * (1 - p) ^ (n - m) * (n.choose m : ℚ) = 1 := by
    rw [← add_pow]; simp
  have hterm : p ^ k * (1 - p) ^ (n - k) * (n.choose k : ℚ) ≤ 1 := by
    have := Finset.single_le_sum (s := Finset.range (n + 1)) (f := fun m => p ^ m * (1 - p) ^ (n - m) * (n.choose m : ℚ))
      (fun m _ => by positivity) (Finset.mem_range.mpr (by omega : k < n + 1))
    rw [hsum] at this; exact this
  have hpos : 0 < (n.choose k : ℚ) * p ^ k * (1 - p) ^ (n - k) := by
    have hc : (0 : ℚ) < n.choose k := by exact_mod_cast Nat.choose_pos hk
    have h1 : 0 < p ^ k := by
      rcases Nat.eq_zero_or_pos k with h | h
      · subst h; simp
      · apply pow_pos; rw [hp]; apply div_pos _ hnq; exact_mod_cast h
    have h2 : 0 < (1 - p) ^ (n - k) := by
      rcases Nat.eq_zero_or_pos (n - k) with h | h
      · rw [h]; simp
      · apply pow_pos; rw [hp, sub_pos, div_lt_one hnq]; exact_mod_cast (by omega : k < n)
    positivity
  constructor
  · have : (n.choose k : ℚ) * p ^ k * (1 - p) ^ (n - k) = p ^ k * (1 - p) ^ (n - k) * (n.choose k : ℚ) := by ring
    rw [this]; linarith
  · linarith

theorem dickeGME_zero_left (n : ℕ) (hn : 0 < n) : dickeGME n 0 = 0 := by
  have hnq : (n : ℚ) ≠ 0 := by exact_mod_cast hn.ne'
  simp [dickeGME, binomN, hnq]

theorem dickeGME_zero_right (n : ℕ) (hn : 0 < n) : dickeGME n n = 0 := by
  have hnq : (n : ℚ) ≠ 0 := by exact_mod_cast hn.ne'
  unfold dickeGME; rw [binomN_eq_choose]; simp [hnq]

theorem dickeGME_symm (n k : ℕ) (hk : k ≤ n) : dickeGME n (n - k) = dickeGME n k := by
  unfold dickeGME
  rw [binomN_eq_choose, binomN_eq_choose, Nat.choose_symm hk, Nat.sub_sub_self hk]; ring

/-! ### W-type kets -/

variable {K : Type} [Field K]

theorem ketWtype_two_pow (coeff : List K) (nrm : K) (k : ℕ) (hk : k < coeff.length) :
    ketWtype coeff nrm (2 ^ k) = coeff.getD k 0 / nrm := by
  unfold ketWtype
  rw [Nat.log2_two_pow, if_pos ⟨rfl, hk⟩]

theorem ketWtype_not_pow (coeff : List K) (nrm : K) (x : ℕ) (h : x ∉ (Finset.range coeff.length).image (fun k => 2 ^ k)) :
    ketWtype coeff nrm x = 0 := by
  unfold ketWtype
  rw [if_neg]
  rintro ⟨h1, h2⟩
  exact h (Finset.mem_image.mpr ⟨x.log2, Finset.mem_range.mpr h2, h1.symm⟩)

/-- **`Wtype(coeff)` is normalised**: `Σ_x ket(x)² = 1` whenever `nrm² = Σ_k coeff_k²` and `nrm ≠ 0` (real coefficients) -/
theorem ketWtype_norm_sq (coeff : List K) (nrm : K) (h0 : nrm ≠ 0)
    (hn : nrm * nrm = ∑ k ∈ Finset.range coeff.length, coeff.getD k 0 * coeff.getD k 0) :
    ∑ x ∈ Finset.range (2 ^ coeff.length), ketWtype coeff nrm x * ketWtype coeff nrm x = 1 := by
  have hsub : (Finset.range coeff.length).image (fun k => 2 ^ k) ⊆ Finset.range (2 ^ coeff.length) := by
    intro x hx
    obtain ⟨k, hk, rfl⟩ := Finset.mem_image.mp hx
    exact Finset.mem_range.mpr (Nat.pow_lt_pow_right (by norm_num) (Finset.mem_range.mp hk))
  rw [← Finset.sum_subset hsub (fun x _ hx => by rw [ketWtype_not_pow coeff nrm x hx, mul_zero]),
    Finset.sum_image (fun a _ b _ e => Nat.pow_right_injective (le_refl 2) e)]
  have : ∀ k ∈ Finset.range coeff.length, ketWtype coeff nrm (2 ^ k) * ketWtype coeff nrm (2 ^ k)
      = coeff.getD k 0 * coeff.getD k 0 / (nrm * nrm) := by
    intro k hk
    rw [ketWtype_two_pow coeff nrm k (Finset.mem_range.mp hk)]; field_simp
  rw [Finset.sum_congr rfl this, ← Finset.sum_div, ← hn, div_self (mul_ne_zero h0 h0)]

/-! ### Werner and isotropic states on the separable range -/

theorem werner_separable_bounds {K : Type} [Field K] [LinearOrder K] [IsStrictOrderedRing K] (d : ℕ) (hd : 2 ≤ d) (a : K)
    (h : a ≤ 1 / (d : K)) : 0 ≤ 1 - a * d ∧ 0 < (d : K) - a := by
  have hdK : (2 : K) ≤ d := by exact_mod_cast hd
  have hd0 : (0 : K) < d := by linarith
  have h1 : a * d ≤ 1 := (le_div_iff₀ hd0).mp h
  have h2 : (1 : K) / d ≤ 1 := by rw [div_le_one hd0]; linarith
  exact ⟨sub_nonneg.2 h1, by linarith⟩

/-- the singlet fraction `F = α + (1-α)/d²` is at most `1/d` on the separable range `α ≤ 1/(d+1)`:
`1/d - F = (d-1)(1 - α(d+1))/d²` -/
theorem isotropic_fraction_le {K : Type} [Field K] [LinearOrder K] [IsStrictOrderedRing K] (d : ℕ) (hd : 1 ≤ d) (a : K)
    (h : a ≤ 1 / ((d : K) + 1)) : a + (1 - a) / ((d : K) * d) ≤ 1 / (d : K) := by
  have hd1 : (1 : K) ≤ d := by exact_mod_cast hd
  have hd0 : (0 : K) < d := zero_lt_one.trans_le hd1
  have h1 : a * ((d : K) + 1) ≤ 1 := (le_div_iff₀ (add_pos hd0 zero_lt_one)).mp h
  have e : 1 / (d : K) - (a + (1 - a) / ((d : K) * d)) = ((d : K) - 1) * (1 - a * ((d : K) + 1)) / ((d : K) * d) := by
    field_simp
    ring
  rw [← sub_nonneg, e]
  exact div_nonneg (mul_nonneg (sub_nonneg.2 hd1) (sub_nonneg.2 h1)) (mul_self_nonneg _)

end Numqi.Catalogue
