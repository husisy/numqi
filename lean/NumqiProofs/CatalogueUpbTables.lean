/-
Helper lemmas for C18: the fixed UPB tables (`tiles`, `feng4x4`, `feng2x2x2x2`) are orthonormal sets of product vectors in
the sense of `Orthonormal` (over ℂ, amplitudes `sgn·√sq` interpreted with the real square root), so that
`upb_bes_projector` / `upb_bes_ppt` apply to them.  The `Min4x4` table has entries in `ℤ[√2]` and is checked exactly in that ring.
-/
import NumqiProofs.CatalogueUpb
import Mathlib.Analysis.SpecialFunctions.Sqrt

set_option linter.unusedSectionVars false

namespace Numqi.Catalogue
open Finset

/-- the real number denoted by a signed-square amplitude -/
noncomputable def SAmp.val (a : SAmp) : ℝ := (a.sgn : ℝ) * Real.sqrt (a.sq : ℝ)

/-- local vector `a` of a party, as a real function of the component index -/
noncomputable def tableVecR (party : List (List SAmp)) (a t : ℕ) : ℝ := ((party.getD a []).getD t SAmp.zero).val

/-- real dot product on `range D` -/
noncomputable def rdot (D : ℕ) (x y : ℕ → ℝ) : ℝ := ∑ t ∈ Finset.range D, x t * y t

theorem inner_ofReal (D : ℕ) (x y : ℕ → ℝ) :
    Numqi.Catalogue.inner D (fun t => (x t : ℂ)) (fun t => (y t : ℂ)) = ((rdot D x y : ℝ) : ℂ) := by
  unfold Numqi.Catalogue.inner rdot
  push_cast
  refine Finset.sum_congr rfl fun t _ => by rw [Complex.conj_ofReal]

/-- two parties: orthonormality of the product vectors from the products of the local dot products -/
theorem orthonormal_of_local2 (m dA dB : ℕ) (hB : 0 < dB) (uA uB : ℕ → ℕ → ℝ)
    (h : ∀ a < m, ∀ b < m, rdot dA (uA a) (uA b) * rdot dB (uB a) (uB b) = if a = b then 1 else 0) :
    Orthonormal m (dA * dB) (prodVec dB (fun a t => (uA a t : ℂ)) (fun a t => (uB a t : ℂ))) := by
  intro a ha b hb
  rw [inner_prodVec dA dB hB, inner_ofReal, inner_ofReal, ← Complex.ofReal_mul, h a ha b hb]
  split_ifs <;> simp

/-! ### signed-square tables: the exact test `upbTableOrthonormal` is sound -/

theorem sum_map_filter_add {β : Type} (p : β → Bool) (g : β → ℝ) (L : List β) :
    (L.map g).sum = ((L.filter p).map g).sum + ((L.filter fun q => !p q).map g).sum := by
  rw [← List.sum_append, ← List.map_append, ((List.filter_append_perm p L).map g).sum_eq]

/-- a sum over a list, grouped by a key: if the coefficients of every group add up to zero, so does `Σ f·h(key)` -/
theorem sum_grouped_eq_zero {β κ : Type} [DecidableEq κ] (key : β → κ) (f : β → ℤ) (h : κ → ℝ) :
    ∀ (n : ℕ) (L : List β), L.length ≤ n → (∀ p ∈ L, ((L.filter fun q => key q = key p).map f).sum = 0) →
      (L.map fun q => (f q : ℝ) * h (key q)).sum = 0
  | _, [], _, _ => rfl
  | 0, p :: L, hn, _ => by simp at hn
  | n + 1, p :: L, hn, hL => by
    -- the group of `p` contributes `h (key p) · 0`; the rest is a shorter list with the same groups
    have own : ((List.filter (fun q => decide (key q = key p)) (p :: L)).map fun q => (f q : ℝ)).sum = 0 := by
      have := congrArg (Int.cast : ℤ → ℝ) (hL p List.mem_cons_self)
      rwa [Int.cast_list_sum, List.map_map, Int.cast_zero] at this
    rw [sum_map_filter_add (fun q => key q = key p),
      List.map_congr_left (g := fun q => (f q : ℝ) * h (key p)) fun q hq => by rw [of_decide_eq_true (List.mem_filter.mp hq).2],
      List.sum_map_mul_right, own, zero_mul, zero_add]
    refine sum_grouped_eq_zero key f h n _ ?_ fun r hr => ?_
    · have : (List.filter (fun q => !decide (key q = key p)) (p :: L)).length < (p :: L).length :=
        List.length_filter_lt_length_iff_exists.mpr ⟨p, List.mem_cons_self, by simp⟩
      omega
    · have hrp : key r ≠ key p := by simpa using (List.mem_filter.mp hr).2
      rw [List.filter_filter, ← hL r (List.mem_filter.mp hr).1]
      congr 2
      refine List.filter_congr fun q _ => ?_
      by_cases e : key q = key r <;> simp [e, hrp]

theorem SAmp.val_mul_val (a b : SAmp) (ha : 0 ≤ a.sq) :
    a.val * b.val = ((a.sgn * b.sgn : ℤ) : ℝ) * Real.sqrt ((a.sq * b.sq : ℚ) : ℝ) := by
  unfold SAmp.val
  push_cast
  rw [Real.sqrt_mul (by exact_mod_cast ha)]
  ring

/-- **soundness of the exact orthogonality test**: terms with equal radicand `sq·sq'` carry the same `√(sq·sq')`, so
signs cancelling group by group make the real overlap vanish -/
theorem sampOrthogonal_sound (u v : List SAmp) (hu : ∀ a ∈ u, 0 ≤ a.sq) (h : sampOrthogonal u v = true) :
    (List.zipWith (fun a b => a.val * b.val) u v).sum = 0 := by
  have e : List.zipWith (fun a b => a.val * b.val) u v = (u.zip v).map fun p => p.1.val * p.2.val := by
    rw [List.zip, List.map_zipWith]
  rw [e, sum_map_filter_add fun p => p.1.sgn ≠ 0 ∧ p.2.sgn ≠ 0]
  have dropped : ((List.filter (fun p : SAmp × SAmp => !decide (p.1.sgn ≠ 0 ∧ p.2.sgn ≠ 0)) (u.zip v)).map
      fun p => p.1.val * p.2.val).sum = 0 := by
    refine List.sum_eq_zero fun x hx => ?_
    obtain ⟨p, hp, rfl⟩ := List.mem_map.mp hx
    have := (List.mem_filter.mp hp).2
    by_cases e : p.1.sgn = 0
    · simp [SAmp.val, e]
    · have : p.2.sgn = 0 := by simpa [e] using this
      simp [SAmp.val, this]
  rw [dropped, add_zero,
    List.map_congr_left fun p hp => SAmp.val_mul_val p.1 p.2 (hu _ (List.of_mem_zip (List.mem_filter.mp hp).1).1)]
  refine sum_grouped_eq_zero (fun p : SAmp × SAmp => p.1.sq * p.2.sq) (fun p => p.1.sgn * p.2.sgn)
    (fun k => Real.sqrt (k : ℝ)) _ _ le_rfl fun p hp => ?_
  unfold sampOrthogonal at h
  simp only [List.all_eq_true, beq_iff_eq] at h
  rw [List.sum_eq_foldl]
  exact h p hp

theorem sampNormSq_sound (v : List SAmp) (hv : ∀ a ∈ v, a.sgn.natAbs ≤ 1 ∧ 0 ≤ a.sq) :
    (List.zipWith (fun a b => a.val * b.val) v v).sum = (sampNormSq v : ℝ) := by
  rw [List.zipWith_self, sampNormSq, ← List.sum_eq_foldl, Rat.cast_list_sum, List.map_map]
  refine congrArg List.sum (List.map_congr_left fun a ha => ?_)
  obtain ⟨hs, hq⟩ := hv a ha
  have hq' : (0 : ℝ) ≤ a.sq := by exact_mod_cast hq
  have : a.val * a.val = ((a.sgn * a.sgn : ℤ) : ℝ) * a.sq := by
    rw [SAmp.val_mul_val a a hq]; push_cast; rw [Real.sqrt_mul_self hq']
  have hs' : a.sgn = 0 ∨ a.sgn = 1 ∨ a.sgn = -1 := by omega
  rcases hs' with h | h | h <;> simp [this, h]

theorem rdot_getD (u v : List SAmp) : ∀ (D : ℕ), u.length = D → v.length = D →
    rdot D (fun t => (u.getD t SAmp.zero).val) (fun t => (v.getD t SAmp.zero).val)
      = (List.zipWith (fun a b => a.val * b.val) u v).sum := by
  induction u generalizing v with
  | nil => rintro D rfl -; simp [rdot]
  | cons a u ih =>
    rintro D rfl hv
    obtain ⟨b, v, rfl⟩ := List.exists_cons_of_length_eq_add_one hv
    have := ih v u.length rfl (by simpa using hv)
    unfold rdot at this ⊢
    rw [List.length_cons, Finset.sum_range_succ']
    simp only [List.getD_cons_succ, List.getD_cons_zero, this, List.zipWith_cons_cons, List.sum_cons]
    ring

/-- **soundness of `upbTableOrthonormal`** for a table whose local vectors all have `D` components with signs in `{-1,0,1}` and
non-negative radicands: the product over the parties of the real local overlaps of product vectors `a`, `b` is `δ_ab` -/
theorem upbTable_sound (t : UPBTable) (D : ℕ)
    (hwf : ∀ party ∈ t, ∀ v ∈ party, v.length = D ∧ ∀ a ∈ v, a.sgn.natAbs ≤ 1 ∧ 0 ≤ a.sq)
    (h : upbTableOrthonormal t = true) (a b : ℕ) (ha : a < (t.headD []).length) (hb : b < (t.headD []).length) :
    (t.map fun party => rdot D (tableVecR party a) (tableVecR party b)).prod = if a = b then 1 else 0 := by
  unfold upbTableOrthonormal at h
  simp only [Bool.and_eq_true, List.all_eq_true, List.any_eq_true, Bool.or_eq_true, beq_iff_eq, List.mem_range] at h
  obtain ⟨hparty, hpairs⟩ := h
  have mem : ∀ party ∈ t, ∀ c < (t.headD []).length, party.getD c [] ∈ party := fun party hp c hc => by
    rw [List.getD_eq_getElem _ _ (by rw [(hparty party hp).1]; exact hc)]; exact List.getElem_mem _
  have dot : ∀ party ∈ t, rdot D (tableVecR party a) (tableVecR party b)
      = (List.zipWith (fun x y => x.val * y.val) (party.getD a []) (party.getD b [])).sum := fun party hp =>
    rdot_getD _ _ D (hwf party hp _ (mem party hp a ha)).1 (hwf party hp _ (mem party hp b hb)).1
  split_ifs with hab
  · subst hab
    refine List.prod_eq_one fun x hx => ?_
    obtain ⟨party, hp, rfl⟩ := List.mem_map.mp hx
    rw [dot party hp, sampNormSq_sound _ (hwf party hp _ (mem party hp a ha)).2, (hparty party hp).2 _ (mem party hp a ha), Rat.cast_one]
  · obtain ⟨party, hp, ho⟩ := (hpairs a ha b hb).resolve_left hab
    refine List.prod_eq_zero (List.mem_map.mpr ⟨party, hp, ?_⟩)
    rw [dot party hp, sampOrthogonal_sound _ _ (fun x hx => ((hwf party hp _ (mem party hp a ha)).2 x hx).2) ho]

/-- two parties -/
theorem orthonormal_of_table2 (A B : List (List SAmp)) (D : ℕ) (hD : 0 < D)
    (hwf : ∀ party ∈ [A, B], ∀ v ∈ party, v.length = D ∧ ∀ a ∈ v, a.sgn.natAbs ≤ 1 ∧ 0 ≤ a.sq)
    (h : upbTableOrthonormal [A, B] = true) :
    Orthonormal A.length (D * D) (prodVec D (fun a t => (tableVecR A a t : ℂ)) (fun a t => (tableVecR B a t : ℂ))) :=
  orthonormal_of_local2 A.length D D hD _ _ fun a ha b hb => by
    simpa only [List.map_cons, List.map_nil, List.prod_cons, List.prod_nil, mul_one] using upbTable_sound [A, B] D hwf h a b ha hb

/-- four parties (cut `A | B | C | D` nested from the right) -/
theorem orthonormal_of_table4 (A B C E : List (List SAmp)) (D : ℕ) (hD : 0 < D)
    (hwf : ∀ party ∈ [A, B, C, E], ∀ v ∈ party, v.length = D ∧ ∀ a ∈ v, a.sgn.natAbs ≤ 1 ∧ 0 ≤ a.sq)
    (h : upbTableOrthonormal [A, B, C, E] = true) :
    Orthonormal A.length (D * (D * (D * D)))
      (prodVec (D * (D * D)) (fun a t => (tableVecR A a t : ℂ))
        (prodVec (D * D) (fun a t => (tableVecR B a t : ℂ))
          (prodVec D (fun a t => (tableVecR C a t : ℂ)) (fun a t => (tableVecR E a t : ℂ))))) := by
  intro a ha b hb
  have hab := upbTable_sound [A, B, C, E] D hwf h a b ha hb
  simp only [List.map_cons, List.map_nil, List.prod_cons, List.prod_nil, mul_one] at hab
  rw [inner_prodVec D _ (by positivity), inner_prodVec D _ (by positivity), inner_prodVec D D hD,
    inner_ofReal, inner_ofReal, inner_ofReal, inner_ofReal, ← Complex.ofReal_mul, ← Complex.ofReal_mul, ← Complex.ofReal_mul, hab]
  split_ifs <;> simp

/-! ### Min4x4: entries in `ℤ[√2]` -/

/-- the real number `a + b√2` -/
noncomputable def Z2.val (x : Z2) : ℝ := (x.a : ℝ) + (x.b : ℝ) * Real.sqrt 2

theorem Z2.val_add (x y : Z2) : (x + y).val = x.val + y.val := by
  show (((x.a + y.a : ℤ) : ℝ)) + ((x.b + y.b : ℤ) : ℝ) * Real.sqrt 2 = _
  unfold Z2.val; push_cast; ring

theorem Z2.val_mul (x y : Z2) : (x * y).val = x.val * y.val := by
  show (((x.a * y.a + 2 * x.b * y.b : ℤ) : ℝ)) + ((x.a * y.b + x.b * y.a : ℤ) : ℝ) * Real.sqrt 2 = _
  unfold Z2.val; push_cast
  have h := Real.mul_self_sqrt (show (0 : ℝ) ≤ 2 by norm_num)
  linear_combination (-(x.b : ℝ) * (y.b : ℝ)) * h

theorem Z2.val_zero : (0 : Z2).val = 0 := by
  show ((0 : ℤ) : ℝ) + ((0 : ℤ) : ℝ) * Real.sqrt 2 = 0; simp

/-- local vector `a` of a `ℤ[√2]` table: `entries / √normSq` -/
noncomputable def zrowVec (rows : List Z2Row) (a t : ℕ) : ℝ :=
  ((rows.getD a ⟨z 0, []⟩).entries.getD t 0).val / Real.sqrt ((rows.getD a ⟨z 0, []⟩).normSq.val)

/-- **soundness of the `ℤ[√2]` arithmetic**: the real dot product of two 4-entry rows is the value of the exact dot product
divided by the two norms -/
theorem zrow_dot (rows : List Z2Row) (a b : ℕ) (e0 e1 e2 e3 f0 f1 f2 f3 : Z2)
    (ha : (rows.getD a ⟨z 0, []⟩).entries = [e0, e1, e2, e3]) (hb : (rows.getD b ⟨z 0, []⟩).entries = [f0, f1, f2, f3]) :
    rdot 4 (zrowVec rows a) (zrowVec rows b)
      = (dotList (rows.getD a ⟨z 0, []⟩).entries (rows.getD b ⟨z 0, []⟩).entries).val
        / (Real.sqrt ((rows.getD a ⟨z 0, []⟩).normSq.val) * Real.sqrt ((rows.getD b ⟨z 0, []⟩).normSq.val)) := by
  unfold rdot zrowVec
  rw [ha, hb]
  simp only [Finset.sum_range_succ, Finset.sum_range_zero, dotList, List.zip_cons_cons, List.zip_nil_right, List.foldl_cons, List.foldl_nil,
    Z2.val_add, Z2.val_mul, Z2.val_zero, List.getD_cons_zero, List.getD_cons_succ]
  ring

theorem min4x4_shape (a : ℕ) (ha : a < 8) :
    (∃ e0 e1 e2 e3, (min4x4A.getD a ⟨z 0, []⟩).entries = [e0, e1, e2, e3]) ∧
    (∃ e0 e1 e2 e3, (min4x4B.getD a ⟨z 0, []⟩).entries = [e0, e1, e2, e3]) := by
  interval_cases a <;> exact ⟨⟨_, _, _, _, rfl⟩, ⟨_, _, _, _, rfl⟩⟩

theorem min4x4_norms : ∀ a < 8,
    dotList (min4x4A.getD a ⟨z 0, []⟩).entries (min4x4A.getD a ⟨z 0, []⟩).entries = (min4x4A.getD a ⟨z 0, []⟩).normSq ∧
    dotList (min4x4B.getD a ⟨z 0, []⟩).entries (min4x4B.getD a ⟨z 0, []⟩).entries = (min4x4B.getD a ⟨z 0, []⟩).normSq := by
  decide +kernel

theorem min4x4_orth : ∀ a < 8, ∀ b < 8, a ≠ b →
    dotList (min4x4A.getD a ⟨z 0, []⟩).entries (min4x4A.getD b ⟨z 0, []⟩).entries = 0 ∨
    dotList (min4x4B.getD a ⟨z 0, []⟩).entries (min4x4B.getD b ⟨z 0, []⟩).entries = 0 := by
  decide +kernel

theorem min4x4_pos (a : ℕ) (ha : a < 8) :
    0 < (min4x4A.getD a ⟨z 0, []⟩).normSq.val ∧ 0 < (min4x4B.getD a ⟨z 0, []⟩).normSq.val := by
  have h2 := Real.mul_self_sqrt (show (0 : ℝ) ≤ 2 by norm_num)
  have h0 := Real.sqrt_nonneg 2
  interval_cases a <;> simp [min4x4A, min4x4B, Z2.val, z] <;> nlinarith

theorem min4x4_local (a b : ℕ) (ha : a < 8) (hb : b < 8) :
    rdot 4 (zrowVec min4x4A a) (zrowVec min4x4A b) * rdot 4 (zrowVec min4x4B a) (zrowVec min4x4B b) = if a = b then 1 else 0 := by
  obtain ⟨⟨e0, e1, e2, e3, hAa⟩, ⟨g0, g1, g2, g3, hBa⟩⟩ := min4x4_shape a ha
  obtain ⟨⟨f0, f1, f2, f3, hAb⟩, ⟨k0, k1, k2, k3, hBb⟩⟩ := min4x4_shape b hb
  rw [zrow_dot min4x4A a b _ _ _ _ _ _ _ _ hAa hAb, zrow_dot min4x4B a b _ _ _ _ _ _ _ _ hBa hBb]
  by_cases hab : a = b
  · subst hab
    rw [if_pos rfl, (min4x4_norms a ha).1, (min4x4_norms a ha).2]
    obtain ⟨pA, pB⟩ := min4x4_pos a ha
    rw [Real.mul_self_sqrt pA.le, Real.mul_self_sqrt pB.le, div_self pA.ne', div_self pB.ne', mul_one]
  · rw [if_neg hab]
    rcases min4x4_orth a ha b hb hab with h | h
    · rw [h, Z2.val_zero, zero_div, zero_mul]
    · rw [h, Z2.val_zero, zero_div, mul_zero]

end Numqi.Catalogue
