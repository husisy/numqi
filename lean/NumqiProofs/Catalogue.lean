/-
Helper lemmas for C18: sums of Kronecker deltas over `Fin d × Fin d`, the swap and the trace functionals.
-/
import NumqiModel.Catalogue
import Mathlib.Tactic
import Mathlib.Data.Matrix.Mul
import Mathlib.Algebra.BigOperators.Fin
import Mathlib.Algebra.BigOperators.Ring.Finset
import Mathlib.Algebra.Order.Chebyshev
import Mathlib.Algebra.Order.BigOperators.Ring.Finset

set_option linter.unusedSectionVars false

namespace Numqi.Catalogue
open Finset

variable {K : Type} [Field K]

theorem delta_fin {d : ℕ} (i j : Fin d) : (delta (i : ℕ) (j : ℕ) : K) = if i = j then 1 else 0 := by
  simp only [delta, Fin.ext_iff]

theorem delta_comm (i j : ℕ) : (delta i j : K) = delta j i := by
  simp only [delta, eq_comm]

/-- `Σ_q δ_{p q} f q = f p` -/
theorem sum_delta_left {d : ℕ} (p : Fin d) (f : Fin d → K) : ∑ q : Fin d, (delta (p : ℕ) (q : ℕ) : K) * f q = f p := by
  simp [delta_fin]

theorem sum_delta_right {d : ℕ} (p : Fin d) (f : Fin d → K) : ∑ q : Fin d, (delta (q : ℕ) (p : ℕ) : K) * f q = f p := by
  simp [delta_fin]

/-- quadratic form of a matrix given by an entry function on index pairs -/
def qform {ι : Type} [Fintype ι] (M : ι → ι → K) (x : ι → K) : K := ∑ p, ∑ q, x p * M p q * x q

/-- the swap functional `T(x) = Σ_{ij} x_ij x_ji` and the norm `S(x) = Σ_{ij} x_ij²` -/
def Ssum {d : ℕ} (x : Fin d × Fin d → K) : K := ∑ i, ∑ j, x (i, j) * x (i, j)
def Tsum {d : ℕ} (x : Fin d × Fin d → K) : K := ∑ i, ∑ j, x (i, j) * x (j, i)
def Dsum {d : ℕ} (x : Fin d × Fin d → K) : K := ∑ i, x (i, i)

theorem Ssum_swap {d : ℕ} (x : Fin d × Fin d → K) : ∑ i, ∑ j, x (j, i) * x (j, i) = Ssum x := by
  unfold Ssum; rw [Finset.sum_comm]

/-- `Σ_{pq} x_p (δ_ik δ_jl) x_q = S` -/
theorem qform_id {d : ℕ} (x : Fin d × Fin d → K) :
    qform (fun p q : Fin d × Fin d => (delta (p.1 : ℕ) (q.1 : ℕ) * delta (p.2 : ℕ) (q.2 : ℕ) : K)) x = Ssum x := by
  simp [qform, Ssum, Fintype.sum_prod_type, delta_fin]

/-- `Σ_{pq} x_p (δ_il δ_jk) x_q = T` -/
theorem qform_swap {d : ℕ} (x : Fin d × Fin d → K) :
    qform (fun p q : Fin d × Fin d => (delta (p.1 : ℕ) (q.2 : ℕ) * delta (p.2 : ℕ) (q.1 : ℕ) : K)) x = Tsum x := by
  simp [qform, Tsum, Fintype.sum_prod_type, delta_fin]

/-- `Σ_{pq} x_p (δ_ij δ_kl) x_q = (Σ_i x_ii)²` -/
theorem qform_diag {d : ℕ} (x : Fin d × Fin d → K) :
    qform (fun p q : Fin d × Fin d => (delta (p.1 : ℕ) (p.2 : ℕ) * delta (q.1 : ℕ) (q.2 : ℕ) : K)) x = Dsum x * Dsum x := by
  simp [qform, Dsum, Fintype.sum_prod_type, delta_fin, Finset.sum_mul_sum]

theorem qform_add {ι : Type} [Fintype ι] (M N : ι → ι → K) (x : ι → K) :
    qform (fun p q => M p q + N p q) x = qform M x + qform N x := by
  unfold qform; simp only [mul_add, add_mul, Finset.sum_add_distrib]

theorem qform_smul {ι : Type} [Fintype ι] (c : K) (M : ι → ι → K) (x : ι → K) :
    qform (fun p q => c * M p q) x = c * qform M x := by
  unfold qform; simp only [Finset.mul_sum]
  refine Finset.sum_congr rfl fun p _ => Finset.sum_congr rfl fun q _ => by ring

section order
variable [LinearOrder K] [IsStrictOrderedRing K]

/-- `|T| ≤ S`: `Σ_ij (x_ij + ε x_ji)² = 2 (S + ε T)` for `ε = ±1` -/
theorem S_add_smul_T_nonneg {d : ℕ} (ε : K) (hε : ε * ε = 1) (x : Fin d × Fin d → K) : 0 ≤ Ssum x + ε * Tsum x := by
  have h : 0 ≤ ∑ i, ∑ j, (x (i, j) + ε * x (j, i)) * (x (i, j) + ε * x (j, i)) :=
    Finset.sum_nonneg fun i _ => Finset.sum_nonneg fun j _ => mul_self_nonneg _
  have e : ∑ i, ∑ j, (x (i, j) + ε * x (j, i)) * (x (i, j) + ε * x (j, i)) = 2 * (Ssum x + ε * Tsum x) := by
    have : ∀ i j : Fin d, (x (i, j) + ε * x (j, i)) * (x (i, j) + ε * x (j, i))
        = x (i, j) * x (i, j) + x (j, i) * x (j, i) + 2 * ε * (x (i, j) * x (j, i)) := fun i j => by
      linear_combination (x (j, i) * x (j, i)) * hε
    simp only [this, Finset.sum_add_distrib, ← Finset.mul_sum, Ssum_swap]
    unfold Ssum Tsum; ring
  rw [e] at h; linarith

/-- Cauchy–Schwarz: `(Σ_i x_ii)² ≤ d · S` -/
theorem Dsum_sq_le {d : ℕ} (x : Fin d × Fin d → K) : Dsum x * Dsum x ≤ (d : K) * Ssum x := by
  have h1 := sq_sum_le_card_mul_sum_sq (s := (Finset.univ : Finset (Fin d))) (f := fun i => x (i, i))
  simp only [Finset.card_univ, Fintype.card_fin] at h1
  have h2 : ∑ i, x (i, i) ^ 2 ≤ Ssum x := by
    unfold Ssum
    refine Finset.sum_le_sum fun i _ => ?_
    rw [sq]
    exact Finset.single_le_sum (f := fun j => x (i, j) * x (i, j)) (fun j _ => mul_self_nonneg _) (Finset.mem_univ i)
  have hd : (0 : K) ≤ d := Nat.cast_nonneg d
  calc Dsum x * Dsum x = (∑ i, x (i, i)) ^ 2 := by unfold Dsum; ring
    _ ≤ (d : K) * ∑ i, x (i, i) ^ 2 := h1
    _ ≤ (d : K) * Ssum x := mul_le_mul_of_nonneg_left h2 hd

end order

end Numqi.Catalogue
