/- Model-specific lemmas for C01: generators, exp/Cayley charts, Stiefel maps. -/
import NumqiProofs.ManifoldMatrix
import NumqiProofs.GellmannComplex

namespace Numqi.Manifold
open Matrix
open Numqi.Gellmann (Scalars synthesis)
local notation "mexp" => NormedSpace.exp

variable {dim : Nat}

theorem synthesisN_fin (S : Scalars ℂ) (v : Nat → ℂ) (r c : Fin dim) :
    synthesisN S dim v r.val c.val = synthesis S dim v r c := by
  unfold synthesisN; rw [dif_pos ⟨r.isLt, c.isLt⟩]

/-- coefficient vector of the complex generator: `[θ, 0]` -/
def genVecC (dim : Nat) (θ : Nat → ℝ) : Nat → ℂ := fun p => if p < dim * dim - 1 then ((θ p : ℝ) : ℂ) else 0
/-- coefficient vector of the real generator: `[0_{N0}, θ, 0_dim]` -/
def genVecR (dim : Nat) (θ : Nat → ℝ) : Nat → ℂ := fun p =>
  if p < dim * (dim - 1) / 2 then 0 else if p < 2 * (dim * (dim - 1) / 2) then ((θ (p - dim * (dim - 1) / 2) : ℝ) : ℂ) else 0

theorem genVecC_real (θ : Nat → ℝ) (a : Nat) : star (genVecC dim θ a) = genVecC dim θ a := by
  unfold genVecC; split_ifs <;> simp
theorem genVecR_real (θ : Nat → ℝ) (a : Nat) : star (genVecR dim θ a) = genVecR dim θ a := by
  unfold genVecR; split_ifs <;> simp

theorem toM_soGenerator_complex (S : Scalars ℂ) (θ : Nat → ℝ) :
    toM dim dim (soGenerator S dim false θ) = Complex.I • Matrix.of (synthesis S dim (genVecC dim θ)) := by
  ext r c
  simp only [toM, soGenerator, Bool.false_eq_true, if_false, Matrix.of_apply, NMat.get_ofFn_fin, synthesisN_fin,
    Matrix.smul_apply, smul_eq_mul]
  rfl

theorem toM_soGenerator_real (S : Scalars ℂ) (θ : Nat → ℝ) :
    toM dim dim (soGenerator S dim true θ)
      = Matrix.of fun r c => (((synthesis S dim (genVecR dim θ) r c).im : ℝ) : ℂ) := by
  ext r c
  simp only [toM, soGenerator, if_true, Matrix.of_apply, NMat.get_ofFn_fin, synthesisN_fin]
  rfl

/-- the imaginary part of the synthesis of a real coefficient vector (a Hermitian matrix) is antisymmetric -/
theorem im_synthesis_genVecR (S : Scalars ℂ) (hS : S.Valid dim) (hd : 1 ≤ dim) (θ : Nat → ℝ) (r c : Fin dim) :
    (synthesis S dim (genVecR dim θ) c r).im = -(synthesis S dim (genVecR dim θ) r c).im := by
  have hH := Gellmann.synthesis_hermitian S hS hd (genVecR dim θ) (fun a _ => genVecR_real θ a)
  have := congrArg Complex.im (congrFun (congrFun hH r) c)
  simp only [conjTranspose_apply, Matrix.of_apply, Complex.star_def, Complex.conj_im] at this
  rw [← this, neg_neg]

/-- real branch: the generator is antisymmetric -/
theorem soGenerator_real_transpose (S : Scalars ℂ) (hS : S.Valid dim) (hd : 1 ≤ dim) (θ : Nat → ℝ) :
    (toM dim dim (soGenerator S dim true θ))ᵀ = -toM dim dim (soGenerator S dim true θ) := by
  rw [toM_soGenerator_real]
  ext r c
  simp only [transpose_apply, Matrix.of_apply, Matrix.neg_apply, im_synthesis_genVecR S hS hd θ r c, Complex.ofReal_neg]

/-- **the generator is skew-Hermitian** (both branches) -/
theorem soGenerator_skew (S : Scalars ℂ) (hS : S.Valid dim) (hd : 1 ≤ dim) (isReal : Bool) (θ : Nat → ℝ) :
    (toM dim dim (soGenerator S dim isReal θ))ᴴ = -toM dim dim (soGenerator S dim isReal θ) := by
  cases isReal with
  | false =>
    rw [toM_soGenerator_complex, conjTranspose_smul,
      Gellmann.synthesis_hermitian S hS hd _ (fun a _ => genVecC_real θ a), Complex.star_def, Complex.conj_I, neg_smul]
  | true =>
    -- real entries: the conjugate transpose is the transpose
    rw [← soGenerator_real_transpose S hS hd θ, toM_soGenerator_real]
    ext r c
    simp only [conjTranspose_apply, transpose_apply, Matrix.of_apply, Complex.star_def, Complex.conj_ofReal]

/-- real branch: the generator has real entries -/
theorem soGenerator_real_entries (S : Scalars ℂ) (θ : Nat → ℝ) (r c : Fin dim) :
    (toM dim dim (soGenerator S dim true θ) r c).im = 0 := by
  rw [toM_soGenerator_real]; simp

theorem toM_matPow (n : Nat) (M : NMat ℂ) (k : Nat) : toM n n (matPow n M k) = (toM n n M) ^ (k + 1) := by
  induction k with
  | zero => simp [matPow]
  | succ k ih => rw [matPow, toM_matMul, ih, ← pow_succ]

theorem toM_one_add (A : NMat ℂ) :
    toM dim dim (NMat.ofFn dim dim fun r c => (if r = c then 1 else 0) + A.get r c) = 1 + toM dim dim A := by
  ext r c
  simp only [toM, Matrix.of_apply, NMat.get_ofFn_fin, Matrix.add_apply, Matrix.one_apply, Fin.ext_iff]

theorem toM_one_sub (A : NMat ℂ) :
    toM dim dim (NMat.ofFn dim dim fun r c => (if r = c then 1 else 0) - A.get r c) = 1 - toM dim dim A := by
  ext r c
  simp only [toM, Matrix.of_apply, NMat.get_ofFn_fin, Matrix.sub_apply, Matrix.one_apply, Fin.ext_iff]

/-- the Cayley chart as a power: for the (skew) generator `A`, `1 + A` is invertible, so the contract gives a left inverse `Pinv` of it,
and the chart is `(Pinv (1 - A)) ^ order` -/
theorem toM_soCayley (inv : NMat ℂ → NMat ℂ)
    (hinv : ∀ P, IsUnit (toM dim dim P).det → toM dim dim (inv P) * toM dim dim P = 1)
    (S : Scalars ℂ) (hS : S.Valid dim) (hd : 1 ≤ dim) (order : Nat) (isReal : Bool) (θ : Nat → ℝ) :
    ∃ Pinv : Matrix (Fin dim) (Fin dim) ℂ, Pinv * (1 + toM dim dim (soGenerator S dim isReal θ)) = 1 ∧
      toM dim dim (soCayley inv S dim order isReal θ) = (Pinv * (1 - toM dim dim (soGenerator S dim isReal θ))) ^ (order - 1 + 1) := by
  refine ⟨_, ?_, by unfold soCayley; rw [toM_matPow, toM_matMul, toM_one_sub]⟩
  have := hinv _ (by rw [toM_one_add]; exact isUnit_one_add_of_skew _ (soGenerator_skew S hS hd isReal θ))
  rwa [toM_one_add] at this

/-! ### Stiefel maps -/
open scoped ComplexOrder

variable {rank : Nat}

/-- the Gram matrix `MᴴM` as the model computes it; positive definite when `M` has full column rank -/
theorem toM_gram (M : NMat ℂ) :
    toM rank rank (matMul rank dim rank (conjT dim rank M) M) = (toM dim rank M)ᴴ * toM dim rank M := by
  rw [toM_matMul, toM_conjT]

theorem gram_posDef (M : NMat ℂ) (hfull : Function.Injective (toM dim rank M).mulVec) :
    (toM rank rank (matMul rank dim rank (conjT dim rank M) M)).PosDef := by
  rw [toM_gram]; exact Matrix.PosDef.conjTranspose_mul_self _ hfull

/-- every entry of `matL`, with `N1 = rank (rank + 1) / 2 - rank`: the top `rank × rank` block is unit lower triangular, its strictly lower
entries hold `θ[:N1]` (complex: `+ i θ[N1:2 N1]`) in `trilPairs rank rank` order; the rows below hold the following `(dim - rank) · rank`
parameters (complex: twice as many, real parts first) -/
theorem cholLMat_get (isReal : Bool) (θ : Nat → ℝ) {r c : Nat} (hr : r < dim) (hc : c < rank) :
    (cholLMat (K := ℂ) dim rank isReal θ).get r c
      = if r < rank then
          if r = c then 1
          else if c < r then
            ((θ ((trilPairs rank rank).idxOf (r, c)) : ℝ) : ℂ) + Complex.I *
              ((if isReal then 0 else θ (rank * (rank + 1) / 2 - rank + (trilPairs rank rank).idxOf (r, c)) : ℝ) : ℂ)
          else 0
        else
          ((θ ((if isReal then rank * (rank + 1) / 2 - rank else 2 * (rank * (rank + 1) / 2 - rank)) + ((r - rank) * rank + c)) : ℝ) : ℂ) + Complex.I *
            ((if isReal then 0 else θ (2 * (rank * (rank + 1) / 2 - rank) + (dim - rank) * rank + ((r - rank) * rank + c)) : ℝ) : ℂ) := by
  cases isReal <;>
  simp only [cholLMat, NMat.get_ofFn _ _ _ hr hc, if_true, Bool.false_eq_true, if_false, CxOps.ofReal, CxOps.I, Complex.ofReal_zero, mul_zero,
    add_zero]

/-- the matrix `matL` of `to_stiefel_choleskyL` has full column rank for **every** θ (unit lower-triangular top block) -/
theorem cholLMat_injective (isReal : Bool) (θ : Nat → ℝ) (h : rank ≤ dim) :
    Function.Injective (toM dim rank (cholLMat (K := ℂ) dim rank isReal θ)).mulVec := by
  set L := toM dim rank (cholLMat (K := ℂ) dim rank isReal θ) with hL
  have key : ∀ x : Fin rank → ℂ, L *ᵥ x = 0 → x = 0 := by
    intro x hx
    have hall : ∀ k : Nat, ∀ r : Fin rank, r.val = k → x r = 0 := by
      intro k
      induction k using Nat.strong_induction_on with
      | _ k ih =>
        intro r hr
        have hrow := congrFun hx ⟨r.val, lt_of_lt_of_le r.isLt h⟩
        simp only [mulVec, dotProduct, Pi.zero_apply] at hrow
        rw [Finset.sum_eq_single r] at hrow
        · rw [hL, show toM dim rank _ ⟨r.val, _⟩ r = _ from cholLMat_get isReal θ (r.isLt.trans_le h) r.isLt, if_pos r.isLt, if_pos rfl, one_mul] at hrow
          exact hrow
        · intro c _ hc
          rcases lt_or_gt_of_ne hc with h2 | h2
          · rw [ih c.val (by rw [← hr]; exact h2) c rfl, mul_zero]
          · rw [hL, show toM dim rank _ ⟨r.val, _⟩ c = _ from cholLMat_get isReal θ (r.isLt.trans_le h) c.isLt, if_pos r.isLt, if_neg (Fin.val_ne_of_ne hc.symm),
              if_neg (Nat.lt_asymm h2), zero_mul]
        · intro hne; exact absurd (Finset.mem_univ _) hne
    funext r; exact hall r.val r rfl
  intro x y hxy
  have := key (x - y) (by rw [mulVec_sub, hxy, sub_self])
  exact sub_eq_zero.1 this

end Numqi.Manifold
