/-
C19: from the Boolean obligations to the vector-level statements:
stabilizer generators fix the code words, code words are orthogonal with norm `2^h`,
`klCheck ⇒` Knill–Laflamme on the vectors, `listedCheck ⇒` listed strings fix the code words,
`stabCircImplCheck ⇒` the stabilizer circuits are the listed operators.
-/
import NumqiProofs.QecPauliAct

namespace Numqi.Qec
variable {R : Type} [CommRing R]

/-! ### flat index ↔ position -/

theorem posOfIdx_lt (n idx : Nat) (h : idx < 2 ^ n) : posOfIdx n idx < 2 ^ n := by
  induction n generalizing idx with
  | zero => simp [posOfIdx]
  | succ n ih =>
    rw [posOfIdx]
    have h1 := ih (idx % 2 ^ n) (Nat.mod_lt _ (by positivity))
    have h2 : idx / 2 ^ n < 2 := by
      rw [Nat.div_lt_iff_lt_mul (by positivity)]; rw [pow_succ] at h; omega
    rw [pow_succ]; omega

theorem testBit_two_mul_add (m b q : Nat) (hb : b < 2) :
    (2 * m + b).testBit (q + 1) = m.testBit q := by
  rw [Nat.testBit_succ]
  congr 1; omega

theorem testBit_posOfIdx (n idx q : Nat) (h : idx < 2 ^ n) (hq : q < n) :
    (posOfIdx n idx).testBit q = idx.testBit (n - 1 - q) := by
  induction n generalizing idx q with
  | zero => omega
  | succ n ih =>
    rw [posOfIdx]
    have h2 : idx / 2 ^ n < 2 := by
      rw [Nat.div_lt_iff_lt_mul (by positivity)]; rw [pow_succ] at h; omega
    cases q with
    | zero =>
      simp only [Nat.add_sub_cancel, Nat.sub_zero]
      rw [Nat.testBit_zero, Nat.testBit_eq_decide_div_mod_eq]
      have : (2 * posOfIdx n (idx % 2 ^ n) + idx / 2 ^ n) % 2 = idx / 2 ^ n % 2 := by omega
      rw [this]
    | succ q =>
      rw [testBit_two_mul_add _ _ _ h2, ih (idx % 2 ^ n) q (Nat.mod_lt _ (by positivity)) (by omega)]
      rw [Nat.testBit_mod_two_pow]
      have : n - 1 - q < n := by omega
      simp only [this, decide_true, Bool.true_and]
      congr 1; omega

theorem posOfIdx_inj (n a b : Nat) (ha : a < 2 ^ n) (hb : b < 2 ^ n) (h : posOfIdx n a = posOfIdx n b) : a = b := by
  apply Nat.eq_of_testBit_eq
  intro j
  by_cases hj : j < n
  · have : (posOfIdx n a).testBit (n - 1 - j) = (posOfIdx n b).testBit (n - 1 - j) := by rw [h]
    rw [testBit_posOfIdx n a _ ha (by omega), testBit_posOfIdx n b _ hb (by omega)] at this
    have e : n - 1 - (n - 1 - j) = j := by omega
    rwa [e] at this
  · have h1 : a < 2 ^ j := lt_of_lt_of_le ha (Nat.pow_le_pow_right (by norm_num) (by omega))
    have h2 : b < 2 ^ j := lt_of_lt_of_le hb (Nat.pow_le_pow_right (by norm_num) (by omega))
    rw [Nat.testBit_lt_two_pow h1, Nat.testBit_lt_two_pow h2]

/-- the qubits `j < n - k` are `0` in the basis states `|a⟩`, `a < 2^k` -/
theorem posOfIdx_ancilla (n k a j : Nat) (hk : k ≤ n) (ha : a < 2 ^ k) (hj : j < n - k) :
    (posOfIdx n a).testBit j = false := by
  have ha' : a < 2 ^ n := lt_of_lt_of_le ha (Nat.pow_le_pow_right (by norm_num) hk)
  rw [testBit_posOfIdx n a j ha' (by omega)]
  exact Nat.testBit_lt_two_pow (lt_of_lt_of_le ha (Nat.pow_le_pow_right (by norm_num) (by omega)))

/-! ### basis vectors -/

theorem pauliAct_Z_basis {I : R} (j p : Nat) (hj : j < 32) (hp : p.testBit j = false) :
    pauliAct I ⟨0, 0, bit j⟩ (basisVec p) = (basisVec p : Nat → R) := by
  funext i
  simp only [pauliAct, basisVec, Nat.xor_zero, Nat.zero_add]
  by_cases h : i = p
  · subst h
    rw [par_bit_and _ hj, hp]; simp [ipow]
  · simp [h]

variable [StarRing R]

theorem ip_basis (n p p' : Nat) (hp : p < 2 ^ n) :
    ip n (basisVec p) (basisVec p' : Nat → R) = if p = p' then 1 else 0 := by
  unfold ip basisVec
  rw [Finset.sum_eq_single p (fun i _ hi => by rw [if_neg (by simpa using hi), star_zero, zero_mul])
    fun hn => absurd (Finset.mem_range.2 hp) hn]
  simp only [beq_self_eq_true, if_true, star_one, one_mul, beq_iff_eq]

/-! ### `allSome` -/

theorem allSome_mem {α : Type} : ∀ (l : List (Option α)) (r : List α), allSome l = some r → ∀ x ∈ r, some x ∈ l
  | [], r, h, x, hx => by simp only [allSome, Option.some.injEq] at h; subst h; simp at hx
  | none :: l, r, h, x, hx => by simp [allSome] at h
  | some a :: l, r, h, x, hx => by
    simp only [allSome] at h
    cases h1 : allSome l with
    | none => simp [h1] at h
    | some r1 =>
      simp only [h1, Option.some.injEq] at h
      subst h
      rcases List.mem_cons.1 hx with rfl | hx'
      · simp
      · exact List.mem_cons_of_mem _ (allSome_mem l r1 h1 x hx')

/-! ### the generators fix the code words -/

section main
variable {I : R} (hI : I * I = -1)
include hI

omit [StarRing R] in
theorem gens_fix (c : Code) (hs : shapeCheck c = true) (gs : List MP) (hg : gens c = some gs)
    (g : MP) (hgm : g ∈ gs) (a : Nat) (ha : a < c.K) :
    pauliAct I g (codeword I c a) = codeword I c a := by
  simp only [shapeCheck, Bool.and_eq_true, decide_eq_true_eq, beq_iff_eq] at hs
  obtain ⟨⟨⟨⟨hgo, hK⟩, hk⟩, hn⟩, _⟩ := hs
  have hm := allSome_mem _ _ hg g hgm
  rw [List.mem_map] at hm
  obtain ⟨j, hj, hc⟩ := hm
  rw [List.mem_range] at hj
  have hfix := conjCirc_sound hI hn c.encode hgo ⟨0, 0, bit j⟩ g hc (basisVec (posOfIdx c.n a))
  unfold codeword
  rw [← hfix, pauliAct_Z_basis j _ (by omega)]
  exact posOfIdx_ancilla c.n c.logK a j hk (by rw [hK]; exact ha) hj

omit [StarRing R] in
/-- every product of generators fixes whatever the generators fix -/
theorem span_fix (gs : List MP) (v : Nat → R) (h : ∀ g ∈ gs, pauliAct I g v = v) :
    ∀ s ∈ span gs, pauliAct I s v = v := by
  induction gs with
  | nil => intro s hs; simp only [span, List.mem_singleton] at hs; subst hs; exact pauliAct_one v
  | cons g gs ih =>
    intro s hs
    simp only [span, List.mem_append, List.mem_map] at hs
    have ih' := ih (fun g' hg' => h g' (List.mem_cons_of_mem _ hg'))
    rcases hs with hs | ⟨s', hs', rfl⟩
    · exact ih' s hs
    · rw [pauliAct_mul hI, ih' s' hs', h g (List.mem_cons_self ..)]

variable (hst : star I = -I) (h2 : ∀ a b : R, 2 * a = 2 * b → a = b)
include hst h2

/-- **code words are orthogonal, each of squared norm `2^h`** (`h` = number of Hadamards):
the true vectors `(1/√2)^h · codeword` are orthonormal. -/
theorem codeword_ortho (c : Code) (hs : shapeCheck c = true) (a b : Nat) (ha : a < c.K) (hb : b < c.K) :
    ip c.n (codeword I c a) (codeword I c b) = if a = b then 2 ^ countH c.encode else 0 := by
  simp only [shapeCheck, Bool.and_eq_true, decide_eq_true_eq, beq_iff_eq] at hs
  obtain ⟨⟨⟨⟨hgo, hK⟩, hk⟩, hn⟩, _⟩ := hs
  have hKn : c.K ≤ 2 ^ c.n := by rw [← hK]; exact Nat.pow_le_pow_right (by norm_num) hk
  unfold codeword
  rw [ip_run hI hst h2 c.encode hgo, ip_basis _ _ _ (posOfIdx_lt _ _ (by omega))]
  by_cases h : a = b
  · subst h; simp
  · have : ¬ (posOfIdx c.n a = posOfIdx c.n b) := fun e => h (posOfIdx_inj c.n a b (by omega) (by omega) e)
    simp [h, this]

/-- an error that anticommutes with an operator fixing both code words has vanishing matrix element -/
theorem ip_acomm_zero {n : Nat} (g e : MP) (hgx : g.x < 2 ^ n) (hac : MP.acomm g e = true) (u v : Nat → R)
    (hu : pauliAct I g u = u) (hv : pauliAct I g v = v) :
    ip n u (pauliAct I e v) = 0 := by
  have h1 : ip n u (pauliAct I e v) = ip n (pauliAct I g u) (pauliAct I g (pauliAct I e v)) := by
    rw [ip_pauliAct hI hst g hgx]
  rw [hu, pauliAct_comm hI g e, hac] at h1
  simp only [if_true, hv] at h1
  have h3 : ip n u (fun i => -1 * pauliAct I e v i) = -ip n u (pauliAct I e v) := by
    rw [ip_smul_right]; ring
  rw [h3] at h1
  have : 2 * ip n u (pauliAct I e v) = 2 * 0 := by
    rw [mul_zero, two_mul]; nth_rewrite 1 [h1]; ring
  exact h2 _ _ this

/-- **Knill–Laflamme on the vectors**: `klCheck` implies that for every error `E` of the model of
`make_error_list` there is a scalar `κ_E` with `⟨c_a|E|c_b⟩ = κ_E δ_ab` for all code words. -/
theorem kl_of_klCheck (c : Code) (h : klCheck c = true) :
    ∀ e ∈ errorList c.n c.d, ∃ κ : R, ∀ a < c.K, ∀ b < c.K,
      ip c.n (codeword I c a) (pauliAct I (MP.ofSparse e) (codeword I c b)) = if a = b then κ else 0 := by
  unfold klCheck at h
  rw [Bool.and_eq_true] at h
  obtain ⟨hs, h⟩ := h
  cases hg : gens c with
  | none => simp [hg] at h
  | some gs =>
    simp only [hg, MP.forceList_eq, Bool.and_eq_true, List.all_eq_true, decide_eq_true_eq] at h
    obtain ⟨hbound, hall⟩ := h
    intro e he
    have hone := hall e he
    simp only [klOne, MP.force_eq, Bool.or_eq_true, List.any_eq_true, Bool.and_eq_true, beq_iff_eq] at hone
    have hfix : ∀ g ∈ gs, ∀ a < c.K, pauliAct I g (codeword I c a) = codeword I c a :=
      fun g hgm a ha => gens_fix hI c hs gs hg g hgm a ha
    rcases hone with ⟨g, hgm, hac⟩ | ⟨s, hsm, hsx, hsz⟩
    · refine ⟨0, fun a ha b hb => ?_⟩
      rw [ip_acomm_zero hI hst h2 g _ (hbound g hgm) hac _ _ (hfix g hgm a ha) (hfix g hgm b hb)]
      simp
    · -- E = I^(k_E) X^x Z^z,  s = I^(k_s) X^x Z^z fixes the code words
      set E := MP.ofSparse e with hE
      refine ⟨ipow I (E.k + 3 * s.k) * 2 ^ countH c.encode, fun a ha b hb => ?_⟩
      have hsb := span_fix hI gs (codeword I c b) (fun g hgm => hfix g hgm b hb) s hsm
      have key : ∀ i, pauliAct I E (codeword I c b) i = ipow I (E.k + 3 * s.k) * codeword I c b i := by
        intro i
        have e1 := pauliAct_phase (I := I) E (codeword I c b) i
        have e2 := pauliAct_phase (I := I) s (codeword I c b) i
        rw [hsb, hsx, hsz] at e2
        rw [e1, ipow_add, mul_assoc]
        congr 1
        -- ⟨0,x,z⟩ v = I^(3 k_s) v  because  I^(k_s) · ⟨0,x,z⟩ v = v
        have h4 : ipow I (3 * s.k) * ipow I s.k = 1 := by
          rw [← ipow_add]
          have : ipow I (3 * s.k + s.k) = ipow I 0 := ipow_congr hI (by omega)
          rw [this]; rfl
        calc pauliAct I ⟨0, E.x, E.z⟩ (codeword I c b) i
            = (ipow I (3 * s.k) * ipow I s.k) * pauliAct I ⟨0, E.x, E.z⟩ (codeword I c b) i := by rw [h4, one_mul]
          _ = ipow I (3 * s.k) * (ipow I s.k * pauliAct I ⟨0, E.x, E.z⟩ (codeword I c b) i) := by ring
          _ = _ := by rw [← e2]
      have : pauliAct I E (codeword I c b) = fun i => ipow I (E.k + 3 * s.k) * codeword I c b i := funext key
      rw [this, ip_smul_right, codeword_ortho hI hst h2 c hs a b ha hb]
      split <;> simp

omit hI hst h2 [StarRing R] in
theorem ofSparse_single (q : Nat) :
    MP.ofSparse [(q, 1)] = ⟨0, bit q, 0⟩ ∧ MP.ofSparse [(q, 2)] = ⟨1, bit q, bit q⟩ ∧ MP.ofSparse [(q, 3)] = ⟨0, 0, bit q⟩ := by
  simp [MP.ofSparse, MP.one]

omit hst h2 [StarRing R] in
/-- a circuit of X/Y/Z gates acts as the operator computed by `circPauli` -/
theorem run_circPauli (n : Nat) (hn : n ≤ 32) (gl : List Gate) (p : MP) (h : circPauli n gl = some p) (v : Nat → R) :
    run I gl v = pauliAct I p v := by
  induction gl generalizing p v with
  | nil => simp only [circPauli, Option.some.injEq] at h; subst h; rw [pauliAct_one]; rfl
  | cons g gs ih =>
    have h3 : ipow I 3 = -I := ipow_three hI
    simp only [circPauli] at h
    cases hr : circPauli n gs with
    | none =>
      simp only [hr] at h
      split at h
      · next heq => cases heq
      · cases h
    | some r =>
      simp only [hr] at h
      simp only [run]
      rw [ih r hr]
      cases g with
      | x q =>
        by_cases hq : q < n
        · simp only [hq, if_true, Option.some.injEq] at h
          subst h
          rw [pauliAct_mul hI]
          congr 1
          funext i
          simp [applyGate, pauliAct, (ofSparse_single q).1, fl, ipow]
        · simp [hq] at h
      | z q =>
        by_cases hq : q < n
        · simp only [hq, if_true, Option.some.injEq] at h
          subst h
          rw [pauliAct_mul hI]
          congr 1
          funext i
          have hq32 : q < 32 := by omega
          have hp : par (bit q &&& i) = i.testBit q := par_bit_and i hq32
          simp only [applyGate, pauliAct, (ofSparse_single q).2.2, tb, Nat.xor_zero, Nat.zero_add, hp]
          rcases Bool.eq_false_or_eq_true (i.testBit q) with h1 | h1 <;> simp [h1, ipow, hI]
        · simp [hq] at h
      | y q =>
        by_cases hq : q < n
        · simp only [hq, if_true, Option.some.injEq] at h
          subst h
          rw [pauliAct_mul hI]
          congr 1
          funext i
          have hq32 : q < 32 := by omega
          have hp : par (bit q &&& (i ^^^ bit q)) = !i.testBit q := by
            rw [par_bit_and _ hq32, testBit_fl]; simp
          simp only [applyGate, pauliAct, (ofSparse_single q).2.1, tb, fl, hp]
          rcases Bool.eq_false_or_eq_true (i.testBit q) with h1 | h1 <;> simp [h1, ipow_one, h3]
        · simp [hq] at h
      | h q => simp at h
      | s q => simp at h
      | cx c t => simp at h
      | cy c t => simp at h
      | cz c t => simp at h
      | unknown => simp at h

end main
end Numqi.Qec
