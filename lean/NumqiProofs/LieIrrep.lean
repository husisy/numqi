/-
Helper lemmas for C15: the spin-j matrices as `Sym^{j2}` of the SU(2) matrix — explicit tables for `j2 ≤ 3` and their
multiplicativity.
-/
import NumqiProofs.Lie
import Mathlib.Algebra.BigOperators.Fin

set_option linter.unusedSectionVars false

namespace Numqi.Lie
open Matrix

variable {R : Type} [Field R] [CharZero R]

/-- `Sym^{j2}(U)` of the model as a matrix over `Cx R` -/
def symM (sq : ℕ → R) (j2 : ℕ) (a b c d : Cx R) : Matrix (Fin (j2 + 1)) (Fin (j2 + 1)) (Cx R) :=
  fun i k => symD sq (fun n : ℕ => (n : R)) j2 a b c d i.val k.val

theorem smul_eq_ofReal_mul (x : R) (z : Cx R) : Cx.smul x z = Cx.ofReal x * z := by
  ext <;> simp

theorem ofReal_mul' (x y : R) : Cx.ofReal (x * y) = Cx.ofReal x * Cx.ofReal y := by ext <;> simp
theorem ofReal_one' : Cx.ofReal (1 : R) = 1 := rfl
theorem ofReal_ofNat' (n : ℕ) : Cx.ofReal ((n : R)) = (n : Cx R) := by
  induction n with
  | zero => ext <;> simp
  | succ n ih => rw [Nat.cast_succ, Nat.cast_succ, ← ih]; ext <;> simp

theorem ofReal_two : Cx.ofReal (2 : R) = 2 := by exact_mod_cast ofReal_ofNat' (R := R) 2

theorem ofReal_three : Cx.ofReal (3 : R) = 3 := by exact_mod_cast ofReal_ofNat' (R := R) 3

/-! ### the tables for `j2 = 2, 3` over any commutative ring, `t` standing for `√2`, `√3` -/

section tables
variable {S : Type} [CommRing S]

/-- `Sym²` of `[[a, b], [c, d]]` in the normalised monomial basis -/
def sym2 (t a b c d : S) : Matrix (Fin 3) (Fin 3) S :=
  Matrix.of ![![a * a, t * (a * b), b * b],
    ![t * (a * c), a * d + b * c, t * (b * d)],
    ![c * c, t * (c * d), d * d]]

/-- `Sym³` of `[[a, b], [c, d]]` in the normalised monomial basis -/
def sym3 (t a b c d : S) : Matrix (Fin 4) (Fin 4) S :=
  Matrix.of ![![a * a * a, t * (a * a * b), t * (a * b * b), b * b * b],
    ![t * (a * a * c), a * a * d + (a * b * c + a * b * c), (a * b * d + a * b * d) + b * b * c, t * (b * b * d)],
    ![t * (a * c * c), (a * c * d + a * c * d) + b * c * c, a * d * d + (b * c * d + b * c * d), t * (b * d * d)],
    ![c * c * c, t * (c * c * d), t * (c * d * d), d * d * d]]

/-- `Sym²` is multiplicative (all 2×2 matrices): a polynomial identity once the products of two `t` entries are `2` -/
theorem sym2_mul {t : S} (ht : t * t = 2) (a b c d a' b' c' d' : S) :
    sym2 t (a * a' + b * c') (a * b' + b * d') (c * a' + d * c') (c * b' + d * d') = sym2 t a b c d * sym2 t a' b' c' d' := by
  have htt (x y : S) : t * x * (t * y) = 2 * (x * y) := by linear_combination (x * y) * ht
  ext i k
  rw [Matrix.mul_apply, Fin.sum_univ_three]
  fin_cases i <;> fin_cases k <;>
    simp only [sym2, Matrix.of_apply, Matrix.cons_val_zero, Matrix.cons_val_one, Matrix.cons_val, Fin.zero_eta, Fin.mk_one,
      Fin.reduceFinMk, Fin.isValue, htt] <;>
    ring

/-- `Sym³` is multiplicative (all 2×2 matrices) -/
theorem sym3_mul {t : S} (ht : t * t = 3) (a b c d a' b' c' d' : S) :
    sym3 t (a * a' + b * c') (a * b' + b * d') (c * a' + d * c') (c * b' + d * d') = sym3 t a b c d * sym3 t a' b' c' d' := by
  have htt (x y : S) : t * x * (t * y) = 3 * (x * y) := by linear_combination (x * y) * ht
  ext i k
  rw [Matrix.mul_apply, Fin.sum_univ_four]
  fin_cases i <;> fin_cases k <;>
    simp only [sym3, Matrix.of_apply, Matrix.cons_val_zero, Matrix.cons_val_one, Matrix.cons_val, Fin.zero_eta, Fin.mk_one,
      Fin.reduceFinMk, Fin.isValue, htt] <;>
    ring

theorem sym2_one (t : S) : sym2 t 1 0 0 1 = 1 := by
  ext i k
  fin_cases i <;> fin_cases k <;> simp [sym2]

theorem sym3_one (t : S) : sym3 t 1 0 0 1 = 1 := by
  ext i k
  fin_cases i <;> fin_cases k <;> simp [sym3]

end tables

theorem symM_one (sq : ℕ → R) (h1 : sq 1 = 1) (a b c d : Cx R) : symM sq 1 a b c d = M2 (mk2 a b c d) := by
  have e1 : (1 : R) / ((1 : ℕ) : R) = 1 := by norm_num
  apply Matrix.ext; intro i k
  fin_cases i <;> fin_cases k <;>
    simp only [symM, symD, factN, powG, List.range_succ, List.range_zero, List.foldl, Nat.reduceMul, Nat.reduceSub, Nat.reduceAdd,
      List.nil_append, Nat.min_def, Nat.reduceLeDiff, ite_true, ite_false, h1, e1, Fin.zero_eta, Fin.mk_one, Fin.isValue,
      mk2_00, mk2_01, mk2_10, mk2_11, smul_eq_ofReal_mul, ofReal_one'] <;>
    ring

theorem symM_two (sq : ℕ → R) (h1 : sq 1 = 1) (h4 : sq 4 = 2) (a b c d : Cx R) :
    symM sq 2 a b c d = sym2 (Cx.ofReal (sq 2)) a b c d := by
  have e1 : (1 : R) / ((1 : ℕ) : R) = 1 := by norm_num
  have e2 : (2 : R) / ((2 : ℕ) : R) = 1 := by norm_num
  have e3 : sq 2 / ((1 : ℕ) : R) = sq 2 := by norm_num
  apply Matrix.ext; intro i k
  fin_cases i <;> fin_cases k <;>
    simp only [symM, symD, factN, powG, List.range_succ, List.range_zero, List.foldl, Nat.reduceMul, Nat.reduceSub, Nat.reduceAdd,
      List.nil_append, List.cons_append, Nat.min_def, Nat.reduceLeDiff, ite_true, ite_false, h1, h4, e1, e2, e3,
      Fin.zero_eta, Fin.mk_one, Fin.reduceFinMk, Fin.isValue, sym2, Matrix.of_apply, Matrix.cons_val_zero, Matrix.cons_val_one,
      Matrix.cons_val, smul_eq_ofReal_mul, ofReal_one'] <;>
    ring

theorem symM_three (sq : ℕ → R) (h4 : sq 4 = 2) (h36 : sq 36 = 6) (h12 : sq 12 = 2 * sq 3) (a b c d : Cx R) :
    symM sq 3 a b c d = sym3 (Cx.ofReal (sq 3)) a b c d := by
  have e1 : (6 : R) / ((6 : ℕ) : R) = 1 := by norm_num
  have e2 : (2 : R) / ((2 : ℕ) : R) = 1 := by norm_num
  have e3 : 2 * sq 3 / ((2 : ℕ) : R) = sq 3 := by norm_num
  have e4 : (2 : R) / ((1 : ℕ) : R) = 2 := by norm_num
  apply Matrix.ext; intro i k
  fin_cases i <;> fin_cases k <;>
    simp only [symM, symD, factN, powG, List.range_succ, List.range_zero, List.foldl, Nat.reduceMul, Nat.reduceSub, Nat.reduceAdd,
      List.nil_append, List.cons_append, Nat.min_def, Nat.reduceLeDiff, ite_true, ite_false, h4, h36, h12, e1, e2, e3, e4,
      Fin.zero_eta, Fin.mk_one, Fin.reduceFinMk, Fin.isValue, sym3, Matrix.of_apply, Matrix.cons_val_zero, Matrix.cons_val_one,
      Matrix.cons_val, smul_eq_ofReal_mul, ofReal_one', ofReal_two] <;>
    ring

/-- `Sym^{j2}` is multiplicative for `j2 = 1, 2, 3` (all 2×2 matrices) -/
theorem symM_mul (sq : ℕ → R) (h1 : sq 1 = 1) (h4 : sq 4 = 2) (h36 : sq 36 = 6) (h12 : sq 12 = 2 * sq 3)
    (h2 : sq 2 * sq 2 = 2) (h3 : sq 3 * sq 3 = 3) {j2 : ℕ} (hj : j2 = 1 ∨ j2 = 2 ∨ j2 = 3) (a b c d a' b' c' d' : Cx R) :
    symM sq j2 (a * a' + b * c') (a * b' + b * d') (c * a' + d * c') (c * b' + d * d')
      = symM sq j2 a b c d * symM sq j2 a' b' c' d' := by
  rcases hj with rfl | rfl | rfl
  · rw [symM_one sq h1, symM_one sq h1, symM_one sq h1]
    apply mat2_ext <;> simp [mul2_apply]
  · rw [symM_two sq h1 h4, symM_two sq h1 h4, symM_two sq h1 h4]
    exact sym2_mul (by rw [← ofReal_mul', h2, ofReal_two]) ..
  · rw [symM_three sq h4 h36 h12, symM_three sq h4 h36 h12, symM_three sq h4 h36 h12]
    exact sym3_mul (by rw [← ofReal_mul', h3, ofReal_three]) ..

/-! ### the Wigner sum of the implementation is `Sym^{j2}` of the SU(2) matrix, every `j2` -/

theorem powG_eq_pow {M : Type} [Monoid M] (x : M) (n : ℕ) : powG x n = x ^ n := by
  induction n with
  | zero => rw [powG, pow_zero]
  | succ n ih => rw [powG, ih, pow_succ]

theorem ofReal_pow' (x : R) (n : ℕ) : Cx.ofReal (x ^ n) = (Cx.ofReal x) ^ n := by
  induction n with
  | zero => rw [pow_zero, pow_zero]; rfl
  | succ n ih => rw [pow_succ, pow_succ, ofReal_mul', ih]

theorem ofReal_neg_one : Cx.ofReal (-1 : R) = -1 := by ext <;> simp

/-- powers of two mutually inverse elements cancel -/
theorem pow_mul_pow_cancel {S : Type} [CommRing S] {z w : S} (h : z * w = 1) (x n y : ℕ) :
    z ^ (x + n) * w ^ (n + y) = z ^ x * w ^ y := by
  calc z ^ (x + n) * w ^ (n + y) = z ^ x * (z * w) ^ n * w ^ y := by ring
    _ = z ^ x * w ^ y := by rw [h, one_pow, mul_one]

/-- pulling a complex factor through the fold -/
theorem foldl_smul (l : List ℕ) (g : ℕ → R) (Z : Cx R) (x0 : R) :
    Cx.ofReal (l.foldl (fun acc t => acc + g t) x0) * Z
      = l.foldl (fun acc t => acc + Cx.ofReal (g t) * Z) (Cx.ofReal x0 * Z) := by
  induction l generalizing x0 with
  | nil => rfl
  | cons t l ih =>
    rw [List.foldl_cons, List.foldl_cons, ih]
    congr 1
    ext <;> simp <;> ring

theorem foldl_congr_range (n : ℕ) (f g : ℕ → Cx R) (h : ∀ t < n, f t = g t) (x0 : Cx R) :
    (List.range n).foldl (fun acc t => acc + f t) x0 = (List.range n).foldl (fun acc t => acc + g t) x0 := by
  induction n with
  | zero => rfl
  | succ n ih =>
    rw [List.range_succ, List.foldl_append, List.foldl_append, ih (fun t ht => h t (by omega))]
    simp [h n (by omega)]

/-- **`get_su2_irrep` (Wigner factorial sum with its phases) = `Sym^{j2}(angle_to_su2)`**, entry by entry, for every `j2`. -/
theorem irrepCS_eq_symD (sq : ℕ → R) (j2 : ℕ) (cb sb : R) (p m : Cx R) (hp : p * p.conj = 1) (hm : m * m.conj = 1)
    (i k : ℕ) (hi : i ≤ j2) (hk : k ≤ j2) :
    irrepCS sq (fun n : ℕ => (n : R)) j2 cb sb p m i k
      = symD sq (fun n : ℕ => (n : R)) j2 (Cx.smul cb p.conj) (-(Cx.smul sb m.conj)) (Cx.smul sb m) (Cx.smul cb p) i k := by
  unfold irrepCS symD wignerDG
  rw [smul_eq_ofReal_mul, foldl_smul]
  have z0 : Cx.ofReal (0 : R) * (powG p.conj j2 * powG (p * m) i * powG (p * m.conj) k) = 0 := by
    ext <;> simp
  rw [z0]
  apply foldl_congr_range
  intro t ht
  simp only [smul_eq_ofReal_mul, powG_eq_pow]
  set r := k - i + t with hr
  have hr3 : r ≤ j2 - i := by omega
  have hr4 : r ≤ k := by omega
  -- exponent bookkeeping; `ht` mentions `min`, on which every `omega` below would split
  clear ht
  generalize hx : j2 - i - r = x
  generalize hw : k - r = w
  generalize hz : r + i - k = zz
  have e1 : j2 - (2 * r + i - k) = x + w := by omega
  have e2 : 2 * r + i - k = r + zz := by omega
  have e3 : j2 = x + (i + r) := by omega
  have e4 : i + k = (i + r) + w := by omega
  have e5 : i = zz + w := by omega
  have e6 : k = w + r := by omega
  rw [e1, e2]
  have hsgn : Cx.ofReal (if r % 2 = 0 then (1 : R) else -1) = (-1 : Cx R) ^ r := by
    rw [neg_one_pow_eq_pow_mod_two]
    rcases Nat.mod_two_eq_zero_or_one r with h | h
    · rw [h, if_pos rfl, pow_zero]; rfl
    · rw [h, if_neg one_ne_zero, pow_one, ofReal_neg_one]
  have hphase : p.conj ^ j2 * (p * m) ^ i * (p * m.conj) ^ k = p.conj ^ x * p ^ w * m.conj ^ r * m ^ zz := by
    have h1 : p.conj ^ j2 * p ^ (i + k) = p.conj ^ x * p ^ w := by
      rw [e4]; conv_lhs => rw [e3]
      exact pow_mul_pow_cancel (by rw [mul_comm, hp]) x (i + r) w
    have h2 : m ^ i * m.conj ^ k = m ^ zz * m.conj ^ r := by
      conv_lhs => rw [e5, e6]
      exact pow_mul_pow_cancel hm zz w r
    calc p.conj ^ j2 * (p * m) ^ i * (p * m.conj) ^ k
        = (p.conj ^ j2 * p ^ (i + k)) * (m ^ i * m.conj ^ k) := by rw [mul_pow, mul_pow, pow_add]; ring
      _ = p.conj ^ x * p ^ w * m.conj ^ r * m ^ zz := by rw [h1, h2]; ring
  rw [hphase]
  rw [← neg_one_mul (Cx.ofReal sb * m.conj)]
  simp only [ofReal_mul', ofReal_pow', mul_pow]
  have hdiv : ∀ u v : R, Cx.ofReal ((if r % 2 = 0 then (1 : R) else -1) * u / v) = (-1 : Cx R) ^ r * Cx.ofReal (u / v) := by
    intro u v
    rw [mul_div_assoc, ofReal_mul', hsgn]
  rw [hdiv, pow_add, pow_add]
  ring

/-! ### unitarity for `j2 ≤ 3` -/

/-- conjugate transpose of a matrix over `Cx R` -/
def conjTn {n : ℕ} (M : Matrix (Fin n) (Fin n) (Cx R)) : Matrix (Fin n) (Fin n) (Cx R) := fun i k => (M k i).conj

theorem conj_add' (z w : Cx R) : (z + w).conj = z.conj + w.conj := by ext <;> simp; ring

theorem conj_mul' (z w : Cx R) : (z * w).conj = z.conj * w.conj := by ext <;> simp; ring

theorem conj_powG (z : Cx R) (n : ℕ) : (powG z n).conj = powG z.conj n := by
  induction n with
  | zero => ext <;> simp [powG]
  | succ n ih => rw [powG, powG, conj_mul', ih]

theorem conj_foldl (l : List ℕ) (f : ℕ → Cx R) (x0 : Cx R) :
    (l.foldl (fun acc t => acc + f t) x0).conj = l.foldl (fun acc t => acc + (f t).conj) x0.conj := by
  induction l generalizing x0 with
  | nil => rfl
  | cons t l ih => rw [List.foldl_cons, List.foldl_cons, ih, conj_add']

/-- **the conjugate transpose of `Sym^{j2}(U)` is `Sym^{j2}(U†)`, every `j2`**: the `t`-th term of entry `(k, i)` is the
conjugate of the `t`-th term of entry `(i, k)` with `b` and `c` exchanged. -/
theorem symM_conjT (sq : ℕ → R) (j2 : ℕ) (a b c d : Cx R) :
    conjTn (symM sq j2 a b c d) = symM sq j2 a.conj c.conj b.conj d.conj := by
  apply Matrix.ext; intro ⟨i, hi⟩ ⟨k, hk⟩
  simp only [conjTn, symM, symD]
  have hlen : min (j2 - k) i + 1 - (i - k) = min (j2 - i) k + 1 - (k - i) := by omega
  have z : (0 : Cx R).conj = 0 := by ext <;> simp
  rw [conj_foldl, hlen, z]
  apply foldl_congr_range
  intro t ht
  have e1 : j2 - k - (i - k + t) = j2 - i - (k - i + t) := by omega
  have e2 : i - (i - k + t) = k - (k - i + t) := by omega
  have e3 : i - k + t + k - i = k - i + t := by omega
  have e4 : k - i + t + i - k = i - k + t := by omega
  have e5 : factN (j2 - k) * factN k * factN (j2 - i) * factN i = factN (j2 - i) * factN i * factN (j2 - k) * factN k := by ring
  have conj_smul (x : R) (z : Cx R) : (Cx.smul x z).conj = Cx.smul x z.conj := by ext <;> simp
  simp only [e1, e2, e3, e4, e5, conj_smul, conj_mul', conj_powG]
  rw [mul_right_comm _ (factN (i - k + t)), mul_right_comm _ (powG b.conj (i - k + t))]

theorem symM_id (sq : ℕ → R) (h1 : sq 1 = 1) (h4 : sq 4 = 2) (h36 : sq 36 = 6) (h12 : sq 12 = 2 * sq 3)
    {j2 : ℕ} (hj : j2 = 1 ∨ j2 = 2 ∨ j2 = 3) : symM sq j2 1 0 0 1 = 1 := by
  rcases hj with rfl | rfl | rfl
  · rw [symM_one sq h1]; apply Matrix.ext; intro i k; fin_cases i <;> fin_cases k <;> rfl
  · rw [symM_two sq h1 h4, sym2_one]
  · rw [symM_three sq h4 h36 h12, sym3_one]

/-- **`Sym^{j2}` of a unitary matrix is unitary for `j2 = 1, 2, 3`**: `Sym(U)† Sym(U) = Sym(U†U) = Sym(1) = 1` -/
theorem symM_unitary (sq : ℕ → R) (h1 : sq 1 = 1) (h4 : sq 4 = 2) (h36 : sq 36 = 6) (h12 : sq 12 = 2 * sq 3)
    (h2 : sq 2 * sq 2 = 2) (h3 : sq 3 * sq 3 = 3) {j2 : ℕ} (hj : j2 = 1 ∨ j2 = 2 ∨ j2 = 3) (a b c d : Cx R)
    (u00 : a.conj * a + c.conj * c = 1) (u01 : a.conj * b + c.conj * d = 0)
    (u10 : b.conj * a + d.conj * c = 0) (u11 : b.conj * b + d.conj * d = 1) :
    conjTn (symM sq j2 a b c d) * symM sq j2 a b c d = 1 := by
  rw [symM_conjT, ← symM_mul sq h1 h4 h36 h12 h2 h3 hj, u00, u01, u10, u11, symM_id sq h1 h4 h36 h12 hj]

end Numqi.Lie
