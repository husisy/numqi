/- Model-specific lemmas for C01: the trace-one PSD Cholesky map. -/
import NumqiProofs.ManifoldMaps
import NumqiProofs.ManifoldCount
import Mathlib.LinearAlgebra.Matrix.Rank

namespace Numqi.Manifold
open Matrix Finset
open scoped ComplexOrder

variable {dim rank : Nat}

/-! ### `trilPairs` -/

theorem mem_trilPairs {x : Nat × Nat} : x ∈ trilPairs dim rank ↔ x.1 < dim ∧ x.2 < x.1 ∧ x.2 < rank := by
  simp only [trilPairs, List.mem_flatMap, List.mem_range, List.mem_map, lt_min_iff]
  constructor
  · rintro ⟨r, hr, c, ⟨h1, h2⟩, rfl⟩; exact ⟨hr, h1, h2⟩
  · intro ⟨h1, h2, h3⟩; exact ⟨x.1, h1, x.2, ⟨h2, h3⟩, rfl⟩

theorem nodup_trilPairs : (trilPairs dim rank).Nodup := by
  unfold trilPairs
  rw [List.nodup_flatMap]
  refine ⟨fun r _ => ?_, ?_⟩
  · exact (List.nodup_range).map (fun a b h => by simpa using h)
  · refine List.Pairwise.imp ?_ (List.nodup_range (n := dim))
    intro a b hab
    simp only [Function.onFun, List.disjoint_left, List.mem_map]
    rintro x ⟨j, _, rfl⟩ ⟨j', _, h⟩
    exact hab (by simpa using (congrArg Prod.fst h).symm)

theorem length_trilPairs (h : rank ≤ dim) : 2 * (trilPairs dim rank).length + rank * rank + rank = 2 * dim * rank := by
  have h1 : (trilPairs dim rank).length = ∑ r ∈ range dim, min r rank := by
    unfold trilPairs
    rw [List.length_flatMap]
    simp only [List.length_map, List.length_range]
    rw [← sumRange_eq]; rfl
  have h2 : ∑ r ∈ range rank, min r rank = ∑ r ∈ range rank, r :=
    Finset.sum_congr rfl (fun r hr => min_eq_left (le_of_lt (Finset.mem_range.1 hr)))
  have h3 : ∑ r ∈ Ico rank dim, min r rank = dim * rank - rank * rank := by
    rw [Finset.sum_congr rfl (fun r hr => min_eq_right (Finset.mem_Ico.1 hr).1), Finset.sum_const, Nat.card_Ico, smul_eq_mul,
      Nat.sub_mul]
  have h4 := Finset.sum_range_id_mul_two rank
  obtain ⟨-, hpred, -, hassoc, hle, hsq, -⟩ := Count.products dim rank h
  rw [h1, ← Finset.sum_range_add_sum_Ico _ h, h2, h3]
  omega

theorem sum_range_nodup' {β : Type} [DecidableEq β] [BEq β] [LawfulBEq β] {M : Type} [AddCommMonoid M]
    (l : List β) (hl : l.Nodup) (f : Nat → M) :
    ∑ a ∈ Finset.range l.length, f a = ∑ x ∈ l.toFinset, f (l.idxOf x) := by
  refine Finset.sum_bij' (fun a ha => l[a]'(Finset.mem_range.1 ha)) (fun x _ => l.idxOf x) ?_ ?_ ?_ ?_ ?_
  · intro a ha; rw [List.mem_toFinset]; exact List.getElem_mem _
  · intro x hx
    rw [List.mem_toFinset] at hx
    rw [Finset.mem_range]; exact List.idxOf_lt_length_of_mem hx
  · intro a ha; exact hl.idxOf_getElem a _
  · intro x hx; exact List.getElem_idxOf _
  · intro a ha; rw [hl.idxOf_getElem a _]

/-- a sum over the strictly lower entries, addressed by their position in `trilPairs`, is a sum over positions -/
theorem sum_tril (g : Nat → ℝ) (h : rank ≤ dim) :
    ∑ r : Fin dim, ∑ c : Fin rank, (if c.val < r.val then g ((trilPairs dim rank).idxOf (r.val, c.val)) else 0)
      = ∑ p ∈ range (trilPairs dim rank).length, g p := by
  have h1 := sum_range_nodup' (trilPairs dim rank) nodup_trilPairs g
  rw [h1, ← Finset.sum_product', ← Finset.sum_filter]
  refine Finset.sum_bij (fun x _ => (x.1.val, x.2.val)) ?_ ?_ ?_ ?_
  · intro x hx
    simp only [Finset.mem_filter, Finset.mem_product, Finset.mem_univ, true_and] at hx
    rw [List.mem_toFinset, mem_trilPairs]; exact ⟨x.1.isLt, hx, x.2.isLt⟩
  · intro x _ y _ hxy
    simp only [Prod.mk.injEq] at hxy
    exact Prod.ext (Fin.ext hxy.1) (Fin.ext hxy.2)
  · intro y hy
    rw [List.mem_toFinset, mem_trilPairs] at hy
    refine ⟨(⟨y.1, hy.1⟩, ⟨y.2, hy.2.2⟩), ?_, rfl⟩
    simp only [Finset.mem_filter, Finset.mem_product, Finset.mem_univ, true_and]; exact hy.2.1
  · intro x _; rfl

theorem toM_psdCholesky (isReal : Bool) (θ : Nat → ℝ) :
    toM dim dim (psdCholesky (K := ℂ) dim rank isReal θ)
      = toM dim rank (psdCholFactor dim rank isReal θ) * (toM dim rank (psdCholFactor dim rank isReal θ))ᴴ := by
  unfold psdCholesky; simp only []; rw [toM_matMul, toM_conjT]

theorem N0_sub_rank (h : rank ≤ dim) : rank * (2 * dim - rank + 1) / 2 - rank = (trilPairs dim rank).length := by
  have := length_trilPairs h
  obtain ⟨-, -, hN0, hassoc, hle, hsq, -⟩ := Count.products dim rank h
  omega

theorem normSq_pos_of_softplus (θ : Nat → ℝ) (hr : 1 ≤ rank) : 0 < normSq rank (fun i => softplus (θ i)) := by
  rw [normSq_eq]
  apply Finset.sum_pos' (fun i _ => mul_self_nonneg _)
  exact ⟨0, Finset.mem_range.2 hr, mul_pos (softplus_pos' _) (softplus_pos' _)⟩

/-- the normaliser of `to_trace1_psd_cholesky` -/
noncomputable def psdNormaliser (dim rank : Nat) (isReal : Bool) (θ : Nat → ℝ) : ℝ :=
  Real.sqrt (normSq (if isReal then rank * (2 * dim - rank + 1) / 2 - rank else 2 * (rank * (2 * dim - rank + 1) / 2 - rank)) (fun p => θ (rank + p))
    + normSq rank (fun i => softplus (θ i)))

theorem psdNormaliser_pos (isReal : Bool) (θ : Nat → ℝ) (hr : 1 ≤ rank) : 0 < psdNormaliser dim rank isReal θ :=
  Real.sqrt_pos.2 (add_pos_of_nonneg_of_pos (normSq_nonneg _ _) (normSq_pos_of_softplus θ hr))

/-- every entry of the factor: `softplus θ_c / psdNormaliser θ` on the diagonal (so `psdNormaliser` is the normaliser inside the model's
`psdCholFactor`); below it the parameter at the entry's position in `trilPairs` and, in the complex case, as imaginary part the parameter
`(trilPairs dim rank).length` places further on; zero above -/
theorem psdCholFactor_get (isReal : Bool) (θ : Nat → ℝ) {r c : Nat} (hr : r < dim) (hc : c < rank) (hrk : rank ≤ dim) :
    (psdCholFactor (K := ℂ) dim rank isReal θ).get r c
      = if r = c then ((softplus (θ c) / psdNormaliser dim rank isReal θ : ℝ) : ℂ)
        else if c < r then
          ((θ (rank + (trilPairs dim rank).idxOf (r, c)) / psdNormaliser dim rank isReal θ : ℝ) : ℂ) + Complex.I *
            ((if isReal then 0 else θ (rank + (trilPairs dim rank).length + (trilPairs dim rank).idxOf (r, c)) / psdNormaliser dim rank isReal θ : ℝ) : ℂ)
        else 0 := by
  rw [← N0_sub_rank hrk]
  cases isReal <;>
  simp only [psdCholFactor, psdNormaliser, NMat.get_ofFn _ _ _ hr hc, if_true, CxOps.ofReal, CxOps.I, sqrt_eq, Bool.false_eq_true,
    if_false, Complex.ofReal_zero, mul_zero, add_zero]

/-- **the normalised factor has Frobenius norm one** (`1 ≤ rank ≤ dim`): the square of the normaliser is the sum of the squares of all
numerators — the softplus diagonal and every strictly lower parameter, each read once through `trilPairs` -/
theorem psdCholFactor_normSq (isReal : Bool) (θ : Nat → ℝ) (hr : 1 ≤ rank) (h : rank ≤ dim) :
    ∑ r : Fin dim, ∑ c : Fin rank, Complex.normSq (toM dim rank (psdCholFactor (K := ℂ) dim rank isReal θ) r c) = 1 := by
  set nf := psdNormaliser dim rank isReal θ with hnf
  set L := (trilPairs dim rank).length with hL
  have hpos : 0 < nf := psdNormaliser_pos isReal θ hr
  have hsq : nf * nf = normSq (if isReal then L else 2 * L) (fun p => θ (rank + p)) + normSq rank (fun i => softplus (θ i)) := by
    rw [hnf, psdNormaliser, N0_sub_rank h]
    exact Real.mul_self_sqrt (add_nonneg (normSq_nonneg _ _) (normSq_nonneg _ _))
  have hent : ∀ (r : Fin dim) (c : Fin rank), Complex.normSq (toM dim rank (psdCholFactor (K := ℂ) dim rank isReal θ) r c)
      = (if r.val = c.val then softplus (θ c) * softplus (θ c) / (nf * nf) else 0)
        + (if c.val < r.val then
            (θ (rank + (trilPairs dim rank).idxOf (r.val, c.val)) * θ (rank + (trilPairs dim rank).idxOf (r.val, c.val))
              + (if isReal then 0 else θ (rank + L + (trilPairs dim rank).idxOf (r.val, c.val)) * θ (rank + L + (trilPairs dim rank).idxOf (r.val, c.val))))
              / (nf * nf)
           else 0) := by
    intro r c
    change Complex.normSq ((psdCholFactor (K := ℂ) dim rank isReal θ).get r c) = _
    rcases lt_trichotomy r.val c.val with h1 | h1 | h1
    · rw [psdCholFactor_get _ _ r.isLt c.isLt h, if_neg h1.ne, if_neg (Nat.lt_asymm h1), map_zero, if_neg h1.ne, if_neg (Nat.lt_asymm h1), add_zero]
    · rw [if_pos h1, if_neg (h1 ▸ lt_irrefl _), add_zero, h1, psdCholFactor_get _ _ (c.isLt.trans_le h) c.isLt h, if_pos rfl, Complex.normSq_ofReal, div_mul_div_comm]
    · rw [if_neg h1.ne', if_pos h1, zero_add, psdCholFactor_get _ _ r.isLt c.isLt h, if_neg h1.ne', if_pos h1, normSq_ofReal_add_I_mul]
      cases isReal
      · simp only [Bool.false_eq_true, if_false, div_mul_div_comm, add_div]; rfl
      · simp only [if_true, mul_zero, add_zero, div_mul_div_comm]; rfl
  simp only [hent, Finset.sum_add_distrib]
  have hdiag : ∑ r : Fin dim, ∑ c : Fin rank, (if r.val = c.val then softplus (θ c) * softplus (θ c) / (nf * nf) else 0)
      = normSq rank (fun i => softplus (θ i)) / (nf * nf) := by
    rw [Finset.sum_comm, normSq_eq, Finset.sum_div, Finset.sum_range]
    refine Finset.sum_congr rfl (fun c _ => ?_)
    rw [Finset.sum_eq_single ⟨c.val, lt_of_lt_of_le c.isLt h⟩ (fun r _ hr' => if_neg fun e => hr' (Fin.ext e))
      (fun hne => absurd (Finset.mem_univ _) hne), if_pos rfl]
  rw [hdiag, sum_tril (fun p => (θ (rank + p) * θ (rank + p) + (if isReal then 0 else θ (rank + L + p) * θ (rank + L + p))) / (nf * nf)) h,
    ← Finset.sum_div, ← add_div, add_comm, ← hL]
  have hoff : ∑ i ∈ range L, (θ (rank + i) * θ (rank + i) + if isReal then 0 else θ (rank + L + i) * θ (rank + L + i))
      = normSq (if isReal then L else 2 * L) (fun p => θ (rank + p)) := by
    rw [normSq_eq]
    cases isReal
    · rw [if_neg Bool.false_ne_true, two_mul, Finset.sum_range_add, ← Finset.sum_add_distrib]
      simp only [Bool.false_eq_true, if_false, Nat.add_assoc]
    · simp only [if_true, add_zero]
  rw [hoff, ← hsq]
  exact div_self (mul_pos hpos hpos).ne'
end Numqi.Manifold
