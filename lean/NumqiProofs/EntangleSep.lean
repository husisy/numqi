/-
Helper lemmas and specification-side definitions for the mathematics layer of C05/C13:
digits of a flat index in a three-block shape, separable mixtures on flat indices, positive semidefiniteness of
mixtures of rank-one projectors, Cauchy–Schwarz as a matrix inequality.
-/
import NumqiProofs.EntangleIndex
import Mathlib.LinearAlgebra.Matrix.PosDef
import Mathlib.Analysis.Matrix.Order
import Mathlib.Analysis.Complex.Order

namespace Numqi.Ent
open scoped ComplexOrder Kronecker
open Matrix

/-- `j`-th digit of the flat index `r` in the three-block shape `[a,d,b]` -/
def dig (a d b r j : Nat) : Nat := (unflat [a, d, b] r).getD j 0

theorem list3_eq (l : List Nat) (h : l.length = 3) : l = [l.getD 0 0, l.getD 1 0, l.getD 2 0] := by
  match l, h with
  | [x, y, z], _ => rfl

theorem flat_dig {a d b r : Nat} (h : r < a * d * b) :
    flat [a, d, b] [dig a d b r 0, dig a d b r 1, dig a d b r 2] = r := by
  rw [← prodL3] at h
  have h1 := (unflat_inShape _ _ h).length_eq
  have h2 := flat_unflat _ _ h
  have h3 := list3_eq (unflat [a, d, b] r) (by simpa using h1)
  rw [h3] at h2
  exact h2

theorem dig_lt {a d b r : Nat} (h : r < a * d * b) :
    dig a d b r 0 < a ∧ dig a d b r 1 < d ∧ dig a d b r 2 < b := by
  rw [← prodL3] at h
  have h1 := unflat_inShape _ _ h
  have g0 := h1.getD_lt 0 (by simp)
  have g1 := h1.getD_lt 1 (by simp)
  have g2 := h1.getD_lt 2 (by simp)
  exact ⟨g0, g1, g2⟩

theorem dig_flat {a d b x0 x1 x2 : Nat} (h0 : x0 < a) (h1 : x1 < d) (h2 : x2 < b) :
    dig a d b (flat [a, d, b] [x0, x1, x2]) 0 = x0 ∧ dig a d b (flat [a, d, b] [x0, x1, x2]) 1 = x1
      ∧ dig a d b (flat [a, d, b] [x0, x1, x2]) 2 = x2 := by
  simp [dig, unflat_flat (inShape3 h0 h1 h2)]

theorem posSemidef_mixture {n K : Type} [Fintype n] [Fintype K] (p : K → ℝ) (hp : ∀ k, 0 ≤ p k) (φ : K → n → ℂ) :
    (Matrix.of fun i j => ∑ k, (p k : ℂ) * φ k i * star (φ k j)).PosSemidef := by
  have : (Matrix.of fun i j => ∑ k, (p k : ℂ) * φ k i * star (φ k j))
      = ∑ k, (p k : ℂ) • vecMulVec (φ k) (star (φ k)) := by
    ext i j
    simp [Matrix.sum_apply, vecMulVec_apply, mul_assoc]
  rw [this]
  refine posSemidef_sum _ fun k _ => ?_
  exact (posSemidef_vecMulVec_self_star (φ k)).smul (by exact_mod_cast hp k)

theorem sum_star_mul_self_eq {m : Type} [Fintype m] (x : m → ℂ) : star x ⬝ᵥ x = ((∑ i, ‖x i‖ ^ 2 : ℝ) : ℂ) := by
  push_cast
  simp only [dotProduct, Pi.star_apply]
  refine Finset.sum_congr rfl fun i _ => ?_
  rw [Complex.star_def, mul_comm, Complex.mul_conj']

theorem norm_dotProduct_sq_le {m : Type} [Fintype m] (u x : m → ℂ) :
    ‖star u ⬝ᵥ x‖ ^ 2 ≤ (∑ i, ‖u i‖ ^ 2) * (∑ i, ‖x i‖ ^ 2) := by
  calc ‖star u ⬝ᵥ x‖ ^ 2 ≤ (∑ i, ‖u i‖ * ‖x i‖) ^ 2 := by
        gcongr
        simp only [dotProduct, Pi.star_apply]
        refine (norm_sum_le _ _).trans (le_of_eq ?_)
        refine Finset.sum_congr rfl fun i _ => ?_
        rw [norm_mul, norm_star]
    _ ≤ (∑ i, ‖u i‖ ^ 2) * (∑ i, ‖x i‖ ^ 2) := Finset.sum_mul_sq_le_sq_mul_sq _ _ _

/-- Cauchy–Schwarz as a matrix inequality: `‖u‖²·1 − u uᴴ ⪰ 0` -/
theorem posSemidef_normSq_sub_rankOne {m : Type} [Fintype m] [DecidableEq m] (u : m → ℂ) :
    ((∑ i, u i * star (u i)) • (1 : Matrix m m ℂ) - vecMulVec u (star u)).PosSemidef := by
  have hc : (∑ i, u i * star (u i)) = ((∑ i, ‖u i‖ ^ 2 : ℝ) : ℂ) := by
    push_cast
    refine Finset.sum_congr rfl fun i _ => ?_
    rw [Complex.star_def, Complex.mul_conj']
  refine PosSemidef.of_dotProduct_mulVec_nonneg ?_ fun x => ?_
  · refine IsHermitian.sub ?_ ?_
    · rw [hc, IsHermitian, conjTranspose_smul, conjTranspose_one]
      simp
    · exact (posSemidef_vecMulVec_self_star u).1
  · have e1 : star x ⬝ᵥ (((∑ i, u i * star (u i)) • (1 : Matrix m m ℂ) - vecMulVec u (star u)) *ᵥ x)
        = (∑ i, u i * star (u i)) * (star x ⬝ᵥ x) - (star x ⬝ᵥ u) * (star u ⬝ᵥ x) := by
      rw [sub_mulVec, dotProduct_sub, smul_mulVec, one_mulVec, dotProduct_smul, smul_eq_mul,
        vecMulVec_mulVec, dotProduct_smul]
      simp [mul_comm]
    rw [e1]
    have e3 : (star x ⬝ᵥ u) * (star u ⬝ᵥ x) = ((‖star u ⬝ᵥ x‖ ^ 2 : ℝ) : ℂ) := by
      have : star x ⬝ᵥ u = star (star u ⬝ᵥ x) := by
        simp [dotProduct, star_sum, mul_comm]
      rw [this, Complex.star_def, mul_comm, Complex.mul_conj']
      push_cast; rfl
    rw [hc, sum_star_mul_self_eq, e3, ← Complex.ofReal_mul, ← Complex.ofReal_sub]
    rw [Complex.zero_le_real, sub_nonneg]
    exact norm_dotProduct_sq_le u x

/-- the product vector `ψ[(x0,x1,x2)] = u[x0,x2]·v[x1]` on flat indices -/
def sepBlockVec (a d b : Nat) (u : Nat → Nat → ℂ) (v : Nat → ℂ) (r : Nat) : ℂ :=
  u (dig a d b r 0) (dig a d b r 2) * v (dig a d b r 1)

theorem sepBlockVec_flat {a d b : Nat} (u : Nat → Nat → ℂ) (v : Nat → ℂ) {x0 x1 x2 : Nat}
    (h0 : x0 < a) (h1 : x1 < d) (h2 : x2 < b) :
    sepBlockVec a d b u v (flat [a, d, b] [x0, x1, x2]) = u x0 x2 * v x1 := by
  obtain ⟨e0, e1, e2⟩ := dig_flat h0 h1 h2
  simp [sepBlockVec, e0, e1, e2]

/-- flat read-out of `Σ_k p_k ψ_k ψ_kᴴ` -/
def mixture {K : Type} [Fintype K] (p : K → ℝ) (ψ : K → Nat → ℂ) : Nat → Nat → ℂ :=
  fun r c => ∑ k, (p k : ℂ) * ψ k r * star (ψ k c)

def prodVec (dim : List Nat) (w : Nat → Nat → ℂ) (r : Nat) : ℂ :=
  ((List.range dim.length).map fun j => w j ((unflat dim r).getD j 0)).prod

theorem prodVec_flat {dim x : List Nat} (hx : InShape x dim) (w : Nat → Nat → ℂ) :
    prodVec dim w (flat dim x) = ((List.range dim.length).map fun j => w j (x.getD j 0)).prod := by
  simp [prodVec, unflat_flat hx]

/-- the "rest" factor of a product vector seen from party `i` -/
def restVec (dim : List Nat) (i : Nat) (w : Nat → Nat → ℂ) (x0 x2 : Nat) : ℂ :=
  ((List.range i).map fun j => w j ((unflat (dim.take i) x0).getD j 0)).prod *
  ((List.range (dim.length - (i + 1))).map fun j => w (i + 1 + j) ((unflat (dim.drop (i + 1)) x2).getD j 0)).prod

theorem unflat_length (shape : List Nat) (k : Nat) : (unflat shape k).length = shape.length := by
  induction shape generalizing k with
  | nil => rfl
  | cons s ss ih => simp [unflat, ih]

theorem getD_append_left' (l1 l2 : List Nat) (j : Nat) (h : j < l1.length) : (l1 ++ l2).getD j 0 = l1.getD j 0 := by
  simp [List.getD_eq_getElem?_getD, List.getElem?_append_left h]

theorem getD_append_right' (l1 l2 : List Nat) (j : Nat) (h : l1.length ≤ j) :
    (l1 ++ l2).getD j 0 = l2.getD (j - l1.length) 0 := by
  simp [List.getD_eq_getElem?_getD, List.getElem?_append_right h]

theorem prod_range_split (m n : Nat) (f : Nat → ℂ) :
    ((List.range (m + (1 + n))).map f).prod
      = ((List.range m).map f).prod * (f m * ((List.range n).map fun j => f (m + 1 + j)).prod) := by
  rw [List.range_add, List.map_append, List.prod_append, List.range_add, List.map_map, List.map_append,
    List.prod_append, List.map_map]
  simp [Function.comp_def, add_assoc]

theorem blocks_prod (dim : List Nat) (i : Nat) (hi : i < dim.length) :
    prodL (dim.take i) * dim.getD i 1 * prodL (dim.drop (i + 1)) = prodL dim := by
  have hd : dim = dim.take i ++ (dim.getD i 1 :: dim.drop (i + 1)) := by
    rw [← List.getElem_eq_getD (h := hi)]; simp
  conv_rhs => rw [hd]
  rw [prodL_append]; simp [prodL, Nat.mul_assoc]

theorem mixture_congr {K : Type} [Fintype K] (p : K → ℝ) {ψ ψ' : K → Nat → ℂ} {N : Nat}
    (h : ∀ k r, r < N → ψ k r = ψ' k r) : ∀ r c, r < N → c < N → mixture p ψ r c = mixture p ψ' r c := by
  intro r c hr hc
  simp only [mixture]
  exact Finset.sum_congr rfl fun k _ => by rw [h k r hr, h k c hc]


theorem prodVec_blocks (dim : List Nat) (i : Nat) (hi : i < dim.length) (w : Nat → Nat → ℂ) {x0 x1 x2 : Nat}
    (h0 : x0 < prodL (dim.take i)) (h1 : x1 < dim.getD i 1) (h2 : x2 < prodL (dim.drop (i + 1))) :
    prodVec dim w (flat [prodL (dim.take i), dim.getD i 1, prodL (dim.drop (i + 1))] [x0, x1, x2])
      = restVec dim i w x0 x2 * w i x1 := by
  set pre := dim.take i with hpre
  set post := dim.drop (i + 1) with hpost
  have hd : dim = pre ++ (dim.getD i 1 :: post) := by
    rw [← List.getElem_eq_getD (h := hi)]; simp [hpre, hpost]
  have hprelen : pre.length = i := by simp [hpre]; omega
  have hpostlen : post.length = dim.length - (i + 1) := by simp [hpost]
  let x := unflat pre x0 ++ (x1 :: unflat post x2)
  have hx : InShape x dim := by
    rw [hd]
    exact (unflat_inShape _ _ h0).append (List.Forall₂.cons h1 (unflat_inShape _ _ h2))
  have hl0 : (unflat pre x0).length = i := by rw [unflat_length, hprelen]
  have e1 : x.take i = unflat pre x0 := by simp [x, ← hl0]
  have e2 : x.drop (i + 1) = unflat post x2 := by
    simp only [x]
    rw [List.drop_append, hl0]
    simp [List.drop_eq_nil_iff.2 (le_of_eq hl0 |>.trans (Nat.le_succ i))]
  have e3 : x.getD i 0 = x1 := by
    simp only [x]
    rw [getD_append_right' _ _ _ (le_of_eq hl0), hl0]; simp
  have hflat : flat dim x = flat [prodL pre, dim.getD i 1, prodL post] [x0, x1, x2] := by
    rw [flat_blocks hx i hi, e1, e2, e3, flat_unflat _ _ h0, flat_unflat _ _ h2]
  rw [← hflat, prodVec_flat hx]
  have hlen : dim.length = i + (1 + (dim.length - (i + 1))) := by omega
  rw [hlen, prod_range_split]
  simp only [restVec]
  have p1 : ((List.range i).map fun j => w j (x.getD j 0)) = (List.range i).map fun j => w j ((unflat pre x0).getD j 0) := by
    refine List.map_congr_left fun j hj => ?_
    have hj' : j < (unflat pre x0).length := by rw [hl0]; exact List.mem_range.1 hj
    simp only [x]
    rw [getD_append_left' _ _ _ hj']
  have p3 : ((List.range (dim.length - (i + 1))).map fun j => w (i + 1 + j) (x.getD (i + 1 + j) 0))
      = (List.range (dim.length - (i + 1))).map fun j => w (i + 1 + j) ((unflat post x2).getD j 0) := by
    refine List.map_congr_left fun j _ => ?_
    simp only [x]
    rw [getD_append_right' _ _ _ (by rw [hl0]; omega), hl0]
    have : i + 1 + j - i = j + 1 := by omega
    rw [this]; simp
  rw [p1, p3, e3]
  ring

theorem prodVec_eq_sepBlockVec (dim : List Nat) (i : Nat) (hi : i < dim.length) (w : Nat → Nat → ℂ) {r : Nat}
    (hr : r < prodL (dim.take i) * dim.getD i 1 * prodL (dim.drop (i + 1))) :
    prodVec dim w r = sepBlockVec (prodL (dim.take i)) (dim.getD i 1) (prodL (dim.drop (i + 1))) (restVec dim i w) (w i) r := by
  obtain ⟨r0, r1, r2⟩ := dig_lt hr
  conv_lhs => rw [← flat_dig hr]
  rw [prodVec_blocks dim i hi w r0 r1 r2]
  rfl


end Numqi.Ent
