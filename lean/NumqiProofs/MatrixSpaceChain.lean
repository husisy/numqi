/-
Two links of the soundness chain of the hierarchical rank certificates (C20):
(i) the linear relation among the vectors is non-trivial (the grouped coefficient of the multi-index `(i,…,i)` is `c_i^n`);
(ii) a non-zero kernel vector of the Gram matrix forces its smallest eigenvalue (eigvalsh contract) to be 0.
-/
import NumqiProofs.MatrixSpaceMinors
import NumqiProofs.MatrixSpaceTripartite
import Mathlib.LinearAlgebra.Matrix.PosDef
import Mathlib.Analysis.Complex.Order

namespace Numqi.MatrixSpace
open Finset Matrix

section grouped
variable {R : Type} [CommRing R] {n N : ℕ}

/-- coefficient of the vector `v_α` after grouping the tuples `t` by their sorted multi-index: `Σ_{t : α(t) = α} ∏_m c_{t m}`
(`= multinomial(α)·c^α`) -/
def groupedCoef (c : Fin N → R) (α : List ℕ) : R :=
  ∑ t ∈ (univ : Finset (Fin n → Fin N)).filter (fun t => sortedIndex t = α), ∏ m, c (t m)

/-- the relation over all tuples, grouped by multi-index -/
theorem relation_grouped (c : Fin N → R) (g : List ℕ → R) :
    ∑ t : Fin n → Fin N, (∏ m, c (t m)) * g (sortedIndex t)
      = ∑ α ∈ (univ : Finset (Fin n → Fin N)).image sortedIndex, groupedCoef (n := n) c α * g α := by
  rw [← Finset.sum_fiberwise_of_maps_to (s := univ) (t := univ.image sortedIndex) (g := sortedIndex)
    (fun t _ => Finset.mem_image_of_mem _ (Finset.mem_univ t))]
  refine Finset.sum_congr rfl fun α _ => ?_
  unfold groupedCoef
  rw [Finset.sum_mul]
  refine Finset.sum_congr rfl fun t ht => ?_
  rw [(Finset.mem_filter.1 ht).2]

theorem sortedIndex_eq_replicate_iff (t : Fin n → Fin N) (i : Fin N) :
    sortedIndex t = List.replicate n i.val ↔ t = fun _ => i := by
  constructor
  · intro h
    funext m
    have hm := sortedIndex_getD t ((Tuple.sort t).symm m)
    rw [h, Equiv.apply_symm_apply] at hm
    have : (List.replicate n i.val).getD ((Tuple.sort t).symm m).val 0 = i.val := by
      simp [List.getD_eq_getElem?_getD, List.getElem?_replicate]
    rw [this] at hm
    exact (Fin.ext hm).symm
  · intro h
    subst h
    unfold sortedIndex
    simp [List.ofFn_const]

/-- **the relation is non-trivial**: the grouped coefficient of `v_{(i,…,i)}` is `c_i^n` -/
theorem groupedCoef_const (c : Fin N → R) (i : Fin N) :
    groupedCoef (n := n) c (List.replicate n i.val) = c i ^ n := by
  unfold groupedCoef
  have : (univ : Finset (Fin n → Fin N)).filter (fun t => sortedIndex t = List.replicate n i.val) = {fun _ => i} := by
    ext t
    simp only [Finset.mem_filter, Finset.mem_univ, true_and, Finset.mem_singleton]
    exact sortedIndex_eq_replicate_iff t i
  rw [this, Finset.sum_singleton, Finset.prod_const, Finset.card_univ, Fintype.card_fin]

theorem replicate_mem_image (i : Fin N) :
    List.replicate n i.val ∈ (univ : Finset (Fin n → Fin N)).image sortedIndex :=
  Finset.mem_image.2 ⟨fun _ => i, Finset.mem_univ _, (sortedIndex_eq_replicate_iff _ i).2 rfl⟩

end grouped

section gram
variable {ι κ : Type} [Fintype ι] [Fintype κ] [DecidableEq ι]
open scoped ComplexOrder

/-- the Gram matrix `G[α,β] = Σ_x v_α[x]·conj v_β[x]` (`matAAT`, `TAlphaBeta`) -/
def gramOf (v : ι → κ → ℂ) : Matrix ι ι ℂ := Matrix.of fun α β => ∑ x, v α x * star (v β x)

theorem gramOf_eq (v : ι → κ → ℂ) : gramOf v = (Matrix.of v) * (Matrix.of v)ᴴ := by
  ext α β; simp [gramOf, Matrix.mul_apply]

theorem gramOf_posSemidef (v : ι → κ → ℂ) : (gramOf v).PosSemidef := by
  rw [gramOf_eq]; exact posSemidef_self_mul_conjTranspose _

/-- the conjugate of the relation's coefficient vector is annihilated by the Gram matrix -/
theorem gramOf_mulVec_kernel (v : ι → κ → ℂ) (d : ι → ℂ) (hrel : ∀ x, ∑ α, d α * v α x = 0) :
    star (star d) ⬝ᵥ (gramOf v *ᵥ star d) = 0 := by
  simp only [dotProduct, mulVec, gramOf, Matrix.of_apply, star_star, Pi.star_apply]
  have h : ∀ β, ∑ α, d α * ∑ x, v α x * star (v β x) = 0 := fun β => gram_kernel_of_relation v d hrel β
  calc ∑ α, d α * ∑ β, (∑ x, v α x * star (v β x)) * star (d β)
      = ∑ α, ∑ β, star (d β) * (d α * ∑ x, v α x * star (v β x)) := by
        refine Finset.sum_congr rfl fun α _ => ?_
        rw [Finset.mul_sum]; exact Finset.sum_congr rfl fun β _ => by ring
    _ = ∑ β, ∑ α, star (d β) * (d α * ∑ x, v α x * star (v β x)) := Finset.sum_comm
    _ = ∑ β, star (d β) * ∑ α, d α * ∑ x, v α x * star (v β x) :=
        Finset.sum_congr rfl fun β _ => by rw [Finset.mul_sum]
    _ = 0 := Finset.sum_eq_zero fun β _ => by rw [h β, mul_zero]

/-- **a non-trivial relation forces the smallest eigenvalue to be 0** (`eigvalsh` contract: `lam` is an attained Rayleigh lower
bound of the Gram matrix) -/
theorem gram_lambda_min_zero (v : ι → κ → ℂ) (d : ι → ℂ) (hrel : ∀ x, ∑ α, d α * v α x = 0) (hd : d ≠ 0) (lam : ℝ)
    (hmin : ∀ y : ι → ℂ, lam * (star y ⬝ᵥ y).re ≤ (star y ⬝ᵥ (gramOf v *ᵥ y)).re)
    (hatt : ∃ y : ι → ℂ, star y ⬝ᵥ (gramOf v *ᵥ y) = (lam : ℂ)) : lam = 0 := by
  apply le_antisymm
  · have h1 := hmin (star d)
    rw [gramOf_mulVec_kernel v d hrel] at h1
    have hs : 0 < (star (star d) ⬝ᵥ star d).re := by
      obtain ⟨α, hα⟩ : ∃ α, d α ≠ 0 := by
        by_contra hcon; exact hd (funext fun α => not_not.1 fun h => hcon ⟨α, h⟩)
      simp only [dotProduct, star_star, Pi.star_apply, Complex.re_sum]
      have hterm : ∀ β, 0 ≤ (d β * star (d β)).re := fun β => by
        rw [Complex.star_def, Complex.mul_conj]; exact_mod_cast Complex.normSq_nonneg _
      refine lt_of_lt_of_le ?_ (Finset.single_le_sum (fun β _ => hterm β) (Finset.mem_univ α))
      rw [Complex.star_def, Complex.mul_conj]
      exact_mod_cast Complex.normSq_pos.2 hα
    simp only [Complex.zero_re] at h1
    by_contra hpos
    have hpos' : 0 < lam := not_le.1 hpos
    nlinarith
  · obtain ⟨y, hy⟩ := hatt
    have := (gramOf_posSemidef v).dotProduct_mulVec_nonneg y
    rw [hy] at this
    exact_mod_cast this

end gram

end Numqi.MatrixSpace
