/-
Gell-Mann model: synthesis is the explicit basis expansion.
-/
import NumqiProofs.GellmannLemmas
namespace Numqi.Gellmann
open Matrix
variable {R : Type} [CommRing R] {d : Nat}

theorem pairs_sum_single (f : Fin d × Fin d → R) (x : Fin d × Fin d) :
    ((pairs d).map fun p => if p = x then f p else 0).sum = if x.1 < x.2 then f x else 0 := by
  rw [← List.sum_toFinset _ nodup_pairs, Finset.sum_ite_eq']
  simp [mem_pairs]

theorem pairs_sum_zero (f : Fin d × Fin d → R) (h : ∀ p ∈ pairs d, f p = 0) : ((pairs d).map f).sum = 0 := by
  rw [List.map_congr_left h]; simp

theorem half_pairs : d * (d - 1) / 2 = (pairs d).length := by
  have := length_pairs (d := d); omega

theorem off_apply (p : Fin d × Fin d) (a b : R) (r c : Fin d) :
    (single p.1 p.2 a + single p.2 p.1 b) r c = (if p = (r, c) then a else 0) + if p = (c, r) then b else 0 := by
  simp only [Matrix.add_apply, Matrix.single_apply, Prod.ext_iff, and_comm]

/-- entry `(r, c)` of `Σ_a v_a G_a`: one symmetric/antisymmetric pair off the diagonal, the diagonal elements on it -/
theorem sum_basis_apply (S : Scalars R) (hd : 1 ≤ d) (v : Nat → R) (r c : Fin d) :
    (∑ a ∈ Finset.range (d * d), v a • basis S d a) r c
      = (if r < c then v ((pairs d).idxOf (r, c)) - S.I * v ((pairs d).length + (pairs d).idxOf (r, c)) else 0)
      + (if c < r then v ((pairs d).idxOf (c, r)) + S.I * v ((pairs d).length + (pairs d).idxOf (c, r)) else 0)
      + ((diagIdx d).map fun k => v (Kind.diag k).pos * diagonal (wD S k.val) r c).sum
      + v (Kind.ident (d := d)).pos * diagonal (fun _ => S.cI) r c := by
  rw [Matrix.sum_apply]
  simp only [Matrix.smul_apply, smul_eq_mul]
  rw [sum_basis S hd (fun a X => v a * X r c)]
  have e1 : ((pairs d).map fun p => v (Kind.sym p).pos * ((Kind.sym p).mat S) r c)
      = (pairs d).map fun p => (if p = (r, c) then v ((pairs d).idxOf p) else 0) + if p = (c, r) then v ((pairs d).idxOf p) else 0 :=
    List.map_congr_left fun p hp => by
      rw [Kind.mat, G_sym S (mem_pairs.1 hp), off_apply, Kind.pos, mul_add, mul_ite, mul_ite, mul_one, mul_zero]
  have e2 : ((pairs d).map fun p => v (Kind.asym p).pos * ((Kind.asym p).mat S) r c)
      = (pairs d).map fun p => (if p = (r, c) then -S.I * v ((pairs d).length + (pairs d).idxOf p) else 0)
          + if p = (c, r) then S.I * v ((pairs d).length + (pairs d).idxOf p) else 0 :=
    List.map_congr_left fun p hp => by
      rw [Kind.mat, G_asym S (mem_pairs.1 hp), off_apply, Kind.pos, mul_add, mul_ite, mul_ite, mul_zero, mul_comm, mul_comm _ S.I]
  have e3 : ((diagIdx d).map fun k => v (Kind.diag k).pos * ((Kind.diag k).mat S) r c)
      = (diagIdx d).map fun k => v (Kind.diag k).pos * diagonal (wD S k.val) r c :=
    List.map_congr_left fun k hk => by rw [Kind.mat, G_diag S (mem_diagIdx.1 hk)]
  rw [e1, e2, e3, List.sum_map_add, List.sum_map_add, pairs_sum_single, pairs_sum_single, pairs_sum_single, pairs_sum_single, Kind.mat,
    G_ident]
  split_ifs <;> ring

/-- **synthesis = explicit expansion in the basis** -/
theorem synthesis_eq_sum' (S : Scalars R) (hd : 1 ≤ d) (v : Nat → R) :
    Matrix.of (synthesis S d v) = ∑ a ∈ Finset.range (d * d), v a • basis S d a := by
  ext r c
  rw [sum_basis_apply S hd]
  have hoff : r ≠ c → ∀ w : Fin d → R, diagonal w r c = 0 := fun h w => diagonal_apply_ne _ h
  rcases lt_trichotomy r c with h | rfl | h
  · simp [hoff h.ne, synthesis, h, not_lt_of_gt h, half_pairs]
  · obtain ⟨n, rfl⟩ : ∃ n, d = n + 1 := ⟨d - 1, by omega⟩
    have hL : (pairs (n + 1)).length + (pairs (n + 1)).length = (n + 1) * n := by
      have := length_pairs (d := n + 1); simp only [Nat.add_sub_cancel] at this; omega
    simp only [Matrix.of_apply, synthesis, lt_irrefl, if_false, sumFin_eq, add_zero, zero_add, diagIdx_eq, List.map_map,
      Function.comp_def, Kind.pos, hL, Fin.val_succ, Nat.add_sub_cancel, diagonal_apply_eq]
    rw [Fin.sum_univ_castSucc, ← Fin.sum_univ_def]
    congr 1
    · refine Finset.sum_congr rfl (fun q _ => ?_)
      have hq : q.val + 1 < n + 1 := by omega
      simp only [Fin.val_castSucc, hq, if_true, wD]
      rcases lt_trichotomy r.val (q.val + 1) with h1 | h1 | h1
      · simp [h1, Nat.lt_succ_iff.1 h1, h1.ne]; ring
      · simp [h1]; ring
      · simp [h1.not_gt, h1.ne', Nat.not_le.2 (Nat.lt_of_succ_lt h1)]
    · have h1 : r.val ≤ n := by omega
      have h2 : r.val ≠ n + 1 := by omega
      have h3 : (n + 1) * (n + 1) - 1 = (n + 1) * n + n := by rw [Nat.mul_succ]; omega
      simp [h1, h2, h3]
  · simp [hoff h.ne', synthesis, h, not_lt_of_gt h, half_pairs]
end Numqi.Gellmann
