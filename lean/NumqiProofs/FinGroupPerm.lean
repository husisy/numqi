/-
C14 helper lemmas: `itertools.permutations` (model `permsAux`) is complete and duplicate-free;
composition, identity and inverse of permutation tuples; a list of such tuples closed under them gives a group table
(`permTable_isGroupTable`).
-/
import NumqiProofs.FinGroupLemmas

namespace Numqi.FinGroup

/-! ### `permsAux k l` lists exactly the rearrangements of `l`, each once -/

theorem mem_permsAux (k : Nat) : ∀ (l p : List Nat), l.length = k → (p ∈ permsAux k l ↔ p.Perm l) := by
  induction k with
  | zero =>
    intro l p hl
    have : l = [] := List.length_eq_zero_iff.1 hl
    subst this
    simp [permsAux]
  | succ k ih =>
    intro l p hl
    simp only [permsAux, List.mem_flatMap, List.mem_map]
    constructor
    · rintro ⟨x, hx, q, hq, rfl⟩
      have hlen : (l.erase x).length = k := by rw [List.length_erase_of_mem hx]; omega
      exact List.cons_perm_iff_perm_erase.2 ⟨hx, (ih _ _ hlen).1 hq⟩
    · intro hp
      cases p with
      | nil => have := hp.length_eq; simp at this; omega
      | cons x q =>
        obtain ⟨hx, hq⟩ := List.cons_perm_iff_perm_erase.1 hp
        have hlen : (l.erase x).length = k := by rw [List.length_erase_of_mem hx]; omega
        exact ⟨x, hx, q, (ih _ _ hlen).2 hq, rfl⟩

theorem nodup_permsAux (k : Nat) : ∀ (l : List Nat), l.Nodup → (permsAux k l).Nodup := by
  induction k with
  | zero => intro l _; simp [permsAux]
  | succ k ih =>
    intro l hl
    exact nodup_flatMap_map hl (fun x _ => ih _ (hl.erase x)) fun _ _ _ _ _ _ _ _ e => List.cons.inj e

theorem mem_perms {n : Nat} {p : List Nat} : p ∈ perms n ↔ p.Perm (List.range n) :=
  mem_permsAux n _ _ (List.length_range)

theorem nodup_perms (n : Nat) : (perms n).Nodup := nodup_permsAux n _ List.nodup_range

/-! ### facts about a permutation tuple `p ~ range n` -/

theorem perm_length {n : Nat} {p : List Nat} (h : p.Perm (List.range n)) : p.length = n := by
  simpa using h.length_eq

theorem perm_lt {n : Nat} {p : List Nat} (h : p.Perm (List.range n)) {x : Nat} (hx : x ∈ p) : x < n := by
  simpa using (h.mem_iff).1 hx

theorem perm_mem {n : Nat} {p : List Nat} (h : p.Perm (List.range n)) {x : Nat} (hx : x < n) : x ∈ p :=
  (h.mem_iff).2 (by simpa using hx)

theorem perm_nodup {n : Nat} {p : List Nat} (h : p.Perm (List.range n)) : p.Nodup :=
  (h.nodup_iff).2 List.nodup_range

/-- a duplicate-free tuple of `n` numbers `< n` is a rearrangement of `range n` -/
theorem perm_of_nodup {n : Nat} {p : List Nat} (hnd : p.Nodup) (hlen : p.length = n) (hlt : ∀ x ∈ p, x < n) :
    p.Perm (List.range n) := by
  apply List.Subperm.perm_of_length_le
  · exact List.subperm_of_subset hnd (fun x hx => by simpa using hlt x hx)
  · simp [hlen]

/-- `range n` mapped through the tuple is the tuple -/
theorem map_getD_range {n : Nat} {p : List Nat} (hlen : p.length = n) :
    (List.range n).map (fun k => p.getD k 0) = p := by
  apply List.ext_getElem
  · simp [hlen]
  · intro i h1 h2
    simp [List.getD_eq_getElem?_getD, List.getElem?_eq_getElem h2]

/-! ### composition -/

theorem compose_perm {n : Nat} {p q : List Nat} (hp : p.Perm (List.range n)) (hq : q.Perm (List.range n)) :
    (compose p q).Perm (List.range n) := by
  unfold compose
  have := hq.map (fun k => p.getD k 0)
  rw [map_getD_range (perm_length hp)] at this
  exact this.trans hp

theorem compose_assoc {n : Nat} {p q r : List Nat} (hq : q.length = n) (hr : ∀ x ∈ r, x < n) :
    compose (compose p q) r = compose p (compose q r) := by
  unfold compose
  rw [List.map_map]
  apply List.map_congr_left
  intro x hx
  have hx' : x < q.length := by rw [hq]; exact hr x hx
  simp [List.getD_eq_getElem?_getD, List.getElem?_map, List.getElem?_eq_getElem hx']

theorem compose_range_left {n : Nat} {p : List Nat} (hp : ∀ x ∈ p, x < n) : compose (List.range n) p = p := by
  unfold compose
  refine (List.map_congr_left fun x hx => ?_).trans (List.map_id _)
  have := hp x hx
  simp [List.getD_eq_getElem?_getD, List.getElem?_range this]

theorem compose_range_right {n : Nat} {p : List Nat} (hp : p.length = n) : compose p (List.range n) = p :=
  map_getD_range hp

/-- the inverse tuple `k ↦ position of k in p` -/
def invPerm (n : Nat) (p : List Nat) : List Nat := (List.range n).map fun k => p.idxOf k

theorem compose_invPerm_right {n : Nat} {p : List Nat} (hp : p.Perm (List.range n)) :
    compose p (invPerm n p) = List.range n := by
  unfold compose invPerm
  rw [List.map_map]
  refine (List.map_congr_left fun k hk => ?_).trans (List.map_id _)
  have hk' : k ∈ p := perm_mem hp (by simpa using hk)
  have h1 : p.idxOf k < p.length := List.idxOf_lt_length_iff.2 hk'
  simp [List.getD_eq_getElem?_getD, List.getElem?_eq_getElem h1]

theorem compose_invPerm_left {n : Nat} {p : List Nat} (hp : p.Perm (List.range n)) :
    compose (invPerm n p) p = List.range n := by
  unfold compose invPerm
  have hlen := perm_length hp
  apply List.ext_getElem
  · simp [hlen]
  · intro i h1 h2
    have hi : i < p.length := by simpa using h1
    have hlt : p[i] < n := perm_lt hp (List.getElem_mem hi)
    simp [List.getD_eq_getElem?_getD, List.getElem?_range hlt, (perm_nodup hp).idxOf_getElem i hi]

theorem invPerm_perm {n : Nat} {p : List Nat} (hp : p.Perm (List.range n)) :
    (invPerm n p).Perm (List.range n) := by
  apply perm_of_nodup
  · unfold invPerm
    rw [List.nodup_map_iff_inj_on List.nodup_range]
    intro x hx y hy hxy
    have hx' : x ∈ p := perm_mem hp (by simpa using hx)
    have hy' : y ∈ p := perm_mem hp (by simpa using hy)
    have h1 := List.getElem_idxOf (List.idxOf_lt_length_iff.2 hx')
    have h2 := List.getElem_idxOf (List.idxOf_lt_length_iff.2 hy')
    rw [← h1, ← h2]
    simp [hxy]
  · simp [invPerm]
  · intro x hx
    simp only [invPerm, List.mem_map, List.mem_range] at hx
    obtain ⟨k, hk, rfl⟩ := hx
    rw [← perm_length hp]
    exact List.idxOf_lt_length_iff.2 (perm_mem hp hk)

/-- **a list of permutation tuples closed under composition and inversion and containing the identity tuple** gives,
by look-up of the composition, a group table of order the length of the list -/
theorem permTable_isGroupTable {n : Nat} (L : List (List Nat)) (hnd : L.Nodup) (hperm : ∀ p ∈ L, p.Perm (List.range n))
    (hmul : ∀ a ∈ L, ∀ b ∈ L, compose a b ∈ L) (hone : List.range n ∈ L) (hinv : ∀ a ∈ L, invPerm n a ∈ L) :
    IsGroupTable (tableOf L compose) L.length :=
  tableOf_isGroupTable L compose hnd hmul
    (fun _ _ b hb c hc => compose_assoc (perm_length (hperm b hb)) fun _ hx => perm_lt (hperm c hc) hx)
    (List.range n) hone
    (fun a ha => ⟨compose_range_left fun _ hx => perm_lt (hperm a ha) hx, compose_range_right (perm_length (hperm a ha))⟩)
    fun a ha => ⟨invPerm n a, hinv a ha, compose_invPerm_right (hperm a ha), compose_invPerm_left (hperm a ha)⟩

end Numqi.FinGroup
