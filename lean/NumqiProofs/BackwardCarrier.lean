/-
The executable carriers are instances of the algebraic classes the theorems quantify over:
`GInt = ℤ[i]` is a commutative star-ring, `QI = ℚ[i]` is a field whose division is the one the driver executes
(`instance : Div QI` of `NumqiModel/Backward.lean`, `x / 0 = 0`).  All operations are the ad-hoc instances of
`NumqiModel/Scalar.lean`.
-/
import Mathlib.Tactic
import Mathlib.Algebra.Star.Basic
import Mathlib.Algebra.Field.Basic
import NumqiModel.Backward

namespace Numqi

namespace GInt
@[ext] theorem ext' {a b : GInt} (h1 : a.re = b.re) (h2 : a.im = b.im) : a = b := by
  cases a; cases b; simp_all
@[simp] theorem zero_re : (0 : GInt).re = 0 := rfl
@[simp] theorem zero_im : (0 : GInt).im = 0 := rfl
@[simp] theorem one_re : (1 : GInt).re = 1 := rfl
@[simp] theorem one_im : (1 : GInt).im = 0 := rfl
@[simp] theorem add_re (a b : GInt) : (a + b).re = a.re + b.re := rfl
@[simp] theorem add_im (a b : GInt) : (a + b).im = a.im + b.im := rfl
@[simp] theorem sub_re (a b : GInt) : (a - b).re = a.re - b.re := rfl
@[simp] theorem sub_im (a b : GInt) : (a - b).im = a.im - b.im := rfl
@[simp] theorem neg_re (a : GInt) : (-a).re = -a.re := rfl
@[simp] theorem neg_im (a : GInt) : (-a).im = -a.im := rfl
@[simp] theorem mul_re (a b : GInt) : (a * b).re = a.re * b.re - a.im * b.im := rfl
@[simp] theorem mul_im (a b : GInt) : (a * b).im = a.re * b.im + a.im * b.re := rfl

/-- ℤ[i] with the executed `+ * - 0 1` is a commutative ring -/
instance : CommRing GInt where
  add_assoc a b c := by ext <;> simp <;> ring
  zero_add a := by ext <;> simp
  add_zero a := by ext <;> simp
  add_comm a b := by ext <;> simp <;> ring
  neg_add_cancel a := by ext <;> simp
  sub_eq_add_neg a b := by ext <;> simp <;> ring
  mul_assoc a b c := by ext <;> simp <;> ring
  one_mul a := by ext <;> simp
  mul_one a := by ext <;> simp
  left_distrib a b c := by ext <;> simp <;> ring
  right_distrib a b c := by ext <;> simp <;> ring
  mul_comm a b := by ext <;> simp <;> ring
  zero_mul a := by ext <;> simp
  mul_zero a := by ext <;> simp
  nsmul := nsmulRec
  zsmul := zsmulRec

/-- … and a star-ring, `star` being the executed `conj` -/
instance : StarRing GInt where
  star := conj
  star_involutive a := by ext <;> simp [conj, Conj.conj]
  star_mul a b := by ext <;> simp [conj, Conj.conj] <;> ring
  star_add a b := by ext <;> simp [conj, Conj.conj] <;> ring

theorem star_eq_conj (a : GInt) : star a = conj a := rfl
end GInt

namespace QI
@[ext] theorem ext' {a b : QI} (h1 : a.re = b.re) (h2 : a.im = b.im) : a = b := by
  cases a; cases b; simp_all
@[simp] theorem zero_re : (0 : QI).re = 0 := rfl
@[simp] theorem zero_im : (0 : QI).im = 0 := rfl
@[simp] theorem one_re : (1 : QI).re = 1 := rfl
@[simp] theorem one_im : (1 : QI).im = 0 := rfl
@[simp] theorem add_re (a b : QI) : (a + b).re = a.re + b.re := rfl
@[simp] theorem add_im (a b : QI) : (a + b).im = a.im + b.im := rfl
@[simp] theorem sub_re (a b : QI) : (a - b).re = a.re - b.re := rfl
@[simp] theorem sub_im (a b : QI) : (a - b).im = a.im - b.im := rfl
@[simp] theorem neg_re (a : QI) : (-a).re = -a.re := rfl
@[simp] theorem neg_im (a : QI) : (-a).im = -a.im := rfl
@[simp] theorem mul_re (a b : QI) : (a * b).re = a.re * b.re - a.im * b.im := rfl
@[simp] theorem mul_im (a b : QI) : (a * b).im = a.re * b.im + a.im * b.re := rfl
theorem div_re (a b : QI) : (a / b).re = (a.re * b.re + a.im * b.im) / (b.re * b.re + b.im * b.im) := rfl
theorem div_im (a b : QI) : (a / b).im = (a.im * b.re - a.re * b.im) / (b.re * b.re + b.im * b.im) := rfl

instance : CommRing QI where
  add_assoc a b c := by ext <;> simp <;> ring
  zero_add a := by ext <;> simp
  add_zero a := by ext <;> simp
  add_comm a b := by ext <;> simp <;> ring
  neg_add_cancel a := by ext <;> simp
  sub_eq_add_neg a b := by ext <;> simp <;> ring
  mul_assoc a b c := by ext <;> simp <;> ring
  one_mul a := by ext <;> simp
  mul_one a := by ext <;> simp
  left_distrib a b c := by ext <;> simp <;> ring
  right_distrib a b c := by ext <;> simp <;> ring
  mul_comm a b := by ext <;> simp <;> ring
  zero_mul a := by ext <;> simp
  mul_zero a := by ext <;> simp
  nsmul := nsmulRec
  zsmul := zsmulRec

theorem normSq_pos_of_ne_zero (a : QI) (h : a ≠ 0) : a.re * a.re + a.im * a.im ≠ 0 := by
  intro h0
  apply h
  have h1 : a.re = 0 := by nlinarith [mul_self_nonneg a.re, mul_self_nonneg a.im]
  have h2 : a.im = 0 := by nlinarith [mul_self_nonneg a.re, mul_self_nonneg a.im]
  ext <;> simp [h1, h2]

/-- **ℚ[i] with the executed division is a field** (`a / b = a · b⁻¹`, `b⁻¹ = 1 / b`, `0⁻¹ = 0`) -/
instance : Field QI where
  inv a := 1 / a
  div := fun a b => a / b
  div_eq_mul_inv a b := by
    ext
    · rw [div_re]; simp only [mul_re, div_re, div_im, one_re, one_im]; ring
    · rw [div_im]; simp only [mul_im, div_re, div_im, one_re, one_im]; ring
  exists_pair_ne := ⟨0, 1, by intro h; have := congrArg QI.re h; simp at this⟩
  mul_inv_cancel a h := by
    have hn := normSq_pos_of_ne_zero a h
    have hn' : a.re ^ 2 + a.im ^ 2 ≠ 0 := by simpa [sq] using hn
    ext
    · simp only [mul_re, div_re, div_im, one_re, one_im]; field_simp; ring
    · simp only [mul_im, div_re, div_im, one_re, one_im]; field_simp; ring
  inv_zero := by ext <;> simp [div_re, div_im]
  nnqsmul := _
  nnqsmul_def := fun _ _ => rfl
  qsmul := _
  qsmul_def := fun _ _ => rfl

instance : StarRing QI where
  star := conj
  star_involutive a := by ext <;> simp [conj, Conj.conj]
  star_mul a b := by ext <;> simp [conj, Conj.conj] <;> ring
  star_add a b := by ext <;> simp [conj, Conj.conj] <;> ring

/-- the field's division is the executed one -/
theorem field_div_eq (a b : QI) : (HDiv.hDiv a b : QI) = ⟨(a.re * b.re + a.im * b.im) / QI.normSq b, (a.im * b.re - a.re * b.im) / QI.normSq b⟩ := rfl

end QI
end Numqi
