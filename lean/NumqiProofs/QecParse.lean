/-
C19: lemmas on the model of `parse_simple_pauli` (full-word form, indexed form `X0Y2…`) for the two parsing theorems of
`NumqiProps/C19ErrorSets.lean`.
-/
import NumqiProofs.QecErrorList

namespace Numqi.Qec

/-- the letter of a symbol -/
def symLetter (s : Nat) : Char := match s with | 0 => 'I' | 1 => 'X' | 2 => 'Y' | _ => 'Z'

theorem pauliSym_symLetter {s : Nat} (h : s < 4) : pauliSym? (symLetter s) = some s := by
  interval_cases s <;> rfl

theorem symLetter_not_digit (s : Nat) : isDigitC (symLetter s) = false := by
  unfold symLetter; split <;> decide

/-! ### full form -/

theorem parseFullAux_eq (q : Nat) (l : List Nat) (h4 : ∀ x ∈ l, x < 4) :
    parseFullAux q (l.map symLetter)
      = some ((((List.range l.length).map (· + q)).zip l).filter fun qs => qs.2 != 0) := by
  induction l generalizing q with
  | nil => rfl
  | cons a l ih =>
    have ha := h4 a (List.mem_cons_self ..)
    have ih' := ih (q + 1) (fun x hx => h4 x (List.mem_cons_of_mem _ hx))
    simp only [List.map_cons, parseFullAux, pauliSym_symLetter ha, ih']
    have hr : (List.range (a :: l).length).map (· + q) = q :: (List.range l.length).map (· + (q + 1)) := by
      rw [List.length_cons, List.range_succ_eq_map, List.map_cons, List.map_map]
      simp only [Nat.zero_add, List.cons.injEq, true_and]
      apply List.map_congr_left; intro x _; simp only [Function.comp]; omega
    rw [hr, List.zip_cons_cons, List.filter_cons]
    by_cases h0 : a = 0
    · subst h0; simp
    · simp [h0]

theorem full_word_has_no_digit (l : List Nat) : (l.map symLetter).any isDigitC = false := by
  rw [Bool.eq_false_iff]; intro h
  rw [List.any_eq_true] at h
  obtain ⟨c, hc, hd⟩ := h
  rw [List.mem_map] at hc
  obtain ⟨s, _, rfl⟩ := hc
  rw [symLetter_not_digit] at hd; exact Bool.false_ne_true hd

/-! ### indexed form -/

/-- a token: symbol and the digits of its index -/
def renderTokens (toks : List (Nat × List Char)) : List Char := toks.flatMap fun t => symLetter t.1 :: t.2

theorem spanDigits_append (ds rest : List Char) (hd : ∀ c ∈ ds, isDigitC c = true)
    (hr : rest = [] ∨ ∃ c r, rest = c :: r ∧ isDigitC c = false) : spanDigits (ds ++ rest) = (ds, rest) := by
  induction ds with
  | nil =>
    rcases hr with rfl | ⟨c, r, rfl, hc⟩
    · rfl
    · simp [spanDigits, hc]
  | cons d ds ih =>
    have h1 := hd d (List.mem_cons_self ..)
    have ih' := ih (fun c hc => hd c (List.mem_cons_of_mem _ hc))
    simp [spanDigits, h1, ih']

theorem renderTokens_head (toks : List (Nat × List Char)) :
    renderTokens toks = [] ∨ ∃ c r, renderTokens toks = c :: r ∧ isDigitC c = false := by
  cases toks with
  | nil => left; rfl
  | cons t toks => right; exact ⟨symLetter t.1, t.2 ++ renderTokens toks, by simp [renderTokens], symLetter_not_digit _⟩

theorem parseIndexedAux_render (toks : List (Nat × List Char)) (fuel : Nat) (hf : toks.length ≤ fuel)
    (hs : ∀ t ∈ toks, t.1 < 4) (hd : ∀ t ∈ toks, t.2 ≠ [] ∧ ∀ c ∈ t.2, isDigitC c = true) :
    parseIndexedAux fuel (renderTokens toks) = some (toks.map fun t => (natOfDigits t.2, t.1)) := by
  induction toks generalizing fuel with
  | nil => cases fuel <;> rfl
  | cons t toks ih =>
    cases fuel with
    | zero => simp at hf
    | succ fuel =>
      have ht := hs t (List.mem_cons_self ..)
      obtain ⟨hne, hdig⟩ := hd t (List.mem_cons_self ..)
      have hrest : renderTokens (t :: toks) = symLetter t.1 :: (t.2 ++ renderTokens toks) := by simp [renderTokens]
      rw [hrest]
      simp only [parseIndexedAux, pauliSym_symLetter ht, spanDigits_append t.2 _ hdig (renderTokens_head toks)]
      have : t.2.isEmpty = false := List.isEmpty_eq_false_iff.2 hne
      simp only [this, Bool.false_eq_true, if_false]
      rw [ih fuel (by simpa using hf) (fun t' h' => hs t' (List.mem_cons_of_mem _ h')) (fun t' h' => hd t' (List.mem_cons_of_mem _ h'))]
      simp

theorem length_le_render (toks : List (Nat × List Char)) : toks.length ≤ (renderTokens toks).length := by
  unfold renderTokens
  induction toks with
  | nil => simp
  | cons t toks ih => simp only [List.flatMap_cons, List.length_append, List.length_cons]; omega

end Numqi.Qec
