/-
The enumerators of the model (`itertools.permutations`, `itertools.combinations`, the bounded combinations, the
Young-diagram rows, the tableaux) all have the shape "for `x` in `l`: for `a` in `g x`: yield `h x a`";
`nodup_flatMap_map` is the one argument by which `FinGroupPerm`, `YoungComb`, `YoungPartition` and `YoungTabCore`
show that such an enumeration lists nothing twice.
-/
import Mathlib.Data.List.Nodup

namespace Numqi

/-- such a nested enumeration lists nothing twice if `l` and every `g x` do not and `h` is injective in both arguments -/
theorem nodup_flatMap_map {α β γ : Type*} {l : List α} {g : α → List β} {h : α → β → γ} (hl : l.Nodup)
    (hg : ∀ x ∈ l, (g x).Nodup)
    (hinj : ∀ x ∈ l, ∀ y ∈ l, ∀ a ∈ g x, ∀ b ∈ g y, h x a = h y b → x = y ∧ a = b) :
    (l.flatMap fun x => (g x).map (h x)).Nodup := by
  rw [List.nodup_flatMap]
  refine ⟨fun x hx => (hg x hx).map_on fun a ha b hb e => (hinj x hx x hx a ha b hb e).2, ?_⟩
  refine (List.Pairwise.and_mem.1 hl).imp ?_
  rintro x y ⟨hx, hy, hxy⟩
  rw [Function.onFun, List.disjoint_left]
  intro z hz hz'
  obtain ⟨a, ha, rfl⟩ := List.mem_map.1 hz
  obtain ⟨b, hb, e⟩ := List.mem_map.1 hz'
  exact hxy (hinj y hy x hx b hb a ha e).1.symm

end Numqi
