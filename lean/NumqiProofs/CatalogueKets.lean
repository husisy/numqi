/-
Helper lemmas for C18: support of the W state.
-/
import NumqiProofs.Catalogue
import NumqiProofs.Dicke

set_option linter.unusedSectionVars false

namespace Numqi.Catalogue
open Finset

theorem ketW_sq (n x : ℕ) :
    (ketW n x).sq = if x ∈ (Finset.range n).image (fun k => 2 ^ k) then 1 / (n : ℚ) else 0 := by
  unfold ketW
  rw [apply_ite SAmp.sq]
  refine if_congr ?_ rfl rfl
  simp only [List.any_eq_true, List.mem_range, beq_iff_eq, Finset.mem_image, Finset.mem_range, eq_comm (a := x)]

end Numqi.Catalogue
