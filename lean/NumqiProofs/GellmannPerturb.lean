/- C16: the coefficient in front of each diagonal scalar of `synthesis`, in which the bound of `C16.synthesis_float_bridge` is stated. -/
import NumqiProofs.GellmannComplex
import Mathlib.Analysis.Complex.Norm

namespace Numqi.Gellmann

/-- coefficient that multiplies the `k`-th diagonal scalar in `synthesis` -/
def diagCoef (d : Nat) (v : Nat → ℂ) (k : Fin d) : ℂ := if k.val + 1 < d then v (d * (d - 1) + k.val) else v (d * d - 1)

end Numqi.Gellmann
