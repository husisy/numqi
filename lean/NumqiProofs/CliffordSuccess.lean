/-
C07: success — `clifford_multiply` returns on symplectic input, and the loop of `to_symplectic_form` never fails on a
well-formed record.
-/
import NumqiProofs.CliffordGates
namespace Numqi.Clifford

/-- a symplectic tableau maps Hermitian operators to Hermitian operators: `x·z` of the image has the parity of
`x·z + Σ_j v_j d_j` -/
theorem herm_parity (t : Tab) (h : t.colSp = true) (c : Nat) :
    (cnt t.n c (c >>> t.n) + t.dsum c +
      cnt t.n (matVec t.cols c (2 * t.n)) (matVec t.cols c (2 * t.n) >>> t.n)) % 2 = 0 := by
  set a : PauliB := ⟨false, false, c⟩ with ha
  have hm := apply_mulB t h a a
  have hv : (mulB t.n a a).v = 0 := by rw [mulB_v]; exact Nat.xor_self _
  have hphase : mulB t.n a a = ⟨(mulB t.n a a).s0, (mulB t.n a a).s1, 0⟩ := by
    cases hq : mulB t.n a a with | mk s0 s1 v => rw [hq] at hv; simp only at hv; subst hv; rfl
  rw [hphase, apply_phase_only, ← hphase] at hm
  have h1 := mulB_ph t.n a a
  have h2 := mulB_ph t.n (applyOnPauli a t) (applyOnPauli a t)
  have h3 := apply_ph a t
  rw [← hm] at h2
  rw [apply_v] at h2
  simp only [Fph] at h3
  have e1 : om t.n c c = cnt t.n c (c >>> t.n) := by unfold om; rw [cnt_comm]
  have e2 : om t.n (matVec t.cols c (2 * t.n)) (matVec t.cols c (2 * t.n)) =
      cnt t.n (matVec t.cols c (2 * t.n)) (matVec t.cols c (2 * t.n) >>> t.n) := by unfold om; rw [cnt_comm]
  simp only [ha] at h1 h2 h3
  rw [e1] at h1
  rw [e2] at h2
  omega

/-- **`clifford_multiply` returns** (the `assert` on line 66 holds) whenever the sizes agree and `S_y` is symplectic -/
theorem multiply_isSome (x y : Tab) (hn : x.n = y.n) (hy : y.colSp = true) : (multiply x y).isSome = true := by
  unfold multiply
  simp only
  rw [if_pos]
  · rfl
  · rw [List.all_eq_true]
    intro j hj
    have hj' : j < 2 * x.n := List.mem_range.1 hj
    simp only [beq_iff_eq]
    have := herm_parity y hy (x.cols.getD j 0)
    simp only [Tab.d]
    rw [SpF2.getD_map_range _ _ _ hj', ← hn] at *
    omega

theorem numQubit_ok (gates : List Gate) (hne : gates ≠ []) (hwf : GatesWF gates) : ∃ n, numQubit gates = .ok n := by
  unfold numQubit
  cases hl : gates.flatMap (·.idx) with
  | nil =>
    exfalso
    obtain ⟨g, rest, rfl⟩ := List.exists_cons_of_ne_nil hne
    have h1 := (hwf g List.mem_cons_self).1
    have ha : g.key.arity ≥ 1 := by cases g.key <;> decide
    simp only [List.flatMap_cons, List.append_eq_nil_iff] at hl
    rw [hl.1] at h1; simp at h1; omega
  | cons i rest => exact ⟨_, rfl⟩

/-- the loop of `to_symplectic_form` never fails on a well-formed record -/
theorem foldl_symStep_ok (n : Nat) (l : List Gate) (hwf : GatesWF l) (hlt : ∀ g ∈ l, ∀ q ∈ g.idx, q < n) :
    ∀ acc : Tab, acc.n = n → ∃ t, l.foldl (symStep n) (.ok acc) = .ok t := by
  induction l with
  | nil => intro acc _; exact ⟨acc, rfl⟩
  | cons g l ih =>
    intro acc hacc
    obtain ⟨w1, w2⟩ := hwf g List.mem_cons_self
    have hv : ValidQs n g.idx := ⟨w2, hlt g List.mem_cons_self⟩
    have hcs : (embed n (dagTable g.key) g.idx).colSp = true :=
      embed_colSp hv (dagTable g.key) (by rw [dagTable_n, w1]) (dagTable_colSp g.key)
    have hm := multiply_isSome acc (embed n (dagTable g.key) g.idx) (by rw [hacc]; rfl) hcs
    obtain ⟨z, hz⟩ := Option.isSome_iff_exists.1 hm
    rw [List.foldl_cons]
    simp only [symStep, basicDaggerF2_dagTable, hz]
    exact ih (fun g' hg' => hwf g' (List.mem_cons_of_mem _ hg')) (fun g' hg' => hlt g' (List.mem_cons_of_mem _ hg'))
      z (by rw [(multiply_spec hz).1, hacc])

end Numqi.Clifford
