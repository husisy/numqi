/-
Helper lemmas for the extraction `so3_to_angle` (C15, Part B): cofactor identities of SO(3), the algebraic
round trips of the three branches, and the real instance of `Trig`.
-/
import NumqiProofs.Lie
import Mathlib.LinearAlgebra.Matrix.Adjugate
import Mathlib.Analysis.SpecialFunctions.Complex.Arg
import Mathlib.Analysis.SpecialFunctions.Trigonometric.Inverse

set_option linter.unusedSectionVars false

namespace Numqi.Lie
open Matrix

variable {R : Type} [CommRing R]

/-- a special orthogonal matrix equals its cofactor matrix -/
theorem so3_transpose_eq_adjugate (M : Matrix (Fin 3) (Fin 3) R) (hO : M * Mᵀ = 1) (hd : M.det = 1) :
    Mᵀ = adjugate M := by
  have hO' : Mᵀ * M = 1 := mul_eq_one_comm.mp hO
  calc Mᵀ = Mᵀ * (M * adjugate M) := by rw [Matrix.mul_adjugate, hd, one_smul, Matrix.mul_one]
    _ = (Mᵀ * M) * adjugate M := by rw [Matrix.mul_assoc]
    _ = adjugate M := by rw [hO', Matrix.one_mul]

theorem so3_cofactor (M : Matrix (Fin 3) (Fin 3) R) (hO : M * Mᵀ = 1) (hd : M.det = 1) :
    M 0 0 = M 1 1 * M 2 2 - M 1 2 * M 2 1 ∧ M 0 1 = -(M 1 0 * M 2 2) + M 1 2 * M 2 0 ∧
    M 1 0 = -(M 0 1 * M 2 2) + M 0 2 * M 2 1 ∧ M 1 1 = M 0 0 * M 2 2 - M 0 2 * M 2 0 := by
  have h := so3_transpose_eq_adjugate M hO hd
  rw [Matrix.adjugate_fin_three] at h
  refine ⟨?_, ?_, ?_, ?_⟩
  · have := congrFun (congrFun h 0) 0; simpa using this
  · have := congrFun (congrFun h 1) 0; simpa using this
  · have := congrFun (congrFun h 0) 1; simpa using this
  · have := congrFun (congrFun h 1) 1; simpa using this

/-- row 2 and column 2 of an orthogonal matrix have unit norm -/
theorem so3_norms (M : Matrix (Fin 3) (Fin 3) R) (hO : M * Mᵀ = 1) :
    M 2 0 * M 2 0 + M 2 1 * M 2 1 + M 2 2 * M 2 2 = 1 ∧ M 0 2 * M 0 2 + M 1 2 * M 1 2 + M 2 2 * M 2 2 = 1
    ∧ M 0 0 * M 0 0 + M 1 0 * M 1 0 + M 2 0 * M 2 0 = 1 := by
  have hO' : Mᵀ * M = 1 := mul_eq_one_comm.mp hO
  refine ⟨?_, ?_, ?_⟩
  · have := congrFun (congrFun hO 2) 2; simpa [mul3_apply] using this
  · have := congrFun (congrFun hO' 2) 2; simpa [mul3_apply] using this
  · have := congrFun (congrFun hO' 0) 0; simpa [mul3_apply] using this

/-- **generic branch, algebraic form**: with `s = sin β ≠ 0` (inverse `si`), `s² = 1 - M22²`, the angles read off the
third row and column rebuild `M`. -/
theorem roundtrip_generic_alg (M : Matrix (Fin 3) (Fin 3) R) (hO : M * Mᵀ = 1) (hd : M.det = 1)
    (s si : R) (hsi : s * si = 1) (hs : s * s = 1 - M 2 2 * M 2 2) :
    M3 (angleToSO3cs (M 0 2 * si) (M 1 2 * si) (M 2 2) s (-M 2 0 * si) (M 2 1 * si)) = M := by
  obtain ⟨e00, e01, e10, e11⟩ := so3_cofactor M hO hd
  apply mat3_ext <;> simp only [angleToSO3cs, mk3_00, mk3_01, mk3_02, mk3_10, mk3_11, mk3_12, mk3_20, mk3_21, mk3_22]
  · linear_combination (-(si*si)) * e00 + (-(si*si) * M 2 2) * e11 + (-(si*si) * M 0 0) * hs + (M 0 0 * (s*si + 1)) * hsi
  · linear_combination (-(si*si)) * e01 + ((si*si) * M 2 2) * e10 + (-(si*si) * M 0 1) * hs + (M 0 1 * (s*si + 1)) * hsi
  · linear_combination (M 0 2) * hsi
  · linear_combination (-(si*si)) * e10 + ((si*si) * M 2 2) * e01 + (-(si*si) * M 1 0) * hs + (M 1 0 * (s*si + 1)) * hsi
  · linear_combination (-(si*si)) * e11 + (-(si*si) * M 2 2) * e00 + (-(si*si) * M 1 1) * hs + (M 1 1 * (s*si + 1)) * hsi
  · linear_combination (M 1 2) * hsi
  · linear_combination (M 2 0) * hsi
  · linear_combination (M 2 1) * hsi

/-- **gimbal-lock branches, algebraic form**: `M₂₂ = e = ±1`; for `β = 0` the two angles are both `(α+γ)/2`, for `β = π` they are
`α - γ` and `0`. -/
theorem roundtrip_lock_alg (M : Matrix (Fin 3) (Fin 3) R) (hO : M * Mᵀ = 1) (hd : M.det = 1) (e : R) (he : e * e = 1)
    (h22 : M 2 2 = e) (h20 : M 2 0 = 0) (h21 : M 2 1 = 0) (h02 : M 0 2 = 0) (h12 : M 1 2 = 0)
    (ca sa cg sg : R) (hc : ca * e * cg - sa * sg = M 0 0) (hs : sa * e * cg + ca * sg = M 1 0) :
    M3 (angleToSO3cs ca sa e 0 cg sg) = M := by
  obtain ⟨e00, e01, e10, e11⟩ := so3_cofactor M hO hd
  simp only [h22, h12, h02, h20, h21] at e00 e01 e10 e11
  apply mat3_ext <;> simp only [angleToSO3cs, mk3_00, mk3_01, mk3_02, mk3_10, mk3_11, mk3_12, mk3_20, mk3_21, mk3_22]
  · exact hc
  · linear_combination (-e) * hs - e01 + (sa * cg) * he
  · linear_combination -h02
  · exact hs
  · linear_combination e * hc - e11 - (ca * cg) * he
  · linear_combination -h12
  · linear_combination -h20
  · linear_combination -h21
  · exact h22.symm

/-! ### the real instance of `Trig` -/

/-- `np.arctan2 y x` is the argument of `x + i y`; `% (2π)` is `x - 2π ⌊x / 2π⌋`. -/
noncomputable instance instTrigReal : Trig ℝ where
  cos := Real.cos
  sin := Real.sin
  acos := Real.arccos
  atan2 y x := Complex.arg ⟨x, y⟩
  pi := Real.pi
  mod2pi x := x - (2 * Real.pi) * ⌊x / (2 * Real.pi)⌋

theorem angleToSO3_real (a b g : ℝ) :
    angleToSO3 a b g = angleToSO3cs (Real.cos a) (Real.sin a) (Real.cos b) (Real.sin b) (Real.cos g) (Real.sin g) := rfl

theorem cos_mod2pi (x : ℝ) : Real.cos (Trig.mod2pi x) = Real.cos x := by
  show Real.cos (x - (2 * Real.pi) * ⌊x / (2 * Real.pi)⌋) = _
  rw [mul_comm]; exact Real.cos_sub_int_mul_two_pi x _

theorem sin_mod2pi (x : ℝ) : Real.sin (Trig.mod2pi x) = Real.sin x := by
  show Real.sin (x - (2 * Real.pi) * ⌊x / (2 * Real.pi)⌋) = _
  rw [mul_comm]; exact Real.sin_sub_int_mul_two_pi x _

theorem mod2pi_nonneg (x : ℝ) : 0 ≤ (Trig.mod2pi x : ℝ) := by
  show 0 ≤ x - (2 * Real.pi) * ⌊x / (2 * Real.pi)⌋
  have hp : 0 < 2 * Real.pi := by positivity
  have := Int.floor_le (x / (2 * Real.pi))
  have h2 : (⌊x / (2 * Real.pi)⌋ : ℝ) * (2 * Real.pi) ≤ x := by
    rwa [le_div_iff₀ hp] at this
  linarith

theorem mod2pi_lt (x : ℝ) : (Trig.mod2pi x : ℝ) < 2 * Real.pi := by
  show x - (2 * Real.pi) * ⌊x / (2 * Real.pi)⌋ < 2 * Real.pi
  have hp : 0 < 2 * Real.pi := by positivity
  have := Int.lt_floor_add_one (x / (2 * Real.pi))
  rw [div_lt_iff₀ hp] at this
  linarith

/-- the contract of `arctan2` used by the extraction: `r cos(atan2 y x) = x`, `r sin(atan2 y x) = y`, `r = √(x²+y²) > 0`. -/
theorem cos_atan2 {x y r : ℝ} (hr : 0 < r) (h : x * x + y * y = r * r) : Real.cos (Trig.atan2 y x) = x / r := by
  show Real.cos (Complex.arg ⟨x, y⟩) = _
  have hn : ‖(⟨x, y⟩ : ℂ)‖ = r := by
    rw [Complex.norm_def, Complex.normSq_mk, h]; exact Real.sqrt_mul_self hr.le
  have hz : (⟨x, y⟩ : ℂ) ≠ 0 := by
    intro e; rw [e, norm_zero] at hn; exact hr.ne hn
  rw [Complex.cos_arg hz, hn]

theorem sin_atan2 {x y r : ℝ} (hr : 0 < r) (h : x * x + y * y = r * r) : Real.sin (Trig.atan2 y x) = y / r := by
  show Real.sin (Complex.arg ⟨x, y⟩) = _
  have hn : ‖(⟨x, y⟩ : ℂ)‖ = r := by
    rw [Complex.norm_def, Complex.normSq_mk, h]; exact Real.sqrt_mul_self hr.le
  rw [Complex.sin_arg, hn]

/-- on the unit circle the extraction `mod2pi ∘ atan2` recovers the point -/
theorem cos_sin_mod2pi_atan2 {x y : ℝ} (h : x * x + y * y = 1) :
    Real.cos (Trig.mod2pi (Trig.atan2 y x)) = x ∧ Real.sin (Trig.mod2pi (Trig.atan2 y x)) = y := by
  rw [← one_mul (1 : ℝ)] at h
  exact ⟨by rw [cos_mod2pi, cos_atan2 one_pos h, div_one], by rw [sin_mod2pi, sin_atan2 one_pos h, div_one]⟩

theorem sq_sum_zero {x y : ℝ} (h : x * x + y * y = 0) : x = 0 ∧ y = 0 := by
  have hx := mul_self_nonneg x; have hy := mul_self_nonneg y
  exact ⟨mul_self_eq_zero.mp (by linarith), mul_self_eq_zero.mp (by linarith)⟩

/-- at `M₂₂ = ±1` the rest of the third row and column vanishes, and the first column is a unit vector in the plane -/
theorem so3_lock (M : Matrix (Fin 3) (Fin 3) ℝ) (hO : M * Mᵀ = 1) (h : M 2 2 * M 2 2 = 1) :
    (M 2 0 = 0 ∧ M 2 1 = 0) ∧ (M 0 2 = 0 ∧ M 1 2 = 0) ∧ M 0 0 * M 0 0 + M 1 0 * M 1 0 = 1 := by
  obtain ⟨hr2, hc2, hc0⟩ := so3_norms M hO
  obtain ⟨h20, h21⟩ := sq_sum_zero (x := M 2 0) (y := M 2 1) (by linarith)
  exact ⟨⟨h20, h21⟩, sq_sum_zero (by linarith), by rw [h20] at hc0; linarith⟩

theorem cos_mul_self_add (x : ℝ) : Real.cos x * Real.cos x + Real.sin x * Real.sin x = 1 := by
  have := Real.cos_sq_add_sin_sq x; linear_combination this

/-- double-angle formulas in the half-angle form in which `angle_to_su2` and the `β = 0` branch use them -/
theorem cos_half_mul_self_sub (x : ℝ) :
    Real.cos (1/2 * x) * Real.cos (1/2 * x) - Real.sin (1/2 * x) * Real.sin (1/2 * x) = Real.cos x := by
  rw [← pow_two, ← pow_two, ← Real.cos_two_mul']; congr 1; ring

theorem two_sin_half_mul_cos_half (x : ℝ) : 2 * Real.sin (1/2 * x) * Real.cos (1/2 * x) = Real.sin x := by
  rw [← Real.sin_two_mul]; congr 1; ring

theorem so3_entry_bounds (M : Matrix (Fin 3) (Fin 3) ℝ) (hO : M * Mᵀ = 1) : -1 ≤ M 2 2 ∧ M 2 2 ≤ 1 := by
  obtain ⟨hr2, _, _⟩ := so3_norms M hO
  have h1 : M 2 2 * M 2 2 ≤ 1 := by linarith [mul_self_nonneg (M 2 0), mul_self_nonneg (M 2 1)]
  exact abs_le_of_sq_le_sq' (by rw [sq, one_pow]; exact h1) zero_le_one

theorem clip1_of_mem {x : ℝ} (h1 : -1 ≤ x) (h2 : x ≤ 1) : clip1 x = x := by
  unfold clip1; rw [if_neg (not_lt.mpr h1), if_neg (not_lt.mpr h2)]

end Numqi.Lie
