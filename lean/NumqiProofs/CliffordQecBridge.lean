/-
C07 ↔ C19: the bitmask Paulis, gate operators and tableau step of the QEC model (`NumqiModel/Qec.lean`) are those of
C07 / C08 / C03.
-/
import NumqiProofs.QecBridge
import NumqiProofs.CliffordCircuit
import Mathlib.Analysis.Real.Sqrt
import Mathlib.Data.Complex.Basic

namespace Numqi.Clifford
open Numqi Matrix

/-! ### masks of C19 ↔ binary Paulis of C07 -/

/-- C19's `i^k X^x Z^z` (two masks, qubit `q` = bit `q`) as the binary Pauli of C07 (`v = x + 2^n z`) -/
def ofMP (n : Nat) (p : Qec.MP) : PauliB := ⟨p.k % 4 / 2 == 1, p.k % 2 == 1, p.x ||| (p.z <<< n)⟩

theorem testBit_ofMP_lo {n : Nat} (p : Qec.MP) {i : Nat} (hi : i < n) : (ofMP n p).v.testBit i = p.x.testBit i := by
  simp only [ofMP, Nat.testBit_or, Nat.testBit_shiftLeft]
  have : ¬ i ≥ n := by omega
  simp [this]

theorem testBit_ofMP_hi {n : Nat} (p : Qec.MP) (hx : p.x < 2 ^ n) (i : Nat) :
    (ofMP n p).v.testBit (n + i) = p.z.testBit i := by
  simp only [ofMP, Nat.testBit_or, Nat.testBit_shiftLeft]
  rw [SpF2.testBit_eq_false_of_lt hx (by omega)]
  simp

/-- both readings give the same operator of C08 -/
theorem toPauli_ofMP {n : Nat} (p : Qec.MP) (hx : p.x < 2 ^ n) : toPauli n (ofMP n p) = Qec.toPauli n p := by
  simp only [toPauli, Qec.toPauli]
  congr 1
  · funext i; exact testBit_ofMP_lo p i.isLt
  · funext i; exact testBit_ofMP_hi p hx i.val

theorem ofMP_lt {n : Nat} (p : Qec.MP) (hx : p.x < 2 ^ n) (hz : p.z < 2 ^ n) : (ofMP n p).v < 4 ^ n := by
  rw [SpF2.four_pow]
  apply Nat.lt_pow_two_of_testBit
  intro i hi
  simp only [ofMP, Nat.testBit_or, Nat.testBit_shiftLeft]
  rw [SpF2.testBit_eq_false_of_lt hx (by omega), SpF2.testBit_eq_false_of_lt hz (by omega)]
  simp

theorem ph_ofMP (n : Nat) (p : Qec.MP) : ph (ofMP n p) = p.k % 4 := Qec.toPauli_phase n p

theorem cnt_parity_par {n : Nat} (hn : n ≤ 32) (a b : Nat) (hb : b < 2 ^ n) :
    cnt n a b % 2 = (Qec.par (a &&& b)).toNat := by
  have hlt : a &&& b < 2 ^ n := lt_of_le_of_lt Nat.and_le_right hb
  rw [Qec.par_eq, Qec.xorBits_of_lt hlt 32 hn, Qec.xorBits_eq_sum, cnt_eq_sum]
  congr 1
  apply Finset.sum_congr rfl
  intro i _
  rw [Nat.testBit_and]

/-- the mask of a bit vector -/
theorem posOf_testBits {n x : Nat} (hx : x < 2 ^ n) : Qec.posOf (fun i : Fin n => x.testBit i) = x := by
  apply Nat.eq_of_testBit_eq; intro j
  rw [Qec.testBit_posOf]
  by_cases hj : j < n
  · simp [hj]
  · simp [hj, SpF2.testBit_eq_false_of_lt hx (by omega : n ≤ j)]

/-! ### C19's state vectors are C03's: the gates of `Qec.applyGate` are the embedded operators -/

section sem
variable {R : Type} [CommRing R] {n : Nat}

/-- basis state with qubit `q` flipped -/
def flipB (x : Bits n) (q : Nat) : Bits n := Bits.xor x (fun i => (Qec.bit q).testBit i)

theorem posOf_flipB (x : Bits n) {q : Nat} (hq : q < n) : Qec.posOf (flipB x q) = Qec.fl (Qec.posOf x) q := by
  unfold flipB Qec.fl; exact Qec.posOf_xor x (Qec.bit q) (Qec.bit_lt hq)

theorem tb_posOf (x : Bits n) {q : Nat} (hq : q < n) : (Qec.posOf x).testBit q = x ⟨q, hq⟩ := by
  rw [Qec.testBit_posOf]; simp [hq]

theorem upd1 (x : Bits n) {q : Nat} (hq : q < n) (y : Bits 1) :
    x.upd (fun _ : Fin 1 => (⟨q, hq⟩ : Fin n)) y = if y 0 = x ⟨q, hq⟩ then x else flipB x q := by
  have hinj : Function.Injective (fun _ : Fin 1 => (⟨q, hq⟩ : Fin n)) := fun a b _ => Subsingleton.elim a b
  funext i
  by_cases hi : i = ⟨q, hq⟩
  · subst hi
    have := Bits.upd_apply_target hinj x y 0
    rw [this]
    by_cases h : y 0 = x ⟨q, hq⟩
    · rw [if_pos h, h]
    · rw [if_neg h]
      simp only [flipB, Bits.xor, Qec.testBit_bit, decide_true, Bool.xor_true]
      revert h; cases y 0 <;> cases x ⟨q, hq⟩ <;> simp
  · rw [Bits.upd_apply_off x y (fun j e => hi e.symm)]
    split
    · rfl
    · simp only [flipB, Bits.xor, Qec.testBit_bit]
      have : ¬ q = i.val := fun e => hi (Fin.ext e.symm)
      simp [this]

/-- a one-qubit gate on qubit `q`, acting on a vector -/
theorem embed1_mulVec (U : Matrix (Bits 1) (Bits 1) R) {q : Nat} (hq : q < n) (ψ : Bits n → R) (x : Bits n) :
    (Matrix.of (Numqi.embed U (fun _ : Fin 1 => (⟨q, hq⟩ : Fin n)))).mulVec ψ x =
      U (fun _ => x ⟨q, hq⟩) (fun _ => x ⟨q, hq⟩) * ψ x +
        U (fun _ => x ⟨q, hq⟩) (fun _ => !x ⟨q, hq⟩) * ψ (flipB x q) := by
  have hinj : Function.Injective (fun _ : Fin 1 => (⟨q, hq⟩ : Fin n)) := fun a b _ => Subsingleton.elim a b
  have h : (Matrix.of (Numqi.embed U (fun _ : Fin 1 => (⟨q, hq⟩ : Fin n)))).mulVec ψ x =
      Numqi.applyGate U (fun _ : Fin 1 => (⟨q, hq⟩ : Fin n)) ψ x := (congrFun (C03.applyGate_eq_embed hinj U ψ) x).symm
  rw [h]
  simp only [Numqi.applyGate, sumBits_eq_sum]
  rw [sum_bits1]
  have hsel : x.sel (fun _ : Fin 1 => (⟨q, hq⟩ : Fin n)) = fun _ => x ⟨q, hq⟩ := rfl
  rw [hsel, upd1 x hq, upd1 x hq]
  cases hx : x ⟨q, hq⟩ <;> simp [add_comm]

/-- a controlled gate acts where the control is 1 -/
theorem ctrlEmbed_mulVec (U : Matrix (Bits 1) (Bits 1) R) (isCtrl : Fin n → Bool) (tt : Fin 1 → Fin n)
    (ψ : Bits n → R) (x : Bits n) :
    (Matrix.of (ctrlEmbed U isCtrl tt)).mulVec ψ x =
      if ctrlOn isCtrl x then (Matrix.of (Numqi.embed U tt)).mulVec ψ x else ψ x := by
  simp only [Matrix.mulVec, dotProduct, Matrix.of_apply, ctrlEmbed]
  split
  · rfl
  · simp [Bits.beq_iff]

end sem

/-- C19's gate as the recorded gate of C07 -/
def toGate : Qec.Gate → Option Gate
  | .h q => some ⟨.H, [q]⟩ | .x q => some ⟨.X, [q]⟩ | .y q => some ⟨.Y, [q]⟩ | .z q => some ⟨.Z, [q]⟩
  | .s q => some ⟨.S, [q]⟩
  | .cx c t => some ⟨.CX, [c, t]⟩ | .cy c t => some ⟨.CY, [c, t]⟩ | .cz c t => some ⟨.CZ, [c, t]⟩
  | .unknown => none

section sem2
variable {R : Type} [CommRing R] {n : Nat}

set_option hygiene false in
/-- one-qubit case of `qec_applyGate_eq` (expects the gate's qubit `q` and `hg : q < n` in the context) -/
macro "qec1_tac" : tactic =>
  `(tactic| (
    simp only [gateMatrixN, dif_pos hg, if_true, if_false, one_smul, reduceCtorEq]
    rw [embed1_mulVec _ hg]
    simp only [Qec.applyGate, Qec.tb, tb_posOf x hg, ← posOf_flipB x hg]
    cases hx : x ⟨q, hg⟩ <;>
      simp [gateMat1, Bits.toNat, Mat.get, GateKey.mat, gintTo] <;> ring))

set_option hygiene false in
/-- two-qubit case (expects `c`, `t` and `hg : (c < n ∧ t < n) ∧ c ≠ t`) -/
macro "qec2_tac" : tactic =>
  `(tactic| (
    simp only [gateMatrixN, dif_pos hg.1, GateKey.base]
    rw [ctrlEmbed_mulVec]
    have hon : ctrlOn (fun i : Fin n => decide (i.val = c)) x = x ⟨c, hg.1.1⟩ := by
      rw [Bool.eq_iff_iff, ctrlOn_iff]
      constructor
      · intro h; exact h ⟨c, hg.1.1⟩ (by simp)
      · intro h i hi
        have : i = ⟨c, hg.1.1⟩ := Fin.ext (by simpa using hi)
        rw [this]; exact h
    rw [hon, embed1_mulVec _ hg.1.2]
    simp only [Qec.applyGate, Qec.tb, tb_posOf x hg.1.1, tb_posOf x hg.1.2, ← posOf_flipB x hg.1.2]
    cases hxc : x ⟨c, hg.1.1⟩ <;> cases hxt : x ⟨t, hg.1.2⟩ <;>
      simp [gateMat1, Bits.toNat, Mat.get, GateKey.mat, gintTo] <;> ring))

/-- **`Qec.applyGate` (C19's model of one step of `Circuit.apply_state`) is multiplication by the operator C03 assigns to
the same gate** (`embed` / `ctrlEmbed`, `H` unnormalised as in C19), under `basis state b ↦ position Σ b_i 2^i`. -/
theorem qec_applyGate_eq (I : R) (g : Qec.Gate) (hg : Qec.gateOk n g = true) (g' : Gate) (hg' : toGate g = some g')
    (v : Nat → R) (x : Bits n) :
    Qec.applyGate I g v (Qec.posOf x) = (gateMatrixN I 1 n g').mulVec (fun b => v (Qec.posOf b)) x := by
  rcases g with q | q | q | q | q | ⟨c, t⟩ | ⟨c, t⟩ | ⟨c, t⟩ | _ <;> cases hg' <;>
    simp only [Qec.gateOk, Bool.and_eq_true, decide_eq_true_eq, bne_iff_ne, ne_eq] at hg
  · qec1_tac
  · qec1_tac
  · qec1_tac
  · qec1_tac
  · qec1_tac
  · qec2_tac
  · qec2_tac
  · qec2_tac

end sem2

/-! ### the tableau step of C19 and the tableau of C07 are inverse to each other -/

theorem flipIf_lt {c : Bool} {m q n : Nat} (hm : m < 2 ^ n) (hq : q < n) : Qec.flipIf c m q < 2 ^ n := by
  unfold Qec.flipIf; split
  · exact SpF2.xor_lt hm (Qec.bit_lt hq)
  · exact hm

/-- `conj1` keeps the masks below `2^n` -/
theorem conj1_lt {n : Nat} (g : Qec.Gate) (hg : Qec.gateOk n g = true) (p p' : Qec.MP)
    (h : Qec.conj1 p g = some p') (hx : p.x < 2 ^ n) (hz : p.z < 2 ^ n) : p'.x < 2 ^ n ∧ p'.z < 2 ^ n := by
  cases g <;> simp only [Qec.gateOk, Bool.and_eq_true, decide_eq_true_eq, bne_iff_ne, ne_eq, Bool.false_eq_true] at hg <;>
    simp only [Qec.conj1, beq_iff_eq, hg, if_false, Option.some.injEq] at h <;> subst h
  · exact ⟨flipIf_lt hx hg, flipIf_lt hz hg⟩
  · exact ⟨hx, hz⟩
  · exact ⟨hx, hz⟩
  · exact ⟨hx, hz⟩
  · exact ⟨hx, flipIf_lt hz hg⟩
  · exact ⟨flipIf_lt hx hg.1.2, flipIf_lt hz hg.1.1⟩
  · exact ⟨flipIf_lt hx hg.1.2, flipIf_lt (flipIf_lt (flipIf_lt hz hg.1.2) hg.1.1) hg.1.2⟩
  · exact ⟨hx, flipIf_lt (flipIf_lt hz hg.1.1) hg.1.2⟩

section step
variable {R : Type} [CommRing R] {n : Nat}

theorem PM_ofMP (I : R) (p : Qec.MP) (hx : p.x < 2 ^ n) : PM n I (ofMP n p) = C08.mat I (Qec.toPauli n p) := by
  simp only [PM]; rw [toPauli_ofMP p hx]

theorem matrix_eq_of_mulVec {A B : Matrix (Bits n) (Bits n) R} (h : ∀ ψ x, A.mulVec ψ x = B.mulVec ψ x) : A = B := by
  ext x b
  have := h (basis b) x
  rwa [mulVec_basis, mulVec_basis] at this

/-- **C19's soundness theorem, as a matrix identity of C03/C08 objects**: `G · P = P' · G` with `G` the C03 operator
(unnormalised `H`), `P, P'` C08's Pauli matrices and `P' = conj1 P g` -/
theorem conj1_matrix {I : R} (hI : I * I = -1) (hn : n ≤ 32) (g : Qec.Gate) (hg : Qec.gateOk n g = true)
    (g' : Gate) (hg' : toGate g = some g') (p p' : Qec.MP) (h : Qec.conj1 p g = some p')
    (hx : p.x < 2 ^ n) (hz : p.z < 2 ^ n) :
    gateMatrixN I 1 n g' * PM n I (ofMP n p) = PM n I (ofMP n p') * gateMatrixN I 1 n g' := by
  obtain ⟨hx', _⟩ := conj1_lt g hg p p' h hx hz
  apply matrix_eq_of_mulVec
  intro ψ x
  rw [← Matrix.mulVec_mulVec, ← Matrix.mulVec_mulVec]
  set v : Nat → R := fun i => ψ (fun j : Fin n => i.testBit j) with hv
  have hvψ : (fun b : Bits n => v (Qec.posOf b)) = ψ := by
    funext b; simp only [hv]; congr 1; funext j; rw [Qec.testBit_posOf]; simp
  have hs := congrFun (Qec.conj1_sound hI hn g hg p p' h v) (Qec.posOf x)
  rw [qec_applyGate_eq I g hg g' hg', Qec.pauliAct_eq_mat hI hn p' hx'] at hs
  have e1 : (fun b : Bits n => Qec.pauliAct I p v (Qec.posOf b)) = (PM n I (ofMP n p)).mulVec ψ := by
    funext b; rw [Qec.pauliAct_eq_mat hI hn p hx, hvψ, PM_ofMP I p hx]
  have e2 : (fun b : Bits n => Qec.applyGate I g v (Qec.posOf b)) = (gateMatrixN I 1 n g').mulVec ψ := by
    funext b; rw [qec_applyGate_eq I g hg g' hg', hvψ]
  rw [e1, e2, ← PM_ofMP I p' hx'] at hs
  exact hs

end step

section cancel
variable {R : Type} [CommRing R] {n : Nat}

theorem embed_smul (c : R) {k : Nat} (M : Matrix (Bits k) (Bits k) R) (t : Fin k → Fin n) :
    (Matrix.of (Numqi.embed (c • M) t) : Matrix (Bits n) (Bits n) R) = c • Matrix.of (Numqi.embed M t) := by
  ext x x'
  simp only [Matrix.of_apply, Numqi.embed, Matrix.smul_apply, smul_eq_mul]
  split <;> simp

/-- the operator with unnormalised `H` is a scalar multiple (`s = 2h`) of the normalised one -/
theorem gateMatrixN_one (I h s : R) (hs : s * h = 1) (g : Gate) (hlen : g.idx.length = g.key.arity)
    (hlt : ∀ q ∈ g.idx, q < n) :
    gateMatrixN I 1 n g = (if g.key = .H then s else 1) • gateMatrixN I h n g := by
  obtain ⟨key, idx⟩ := g
  simp only at hlen hlt ⊢
  rcases idx_cases hlen with ⟨q0, rfl, _⟩ | ⟨q0, q1, rfl, hk2⟩
  · have hq : q0 < n := hlt q0 (by simp)
    simp only [gateMatrixN, dif_pos hq]
    by_cases hk : key = .H
    · simp only [hk, if_true, one_smul]
      rw [embed_smul, smul_smul, hs, one_smul]
    · simp only [hk, if_false, one_smul]
  · have hk : key ≠ .H := by intro e; subst e; simp [GateKey.arity] at hk2
    simp [gateMatrixN, hk]

/-- left cancellation of a gate operator -/
theorem gate_left_cancel [StarRing R] {I h : R} (hI : I * I = -1) (hs : star I = -I) (hh : star h = h)
    (h2 : 2 * (h * h) = 1) (g : Gate) (hlen : g.idx.length = g.key.arity) (hnd : g.idx.Nodup)
    (hlt : ∀ q ∈ g.idx, q < n) (A B : Matrix (Bits n) (Bits n) R)
    (hAB : gateMatrixN I 1 n g * A = gateMatrixN I 1 n g * B) : A = B := by
  have hsh : (2 * h) * h = 1 := by rw [mul_assoc]; exact h2
  rw [gateMatrixN_one I h (2 * h) hsh g hlen hlt] at hAB
  have hU := gateMatrixN_unitary hI hs hh h2 n g hlen hnd
  rw [Matrix.mem_unitaryGroup_iff', Matrix.star_eq_conjTranspose] at hU
  set c : R := if g.key = .H then 2 * h else 1 with hc
  have hcu : (if g.key = GateKey.H then h else 1) * c = 1 := by
    by_cases hk : g.key = .H <;> simp [hc, hk]
    rw [mul_comm]; exact hsh
  have h1 := congrArg (fun M => (if g.key = GateKey.H then h else 1) • ((gateMatrixN I h n g)ᴴ * M)) hAB
  simp only [Matrix.smul_mul, Matrix.mul_smul, ← Matrix.mul_assoc, hU, Matrix.one_mul, smul_smul, hcu, one_smul] at h1
  exact h1

end cancel

/-! ### the purely combinatorial statements (instantiating the matrices at `ℂ`) -/

theorem toPauli_inj {n : Nat} {a b : PauliB} (ha : a.v < 4 ^ n) (hb : b.v < 4 ^ n)
    (h : Pauli.beq (toPauli n a) (toPauli n b) = true) : a = b := by
  simp only [Pauli.beq, Bool.and_eq_true, beq_iff_eq, Bits.beq_iff, toPauli] at h
  obtain ⟨⟨⟨h0, h1⟩, hx⟩, hz⟩ := h
  obtain ⟨a0, a1, av⟩ := a
  obtain ⟨b0, b1, bv⟩ := b
  simp only at h0 h1 hx hz ha hb
  subst h0; subst h1
  congr 1
  rw [SpF2.four_pow] at ha hb
  apply Nat.eq_of_testBit_eq; intro j
  by_cases hj : j < n
  · exact congrFun hx ⟨j, hj⟩
  · by_cases hj2 : j < 2 * n
    · have := congrFun hz ⟨j - n, by omega⟩
      simp only at this
      have e : n + (j - n) = j := by omega
      rwa [e] at this
    · rw [SpF2.testBit_eq_false_of_lt ha (by omega), SpF2.testBit_eq_false_of_lt hb (by omega)]

theorem complex_setup : Complex.I * Complex.I = -1 ∧ star Complex.I = -Complex.I ∧
    star ((Real.sqrt 2)⁻¹ : ℂ) = ((Real.sqrt 2)⁻¹ : ℂ) ∧
    2 * (((Real.sqrt 2)⁻¹ : ℂ) * ((Real.sqrt 2)⁻¹ : ℂ)) = 1 ∧ (1 : ℂ) ≠ -1 := by
  refine ⟨Complex.I_mul_I, Complex.conj_I, ?_, ?_, ?_⟩
  · rw [← Complex.ofReal_inv]; exact Complex.conj_ofReal _
  · rw [← Complex.ofReal_inv, ← Complex.ofReal_mul, ← mul_inv, Real.mul_self_sqrt (by norm_num)]
    norm_num
  · intro h; have := congrArg Complex.re h; norm_num at this

/-- **The tableau step of C19 is undone by the adjoint-gate tableau of C07**: if `conj1 P g = P'` (C19: `P' = G P G†`),
then C07's action of the recorded gate on `P'` (`gateAct`: the embedded tableau of `G†`, i.e. `G† P' G`) returns `P` —
on the binary forms, phase included, for every register size `n ≤ 32` (C19's mask width). -/
theorem conj1_gateAct {n : Nat} (hn : n ≤ 32) (g : Qec.Gate) (hg : Qec.gateOk n g = true) (g' : Gate)
    (hg' : toGate g = some g') (p p' : Qec.MP) (h : Qec.conj1 p g = some p') (hx : p.x < 2 ^ n) (hz : p.z < 2 ^ n) :
    gateAct n (ofMP n p') g' = ofMP n p := by
  obtain ⟨hI, hs, hh, h2, hne⟩ := complex_setup
  obtain ⟨hx', hz'⟩ := conj1_lt g hg p p' h hx hz
  have hwf : g'.idx.length = g'.key.arity ∧ g'.idx.Nodup ∧ ∀ q ∈ g'.idx, q < n := by
    cases g <;> simp only [toGate, Option.some.injEq, reduceCtorEq] at hg' <;> subst hg' <;>
      simp only [Qec.gateOk, Bool.and_eq_true, decide_eq_true_eq, bne_iff_ne, ne_eq] at hg <;>
      simp [GateKey.arity, hg]
  obtain ⟨w1, w2, w3⟩ := hwf
  have hq' : (ofMP n p').v < 4 ^ n := ofMP_lt p' hx' hz'
  -- C19: G P = P' G;  C07: P' G = G Q with Q = gateAct P'
  have e1 := conj1_matrix (R := ℂ) hI hn g hg g' hg' p p' h hx hz
  obtain ⟨e2, hQlt⟩ := gate_conjugation (R := ℂ) hI 1 n g' w1 w2 w3 (ofMP n p') hq'
  rw [e2] at e1
  have e3 := gate_left_cancel hI hs hh h2 g' w1 w2 w3 _ _ e1
  -- faithfulness of C08's matrices
  have := C08.mat_injective hI hne _ _ e3
  exact (toPauli_inj (ofMP_lt p hx hz) hQlt this).symm

/-- the same through a whole gate list: propagating with C19's rules and then acting with C07's adjoint-gate tableaux in
reverse order returns the original operator (and the masks stay below `2^n`) -/
theorem conjCirc_seq {n : Nat} (hn : n ≤ 32) (gs : List Qec.Gate) (hg : gs.all (Qec.gateOk n) = true)
    (gates : List Gate) (hgs : gs.mapM toGate = some gates) (p p' : Qec.MP) (h : Qec.conjCirc p gs = some p')
    (hx : p.x < 2 ^ n) (hz : p.z < 2 ^ n) :
    gates.reverse.foldl (gateAct n) (ofMP n p') = ofMP n p ∧ p'.x < 2 ^ n ∧ p'.z < 2 ^ n := by
  induction gs generalizing p gates with
  | nil =>
    simp at hgs; subst hgs
    simp only [Qec.conjCirc, Option.some.injEq] at h; subst h; exact ⟨rfl, hx, hz⟩
  | cons g gs ih =>
    simp only [List.all_cons, Bool.and_eq_true] at hg
    simp only [List.mapM_cons, Option.bind_eq_bind, Option.pure_def] at hgs
    cases hg1 : toGate g with
    | none => simp [hg1] at hgs
    | some g' =>
      cases hg2 : gs.mapM toGate with
      | none => simp [hg1, hg2] at hgs
      | some gates' =>
        simp only [hg1, hg2, Option.bind_some, Option.some.injEq] at hgs
        subst hgs
        simp only [Qec.conjCirc] at h
        cases h1 : Qec.conj1 p g with
        | none => simp [h1] at h
        | some p1 =>
          simp only [h1] at h
          obtain ⟨hx1, hz1⟩ := conj1_lt g hg.1 p p1 h1 hx hz
          obtain ⟨e, hlt⟩ := ih hg.2 gates' hg2 p1 h hx1 hz1
          rw [List.reverse_cons, List.foldl_append, List.foldl_cons, List.foldl_nil, e]
          exact ⟨conj1_gateAct hn g hg.1 g' hg1 p p1 h1 hx hz, hlt⟩

end Numqi.Clifford
