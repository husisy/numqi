/-
The steps of `C03.reduceShapeIndex_spec`: for every register size and every control set, indexing
`q0.reshape(shape0)` with the reduced index tuple of `_control_n_index` selects exactly the flat positions whose control
bits are all 1, in increasing order.  Route: `groupRuns` of the per-qubit `(2, 1 | None)` list = expanded run-length
encoding → reduced shape/index in run-length form → `slicePositions` = structural enumeration `ctrlPos` → filter of
`range (2^n)`.
-/
import NumqiProofs.MeasureGrouping

namespace Numqi
open Function

/-- structural bitwise enumeration: flat positions (increasing) whose bits are 1 wherever `K` is `true` -/
def ctrlPos : List Bool → List Nat
  | [] => [0]
  | b :: r => if b then (ctrlPos r).map (2 ^ r.length + ·) else ctrlPos r ++ (ctrlPos r).map (2 ^ r.length + ·)

theorem range_two_mul (m : Nat) : List.range (m + m) = List.range m ++ (List.range m).map (m + ·) := by
  rw [List.range_add]

theorem ctrlPos_replicate_true (len : Nat) (X : List Bool) :
    ctrlPos (List.replicate len true ++ X) = (ctrlPos X).map ((2 ^ len - 1) * 2 ^ X.length + ·) := by
  induction len with
  | zero => simp
  | succ len ih =>
    rw [List.replicate_succ, List.cons_append, ctrlPos, if_pos rfl, ih, List.map_map]
    apply List.map_congr_left
    intro x _
    simp only [comp, List.length_append, List.length_replicate]
    have h1 : 1 ≤ 2 ^ len := Nat.one_le_two_pow
    have : 2 ^ (len + 1) - 1 = 2 ^ len + (2 ^ len - 1) := by rw [pow_succ]; omega
    rw [this, pow_add]; ring

theorem ctrlPos_replicate_false (len : Nat) (X : List Bool) :
    ctrlPos (List.replicate len false ++ X)
      = (List.range (2 ^ len)).flatMap fun a => (ctrlPos X).map (a * 2 ^ X.length + ·) := by
  induction len with
  | zero => simp
  | succ len ih =>
    rw [List.replicate_succ, List.cons_append, ctrlPos, if_neg (by simp), ih]
    have h2 : (2 : Nat) ^ (len + 1) = 2 ^ len + 2 ^ len := by rw [pow_succ]; ring
    rw [h2, range_two_mul, List.flatMap_append]
    congr 1
    rw [List.flatMap_map, List.map_flatMap]
    apply List.flatMap_congr
    intro a _
    rw [List.map_map]
    apply List.map_congr_left
    intro x _
    simp only [comp, List.length_append, List.length_replicate, pow_add]
    ring


/-- the `(shape, index)` pair of one qubit: control ↦ `(2, some 1)`, free ↦ `(2, none)` -/
def ctrlEntry (b : Bool) : Nat × Option Nat := (2, if b then some 1 else none)

theorem runLength_pos : ∀ (K : List Bool), ∀ g ∈ runLength K, 1 ≤ g.2
  | [], g, h => by simp [runLength] at h
  | b :: l, g, h => by
    have ih := runLength_pos l
    simp only [runLength] at h
    split at h
    · rename_i b' c r hr
      rw [hr] at ih
      split at h
      · rcases List.mem_cons.1 h with rfl | h
        · simp
        · exact ih g (List.mem_cons_of_mem _ h)
      · rcases List.mem_cons.1 h with rfl | h
        · simp
        · exact ih g h
    · simp at h; rw [h]

/-- `groupRuns` of the control list is the run-length encoding, expanded -/
theorem groupRuns_ctrl : ∀ K : List Bool,
    groupRuns (K.map ctrlEntry) = (runLength K).map fun g => List.replicate g.2 (ctrlEntry g.1)
  | [] => rfl
  | b :: l => by
    have ih := groupRuns_ctrl l
    have hpos := runLength_pos l
    simp only [List.map_cons, groupRuns, runLength]
    rw [ih]
    cases hr : runLength l with
    | nil => simp
    | cons g r =>
      obtain ⟨b', c⟩ := g
      have hc : 1 ≤ c := hpos (b', c) (by rw [hr]; simp)
      obtain ⟨c', rfl⟩ : ∃ c', c = c' + 1 := ⟨c - 1, by omega⟩
      simp only [List.map_cons, List.replicate_succ]
      have hiso : ((ctrlEntry b).2.isNone == (ctrlEntry b').2.isNone) = (b == b') := by
        cases b <;> cases b' <;> rfl
      rw [hiso]
      by_cases hb : b = b'
      · subst hb; simp [List.replicate_succ]
      · have : (b == b') = false := by simpa using hb
        simp [this, List.replicate_succ]


def expandRuns (z : List (Bool × Nat)) : List Bool := z.flatMap fun g => List.replicate g.2 g.1

theorem expandRuns_length (z : List (Bool × Nat)) : (expandRuns z).length = grpBits z := by
  induction z with
  | nil => rfl
  | cons g z ih => simp [expandRuns, grpBits, List.flatMap_cons] at ih ⊢; try omega

theorem expandRuns_runLength : ∀ K : List Bool, expandRuns (runLength K) = K
  | [] => rfl
  | b :: l => by
    have ih := expandRuns_runLength l
    rcases runLength_cons_cases b l with ⟨c, r, hl, h⟩ | h
    · rw [hl] at ih
      rw [h]
      simp only [expandRuns, List.flatMap_cons, List.replicate_succ, List.cons_append] at ih ⊢
      rw [ih]
    · rw [h]
      simp only [expandRuns, List.flatMap_cons] at ih ⊢
      rw [ih]; simp

/-- the slice of the reduced shape / index, on a run-length list -/
def sliceRuns (z : List (Bool × Nat)) : List Nat :=
  slicePositions (z.map fun g => 2 ^ g.2) (z.map fun g => if g.1 then some (2 ^ g.2 - 1) else none)

theorem sliceRuns_eq_ctrlPos : ∀ z : List (Bool × Nat), sliceRuns z = ctrlPos (expandRuns z)
  | [] => rfl
  | (b, len) :: r => by
    have ih := sliceRuns_eq_ctrlPos r
    have hexp : expandRuns ((b, len) :: r) = List.replicate len b ++ expandRuns r := by
      simp [expandRuns, List.flatMap_cons]
    rw [hexp]
    unfold sliceRuns at ih ⊢
    simp only [List.map_cons, slicePositions, shapeProd_eq, ih]
    cases b
    · simp only [Bool.false_eq_true, if_false]
      rw [ctrlPos_replicate_false, expandRuns_length]
    · simp only [if_true]
      rw [ctrlPos_replicate_true, expandRuns_length]


theorem foldl_replicate_two (len a : Nat) : (List.replicate len 2).foldl (· * ·) a = a * 2 ^ len := by
  induction len generalizing a with
  | zero => simp
  | succ len ih => rw [List.replicate_succ, List.foldl_cons, ih, pow_succ]; ring

theorem foldl_replicate_ones (len a : Nat) :
    (List.replicate len ((2 : Nat), some (1 : Nat))).foldl (fun acc p => acc * p.1 + p.2.getD 0) a
      = a * 2 ^ len + (2 ^ len - 1) := by
  induction len generalizing a with
  | zero => simp
  | succ len ih =>
    rw [List.replicate_succ, List.foldl_cons, ih]
    have h1 : 1 ≤ 2 ^ len := Nat.one_le_two_pow
    simp only [Option.getD_some, pow_succ]
    have : 2 ^ len * 2 - 1 = 2 ^ len + (2 ^ len - 1) := by omega
    rw [this]; ring

/-- every bit that `K` marks is set in `p` (position 0 of `K` = most significant of `K.length` bits) -/
def okB : List Bool → Nat → Bool
  | [], _ => true
  | b :: r, p => (!b || p.testBit r.length) && okB r p

theorem okB_add_pow (r : List Bool) (i p : Nat) (hi : r.length ≤ i) : okB r (2 ^ i + p) = okB r p := by
  induction r with
  | nil => rfl
  | cons b r ih =>
    simp only [okB, List.length_cons] at hi ⊢
    rw [ih (by omega), Nat.testBit_two_pow_add_gt (by omega)]

theorem ctrlPos_eq_filter : ∀ K : List Bool, ctrlPos K = (List.range (2 ^ K.length)).filter (okB K)
  | [] => by simp [ctrlPos, okB]
  | b :: r => by
    have ih := ctrlPos_eq_filter r
    have h2 : (2 : Nat) ^ (b :: r).length = 2 ^ r.length + 2 ^ r.length := by rw [List.length_cons, pow_succ]; ring
    rw [h2, range_two_mul, List.filter_append, List.filter_map]
    have hlow : (List.range (2 ^ r.length)).filter (okB (b :: r))
        = if b then [] else (List.range (2 ^ r.length)).filter (okB r) := by
      cases b
      · simp only [Bool.false_eq_true, if_false]
        apply List.filter_congr; intro p _; simp [okB]
      · simp only [if_true]
        rw [List.filter_eq_nil_iff]
        intro p hp
        have : p.testBit r.length = false := Nat.testBit_lt_two_pow (List.mem_range.1 hp)
        simp [okB, this]
    have hhigh : (List.range (2 ^ r.length)).filter (okB (b :: r) ∘ fun x => 2 ^ r.length + x)
        = (List.range (2 ^ r.length)).filter (okB r) := by
      apply List.filter_congr
      intro p hp
      have : p.testBit r.length = false := Nat.testBit_lt_two_pow (List.mem_range.1 hp)
      simp only [comp, okB, okB_add_pow r r.length p (le_refl _), Nat.testBit_two_pow_add_eq, this]
      simp
    rw [hlow, hhigh, ← ih, ctrlPos]
    cases b <;> simp

theorem okB_iff (K : List Bool) (p : Nat) :
    okB K p = true ↔ ∀ q, (h : q < K.length) → K[q] = true → p.testBit (K.length - 1 - q) = true := by
  induction K with
  | nil => simp [okB]
  | cons b r ih =>
    simp only [okB, Bool.and_eq_true, Bool.or_eq_true, Bool.not_eq_true', ih, List.length_cons]
    constructor
    · rintro ⟨h0, h1⟩ q hq hK
      cases q with
      | zero =>
        simp only [List.getElem_cons_zero] at hK
        rcases h0 with h0 | h0
        · rw [hK] at h0; exact absurd h0 (by simp)
        · simpa using h0
      | succ q =>
        simp only [List.getElem_cons_succ] at hK
        have := h1 q (by omega) hK
        have e : r.length + 1 - 1 - (q + 1) = r.length - 1 - q := by omega
        rw [e]; exact this
    · intro h
      constructor
      · cases hb : b
        · exact Or.inl rfl
        · right
          have := h 0 (by omega) (by simpa using hb)
          simpa using this
      · intro q hq hK
        have := h (q + 1) (by omega) (by simpa using hK)
        have e : r.length + 1 - 1 - (q + 1) = r.length - 1 - q := by omega
        rw [e] at this; exact this

/-- `_control_n_index`'s reduced shape / index, in run-length form -/
theorem controlSlice_eq (n : Nat) (c : List Nat) :
    controlSlice n c =
      ((runLength ((List.range n).map fun q => c.contains q)).map (fun g => 2 ^ g.2),
       (runLength ((List.range n).map fun q => c.contains q)).map (fun g => if g.1 then some (2 ^ g.2 - 1) else none)) := by
  set K := (List.range n).map fun q => c.contains q with hK
  have hzip : (List.replicate n 2).zip ((List.range n).map fun q => if c.contains q then some 1 else none)
      = K.map ctrlEntry := by
    rw [hK, List.map_map]
    apply List.ext_getElem
    · simp
    · intro i h1 h2
      simp [ctrlEntry]
  have hpos := runLength_pos K
  unfold controlSlice reduceShapeIndex
  simp only [hzip, groupRuns_ctrl, List.map_map]
  refine Prod.ext ?_ ?_
  · apply List.map_congr_left
    intro g _
    simp [comp, ctrlEntry, List.map_replicate, foldl_replicate_two]
  · apply List.map_congr_left
    intro g hg
    obtain ⟨b, len⟩ := g
    have hlen : 1 ≤ len := hpos _ hg
    obtain ⟨l', rfl⟩ : ∃ l', len = l' + 1 := ⟨len - 1, by omega⟩
    cases b
    · simp [comp, ctrlEntry, List.replicate_succ]
    · simp only [comp, ctrlEntry, if_true]
      have := foldl_replicate_ones (l' + 1) 0
      rw [zero_mul, zero_add] at this
      rw [List.replicate_succ] at this ⊢
      simp only [this]

/-- the literal control slice is the structural enumeration -/
theorem controlPositions_eq_ctrlPos (n : Nat) (c : List Nat) :
    controlPositions n c = ctrlPos ((List.range n).map fun q => c.contains q) := by
  unfold controlPositions
  rw [controlSlice_eq]
  show sliceRuns _ = _
  rw [sliceRuns_eq_ctrlPos, expandRuns_runLength]

end Numqi
