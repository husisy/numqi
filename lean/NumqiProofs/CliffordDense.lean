/-
C07: the carrier map ℤ[i] → R.  The executed Pauli matrices (`pauliEntG`, the bit-mask form `pauliEnt`) are C08's `PM` entry
by entry under it, for every n, and a true row of the executed Boolean table `intertwines` gives the identity `P · E = E · Q` over `R`.
-/
import NumqiProofs.CliffordConj
namespace Numqi.Clifford
open Numqi Matrix
variable {R : Type} [CommRing R]

/-! ### `ℤ[i] → R`: the carrier map under which the executed dense constants are the matrices of the theorems -/

/-- `a + b·i ↦ a + b·I` -/
def gintTo (I : R) (z : GInt) : R := (z.re : R) + (z.im : R) * I

theorem gintTo_zero (I : R) : gintTo I 0 = 0 := by
  show ((0 : Int) : R) + ((0 : Int) : R) * I = 0; simp
theorem gintTo_one (I : R) : gintTo I 1 = 1 := by
  show ((1 : Int) : R) + ((0 : Int) : R) * I = 1; simp
theorem gintTo_add (I : R) (a b : GInt) : gintTo I (a + b) = gintTo I a + gintTo I b := by
  show ((a.re + b.re : Int) : R) + ((a.im + b.im : Int) : R) * I = _
  simp only [gintTo]; push_cast; ring
theorem gintTo_mul {I : R} (hI : I * I = -1) (a b : GInt) : gintTo I (a * b) = gintTo I a * gintTo I b := by
  show ((a.re * b.re - a.im * b.im : Int) : R) + ((a.re * b.im + a.im * b.re : Int) : R) * I = _
  simp only [gintTo]; push_cast
  linear_combination (-(a.im : R) * (b.im : R)) * hI
theorem gintTo_iPow {I : R} (hI : I * I = -1) (k : Nat) : gintTo I (GInt.iPow k) = I ^ k := by
  rw [← ipow_mod hI k]
  have h4 : k % 4 < 4 := Nat.mod_lt _ (by norm_num)
  have h2 : I ^ 2 = -1 := by rw [pow_two, hI]
  have h3 : I ^ 3 = -I := by rw [pow_succ, h2]; ring
  unfold GInt.iPow
  generalize k % 4 = r at *
  interval_cases r <;> simp [gintTo, h2, h3]

/-- **the executed Pauli matrix `pauliEntG` (driver op `paulimat`, tied to `PauliOperator.full_matrix`) is C08's `mat`** -/
theorem PM_eq_pauliEntG {I : R} (hI : I * I = -1) (n : Nat) (p : PauliB) :
    PM n I p = Matrix.of (fun x y => gintTo I (pauliEntG n p x y)) := by
  ext x y
  simp only [PM, C08.mat, Matrix.of_apply, pauliEntG]
  cases (toPauli n p).matExp x y with
  | none => exact (gintTo_zero I).symm
  | some k => exact (gintTo_iPow hI k).symm

/-! ### the bit-mask entries `pauliEnt` are C08's, for every `k` -/

theorem testBit_toNat {k : Nat} (x : Bits k) (j : Nat) :
    x.toNat.testBit j = if h : j < k then x ⟨k - 1 - j, by omega⟩ else false := by
  by_cases hj : j < k
  · rw [dif_pos hj]
    have := congrFun (Bits.ofNat_toNat x) ⟨k - 1 - j, by omega⟩
    simp only [Bits.ofNat] at this
    rw [← this]
    congr 1
    omega
  · rw [dif_neg hj]
    exact SpF2.testBit_eq_false_of_lt (Bits.toNat_lt x) (by omega)

theorem testBit_foldIndex (k : Nat) (f : Nat → Bool) (m j : Nat) (hm : m ≤ k) :
    ((List.range m).foldl (fun acc q => if f q then acc ^^^ 2 ^ (k - 1 - q) else acc) 0).testBit j =
      (decide (j < k) && decide (k - 1 - j < m) && f (k - 1 - j)) := by
  induction m with
  | zero => simp
  | succ m ih =>
    rw [List.range_succ, List.foldl_append, List.foldl_cons, List.foldl_nil]
    by_cases hf : f m = true
    · rw [if_pos hf, Nat.testBit_xor, ih (by omega), Nat.testBit_two_pow]
      by_cases hj : k - 1 - m = j
      · have h1 : j < k := by omega
        have h2 : k - 1 - j = m := by omega
        simp [h1, h2, hf, hj]
      · have hne : ¬ (k - 1 - j = m ∧ j < k) := by omega
        by_cases h1 : j < k
        · have h2 : ¬ k - 1 - j = m := by omega
          have h3 : (k - 1 - j < m + 1) = (k - 1 - j < m) := by apply propext; omega
          simp [h1, hj, h3]
        · simp [h1, hj]
    · rw [if_neg hf, ih (by omega)]
      by_cases h1 : j < k
      · by_cases h2 : k - 1 - j = m
        · have hf' : f (k - 1 - j) = false := by rw [h2]; simpa using hf
          simp [h1, hf']
        · have h3 : (k - 1 - j < m + 1) = (k - 1 - j < m) := by apply propext; omega
          simp [h1, h3]
      · simp [h1]

theorem testBit_xIndex (k v j : Nat) : (xIndex k v).testBit j = (decide (j < k) && v.testBit (k - 1 - j)) := by
  unfold xIndex
  rw [testBit_foldIndex k (fun q => v.testBit q) k j le_rfl]
  by_cases h : j < k
  · have : k - 1 - j < k := by omega
    simp [h, this]
  · simp [h]

theorem testBit_zIndex (k v j : Nat) : (zIndex k v).testBit j = (decide (j < k) && v.testBit (k + (k - 1 - j))) := by
  unfold zIndex
  rw [testBit_foldIndex k (fun q => v.testBit (k + q)) k j le_rfl]
  by_cases h : j < k
  · have : k - 1 - j < k := by omega
    simp [h, this]
  · simp [h]

theorem toNat_xor_xIndex {k : Nat} (b : Bits k) (p : PauliB) :
    (Bits.xor b (toPauli k p).x).toNat = b.toNat ^^^ xIndex k p.v := by
  apply Nat.eq_of_testBit_eq; intro j
  rw [testBit_toNat, Nat.testBit_xor, testBit_toNat, testBit_xIndex]
  by_cases hj : j < k
  · simp [hj, Bits.xor, toPauli]
  · simp [hj]

theorem cnt_zIndex {k : Nat} (b : Bits k) (p : PauliB) :
    cnt k (zIndex k p.v) b.toNat = Bits.dotN (toPauli k p).z b := by
  rw [cnt_eq_sum, Bits.dotN_eq_sum]
  rw [← Equiv.sum_comp Fin.revPerm]
  apply Finset.sum_congr rfl
  intro i _
  have hi := i.isLt
  simp only [Fin.revPerm_apply, Fin.val_rev]
  rw [testBit_zIndex, testBit_toNat]
  have h1 : k - (i.val + 1) < k := by omega
  have h2 : k - 1 - (k - (i.val + 1)) = i.val := by omega
  simp only [h1, decide_true, Bool.true_and, dite_true, h2, toPauli]

theorem iPow_mod (k : Nat) : GInt.iPow (k % 4) = GInt.iPow k := by
  unfold GInt.iPow; rw [Nat.mod_mod]

/-- the bit-mask entry `pauliEnt` is the entry of C08's matrix (`pauliEntG`), for every number of qubits -/
theorem pauliEnt_toNat {k : Nat} (p : PauliB) (a b : Bits k) :
    pauliEnt k p a.toNat b.toNat = pauliEntG k p a b := by
  simp only [pauliEnt, pauliEntG, Pauli.matExp, ← toNat_xor_xIndex, cnt_zIndex]
  by_cases h : a = Bits.xor b (toPauli k p).x
  · rw [if_pos (beq_iff_eq.2 (congrArg Bits.toNat h)), if_pos ((Bits.beq_iff _ _).2 h)]
    exact (iPow_mod _).symm
  · rw [if_neg (fun e => h (Bits.toNat_injective (beq_iff_eq.1 e))), if_neg (fun e => h ((Bits.beq_iff _ _).1 e))]

theorem pauliEnt_eq_C08 (k : Nat) (p : PauliB) {r c : Nat} (hr : r < 2 ^ k) (hc : c < 2 ^ k) :
    pauliEnt k p r c = pauliEntC08 k p r c := by
  have h := pauliEnt_toNat p (Bits.ofNat k r) (Bits.ofNat k c)
  rwa [Bits.toNat_ofNat hr, Bits.toNat_ofNat hc] at h

theorem PM_entry {I : R} (hI : I * I = -1) (n : Nat) (p : PauliB) (a b : Bits n) :
    PM n I p a b = gintTo I (pauliEnt n p a.toNat b.toNat) := by
  rw [PM_eq_pauliEntG hI, pauliEnt_toNat]; rfl

/-- a row of the executed Boolean table `intertwines` is the identity `P · E = E · Q` over any ring, for the operator `E`
whose entries are those of `gateOnN` under `ℤ[i] → R` -/
theorem inter_of_table {n : Nat} {I : R} (hI : I * I = -1) {G : Clifford.Mat} {qs : List Nat} {t : Tab} {p : PauliB}
    (h : intertwines n G qs t p = true) {E : Matrix (Bits n) (Bits n) R}
    (hE : ∀ a b : Bits n, E a b = gintTo I (gateOnNEnt n G qs a.toNat b.toNat)) :
    PM n I p * E = E * PM n I (applyOnPauli p t) := by
  simp only [intertwines, List.all_eq_true, List.mem_range, beq_iff_eq] at h
  ext a b
  rw [PM_mul_entry hI, mul_PM_entry hI, PM_entry hI, PM_entry hI, hE, hE, ← gintTo_mul hI, ← gintTo_mul hI,
    toNat_xor_xIndex, toNat_xor_xIndex]
  exact congrArg _ (h _ a.toNat_lt _ b.toNat_lt)

end Numqi.Clifford
