/-
`int_to_bitarray` / `bitarray_to_int`: the bit packing behind the identification "bit array = little-endian `Nat`" of the model.
-/
import NumqiProofs.SpF2Lemmas

namespace Numqi.SpF2

theorem testBit_bitarrayToInt (b : List Bool) (j : Nat) : (bitarrayToInt b).testBit j = b.getD j false := by
  unfold bitarrayToInt
  rw [testBit_ofFn]
  by_cases hj : j < b.length
  · simp [hj]
  · simp [hj, List.getD_eq_getElem?_getD]

theorem bitarrayToInt_lt (b : List Bool) : bitarrayToInt b < 2 ^ b.length := ofFn_lt _ _

theorem two_pow_le_bytes (n : Nat) : 2 ^ n ≤ 256 ^ ((n + 7) / 8) := by
  rw [show (256 : Nat) = 2 ^ 8 from rfl, ← Nat.pow_mul]
  exact Nat.pow_le_pow_right (by norm_num) (by omega)

theorem intToBitarray_bitarrayToInt (b : List Bool) : intToBitarray (bitarrayToInt b) b.length = some b := by
  have hlt : ¬ 256 ^ ((b.length + 7) / 8) ≤ bitarrayToInt b :=
    not_le.2 (lt_of_lt_of_le (bitarrayToInt_lt b) (two_pow_le_bytes _))
  unfold intToBitarray
  rw [if_neg hlt]
  congr 1
  apply List.ext_getElem
  · simp
  · intro j h1 h2
    simp only [List.getElem_map, List.getElem_range, testBit_bitarrayToInt]
    rw [List.getD_eq_getElem?_getD, List.getElem?_eq_getElem h2, Option.getD_some]

end Numqi.SpF2
