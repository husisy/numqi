/-
C14 helper (tableaux, part 4): from the unpadded enumeration `tabCore` to the model `tabAux` / `allTableaux`
(zero padded rows as the code's arrays are, `tabAux_eq_pad`), the top-level call (`IsSYT`, `coreTableaux_spec`) and the
Boolean checker `isStandard` (`isStandard_of_isSYT`).
-/
import NumqiProofs.YoungTabCore

namespace Numqi.Young

/-! ### padding -/

theorem padTo_of_le {w : Nat} {row : List Nat} (h : w ≤ row.length) : padTo w row = row := by
  simp [padTo, Nat.sub_eq_zero_of_le h]

theorem padTo_padTo {w w2 : Nat} {row : List Nat} (h1 : row.length ≤ w2) (h2 : w2 ≤ w) :
    padTo w (padTo w2 row) = padTo w row := by
  simp only [padTo, List.length_append, List.length_replicate, List.append_assoc, List.replicate_append_replicate]
  congr 2; omega

theorem take_padTo {w : Nat} {row : List Nat} : (padTo w row).take row.length = row := by
  simp [padTo]

/-! ### `tabAux` is `tabCore` with the rows padded to the width of the first row -/

theorem pick_length (np0 xy : List Nat) : (pick np0 xy).length = xy.length := by simp [pick]

theorem tabAux_eq_pad : ∀ (shape idx lower : List Nat), ValidShape shape → SInc idx → idx.length = shape.sum →
    lower.length = shape.headD 0 - 1 → Feas shape lower →
    tabAux shape idx lower = (tabCore shape idx lower).map fun t => t.map (padTo (shape.headD 0))
  | [], _, _, hv, _, _, _, _ => absurd rfl hv.1
  | [r], idx, lower, _, _, hlen, _, _ => by
    have : idx.length = r := by simpa using hlen
    simp [tabAux, tabCore, padTo_of_le (le_of_eq this.symm)]
  | r :: r2 :: rest, idx, lower, hv, hidx, hlen, hl, _ => by
    have hr : 0 < r := hv.2.1 r List.mem_cons_self
    obtain ⟨i0, np0, rfl⟩ : ∃ i0 np0, idx = i0 :: np0 := by
      cases idx with
      | nil => simp at hlen; omega
      | cons a b => exact ⟨a, b, rfl⟩
    have hl' : lower.length = r - 1 := by simpa using hl
    simp only [List.headD_cons]
    by_cases h1 : r = 1
    · subst h1
      rw [tabCore_col rfl]
      simp [tabAux, padTo, Function.comp_def]
    · have hk : 0 < r - 1 := by omega
      by_cases h2 : r2 = 1
      · subst h2
        by_cases hz : lower.all (· == 0) = true
        · rw [tabCore_hook0 h1 rfl hz, List.map_map]
          simp only [tabAux, h1, hz, if_false, if_true]
          apply List.map_congr_left
          intro xy hxy
          have hxl := (((combPos_spec (r - 1) 0 _).2 xy).1 hxy).1
          simp only [Function.comp_apply, List.map_cons, List.map_map]
          rw [padTo_of_le (by simp [pick_length, hxl]; omega)]
          rfl
        · have hz' : lower.all (· == 0) = false := by simpa using hz
          rw [tabCore_hook1 h1 rfl hz', List.map_map]
          simp only [tabAux, h1, hz', if_false, if_true, Bool.false_eq_true]
          apply List.map_congr_left
          intro xy hxy
          obtain ⟨hu, _⟩ := upper_hook hv (by omega)
          have hxl := (((boundedComb_zip hk hl' hu).2 xy).1 hxy).1
          simp only [Function.comp_apply, List.map_cons, List.map_map]
          rw [padTo_of_le (by simp [pick_length, hxl]; omega)]
          rfl
      · rw [tabCore_gen h1 h2, List.map_flatMap]
        simp only [tabAux, h1, h2, if_false]
        apply List.flatMap_congr
        intro xy hxy
        simp only [List.drop_one, List.tail_cons, List.headD_cons] at hxy ⊢
        obtain ⟨hu, hU⟩ := upper_general hv
        obtain ⟨⟨hxl, _⟩, hun, c2, c3, c4⟩ := child_ok hv h1 hidx hlen hl' hu hU hxy
        have c1 := sinc_restOf (sinc_cons.1 hidx).2 (pick np0 xy)
        rw [hun, tabAux_eq_pad (r2 :: rest) _ _ hv.tail c1 c2 c3 c4, List.map_map, List.map_map]
        apply List.map_congr_left
        intro t' ht'
        have htab := (((tabCore_spec (r2 :: rest) _ _ hv.tail c1 c2 c3 c4).2 t').1 ht').1
        simp only [Function.comp_apply, List.map_cons, List.headD_cons, List.map_map]
        rw [padTo_of_le (by simp [pick_length, hxl]; omega)]
        congr 1
        apply List.map_congr_left
        intro row hrow
        have hrl : row.length ≤ r2 := by
          have : row.length ∈ t'.map List.length := List.mem_map.2 ⟨row, hrow, rfl⟩
          rw [htab.rows] at this
          exact hv.tail.le_head _ this
        simp only [Function.comp_apply]
        exact padTo_padTo hrl (hv.le_head r2 (by simp))

/-! ### the top-level call and the Boolean checker -/

/-- standard Young tableau of the shape with entries `0..N-1` (rows without padding) -/
def IsSYT (shape : List Nat) (t : List (List Nat)) : Prop := IsTab shape (List.range shape.sum) t

theorem sinc_range (n : Nat) : SInc (List.range n) := List.pairwise_lt_range

theorem feas_zero {shape : List Nat} (hv : ValidShape shape) :
    Feas shape (List.replicate (shape.headD 0 - 1) 0) := by
  intro i _
  simp only [List.getElem_replicate]
  have h1 := colsFrom_add_length_le hv.2.1 i
  have h2 : 0 < shape.length := List.length_pos_iff.2 hv.1
  rw [upB]; omega

/-- the unpadded enumeration at the top level -/
def coreTableaux (shape : List Nat) : List (List (List Nat)) :=
  tabCore shape (List.range shape.sum) (List.replicate (shape.headD 0 - 1) 0)

theorem allTableaux_eq_pad {shape : List Nat} (hv : ValidShape shape) :
    allTableaux shape = (coreTableaux shape).map fun t => t.map (padTo (shape.headD 0)) :=
  tabAux_eq_pad shape _ _ hv (sinc_range _) (by simp) (by simp) (feas_zero hv)

theorem coreTableaux_spec {shape : List Nat} (hv : ValidShape shape) :
    (coreTableaux shape).Nodup ∧ ∀ t, t ∈ coreTableaux shape ↔ IsSYT shape t := by
  obtain ⟨h1, h2⟩ := tabCore_spec shape _ _ hv (sinc_range shape.sum) (by simp) (by simp) (feas_zero hv)
  refine ⟨h1, fun t => ?_⟩
  rw [coreTableaux, h2]
  constructor
  · exact fun h => h.1
  · intro h
    refine ⟨h, ?_⟩
    intro i hi _
    simp

theorem cells_pad : ∀ (t : List (List Nat)) (shape : List Nat) (w : Nat), t.map List.length = shape →
    cells shape (t.map (padTo w)) = t
  | [], shape, w, h => by simp at h; subst h; simp [cells]
  | row :: t, shape, w, h => by
    cases shape with
    | nil => simp at h
    | cons a s =>
      simp only [List.map_cons, List.cons.injEq] at h
      have ih := cells_pad t s w h.2
      simp only [cells] at ih ⊢
      simp only [List.map_cons, List.zip_cons_cons]
      rw [ih, ← h.1, take_padTo]

theorem strictIncr_of_sinc : ∀ {l : List Nat}, SInc l → strictIncr l = true
  | [], _ => rfl
  | [_], _ => rfl
  | a :: b :: l, h => by
    obtain ⟨h1, h2⟩ := sinc_cons.1 h
    simp only [strictIncr, Bool.and_eq_true, decide_eq_true_eq]
    exact ⟨h1 b List.mem_cons_self, strictIncr_of_sinc h2⟩

theorem zipWith_all_of_colLt : ∀ (a b : List Nat), colLt a b →
    (List.zipWith (fun x y => decide (x < y)) a b).all id = true
  | [], _, _ => by simp
  | _ :: _, [], _ => by simp
  | x :: a, y :: b, h => by
    simp only [List.zipWith_cons_cons, List.all_cons, id_eq, Bool.and_eq_true, decide_eq_true_eq]
    refine ⟨by simpa using h 0 (by simp) (by simp), zipWith_all_of_colLt a b ?_⟩
    intro j h1 h2
    simpa using h (j + 1) (by simpa using h1) (by simpa using h2)

theorem colsIncr_of_colChain : ∀ (t : List (List Nat)), ColChain t → colsIncr t = true
  | [], _ => rfl
  | [_], _ => rfl
  | a :: b :: t, h => by
    simp only [colsIncr, Bool.and_eq_true]
    exact ⟨zipWith_all_of_colLt a b h.1, colsIncr_of_colChain (b :: t) h.2⟩

theorem distinctBelow_of_nodup (N : Nat) : ∀ (l : List Nat) (seen : Nat), l.Nodup →
    (∀ v ∈ l, v < N ∧ seen.testBit v = false) → distinctBelow N l seen = true
  | [], _, _, _ => rfl
  | v :: l, seen, hnd, h => by
    obtain ⟨hv1, hv2⟩ := h v List.mem_cons_self
    simp only [distinctBelow, Bool.and_eq_true, decide_eq_true_eq, Bool.not_eq_true']
    refine ⟨⟨hv1, hv2⟩, distinctBelow_of_nodup N l _ (List.nodup_cons.1 hnd).2 ?_⟩
    intro u hu
    obtain ⟨hu1, hu2⟩ := h u (List.mem_cons_of_mem _ hu)
    refine ⟨hu1, ?_⟩
    have hne : v ≠ u := fun e => (List.nodup_cons.1 hnd).1 (e ▸ hu)
    rw [Nat.testBit_or, hu2, Nat.one_shiftLeft, Nat.testBit_two_pow]
    simp [hne]

/-- **soundness in the form of the Boolean checker**: the padded image of a standard tableau passes `isStandard` -/
theorem isStandard_of_isSYT {shape : List Nat} {t : List (List Nat)} (ht : IsSYT shape t) :
    isStandard shape (t.map (padTo (shape.headD 0))) = true := by
  have hc := cells_pad t shape (shape.headD 0) ht.rows
  simp only [isStandard, hc, Bool.and_eq_true, beq_iff_eq, List.length_map, List.all_eq_true]
  refine ⟨⟨⟨⟨ht.length_eq, ht.rows⟩, ?_⟩, fun row hrow => strictIncr_of_sinc (ht.rowInc row hrow)⟩, colsIncr_of_colChain t ht.colInc⟩
  apply distinctBelow_of_nodup
  · exact ht.perm.nodup_iff.2 List.nodup_range
  · intro v hv
    exact ⟨by simpa using ht.perm.mem_iff.1 hv, by simp⟩

end Numqi.Young
