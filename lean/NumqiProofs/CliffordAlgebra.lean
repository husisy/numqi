/-
C07: the phase bookkeeping of the tableau action.
`applyOnPauli` is a homomorphism of the phased Pauli group when the columns of `S` are a symplectic basis
(`apply_mulB`), and `clifford_multiply` is sequential application (`multiply_apply_all`), for every number of qubits.

Everything is arithmetic mod 2 / mod 4 on sums over bit masks.  `om n u w = z(u)·x(w)`.
-/
import Mathlib.Tactic
import NumqiProofs.SpF2Index
import NumqiProofs.PauliPhase
import NumqiModel.Clifford

namespace Numqi.Clifford
open Numqi.SpF2 (ofFn testBit_ofFn)

/-! ### counting sums -/

theorem cnt_comm (m a b : Nat) : cnt m a b = cnt m b a := by
  induction m with
  | zero => rfl
  | succ m ih => simp only [cnt, ih, Bool.and_comm]

theorem cnt_zero_left (m b : Nat) : cnt m 0 b = 0 := by
  induction m with
  | zero => rfl
  | succ m ih => simp [cnt, ih]

theorem cnt_xor_left_mod2 (m a b c : Nat) : cnt m (a ^^^ b) c % 2 = (cnt m a c + cnt m b c) % 2 := by
  induction m with
  | zero => rfl
  | succ m ih =>
    simp only [cnt, Nat.testBit_xor]
    cases a.testBit m <;> cases b.testBit m <;> cases c.testBit m <;> simp <;> omega

theorem cnt_xor_right_mod2 (m a b c : Nat) : cnt m a (b ^^^ c) % 2 = (cnt m a b + cnt m a c) % 2 := by
  rw [cnt_comm, cnt_xor_left_mod2, cnt_comm m b, cnt_comm m c]

/-- `z(u)·x(w)` as an integer -/
def om (n u w : Nat) : Nat := cnt n (u >>> n) w

theorem om_xor_left_mod2 (n a b c : Nat) : om n (a ^^^ b) c % 2 = (om n a c + om n b c) % 2 := by
  unfold om; rw [Nat.shiftRight_xor_distrib, cnt_xor_left_mod2]

theorem om_xor_right_mod2 (n a b c : Nat) : om n a (b ^^^ c) % 2 = (om n a b + om n a c) % 2 := by
  unfold om; rw [cnt_xor_right_mod2]

theorem om_zero_left (n w : Nat) : om n 0 w = 0 := by simp [om, cnt_zero_left]
theorem om_zero_right (n u : Nat) : om n u 0 = 0 := by unfold om; rw [cnt_comm, cnt_zero_left]

/-! ### selected sums -/

theorem sumSel_zero (f : Nat → Nat) (k : Nat) : sumSel 0 f k = 0 := by
  induction k with
  | zero => rfl
  | succ k ih => simp [sumSel, ih]

theorem sumSel_fzero (v k : Nat) : sumSel v (fun _ => 0) k = 0 := by
  induction k with
  | zero => rfl
  | succ k ih => simp [sumSel, ih]

theorem sumSel_add (v : Nat) (f g : Nat → Nat) (k : Nat) :
    sumSel v (fun j => f j + g j) k = sumSel v f k + sumSel v g k := by
  induction k with
  | zero => rfl
  | succ k ih => simp only [sumSel, ih]; split <;> omega

theorem sumSel_congr {v : Nat} {f g : Nat → Nat} {k : Nat} (h : ∀ j, j < k → f j = g j) :
    sumSel v f k = sumSel v g k := by
  induction k with
  | zero => rfl
  | succ k ih => rw [sumSel, sumSel, ih (fun j hj => h j (by omega)), h k (by omega)]

theorem sumSel_congr_mod2 {v : Nat} {f g : Nat → Nat} {k : Nat} (h : ∀ j, j < k → f j % 2 = g j % 2) :
    sumSel v f k % 2 = sumSel v g k % 2 := by
  induction k with
  | zero => rfl
  | succ k ih =>
    have h1 := ih (fun j hj => h j (by omega))
    have h2 := h k (by omega)
    simp only [sumSel]; split <;> omega

theorem sumSel_xor_mod2 (v w : Nat) (f : Nat → Nat) (k : Nat) :
    sumSel (v ^^^ w) f k % 2 = (sumSel v f k + sumSel w f k) % 2 := by
  induction k with
  | zero => rfl
  | succ k ih =>
    simp only [sumSel, Nat.testBit_xor]
    cases v.testBit k <;> cases w.testBit k <;> simp <;> omega

/-- pulling a condition that does not depend on the summation index out of the sum -/
theorem sumSel_if (v : Nat) (c : Bool) (f : Nat → Nat) (k : Nat) :
    sumSel v (fun j => if c then f j else 0) k = if c then sumSel v f k else 0 := by
  cases c <;> simp [sumSel_fzero]

theorem cnt_eq_sumSel (m a b : Nat) : cnt m a b = sumSel a (fun j => (b.testBit j).toNat) m := by
  induction m with
  | zero => rfl
  | succ m ih => simp only [cnt, sumSel, ih]; cases a.testBit m <;> simp

/-! ### `cli_mat @ v` -/

theorem matVec_zero (cols : List Nat) (k : Nat) : matVec cols 0 k = 0 := by
  induction k with
  | zero => rfl
  | succ k ih => simp [matVec, ih]

theorem xor_sel (A B C : Nat) (p q : Bool) :
    (A ^^^ B) ^^^ (if (p ^^ q) = true then C else 0) = (A ^^^ if p = true then C else 0) ^^^ (B ^^^ if q = true then C else 0) := by
  apply Nat.eq_of_testBit_eq; intro j
  cases p <;> cases q <;> simp only [Bool.xor_false, Bool.xor_true, Bool.not_true, Bool.not_false, Bool.false_eq_true,
    if_true, if_false, Nat.testBit_xor, Nat.zero_testBit] <;>
    cases A.testBit j <;> cases B.testBit j <;> cases C.testBit j <;> rfl

theorem matVec_xor (cols : List Nat) (v w k : Nat) :
    matVec cols (v ^^^ w) k = matVec cols v k ^^^ matVec cols w k := by
  induction k with
  | zero => simp [matVec]
  | succ k ih =>
    simp only [matVec, ih, Nat.testBit_xor]
    exact xor_sel _ _ _ _ _

theorem om_matVec_left_mod2 (n : Nat) (cols : List Nat) (v u k : Nat) :
    om n (matVec cols v k) u % 2 = sumSel v (fun a => om n (cols.getD a 0) u) k % 2 := by
  induction k with
  | zero => simp [matVec, sumSel, om_zero_left]
  | succ k ih =>
    simp only [matVec, sumSel]
    rw [om_xor_left_mod2]
    split
    · omega
    · simp only [om_zero_left]; omega

theorem om_matVec_right_mod2 (n : Nat) (cols : List Nat) (v u k : Nat) :
    om n u (matVec cols v k) % 2 = sumSel v (fun a => om n u (cols.getD a 0)) k % 2 := by
  induction k with
  | zero => simp [matVec, sumSel, om_zero_right]
  | succ k ih =>
    simp only [matVec, sumSel]
    rw [om_xor_right_mod2]
    split
    · omega
    · simp only [om_zero_right]; omega

/-! ### the quadratic phase function and its polarisation -/

/-- `Σ_{j<k} w_j d_j + 2 Σ_{b<k} w_b Σ_{a<b} w_a z_{ab}` -/
def Gk (d : Nat → Nat) (z : Nat → Nat → Nat) (w k : Nat) : Nat :=
  sumSel w d k + 2 * sumSel w (fun b => sumSel w (fun a => z a b) b) k

/-- `Σ_{a<k} w_a w'_a d_a + Σ_{a<b<k} (w_a w'_b + w'_a w_b) z_{ab}` -/
def Ek (d : Nat → Nat) (z : Nat → Nat → Nat) (w w' k : Nat) : Nat :=
  sumSel (w &&& w') d k + sumSel w' (fun b => sumSel w (fun a => z a b) b) k +
    sumSel w (fun b => sumSel w' (fun a => z a b) b) k

/-- polarisation identity mod 4 (no hypothesis on `d`, `z`) -/
theorem Gk_xor (d : Nat → Nat) (z : Nat → Nat → Nat) (w w' k : Nat) :
    Gk d z (w ^^^ w') k % 4 = (Gk d z w k + Gk d z w' k + 2 * Ek d z w w' k) % 4 := by
  induction k with
  | zero => rfl
  | succ k ih =>
    have hp := sumSel_xor_mod2 w w' (fun a => z a k) k
    simp only [Gk, Ek] at ih ⊢
    simp only [sumSel, Nat.testBit_xor, Nat.testBit_and]
    cases w.testBit k <;> cases w'.testBit k <;>
      simp only [Bool.xor_false, Bool.xor_true, Bool.not_true, Bool.not_false, Bool.and_true, Bool.and_false,
        Bool.false_eq_true, if_true, if_false] <;> omega

/-- the full double sum `Σ_{a<m} Σ_{b<m} w_a w'_b z_{ab}` split into diagonal, upper and lower triangle -/
theorem full_split (z : Nat → Nat → Nat) (w w' m : Nat) :
    sumSel w (fun a => sumSel w' (fun b => z a b) m) m =
      sumSel (w &&& w') (fun a => z a a) m + sumSel w' (fun b => sumSel w (fun a => z a b) b) m +
        sumSel w (fun a => sumSel w' (fun b => z a b) a) m := by
  induction m with
  | zero => rfl
  | succ m ih =>
    simp only [sumSel, Nat.testBit_and]
    rw [sumSel_add, sumSel_if, ih]
    cases w.testBit m <;> cases w'.testBit m <;> simp <;> omega

theorem sumSel_single (v j0 c k : Nat) :
    sumSel v (fun j => if j = j0 then c else 0) k = if j0 < k ∧ v.testBit j0 = true then c else 0 := by
  induction k with
  | zero => simp [sumSel]
  | succ k ih =>
    simp only [sumSel, ih]
    by_cases hk : k = j0
    · subst hk; cases v.testBit k <;> simp
    · have h1 : (j0 < k + 1) = (j0 < k) := by apply propext; omega
      have h2 : ¬ j0 = k := fun h => hk h.symm
      simp only [hk, h1, if_false]
      cases v.testBit k <;> simp

theorem sumSel_split (v : Nat) (f : Nat → Nat) (a b : Nat) :
    sumSel v f (a + b) = sumSel v f a + sumSel (v >>> a) (fun j => f (j + a)) b := by
  induction b with
  | zero => simp [sumSel]
  | succ b ih =>
    rw [← Nat.add_assoc, sumSel, ih, sumSel, Nat.testBit_shiftRight, Nat.add_comm b a]
    omega

/-- the symplectic form `Λ` summed against `w`, `w'`: `Σ_{i<2n} w_i Σ_{j<m_i} w'_j [i = j+n] = z(w)·x(w')`, for any inner
bounds `m_i` that reach the one contributing index `j = i - n` -/
theorem lam_sum (n w w' : Nat) (m : Nat → Nat) (hm : ∀ i, n ≤ i → i < 2 * n → i - n < m i) :
    sumSel w (fun i => sumSel w' (fun j => if i = j + n then 1 else 0) (m i)) (2 * n) = om n w w' := by
  have inner : ∀ i, i < 2 * n → sumSel w' (fun j => if i = j + n then 1 else 0) (m i) =
      if n ≤ i ∧ w'.testBit (i - n) = true then 1 else 0 := by
    intro i hi2
    by_cases hi : n ≤ i
    · have : (fun j => if i = j + n then 1 else 0) = (fun j => if j = i - n then 1 else 0) := by
        funext j
        by_cases h : j = i - n
        · simp [h]; omega
        · have : ¬ i = j + n := by omega
          simp [h, this]
      rw [this, sumSel_single]
      simp [hm i hi hi2, hi]
    · have : (fun j => if i = j + n then 1 else 0) = (fun _ => 0) := by
        funext j
        have : ¬ i = j + n := by omega
        simp [this]
      rw [this, sumSel_fzero]; simp [hi]
  rw [sumSel_congr inner, two_mul, sumSel_split]
  have h1 : sumSel w (fun i => if n ≤ i ∧ w'.testBit (i - n) = true then 1 else 0) n = 0 := by
    rw [sumSel_congr (g := fun _ => 0) (fun i hi => by simp; omega), sumSel_fzero]
  rw [h1, Nat.zero_add]
  unfold om
  rw [cnt_eq_sumSel]
  apply sumSel_congr
  intro j _
  simp
  cases w'.testBit j <;> rfl
/-- under the symplectic condition on `z` the polarisation term is `Σ_{a,b} w_a w'_b z_{ab} + z(w)·x(w')` mod 2 -/
theorem Ek_symplectic (n : Nat) (d : Nat → Nat) (z : Nat → Nat → Nat) (hd : ∀ a, d a = z a a)
    (hsp : ∀ a b, a < b → b < 2 * n → (z a b + z b a) % 2 = if b = a + n then 1 else 0) (w w' : Nat) :
    Ek d z w w' (2 * n) % 2 =
      (sumSel w (fun a => sumSel w' (fun b => z a b) (2 * n)) (2 * n) + om n w w') % 2 := by
  have hsplit := full_split z w w' (2 * n)
  have hlow : (sumSel w (fun a => sumSel w' (fun b => z a b) a) (2 * n) +
      sumSel w (fun b => sumSel w' (fun a => z a b) b) (2 * n)) % 2 = om n w w' % 2 := by
    rw [← sumSel_add, ← lam_sum n w w' (fun i => i) (fun i _ _ => by omega)]
    apply sumSel_congr_mod2
    intro i hi
    rw [← sumSel_add]
    apply sumSel_congr_mod2
    intro j hj
    have := hsp j i hj hi
    show (z i j + z j i) % 2 = _
    rw [Nat.add_comm, this]; split <;> rfl
  have hdd : sumSel (w &&& w') d (2 * n) = sumSel (w &&& w') (fun a => z a a) (2 * n) :=
    sumSel_congr (fun a _ => hd a)
  unfold Ek
  rw [hdd]
  omega

/-! ### the tableau action in terms of `(v, phase exponent)` -/

/-- exponent `k` of the phase `i^k` -/
def ph (p : PauliB) : Nat := 2 * p.s0.toNat + p.s1.toNat

/-- phase increment of the tableau action on the vector `v` -/
def Fph (t : Tab) (v : Nat) : Nat := t.dsum v + 2 * cnt (2 * t.n) v t.r + 2 * t.tri v

theorem PauliB.ext_ph {p q : PauliB} (hv : p.v = q.v) (h : ph p % 4 = ph q % 4) : p = q := by
  cases p with | mk a0 a1 av => cases q with | mk b0 b1 bv =>
  simp only at hv; subst hv
  simp only [ph] at h
  revert h
  cases a0 <;> cases a1 <;> cases b0 <;> cases b1 <;> simp

theorem apply_v (p : PauliB) (t : Tab) : (applyOnPauli p t).v = matVec t.cols p.v (2 * t.n) := rfl

theorem apply_ph (p : PauliB) (t : Tab) : ph (applyOnPauli p t) % 4 = (ph p + Fph t p.v) % 4 := by
  simp only [ph, Fph, applyOnPauli, toNat_mod2_beq]
  have := Bool.toNat_lt p.s0
  have := Bool.toNat_lt p.s1
  omega

theorem mulB_v (n : Nat) (a b : PauliB) : (mulB n a b).v = a.v ^^^ b.v := rfl

theorem mulB_ph (n : Nat) (a b : PauliB) : ph (mulB n a b) % 4 = (ph a + ph b + 2 * om n a.v b.v) % 4 := by
  simp only [ph, mulB, om, toNat_mod2_beq, toNat_xor]
  have := Bool.toNat_lt a.s0
  have := Bool.toNat_lt a.s1
  have := Bool.toNat_lt b.s0
  have := Bool.toNat_lt b.s1
  omega

theorem Fph_eq (t : Tab) (v : Nat) : Fph t v = Gk t.d t.zx v (2 * t.n) + 2 * cnt (2 * t.n) v t.r := by
  simp only [Fph, Gk, Tab.dsum, Tab.tri]; omega

theorem Fph_zero (t : Tab) : Fph t 0 = 0 := by
  simp [Fph, Tab.dsum, Tab.tri, sumSel_zero, cnt_zero_left]

theorem colSp_iff (t : Tab) : t.colSp = true ↔
    ∀ a b, a < b → b < 2 * t.n → (t.zx a b + t.zx b a) % 2 = if b = a + t.n then 1 else 0 := by
  unfold Tab.colSp
  simp only [List.all_eq_true, List.mem_range, beq_iff_eq]
  constructor
  · intro h a b hab hb; exact h b hb a hab
  · intro h b hb a hab; exact h a b hab hb

theorem d_eq_zx (t : Tab) (a : Nat) : t.d a = t.zx a a := by
  simp only [Tab.d, Tab.zx]; rw [cnt_comm]

/-- **the cocycle identity**: `F(v ⊕ w) + 2 z(v)·x(w) = F(v) + F(w) + 2 z(Sv)·x(Sw)  (mod 4)` for a symplectic `S` -/
theorem Fph_cocycle (t : Tab) (h : t.colSp = true) (v w : Nat) :
    (Fph t (v ^^^ w) + 2 * om t.n v w) % 4 =
      (Fph t v + Fph t w + 2 * om t.n (matVec t.cols v (2 * t.n)) (matVec t.cols w (2 * t.n))) % 4 := by
  have h1 := Gk_xor t.d t.zx v w (2 * t.n)
  have h2 := Ek_symplectic t.n t.d t.zx (d_eq_zx t) ((colSp_iff t).1 h) v w
  have h3 : om t.n (matVec t.cols v (2 * t.n)) (matVec t.cols w (2 * t.n)) % 2 =
      sumSel v (fun a => sumSel w (fun b => t.zx a b) (2 * t.n)) (2 * t.n) % 2 := by
    rw [om_matVec_left_mod2]
    apply sumSel_congr_mod2
    intro a _
    exact om_matVec_right_mod2 t.n t.cols w (t.cols.getD a 0) (2 * t.n)
  have h4 := cnt_xor_left_mod2 (2 * t.n) v w t.r
  rw [Fph_eq, Fph_eq, Fph_eq]
  omega

/-- **`applyOnPauli` is a homomorphism of the phased Pauli group** (phase-exact) when the columns of `S` are symplectic -/
theorem apply_mulB (t : Tab) (h : t.colSp = true) (a b : PauliB) :
    applyOnPauli (mulB t.n a b) t = mulB t.n (applyOnPauli a t) (applyOnPauli b t) := by
  apply PauliB.ext_ph
  · rw [apply_v, mulB_v, mulB_v, apply_v, apply_v, matVec_xor]
  · have h1 := apply_ph (mulB t.n a b) t
    have h2 := mulB_ph t.n a b
    have h3 := mulB_ph t.n (applyOnPauli a t) (applyOnPauli b t)
    have h4 := apply_ph a t
    have h5 := apply_ph b t
    have h6 := Fph_cocycle t h a.v b.v
    rw [mulB_v] at h1
    rw [apply_v, apply_v] at h3
    omega

/-! ### `clifford_multiply` -/

/-- what `clifford_multiply` returns, field by field -/
theorem multiply_spec {x y z : Tab} (h : multiply x y = some z) :
    z.n = x.n ∧
    (∀ j, j < 2 * x.n → z.cols.getD j 0 = matVec y.cols (x.cols.getD j 0) (2 * x.n)) ∧
    (∀ j, j < 2 * x.n → (x.d j + y.dsum (x.cols.getD j 0) + z.d j) % 2 = 0) ∧
    (∀ j, j < 2 * x.n → z.r.testBit j =
      (((x.r.testBit j).toNat + cnt (2 * x.n) y.r (x.cols.getD j 0) + y.tri (x.cols.getD j 0) +
        ((x.d j + y.dsum (x.cols.getD j 0) + 3 * z.d j) % 4) / 2) % 2 == 1)) := by
  unfold multiply at h
  simp only at h
  split at h
  · rename_i hall
    simp only [Option.some.injEq] at h
    subst h
    refine ⟨rfl, ?_, ?_, ?_⟩
    · intro j hj; simp only; rw [SpF2.getD_map_range _ _ _ hj]
    · intro j hj
      rw [List.all_eq_true] at hall
      have := hall j (List.mem_range.2 hj)
      simpa [Tab.d] using this
    · intro j hj
      simp only [testBit_ofFn, hj, decide_true, Bool.true_and]
      rfl
  · exact absurd h (by simp)

/-- `S_y (S_x v)` from the columns of the product -/
theorem matVec_comp (colsX colsY colsZ : List Nat) (m : Nat) (v k : Nat) (hk : k ≤ m)
    (hz : ∀ j, j < m → colsZ.getD j 0 = matVec colsY (colsX.getD j 0) m) :
    matVec colsZ v k = matVec colsY (matVec colsX v k) m := by
  induction k with
  | zero => simp [matVec, matVec_zero]
  | succ k ih =>
    simp only [matVec]
    rw [matVec_xor, ← ih (by omega)]
    split
    · rw [hz k (by omega)]
    · rw [matVec_zero]

/-- the phase of column `j` of the product: `d^z_j + 2 r^z_j = d^x_j + 2 r^x_j + F_y(c^x_j)  (mod 4)` -/
theorem multiply_col_phase {x y z : Tab} (h : multiply x y = some z) (hn : x.n = y.n) (j : Nat) (hj : j < 2 * x.n) :
    (z.d j + 2 * (z.r.testBit j).toNat) % 4 =
      (x.d j + 2 * (x.r.testBit j).toNat + Fph y (x.cols.getD j 0)) % 4 := by
  obtain ⟨_, _, hev, hr⟩ := multiply_spec h
  have h1 := hev j hj
  rw [hr j hj, toNat_mod2_beq]
  simp only [Fph, ← hn]
  rw [cnt_comm (2 * x.n) (x.cols.getD j 0) y.r]
  have := Bool.toNat_lt (x.r.testBit j)
  omega

/-- the partial-sum invariant behind `multiply_apply_all` -/
theorem multiply_partial {x y z : Tab} (h : multiply x y = some z) (hn : x.n = y.n) (hy : y.colSp = true)
    (v k : Nat) (hk : k ≤ 2 * x.n) :
    (sumSel v z.d k + 2 * sumSel v (fun j => (z.r.testBit j).toNat) k +
        2 * sumSel v (fun b => sumSel v (fun a => z.zx a b) b) k) % 4 =
      (sumSel v x.d k + 2 * sumSel v (fun j => (x.r.testBit j).toNat) k +
        2 * sumSel v (fun b => sumSel v (fun a => x.zx a b) b) k + Fph y (matVec x.cols v k)) % 4 := by
  obtain ⟨hzn, hzc, _, _⟩ := multiply_spec h
  induction k with
  | zero => simp [sumSel, matVec, Fph_zero]
  | succ k ih =>
    have ih' := ih (by omega)
    have hk' : k < 2 * x.n := by omega
    simp only [sumSel, matVec]
    by_cases hv : v.testBit k = true
    · simp only [hv, if_true]
      have hcol := multiply_col_phase h hn k hk'
      have hco := Fph_cocycle y hy (matVec x.cols v k) (x.cols.getD k 0)
      -- B ≡ om(u, c)
      have hB : sumSel v (fun a => x.zx a k) k % 2 = om y.n (matVec x.cols v k) (x.cols.getD k 0) % 2 := by
        rw [om_matVec_left_mod2]; simp only [Tab.zx, om, hn]
      -- B' ≡ om(Y u, Y c)
      have hB' : sumSel v (fun a => z.zx a k) k % 2 =
          om y.n (matVec y.cols (matVec x.cols v k) (2 * y.n)) (matVec y.cols (x.cols.getD k 0) (2 * y.n)) % 2 := by
        rw [← hn, ← matVec_comp x.cols y.cols z.cols (2 * x.n) v k (by omega) hzc, om_matVec_left_mod2, ← hzc k hk']
        simp only [Tab.zx, om, hzn]
      omega
    · have hv' : v.testBit k = false := by simpa using hv
      simp only [hv', Bool.false_eq_true, if_false, Nat.add_zero, Nat.xor_zero]
      exact ih'

/-- **composition rule = sequential application**, for every number of qubits: whenever `clifford_multiply(x, y)`
returns `z` (sizes equal, `S_y` symplectic), `apply(P, z) = apply(apply(P, x), y)` for every phased Pauli `P`. -/
theorem multiply_apply_all {x y z : Tab} (h : multiply x y = some z) (hn : x.n = y.n) (hy : y.colSp = true)
    (p : PauliB) : applyOnPauli p z = applyOnPauli (applyOnPauli p x) y := by
  obtain ⟨hzn, hzc, _, _⟩ := multiply_spec h
  apply PauliB.ext_ph
  · rw [apply_v, apply_v, apply_v, hzn, ← hn]
    exact matVec_comp x.cols y.cols z.cols (2 * x.n) p.v (2 * x.n) le_rfl hzc
  · have h1 := apply_ph p z
    have h2 := apply_ph (applyOnPauli p x) y
    have h3 := apply_ph p x
    have h4 := multiply_partial h hn hy p.v (2 * x.n) le_rfl
    rw [apply_v] at h2
    have e1 : Fph z p.v = sumSel p.v z.d (2 * x.n) + 2 * sumSel p.v (fun j => (z.r.testBit j).toNat) (2 * x.n) +
        2 * sumSel p.v (fun b => sumSel p.v (fun a => z.zx a b) b) (2 * x.n) := by
      simp only [Fph, Tab.dsum, Tab.tri, hzn, cnt_eq_sumSel]
    have e2 : Fph x p.v = sumSel p.v x.d (2 * x.n) + 2 * sumSel p.v (fun j => (x.r.testBit j).toNat) (2 * x.n) +
        2 * sumSel p.v (fun b => sumSel p.v (fun a => x.zx a b) b) (2 * x.n) := by
      simp only [Fph, Tab.dsum, Tab.tri, cnt_eq_sumSel]
    omega

/-! ### the circuit tableau is the sequential action of its gates -/

/-- action of one recorded gate through its embedded adjoint tableau -/
def gateAct (n : Nat) (q : PauliB) (g : Gate) : PauliB :=
  match basicDaggerF2 g.key with
  | some loc => applyOnPauli q (embed n loc g.idx)
  | none => q

theorem foldl_symStep_error (n : Nat) (l : List Gate) (e : Err) : l.foldl (symStep n) (.error e) = .error e := by
  induction l with
  | nil => rfl
  | cons g l ih => simpa [List.foldl_cons, symStep] using ih

/-- a successful pass of the loop body: the gate has a tableau and `clifford_multiply` returned -/
theorem symStep_ok {n : Nat} {acc z : Tab} {g : Gate} (h : symStep n (.ok acc) g = .ok z) :
    ∃ loc, basicDaggerF2 g.key = some loc ∧ multiply acc (embed n loc g.idx) = some z := by
  simp only [symStep] at h
  cases hd : basicDaggerF2 g.key with
  | none => simp [hd] at h
  | some loc =>
    cases hm : multiply acc (embed n loc g.idx) with
    | none => simp [hd, hm] at h
    | some z' => simp only [hd, hm, Except.ok.injEq] at h; exact ⟨loc, rfl, h ▸ hm⟩

/-- what a successful run of the loop returns: a tableau of the same size, acting as the gates one after the other
if the embedded gate tableaux are symplectic -/
theorem foldl_symStep_seq (n : Nat) (l : List Gate) :
    ∀ (acc t : Tab), acc.n = n → l.foldl (symStep n) (.ok acc) = .ok t →
      t.n = n ∧ ((∀ g ∈ l, ∀ loc, basicDaggerF2 g.key = some loc → (embed n loc g.idx).colSp = true) →
        ∀ p, applyOnPauli p t = l.foldl (gateAct n) (applyOnPauli p acc)) := by
  induction l with
  | nil =>
    intro acc t hacc h
    simp only [List.foldl_nil] at h
    cases h
    exact ⟨hacc, fun _ p => rfl⟩
  | cons g l ih =>
    intro acc t hacc h
    rw [List.foldl_cons] at h
    cases hs : symStep n (.ok acc) g with
    | error e => rw [hs, foldl_symStep_error] at h; cases h
    | ok z =>
      obtain ⟨loc, hd, hm⟩ := symStep_ok hs
      rw [hs] at h
      obtain ⟨h1, h2⟩ := ih z t (by rw [(multiply_spec hm).1, hacc]) h
      refine ⟨h1, fun hsp p => ?_⟩
      rw [h2 (fun g' hg' => hsp g' (by simp [hg'])) p, List.foldl_cons,
        multiply_apply_all hm (by rw [hacc]; rfl) (hsp g (by simp) loc hd) p]
      simp only [gateAct, hd]

/-! ### the identity tableau -/

theorem idTab_getD {n j : Nat} (hj : j < 2 * n) : (Tab.id n).cols.getD j 0 = 2 ^ j := by
  simp only [Tab.id]; rw [SpF2.getD_map_range _ _ _ hj]

theorem cnt_pow_left (m j b : Nat) : cnt m (2 ^ j) b = if j < m ∧ b.testBit j = true then 1 else 0 := by
  induction m with
  | zero => simp [cnt]
  | succ m ih =>
    simp only [cnt, ih, Nat.testBit_two_pow]
    by_cases hjm : j = m
    · subst hjm; cases b.testBit j <;> simp
    · have h1 : (j < m + 1) = (j < m) := by apply propext; omega
      simp [hjm, h1]

theorem cnt_pow_self (n j : Nat) : cnt n (2 ^ j) (2 ^ j >>> n) = 0 := by
  rw [cnt_pow_left]
  by_cases h : j < n
  · have : (2 ^ j >>> n).testBit j = false := by
      rw [Nat.testBit_shiftRight, Nat.testBit_two_pow]; simp; omega
    simp [this]
  · simp [h]

theorem matVec_id (n v k : Nat) (hk : k ≤ 2 * n) : matVec (Tab.id n).cols v k = v % 2 ^ k := by
  induction k with
  | zero => simp [matVec, Nat.mod_one]
  | succ k ih =>
    rw [matVec, ih (by omega), idTab_getD (by omega)]
    apply Nat.eq_of_testBit_eq; intro j
    simp only [Nat.testBit_xor, Nat.testBit_mod_two_pow]
    by_cases hjk : j = k
    · subst hjk; cases v.testBit j <;> simp
    · have h1 : (j < k + 1) = (j < k) := by apply propext; omega
      have h2 : ¬ k = j := fun h => hjk h.symm
      cases hv : v.testBit k <;> simp [h1, h2]

/-! ### `mulB` is the product of C08 -/

theorem cnt_eq_sum (m a b : Nat) : cnt m a b = ∑ i : Fin m, (a.testBit i.val && b.testBit i.val).toNat := by
  induction m with
  | zero => simp [cnt]
  | succ m ih => rw [cnt, ih, Fin.sum_univ_castSucc]; simp

/-- the bit-mask product is `PauliOperator.__matmul__` as modelled in C08 (for which `mat (p*q) = mat p * mat q`) -/
theorem toPauli_mulB (n : Nat) (a b : PauliB) : toPauli n (mulB n a b) = (toPauli n a).mul (toPauli n b) := by
  have hdot : cnt n (a.v >>> n) b.v = Bits.dotN (toPauli n a).z (toPauli n b).x := by
    rw [cnt_eq_sum, Bits.dotN_eq_sum]
    apply Finset.sum_congr rfl
    intro i _
    simp only [toPauli, Nat.testBit_shiftRight]
  simp only [toPauli, mulB, Pauli.mul] at hdot ⊢
  congr 1
  · rw [hdot]
  · funext i; simp [Bits.xor, Nat.testBit_xor]
  · funext i; simp [Bits.xor, Nat.testBit_xor]

end Numqi.Clifford
