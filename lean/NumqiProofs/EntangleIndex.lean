/-
Helper lemmas for the index layer of `NumqiModel/Entangle.lean`: row-major flat indices, `transpose`,
bridging of the list sums to `Finset.sum`.
-/
import NumqiModel.Entangle
import Mathlib.Tactic
import Mathlib.Algebra.BigOperators.Fin

namespace Numqi.Ent

/-- `idx` is a valid multi-index of an array of shape `shape` -/
abbrev InShape (idx shape : List Nat) : Prop := List.Forall₂ (· < ·) idx shape

theorem prodL_append (s t : List Nat) : prodL (s ++ t) = prodL s * prodL t := by
  induction s with
  | nil => simp [prodL]
  | cons a s ih => simp [prodL, ih, Nat.mul_assoc]

theorem prodL_eq_prod (s : List Nat) : prodL s = s.prod := by
  induction s with
  | nil => rfl
  | cons a s ih => simp [prodL, ih]

theorem InShape.length_eq {idx shape : List Nat} (h : InShape idx shape) : idx.length = shape.length :=
  List.Forall₂.length_eq h

theorem flat_lt {idx shape : List Nat} (h : InShape idx shape) : flat shape idx < prodL shape := by
  induction h with
  | nil => simp [flat, prodL]
  | @cons i s is ss his _ ih =>
    simp only [flat, prodL]
    calc i * prodL ss + flat ss is < i * prodL ss + prodL ss := by omega
      _ = (i + 1) * prodL ss := by ring
      _ ≤ s * prodL ss := Nat.mul_le_mul_right _ his

theorem unflat_flat {idx shape : List Nat} (h : InShape idx shape) : unflat shape (flat shape idx) = idx := by
  induction h with
  | nil => simp [unflat]
  | @cons i s is ss _ hrest ih =>
    have hlt := flat_lt hrest
    have hpos : 0 < prodL ss := by omega
    simp only [flat, unflat]
    have h1 : (i * prodL ss + flat ss is) / prodL ss = i := by
      rw [Nat.add_comm, Nat.add_mul_div_right _ _ hpos, Nat.div_eq_of_lt hlt, Nat.zero_add]
    have h2 : (i * prodL ss + flat ss is) % prodL ss = flat ss is := by
      rw [Nat.add_comm, Nat.add_mul_mod_self_right, Nat.mod_eq_of_lt hlt]
    rw [h1, h2, ih]

theorem unflat_inShape (shape : List Nat) (k : Nat) (h : k < prodL shape) : InShape (unflat shape k) shape := by
  induction shape generalizing k with
  | nil => simp [unflat]
  | cons s ss ih =>
    simp only [prodL] at h
    have hpos : 0 < prodL ss := by
      rcases Nat.eq_zero_or_pos (prodL ss) with h0 | h0
      · rw [h0] at h; simp at h
      · exact h0
    simp only [unflat]
    refine List.Forall₂.cons ?_ (ih _ (Nat.mod_lt _ hpos))
    exact Nat.div_lt_of_lt_mul (by rwa [Nat.mul_comm] at h)

theorem flat_unflat (shape : List Nat) (k : Nat) (h : k < prodL shape) : flat shape (unflat shape k) = k := by
  induction shape generalizing k with
  | nil => simp [prodL] at h; simp [flat, h]
  | cons s ss ih =>
    simp only [prodL] at h
    have hpos : 0 < prodL ss := by
      rcases Nat.eq_zero_or_pos (prodL ss) with h0 | h0
      · rw [h0] at h; simp at h
      · exact h0
    simp only [unflat, flat]
    rw [ih _ (Nat.mod_lt _ hpos)]
    exact Nat.div_add_mod' k (prodL ss)

theorem flat_append {i1 s1 : List Nat} (h : InShape i1 s1) (i2 s2 : List Nat) :
    flat (s1 ++ s2) (i1 ++ i2) = flat s1 i1 * prodL s2 + flat s2 i2 := by
  induction h with
  | nil => simp [flat]
  | @cons i s is ss _ _ ih =>
    simp only [List.cons_append, flat, ih, prodL_append]
    ring

theorem InShape.append {i1 s1 i2 s2 : List Nat} (h1 : InShape i1 s1) (h2 : InShape i2 s2) :
    InShape (i1 ++ i2) (s1 ++ s2) := by
  induction h1 with
  | nil => simpa using h2
  | cons h _ ih => exact List.Forall₂.cons h ih

/-- **`transpose` reads the permuted multi-index.** For an output multi-index `o` that is valid for the
transposed shape, the entry of `x.reshape(shape).transpose(perm)` at `o` is the entry of `x` at the input
multi-index `transposeIn perm o` (whose component `perm[m]` is `o[m]`, see `transposeIn_getD`). -/
theorem npTranspose_flat {α : Type} (shape perm : List Nat) (x : Nat → α) (o : List Nat)
    (ho : InShape o (permShape shape perm)) :
    npTranspose shape perm x (flat (permShape shape perm) o) = x (flat shape (transposeIn perm o)) := by
  simp only [npTranspose, unflat_flat ho]

theorem transposeIn_getD (perm o : List Nat) (hnd : perm.Nodup) (m : Nat) (hm : m < perm.length)
    (hp : perm[m] < perm.length) : (transposeIn perm o).getD (perm[m]) 0 = o.getD m 0 := by
  unfold transposeIn
  rw [List.getD_eq_getElem?_getD, List.getElem?_map, List.getElem?_range hp]
  simp only [Option.map_some, Option.getD_some]
  rw [List.Nodup.idxOf_getElem hnd]

/-! ### list sums and `Finset.sum` -/

theorem sumRange_zero {M : Type} [AddCommMonoid M] (f : Nat → M) : sumRange 0 f = 0 := rfl

theorem sumRange_succ {M : Type} [AddCommMonoid M] (n : Nat) (f : Nat → M) :
    sumRange (n + 1) f = sumRange n f + f n := by
  simp [sumRange, List.range_succ, List.sum_append]

theorem sumRange_eq_sum {M : Type} [AddCommMonoid M] (n : Nat) (f : Nat → M) :
    sumRange n f = ∑ i ∈ Finset.range n, f i := by
  induction n with
  | zero => simp [sumRange]
  | succ n ih => rw [sumRange_succ, Finset.sum_range_succ, ih]

theorem sumRange_eq_sum_fin {M : Type} [AddCommMonoid M] (n : Nat) (f : Nat → M) :
    sumRange n f = ∑ i : Fin n, f i := by
  rw [sumRange_eq_sum, Finset.sum_range]

/-! ### matrices as flat arrays, three-block view of a multi-index -/

theorem toFlat_flat_append {α : Type} (s : List Nat) (ρ : Nat → Nat → α) {j1 j2 : List Nat}
    (h1 : InShape j1 s) (h2 : InShape j2 s) :
    toFlat (prodL s) ρ (flat (s ++ s) (j1 ++ j2)) = ρ (flat s j1) (flat s j2) := by
  have hlt := flat_lt h2
  have hpos : 0 < prodL s := by omega
  rw [flat_append h1, toFlat]
  congr 1
  · rw [Nat.add_comm, Nat.add_mul_div_right _ _ hpos, Nat.div_eq_of_lt hlt, Nat.zero_add]
  · rw [Nat.add_comm, Nat.add_mul_mod_self_right, Nat.mod_eq_of_lt hlt]

theorem ofFlat_flat_append {α : Type} (x : Nat → α) {i1 s1 : List Nat} (h1 : InShape i1 s1) (i2 s2 : List Nat) :
    ofFlat (prodL s2) x (flat s1 i1) (flat s2 i2) = x (flat (s1 ++ s2) (i1 ++ i2)) := by
  rw [flat_append h1, ofFlat]

theorem inShape3 {a d b x0 x1 x2 : Nat} (h0 : x0 < a) (h1 : x1 < d) (h2 : x2 < b) : InShape [x0, x1, x2] [a, d, b] :=
  .cons h0 (.cons h1 (.cons h2 .nil))

theorem prodL3 (a d b : Nat) : prodL [a, d, b] = a * d * b := by simp [prodL, Nat.mul_assoc]

theorem inShape2 {a b x0 x1 : Nat} (h0 : x0 < a) (h1 : x1 < b) : InShape [x0, x1] [a, b] :=
  .cons h0 (.cons h1 .nil)
theorem prodL2 (a b : Nat) : prodL [a, b] = a * b := by simp [prodL]
theorem InShape.take {x s : List Nat} (h : InShape x s) (i : Nat) : InShape (x.take i) (s.take i) := by
  induction h generalizing i with
  | nil => simp
  | cons h0 _ ih => cases i with
    | zero => simp
    | succ i => simpa using List.Forall₂.cons h0 (ih i)

theorem InShape.drop {x s : List Nat} (h : InShape x s) (i : Nat) : InShape (x.drop i) (s.drop i) := by
  induction h generalizing i with
  | nil => simp
  | cons h0 hr ih => cases i with
    | zero => simpa using List.Forall₂.cons h0 hr
    | succ i => simpa using ih i

theorem InShape.getD_lt {x s : List Nat} (h : InShape x s) (i : Nat) (hi : i < s.length) : x.getD i 0 < s.getD i 1 := by
  induction h generalizing i with
  | nil => simp at hi
  | cons h0 _ ih => cases i with
    | zero => simpa using h0
    | succ i => simpa using ih i (by simpa using hi)

/-- a multi-index over `dim` seen through the three blocks `prod dim[:i]`, `dim[i]`, `prod dim[i+1:]` -/
theorem flat_blocks {x dim : List Nat} (h : InShape x dim) (i : Nat) (hi : i < dim.length) :
    flat dim x = flat [prodL (dim.take i), dim.getD i 1, prodL (dim.drop (i + 1))]
      [flat (dim.take i) (x.take i), x.getD i 0, flat (dim.drop (i + 1)) (x.drop (i + 1))] := by
  have hxl : i < x.length := by rw [h.length_eq]; exact hi
  have hd : dim = dim.take i ++ (dim.getD i 1 :: dim.drop (i + 1)) := by
    rw [← List.getElem_eq_getD (h := hi)]; simp
  have hx : x = x.take i ++ (x.getD i 0 :: x.drop (i + 1)) := by
    rw [← List.getElem_eq_getD (h := hxl)]; simp
  conv_lhs => rw [hd, hx]
  rw [flat_append (h.take i)]
  simp [flat, prodL]


theorem InShape.set {x s : List Nat} (h : InShape x s) (i v : Nat) (hv : v < s.getD i 1) : InShape (x.set i v) s := by
  induction h generalizing i with
  | nil => simp
  | cons h0 hr ih => cases i with
    | zero => exact List.Forall₂.cons (by simpa using hv) hr
    | succ i => exact List.Forall₂.cons h0 (ih i (by simpa using hv))

theorem take_set_self (l : List Nat) (i v : Nat) : (l.set i v).take i = l.take i := by
  induction l generalizing i with
  | nil => simp
  | cons a l ih => cases i <;> simp [ih]

theorem drop_succ_set_self (l : List Nat) (i v : Nat) : (l.set i v).drop (i + 1) = l.drop (i + 1) := by
  induction l generalizing i with
  | nil => simp
  | cons a l ih => cases i <;> simp [ih]

theorem exists_flat3 {a d b r : Nat} (h : r < a * d * b) :
    ∃ r0 r1 r2, r0 < a ∧ r1 < d ∧ r2 < b ∧ r = flat [a, d, b] [r0, r1, r2] := by
  rw [← prodL3] at h
  have hs := unflat_inShape _ _ h
  have hf := flat_unflat _ _ h
  generalize unflat [a, d, b] r = l at hs hf
  match l, hs with
  | [r0, r1, r2], .cons h0 (.cons h1 (.cons h2 .nil)) => exact ⟨r0, r1, r2, h0, h1, h2, hf.symm⟩


/-! ### transposes given by a permutation of the axes -/

theorem permShape_append (s p q : List Nat) : permShape s (p ++ q) = permShape s p ++ permShape s q := by
  simp [permShape]

theorem inShape_map_getD {j shape perm : List Nat} (hj : InShape j shape) (hp : ∀ p ∈ perm, p < shape.length) :
    InShape (perm.map (j.getD · 0)) (permShape shape perm) := by
  unfold permShape InShape
  rw [List.forall₂_map_left_iff, List.forall₂_map_right_iff, List.forall₂_same]
  intro p hpm
  exact hj.getD_lt p (hp p hpm)

theorem transposeIn_map {perm j : List Nat} {n : Nat} (hp : perm.Perm (List.range n)) (hj : j.length = n) :
    transposeIn perm (perm.map (j.getD · 0)) = j := by
  have hlen : perm.length = n := by simpa using hp.length_eq
  apply List.ext_getElem
  · simp [transposeIn, hlen, hj]
  · intro ax h1 h2
    have hax : ax < n := by rw [← hj]; exact h2
    have hmem : ax ∈ perm := hp.mem_iff.2 (List.mem_range.2 hax)
    have hidx : perm.idxOf ax < perm.length := List.idxOf_lt_length_of_mem hmem
    simp only [transposeIn, List.getElem_map, List.getElem_range]
    rw [List.getD_eq_getElem?_getD, List.getElem?_map, List.getElem?_eq_getElem hidx]
    simp [List.getElem_idxOf, List.getElem?_eq_getElem h2]


/-! ### `itertools.combinations`, complements -/

theorem mem_combos {l : List Nat} {k : Nat} {y : List Nat} : y ∈ combos l k ↔ y.Sublist l ∧ y.length = k := by
  induction l generalizing k y with
  | nil =>
    cases k with
    | zero => simp [combos]
    | succ k => simp [combos]; intro h; simp [h]
  | cons a l ih =>
    cases k with
    | zero =>
      simp [combos]
      rintro rfl; simp
    | succ k =>
      simp only [combos, List.mem_append, List.mem_map, ih]
      constructor
      · rintro (⟨z, ⟨hz, hl⟩, rfl⟩ | ⟨hz, hl⟩)
        · exact ⟨hz.cons_cons a, by simp [hl]⟩
        · exact ⟨hz.cons a, hl⟩
      · rintro ⟨hs, hl⟩
        cases hs with
        | cons _ h => exact Or.inr ⟨h, hl⟩
        | cons_cons _ h => exact Or.inl ⟨_, ⟨h, by simpa using hl⟩, rfl⟩

theorem complement_nil (m : Nat) : complement m [] = List.range m := by simp [complement]

theorem append_complement_perm {m : Nat} {y : List Nat} (hy : y.Sublist (List.range m)) :
    (y ++ complement m y).Perm (List.range m) := by
  have hnd : y.Nodup := hy.nodup List.nodup_range
  have h1 : ((List.range m).filter fun v => y.contains v).Perm y := by
    apply (List.perm_ext_iff_of_nodup (List.nodup_range.filter _) hnd).2
    intro a
    simp only [List.mem_filter, List.mem_range, List.contains_iff_mem]
    constructor
    · rintro ⟨_, h⟩; exact h
    · intro h; exact ⟨List.mem_range.1 (hy.subset h), h⟩
  have h2 := List.filter_append_perm (fun v => y.contains v) (List.range m)
  refine List.Perm.trans ?_ h2
  exact List.Perm.append h1.symm (by simp [complement])


end Numqi.Ent
