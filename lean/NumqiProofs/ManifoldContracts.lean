/- C01: the contracts of the external routines (cholesky, inverse square root, qr) are satisfiable — used by the non-vacuity examples. -/
import NumqiProofs.ManifoldMaps
import Mathlib.Analysis.Matrix.Order

namespace Numqi.Manifold
open Matrix
open scoped ComplexOrder MatrixOrder

/-- a Mathlib matrix as a data matrix -/
noncomputable def ofM {m n : Nat} (A : Matrix (Fin m) (Fin n) ℂ) : NMat ℂ :=
  NMat.ofFn m n fun i j => if h : i < m ∧ j < n then A ⟨i, h.1⟩ ⟨j, h.2⟩ else 0

theorem toM_ofM {m n : Nat} (A : Matrix (Fin m) (Fin n) ℂ) : toM m n (ofM A) = A := by
  ext i j; simp [toM, ofM, NMat.get_ofFn_fin]

variable {r : Nat}

theorem sqrt_facts (G : Matrix (Fin r) (Fin r) ℂ) (hG : G.PosDef) :
    (CFC.sqrt G)ᴴ = CFC.sqrt G ∧ CFC.sqrt G * CFC.sqrt G = G ∧ IsUnit (CFC.sqrt G).det := by
  have h0 : (0 : Matrix (Fin r) (Fin r) ℂ) ≤ G := Matrix.nonneg_iff_posSemidef.2 hG.posSemidef
  have hs : CFC.sqrt G * CFC.sqrt G = G := CFC.sqrt_mul_sqrt_self G h0
  have hh : (CFC.sqrt G)ᴴ = CFC.sqrt G := (Matrix.nonneg_iff_posSemidef.1 (CFC.sqrt_nonneg G)).1
  refine ⟨hh, hs, ?_⟩
  have hu : IsUnit G.det := (Matrix.isUnit_iff_isUnit_det _).1 (Matrix.PosDef.isUnit hG)
  rw [← hs, det_mul] at hu
  exact isUnit_of_mul_isUnit_left hu

/-- the contract of `cholesky` used in `stiefelCholL_orthonormal` is satisfiable -/
theorem exists_chol : ∃ chol : NMat ℂ → NMat ℂ,
    ∀ G, (toM r r G).PosDef → toM r r (chol G) * (toM r r (chol G))ᴴ = toM r r G := by
  refine ⟨fun G => ofM (CFC.sqrt (toM r r G)), fun G hG => ?_⟩
  obtain ⟨h1, h2, _⟩ := sqrt_facts _ hG
  rw [toM_ofM, h1, h2]

/-- the contract of the inverse square root used in `stiefelPolar_orthonormal` is satisfiable -/
theorem exists_invSqrt : ∃ invSqrt : NMat ℂ → NMat ℂ, ∀ G, (toM r r G).PosDef →
    (toM r r (invSqrt G))ᴴ = toM r r (invSqrt G) ∧ toM r r (invSqrt G) * toM r r G * toM r r (invSqrt G) = 1 := by
  refine ⟨fun G => ofM (CFC.sqrt (toM r r G))⁻¹, fun G hG => ?_⟩
  obtain ⟨h1, h2, h3⟩ := sqrt_facts _ hG
  rw [toM_ofM]
  constructor
  · rw [conjTranspose_nonsing_inv, h1]
  · set S := CFC.sqrt (toM r r G)
    calc S⁻¹ * toM r r G * S⁻¹ = S⁻¹ * (S * S) * S⁻¹ := by rw [h2]
      _ = (S⁻¹ * S) * (S * S⁻¹) := by simp only [Matrix.mul_assoc]
      _ = 1 := by rw [Matrix.nonsing_inv_mul _ h3, Matrix.mul_nonsing_inv _ h3, Matrix.one_mul]

/-- the contract of `qr` used in `stiefelQR_orthonormal` is satisfiable (polar factor as a witness) -/
theorem exists_qrQ {dim : Nat} : ∃ qrQ : NMat ℂ → NMat ℂ, ∀ M, Function.Injective (toM dim r M).mulVec →
    (toM dim r (qrQ M))ᴴ * toM dim r (qrQ M) = 1 := by
  refine ⟨fun M => ofM (toM dim r M * (CFC.sqrt ((toM dim r M)ᴴ * toM dim r M))⁻¹), fun M hM => ?_⟩
  have hpd : ((toM dim r M)ᴴ * toM dim r M).PosDef := Matrix.PosDef.conjTranspose_mul_self _ hM
  obtain ⟨h1, h2, h3⟩ := sqrt_facts _ hpd
  rw [toM_ofM]
  set X := toM dim r M
  set S := CFC.sqrt (Xᴴ * X)
  have hS : (S⁻¹)ᴴ = S⁻¹ := by rw [conjTranspose_nonsing_inv, h1]
  apply stiefel_polar_contract X S⁻¹ hS
  calc S⁻¹ * (Xᴴ * X) * S⁻¹ = S⁻¹ * (S * S) * S⁻¹ := by rw [h2]
    _ = (S⁻¹ * S) * (S * S⁻¹) := by simp only [Matrix.mul_assoc]
    _ = 1 := by rw [Matrix.nonsing_inv_mul _ h3, Matrix.mul_nonsing_inv _ h3, Matrix.one_mul]

local notation "mexp" => NormedSpace.exp

theorem exists_expm (dim : Nat) : ∃ expm : NMat ℂ → NMat ℂ, ∀ A, toM dim dim (expm A) = mexp (toM dim dim A) :=
  ⟨fun A => ofM (mexp (toM dim dim A)), fun A => toM_ofM _⟩

theorem exists_inv (dim : Nat) : ∃ inv : NMat ℂ → NMat ℂ, ∀ P, IsUnit (toM dim dim P).det → toM dim dim (inv P) * toM dim dim P = 1 :=
  ⟨fun P => ofM (toM dim dim P)⁻¹, fun P hP => by rw [toM_ofM]; exact Matrix.nonsing_inv_mul _ hP⟩

end Numqi.Manifold
