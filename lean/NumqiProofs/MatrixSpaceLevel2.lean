/-
Hierarchy level `k = 2` (C20): one symmetric slot next to the polarised minor.

`polW A I J x y = Σ_m polMinor(A without slot m)[I,J] · A_m[x,y]` is the full (not coset-reduced) form of the entry that
`has_rank_hierarchical_method(·, rank = q, hierarchy_k = 2)` builds for the generators `A_0 … A_q`.
-/
import NumqiProofs.MatrixSpaceMinors
import Mathlib.Data.Fin.Tuple.Basic
import Mathlib.Data.Fin.SuccPred

namespace Numqi.MatrixSpace
open Equiv Finset

section
variable {R : Type} [CommRing R] {q : ℕ}

/-- level-2 entry: every slot in turn is the symmetric factor, the others are antisymmetrised -/
def polW (A : Fin (q + 1) → ℕ → ℕ → R) (I J : Fin q → ℕ) (x y : ℕ) : R :=
  ∑ m : Fin (q + 1), polMinor (fun j => A (m.succAbove j)) I J * A m x y

theorem polW_diag (M : ℕ → ℕ → R) (I J : Fin q → ℕ) (x y : ℕ) :
    polW (fun _ => M) I J x y = ((q + 1 : ℕ) : R) * ((q.factorial : R) * (subMat M I J).det * M x y) := by
  unfold polW
  simp only [polMinor_diag]
  rw [Finset.sum_const, Finset.card_univ, Fintype.card_fin, nsmul_eq_mul]

/-- multilinear expansion over all `q+1` slots -/
theorem polW_expand {N : ℕ} (c : Fin N → R) (S : Fin N → ℕ → ℕ → R) (I J : Fin q → ℕ) (x y : ℕ) :
    polW (fun _ => fun r s => ∑ i, c i * S i r s) I J x y
      = ∑ t : Fin (q + 1) → Fin N, (∏ m, c (t m)) * polW (fun m => S (t m)) I J x y := by
  unfold polW
  have hR : ∑ t : Fin (q + 1) → Fin N, (∏ m, c (t m)) *
        ∑ m : Fin (q + 1), polMinor (fun j => S (t (m.succAbove j))) I J * S (t m) x y
      = ∑ m : Fin (q + 1), ∑ t : Fin (q + 1) → Fin N,
          (∏ m', c (t m')) * (polMinor (fun j => S (t (m.succAbove j))) I J * S (t m) x y) := by
    simp only [Finset.mul_sum]; exact Finset.sum_comm
  rw [hR]
  refine Finset.sum_congr rfl fun m _ => ?_
  rw [polMinor_expand, ← (Fin.insertNthEquiv (fun _ => Fin N) m).sum_comp, Fintype.sum_prod_type, Finset.sum_mul_sum]
  refine Finset.sum_comm.trans ?_
  refine Finset.sum_congr rfl fun i _ => Finset.sum_congr rfl fun t' _ => ?_
  simp only [Fin.insertNthEquiv_apply, Fin.insertNth_apply_same, Fin.insertNth_apply_succAbove]
  rw [Fin.prod_univ_succAbove _ m]
  simp only [Fin.insertNth_apply_same, Fin.insertNth_apply_succAbove]
  ring

/-- a permutation of the `q+1` slots induces, for every removed slot, a permutation of the remaining `q` -/
theorem exists_perm_succAbove (π : Perm (Fin (q + 1))) (m : Fin (q + 1)) :
    ∃ π' : Perm (Fin q), ∀ j, π (m.succAbove j) = (π m).succAbove (π' j) := by
  have hne : ∀ j, π (m.succAbove j) ≠ π m := fun j h => Fin.succAbove_ne m j (π.injective h)
  choose g hg using fun j => Fin.exists_succAbove_eq (hne j)
  have hinj : Function.Injective g := by
    intro a b hab
    have : π (m.succAbove a) = π (m.succAbove b) := by rw [← hg a, ← hg b, hab]
    exact Fin.succAbove_right_injective (π.injective this)
  exact ⟨Equiv.ofBijective g (Finite.injective_iff_bijective.1 hinj), fun j => (hg j).symm⟩

/-- **symmetry**: the level-2 entry does not depend on the order of the generators -/
theorem polW_perm (A : Fin (q + 1) → ℕ → ℕ → R) (I J : Fin q → ℕ) (x y : ℕ) (π : Perm (Fin (q + 1))) :
    polW (fun m => A (π m)) I J x y = polW A I J x y := by
  unfold polW
  rw [← Equiv.sum_comp π (fun m => polMinor (fun j => A (m.succAbove j)) I J * A m x y)]
  refine Finset.sum_congr rfl fun m _ => ?_
  obtain ⟨π', hπ'⟩ := exists_perm_succAbove π m
  have : (fun j => A (π (m.succAbove j))) = fun j => (fun j' => A ((π m).succAbove j')) (π' j) := by
    funext j; rw [hπ' j]
  rw [this]
  exact congrArg (fun z => z * A (π m) x y) (polMinor_perm (fun j' => A ((π m).succAbove j')) I J π')

/-- **level-2 relation**: if the minor of `M = Σ c_i S_i` on `(I,J)` vanishes, the level-2 entries satisfy the linear relation
with the monomial coefficients -/
theorem polW_dependence {N : ℕ} (c : Fin N → R) (S : Fin N → ℕ → ℕ → R) (I J : Fin q → ℕ) (x y : ℕ)
    (hminor : (subMat (fun r s => ∑ i, c i * S i r s) I J).det = 0) :
    ∑ t : Fin (q + 1) → Fin N, (∏ m, c (t m)) * polW (fun m => S (t m)) I J x y = 0 := by
  rw [← polW_expand, polW_diag, hminor]; ring

end

/-! ### the model's sub-tuple enumeration at level 2 -/

/-- `combinations(range(q+1), q)` with the complementary position: each position is left out exactly once (decidable;
evaluated by the kernel for `q ≤ 5`) -/
def SubsetsOK (q : ℕ) : Prop :=
  ((combos (List.range (q + 1)) q).map fun sub => (sub, (List.range (q + 1)).filter fun x => !sub.contains x)).Perm
    ((List.finRange (q + 1)).map fun m => ((List.finRange q).map fun j => (m.succAbove j).val, [m.val]))

instance (q : ℕ) : Decidable (SubsetsOK q) := by unfold SubsetsOK; infer_instance

theorem subsetsOK_le_five (q : ℕ) (h1 : 1 ≤ q) (h5 : q ≤ 5) : SubsetsOK q := by
  interval_cases q <;> decide

theorem antisymFactorTable_singleton (x : ℕ) : antisymFactorTable [x] = [([0], 1)] := by
  have h := antisymFactorTable_map (fun y => y + x) (fun a b hab => by simpa using hab) [0]
  simp only [List.map_cons, List.map_nil, zero_add] at h
  rw [h]; decide


theorem getD_eq_getElem' (l : List ℕ) {a : ℕ} (h : a < l.length) : l.getD a 0 = l[a] := by
  simp [List.getD_eq_getElem?_getD, h]

theorem getD_le_of_pairwise {l : List ℕ} (h : l.Pairwise (· ≤ ·)) {a b : ℕ} (hab : a ≤ b) (hb : b < l.length) :
    l.getD a 0 ≤ l.getD b 0 := by
  rcases Nat.eq_or_lt_of_le hab with rfl | hlt
  · exact le_rfl
  · have ha : a < l.length := lt_trans hlt hb
    rw [getD_eq_getElem' _ ha, getD_eq_getElem' _ hb]
    exact (List.pairwise_iff_getElem.1 h) a b ha hb hlt

/-- the symmetric factor of a single slot is that generator's entry (also through the `len(np_list) == 1` shortcut) -/
theorem symPartEntry_singleton {R : Type} [CommRing R] {N : ℕ} (mats : ℕ → ℕ → ℕ → R) (dimB g K : ℕ) (hg : g < N) :
    symPartEntry mats dimB N [g] [K] = flatEntry mats dimB g K := by
  unfold symPartEntry
  by_cases hN : N = 1
  · have : g = 0 := by omega
    simp [hN, this]
  · rw [if_neg hN, antisymFactorTable_singleton]
    simp [listSum, listProd, nsmulN]

/-- **the model's level-2 entry is `polW`** for every sorted multi-index of length `q+1` -/
theorem hierVecEntry_level2 {R : Type} [CommRing R] {q N : ℕ} (hT : TablesOK q) (hS : SubsetsOK q) (hq : 0 < q)
    (mats : ℕ → ℕ → ℕ → R) (dB : ℕ) (INDEX rows cols : List ℕ) (K : ℕ)
    (hlen : INDEX.length = q + 1) (hs : INDEX.Pairwise (· ≤ ·)) (hlt : ∀ i ∈ INDEX, i < N) :
    hierVecEntry mats dB N q INDEX rows cols [K]
      = polW (fun m : Fin (q + 1) => mats (INDEX.getD m.val 0)) (fun i => rows.getD i.val 0) (fun i => cols.getD i.val 0)
          (K / dB) (K % dB) := by
  unfold hierVecEntry polW
  simp only [hlen]
  -- the summand as a function of the pair (sub-tuple, complementary positions)
  set G : List ℕ × List ℕ → R := fun sr =>
    polMinorScaled mats (sr.1.map fun x => INDEX.getD x 0) (antisymFactorTable (sr.1.map fun x => INDEX.getD x 0))
        (antisymFactorTableInt q) rows cols
      * (if sr.2.isEmpty then 1 else symPartEntry mats dB N (sr.2.map fun x => INDEX.getD x 0) [K]) with hG
  have h1 : (combos (List.range (q + 1)) q).map (fun sub =>
        polMinorScaled mats (sub.map fun x => INDEX.getD x 0) (antisymFactorTable (sub.map fun x => INDEX.getD x 0))
            (antisymFactorTableInt q) rows cols
          * (if ((List.range (q + 1)).filter fun x => !sub.contains x).isEmpty then 1
              else symPartEntry mats dB N (((List.range (q + 1)).filter fun x => !sub.contains x).map fun x => INDEX.getD x 0) [K]))
      = ((combos (List.range (q + 1)) q).map fun sub => (sub, (List.range (q + 1)).filter fun x => !sub.contains x)).map G := by
    rw [List.map_map]; rfl
  rw [h1, listSum_eq, (hS.map G).sum_eq, List.map_map, ← Fin.sum_univ_def]
  refine Finset.sum_congr rfl fun m _ => ?_
  simp only [Function.comp, hG, List.map_map, List.isEmpty_cons, Bool.false_eq_true, if_false, List.map_cons, List.map_nil]
  -- antisymmetric factor
  have hidx : ((List.finRange q).map fun j => INDEX.getD (m.succAbove j).val 0) = List.ofFn fun j : Fin q => INDEX.getD (m.succAbove j).val 0 := by
    rw [List.ofFn_eq_map]
  have hsorted : (List.ofFn fun j : Fin q => INDEX.getD (m.succAbove j).val 0).Pairwise (· ≤ ·) := by
    rw [List.pairwise_ofFn]
    intro i j hij
    refine getD_le_of_pairwise hs ?_ (by rw [hlen]; exact (m.succAbove j).isLt)
    exact Fin.le_def.1 ((Fin.strictMono_succAbove m).monotone hij.le)
  have hA := polMinorScaled_sorted hT mats (List.ofFn fun j : Fin q => INDEX.getD (m.succAbove j).val 0) rows cols
    (by simp) hq hsorted
  have hget : (fun j : Fin q => mats ((List.ofFn fun j : Fin q => INDEX.getD (m.succAbove j).val 0).getD j.val 0))
      = fun j : Fin q => mats (INDEX.getD (m.succAbove j).val 0) := by
    funext j; simp [List.getD_eq_getElem?_getD]
  rw [hget] at hA
  have hcomp : (List.map ((fun x => INDEX.getD x 0) ∘ fun j : Fin q => (m.succAbove j).val) (List.finRange q))
      = List.ofFn fun j : Fin q => INDEX.getD (m.succAbove j).val 0 := by
    rw [List.ofFn_eq_map]; rfl
  rw [hcomp, hA]
  congr 1
  -- symmetric factor: a single slot
  have hm : m.val < INDEX.length := by rw [hlen]; exact m.isLt
  exact symPartEntry_singleton mats dB _ K (hlt _ (by rw [getD_eq_getElem' _ hm]; exact List.getElem_mem hm))

end Numqi.MatrixSpace
