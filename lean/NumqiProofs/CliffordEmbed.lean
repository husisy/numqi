/-
C07: an embedded symplectic tableau is symplectic (every register size, every valid placement); hence the
tableau of every recorded circuit acts as its gates one after the other, without further hypotheses.
-/
import NumqiProofs.CliffordAlgebra
namespace Numqi.Clifford

/-- position list `[q…, q+n…]` entry `a` -/
def idx (n : Nat) (qs : List Nat) (a : Nat) : Nat :=
  if a < qs.length then qs.getD a 0 else qs.getD (a - qs.length) 0 + n

theorem index_getD (n : Nat) (qs : List Nat) (a : Nat) (ha : a < 2 * qs.length) :
    (qs ++ qs.map (· + n)).getD a 0 = idx n qs a := by
  unfold idx
  by_cases h : a < qs.length
  · simp [List.getD_eq_getElem?_getD, List.getElem?_append_left h, h]
  · have h2 : qs.length ≤ a := by omega
    have h3 : a - qs.length < qs.length := by omega
    simp [List.getD_eq_getElem?_getD, List.getElem?_append_right h2, h, h3]

theorem om_pow_right (n u j : Nat) : om n u (2 ^ j) = if j < n ∧ u.testBit (n + j) = true then 1 else 0 := by
  unfold om
  rw [cnt_comm, cnt_pow_left, Nat.testBit_shiftRight]

theorem om_pow_pow (n i j : Nat) : om n (2 ^ i) (2 ^ j) = if j < n ∧ i = n + j then 1 else 0 := by
  rw [om_pow_right, Nat.testBit_two_pow]
  simp

structure ValidQs (n : Nat) (qs : List Nat) : Prop where
  nodup : qs.Nodup
  lt : ∀ q ∈ qs, q < n

theorem getD_mem {qs : List Nat} {a : Nat} (ha : a < qs.length) : qs.getD a 0 ∈ qs := by
  rw [List.getD_eq_getElem?_getD, List.getElem?_eq_getElem ha]; exact List.getElem_mem ha

theorem getD_inj {qs : List Nat} (h : qs.Nodup) {a b : Nat} (ha : a < qs.length) (hb : b < qs.length)
    (he : qs.getD a 0 = qs.getD b 0) : a = b := by
  rw [List.getD_eq_getElem?_getD, List.getD_eq_getElem?_getD, List.getElem?_eq_getElem ha,
    List.getElem?_eq_getElem hb] at he
  exact (List.Nodup.getElem_inj_iff h).1 (by simpa using he)

section valid
variable {n : Nat} {qs : List Nat} (hv : ValidQs n qs)
include hv

theorem idx_low {a : Nat} (ha : a < qs.length) : idx n qs a = qs.getD a 0 ∧ idx n qs a < n := by
  unfold idx; rw [if_pos ha]; exact ⟨rfl, hv.lt _ (getD_mem ha)⟩

theorem idx_high {a : Nat} (h1 : qs.length ≤ a) (h2 : a < 2 * qs.length) :
    idx n qs a = qs.getD (a - qs.length) 0 + n ∧ qs.getD (a - qs.length) 0 < n := by
  unfold idx; rw [if_neg (by omega)]; exact ⟨rfl, hv.lt _ (getD_mem (by omega))⟩

/-- `om` of two placed unit vectors is the local `om` of the unit vectors -/
theorem om_unit_unit {a a' : Nat} (ha : a < 2 * qs.length) (ha' : a' < 2 * qs.length) :
    om n (2 ^ idx n qs a) (2 ^ idx n qs a') = if a = a' + qs.length then 1 else 0 := by
  rw [om_pow_pow]
  by_cases h' : a' < qs.length
  · obtain ⟨e', l'⟩ := idx_low hv h'
    by_cases h : a < qs.length
    · obtain ⟨e, l⟩ := idx_low hv h
      have : ¬ (idx n qs a = n + idx n qs a') := by omega
      have h2 : ¬ a = a' + qs.length := by omega
      simp [this, h2]
    · obtain ⟨e, l⟩ := idx_high hv (by omega) ha
      by_cases hc : a = a' + qs.length
      · subst hc
        have : a' + qs.length - qs.length = a' := by omega
        rw [this] at e
        have : idx n qs (a' + qs.length) = n + idx n qs a' := by omega
        simp [this, l']
      · have : ¬ idx n qs a = n + idx n qs a' := by
          intro hh
          have : qs.getD (a - qs.length) 0 = qs.getD a' 0 := by omega
          have := getD_inj hv.nodup (by omega) h' this
          omega
        simp [this, hc]
  · obtain ⟨e', l'⟩ := idx_high hv (by omega) ha'
    have : ¬ idx n qs a' < n := by omega
    have h2 : ¬ a = a' + qs.length := by omega
    simp [this, h2]

/-- a unit vector outside the placed positions is `om`-orthogonal to every placed unit vector -/
theorem om_out_unit {j a : Nat} (hj : ∀ b, b < 2 * qs.length → idx n qs b ≠ j) (ha : a < 2 * qs.length) :
    om n (2 ^ j) (2 ^ idx n qs a) = 0 ∧ om n (2 ^ idx n qs a) (2 ^ j) = 0 := by
  rw [om_pow_pow, om_pow_pow]
  constructor
  · by_cases h : a < qs.length
    · obtain ⟨e, l⟩ := idx_low hv h
      have := hj (a + qs.length) (by omega)
      obtain ⟨e2, _⟩ := idx_high hv (a := a + qs.length) (by omega) (by omega)
      have e3 : a + qs.length - qs.length = a := by omega
      rw [e3] at e2
      have : ¬ j = n + idx n qs a := by omega
      simp [this]
    · obtain ⟨e, l⟩ := idx_high hv (by omega) ha
      have : ¬ idx n qs a < n := by omega
      simp [this]
  · by_cases h : a < qs.length
    · obtain ⟨e, l⟩ := idx_low hv h
      have : ¬ idx n qs a = n + j := by omega
      simp [this]
    · obtain ⟨e, l⟩ := idx_high hv (by omega) ha
      have := hj (a - qs.length) (by omega)
      obtain ⟨e2, _⟩ := idx_low hv (a := a - qs.length) (by omega)
      have : ¬ idx n qs a = n + j := by omega
      simp [this]

end valid

/-- the placed vector -/
def place (n : Nat) (qs : List Nat) (w : Nat) : Nat :=
  matVec ((qs ++ qs.map (· + n)).map fun i => 2 ^ i) w (qs ++ qs.map (· + n)).length

theorem index_length (n : Nat) (qs : List Nat) : (qs ++ qs.map (· + n)).length = 2 * qs.length := by
  simp; omega

theorem unit_getD (n : Nat) (qs : List Nat) (a : Nat) (ha : a < 2 * qs.length) :
    ((qs ++ qs.map (· + n)).map fun i => 2 ^ i).getD a 0 = 2 ^ idx n qs a := by
  rw [← index_getD n qs a ha]
  have h : a < (qs ++ qs.map (· + n)).length := by rw [index_length]; exact ha
  rw [List.getD_eq_getElem?_getD, List.getD_eq_getElem?_getD, List.getElem?_map, List.getElem?_eq_getElem h]
  rfl

section valid2
variable {n : Nat} {qs : List Nat} (hv : ValidQs n qs)
include hv

/-- placing preserves `z(·)·x(·)` mod 2 -/
theorem om_place_place (w w' : Nat) : om n (place n qs w) (place n qs w') % 2 = om qs.length w w' % 2 := by
  unfold place
  rw [index_length, om_matVec_left_mod2, ← lam_sum qs.length w w' (fun _ => 2 * qs.length) (fun i _ _ => by omega)]
  apply sumSel_congr_mod2
  intro a ha
  rw [unit_getD n qs a ha, om_matVec_right_mod2]
  apply sumSel_congr_mod2
  intro a' ha'
  rw [unit_getD n qs a' ha', om_unit_unit hv ha ha']

theorem om_out_place {j : Nat} (hj : ∀ b, b < 2 * qs.length → idx n qs b ≠ j) (w : Nat) :
    om n (2 ^ j) (place n qs w) % 2 = 0 ∧ om n (place n qs w) (2 ^ j) % 2 = 0 := by
  unfold place
  rw [index_length, om_matVec_right_mod2, om_matVec_left_mod2]
  constructor
  · rw [sumSel_congr (g := fun _ => 0) (fun a ha => by rw [unit_getD n qs a ha]; exact (om_out_unit hv hj ha).1),
      sumSel_fzero]
  · rw [sumSel_congr (g := fun _ => 0) (fun a ha => by rw [unit_getD n qs a ha]; exact (om_out_unit hv hj ha).2),
      sumSel_fzero]

end valid2

/-- `pos j` of `embed` -/
def pos (n : Nat) (qs : List Nat) (j : Nat) : Option Nat :=
  (List.range (qs ++ qs.map (· + n)).length).find? (fun b => (qs ++ qs.map (· + n)).getD b 0 == j)

theorem pos_some {n : Nat} {qs : List Nat} {j b : Nat} (h : pos n qs j = some b) :
    b < 2 * qs.length ∧ idx n qs b = j := by
  unfold pos at h
  have h1 := List.mem_of_find?_eq_some h
  have h2 := List.find?_some h
  rw [List.mem_range, index_length] at h1
  rw [index_getD n qs b h1] at h2
  exact ⟨h1, by simpa using h2⟩

theorem pos_none {n : Nat} {qs : List Nat} {j : Nat} (h : pos n qs j = none) :
    ∀ b, b < 2 * qs.length → idx n qs b ≠ j := by
  unfold pos at h
  rw [List.find?_eq_none] at h
  intro b hb
  have := h b (by rw [List.mem_range, index_length]; exact hb)
  rw [index_getD n qs b hb] at this
  simpa using this

theorem embed_getD (n : Nat) (loc : Tab) (qs : List Nat) {j : Nat} (hj : j < 2 * n) :
    (embed n loc qs).cols.getD j 0 =
      match pos n qs j with
      | some b => place n qs (loc.cols.getD b 0)
      | none => 2 ^ j := by
  simp only [embed]
  rw [SpF2.getD_map_range _ _ _ hj]
  rfl

/-- **an embedded symplectic tableau is symplectic**, for every register size and every valid placement -/
theorem embed_colSp {n : Nat} {qs : List Nat} (hv : ValidQs n qs) (loc : Tab) (hk : loc.n = qs.length)
    (hloc : loc.colSp = true) : (embed n loc qs).colSp = true := by
  rw [colSp_iff]
  have hl := (colSp_iff loc).1 hloc
  intro a b hab hb
  have hn : (embed n loc qs).n = n := rfl
  rw [hn] at hb ⊢
  have ha : a < 2 * n := by omega
  simp only [Tab.zx, hn]
  rw [embed_getD n loc qs ha, embed_getD n loc qs hb]
  change (om n _ _ + om n _ _) % 2 = _
  cases hpa : pos n qs a with
  | some α =>
    obtain ⟨hα, eα⟩ := pos_some hpa
    cases hpb : pos n qs b with
    | some β =>
      obtain ⟨hβ, eβ⟩ := pos_some hpb
      simp only
      have h1 := om_place_place hv (loc.cols.getD α 0) (loc.cols.getD β 0)
      have h2 := om_place_place hv (loc.cols.getD β 0) (loc.cols.getD α 0)
      -- `om_unit_unit` read on the indices: the positions differ by `n` exactly when the local indices differ by `k`
      have hu := om_unit_unit hv hβ hα
      rw [om_pow_pow, eα, eβ] at hu
      have hne : α ≠ β := by intro h; subst h; omega
      rcases Nat.lt_or_gt_of_ne hne with hlt | hgt
      · have h3 := hl α β hlt (by rw [hk]; exact hβ)
        simp only [Tab.zx, hk] at h3
        change (om qs.length _ _ + om qs.length _ _) % 2 = _ at h3
        split_ifs at hu h3 ⊢ <;> omega
      · have hu' := om_unit_unit hv hα hβ
        rw [om_pow_pow, eα, eβ] at hu'
        have h3 := hl β α hgt (by rw [hk]; exact hα)
        simp only [Tab.zx, hk] at h3
        change (om qs.length _ _ + om qs.length _ _) % 2 = _ at h3
        split_ifs at hu hu' h3 ⊢ <;> omega
    | none =>
      have hnb := pos_none hpb
      simp only
      obtain ⟨h1, h2⟩ := om_out_place hv hnb (loc.cols.getD α 0)
      have : ¬ b = a + n := by
        intro hh
        by_cases hαk : α < qs.length
        · have := idx_low hv hαk
          have := idx_high hv (a := α + qs.length) (by omega) (by omega)
          have e : α + qs.length - qs.length = α := by omega
          rw [e] at this
          exact hnb (α + qs.length) (by omega) (by omega)
        · have := idx_high hv (a := α) (by omega) hα; omega
      rw [if_neg this]; omega
  | none =>
    have hna := pos_none hpa
    cases hpb : pos n qs b with
    | some β =>
      obtain ⟨hβ, eβ⟩ := pos_some hpb
      simp only
      obtain ⟨h1, h2⟩ := om_out_place hv hna (loc.cols.getD β 0)
      have : ¬ b = a + n := by
        intro hh
        by_cases hβk : β < qs.length
        · have := idx_low hv hβk; omega
        · have := idx_high hv (a := β) (by omega) hβ
          have := idx_low hv (a := β - qs.length) (by omega)
          exact hna (β - qs.length) (by omega) (by omega)
      rw [if_neg this]; omega
    | none =>
      simp only
      rw [om_pow_pow, om_pow_pow]
      split_ifs <;> omega

/-! ### gate lists recorded by the object are well formed -/

theorem checkArgs_spec {key : GateKey} {args : List Int} {idx : List Nat} (h : checkArgs key args = some idx) :
    idx.length = key.arity ∧ idx.Nodup := by
  unfold checkArgs at h
  split at h
  · cases h
  rename_i hlen
  split at h
  · cases h
  rename_i hneg
  have hlen' : args.length = key.arity := by simpa using hlen
  match args, h with
  | [a, b], h =>
    simp only at h
    split at h
    · cases h
    · rename_i hab
      cases h
      have ha : 0 ≤ a := by
        by_contra hc; exact hneg (by simp; left; omega)
      have hb : 0 ≤ b := by
        by_contra hc; exact hneg (by simp; right; omega)
      refine ⟨by simpa using hlen', ?_⟩
      simp only [List.nodup_cons, List.mem_singleton, List.not_mem_nil, not_false_eq_true, List.nodup_nil, and_true]
      omega
  | [], h => cases h; exact ⟨by simpa using hlen', List.nodup_nil⟩
  | [a], h => cases h; exact ⟨by simpa using hlen', by simp⟩
  | a :: b :: c :: rest, h =>
    exfalso
    have : key.arity ≤ 2 := by cases key <;> decide
    simp at hlen'; omega

/-- well-formed gate record: as many indices as the gate has qubits, pairwise distinct -/
def GatesWF (gates : List Gate) : Prop := ∀ g ∈ gates, g.idx.length = g.key.arity ∧ g.idx.Nodup

/-- a well-formed gate has one index (one-qubit gate) or two (two-qubit gate) -/
theorem idx_cases {key : GateKey} {idx : List Nat} (hlen : idx.length = key.arity) :
    (∃ q, idx = [q] ∧ key.arity = 1) ∨ (∃ q0 q1, idx = [q0, q1] ∧ key.arity = 2) := by
  have ha1 : key.arity ≥ 1 := by cases key <;> decide
  have ha2 : key.arity ≤ 2 := by cases key <;> decide
  rcases idx with _ | ⟨q0, _ | ⟨q1, _ | ⟨q2, rest⟩⟩⟩
  · simp at hlen; omega
  · exact Or.inl ⟨q0, rfl, by simpa using hlen.symm⟩
  · exact Or.inr ⟨q0, q1, rfl, by simpa using hlen.symm⟩
  · simp at hlen; omega

theorem specStep_wf (gates : List Gate) (h : GatesWF gates) (op : Op) : GatesWF (specStep gates op).1 := by
  cases op with
  | append key args =>
    simp only [specStep]
    cases hc : checkArgs key args with
    | none => exact h
    | some idx =>
      intro g hg
      rcases List.mem_append.1 hg with hg | hg
      · exact h g hg
      · simp only [List.mem_singleton] at hg; subst hg; exact checkArgs_spec hc
  | gateI => exact h
  | query => simp only [specStep]; cases symplecticOf gates <;> exact h
  | applyPauli p len => simp only [specStep]; cases symplecticOf gates <;> exact h
  | exportCirc => exact h

theorem le_foldl_max (l : List Nat) (i : Nat) : i ≤ l.foldl max i ∧ ∀ q ∈ l, q ≤ l.foldl max i := by
  induction l generalizing i with
  | nil => simp
  | cons a l ih =>
    rw [List.foldl_cons]
    obtain ⟨h1, h2⟩ := ih (max i a)
    refine ⟨by omega, ?_⟩
    intro q hq
    rcases List.mem_cons.1 hq with hq | hq
    · subst hq; omega
    · exact h2 q hq

theorem numQubit_spec {gates : List Gate} {n : Nat} (h : numQubit gates = .ok n) :
    ∀ g ∈ gates, ∀ q ∈ g.idx, q < n := by
  unfold numQubit at h
  intro g hg q hq
  have hmem : q ∈ gates.flatMap (·.idx) := List.mem_flatMap.2 ⟨g, hg, hq⟩
  cases hl : gates.flatMap (·.idx) with
  | nil => rw [hl] at hmem; cases hmem
  | cons i rest =>
    rw [hl] at h hmem
    simp only [Except.ok.injEq] at h
    obtain ⟨h1, h2⟩ := le_foldl_max rest i
    rcases List.mem_cons.1 hmem with hq' | hq'
    · subst hq'; omega
    · have := h2 q hq'; omega

theorem dagTable_facts (key : GateKey) (loc : Tab) (h : basicDaggerF2 key = some loc)
    (hd : ∀ k : GateKey, ∃ t, basicDaggerF2 k = some t ∧ t.n = k.arity ∧ t.colSp = true) :
    loc.n = key.arity ∧ loc.colSp = true := by
  obtain ⟨t, h1, h2, h3⟩ := hd key
  rw [h] at h1; cases h1; exact ⟨h2, h3⟩

/-- **the tableau of a recorded circuit acts as its gates one after the other** (last gate first: `U† P U`,
`U = g_L ⋯ g_1`), for every well-formed gate record on any number of qubits -/
theorem symplecticOf_sequential (gates : List Gate) (hwf : GatesWF gates)
    (hd : ∀ k : GateKey, ∃ t, basicDaggerF2 k = some t ∧ t.n = k.arity ∧ t.colSp = true)
    (t : Tab) (h : symplecticOf gates = .ok t) :
    ∃ n, numQubit gates = .ok n ∧ t.n = n ∧
      ∀ p, applyOnPauli p t = gates.reverse.foldl (gateAct n) (applyOnPauli p (Tab.id n)) := by
  unfold symplecticOf at h
  cases hq : numQubit gates with
  | error e => rw [hq] at h; cases h
  | ok n =>
    rw [hq] at h
    obtain ⟨h1, h2⟩ := foldl_symStep_seq n gates.reverse (Tab.id n) t rfl h
    refine ⟨n, rfl, h1, h2 ?_⟩
    intro g hg loc hl
    rw [List.mem_reverse] at hg
    obtain ⟨e1, e2⟩ := dagTable_facts g.key loc hl hd
    obtain ⟨w1, w2⟩ := hwf g hg
    exact embed_colSp ⟨w2, fun q hq' => numQubit_spec hq g hg q hq'⟩ loc (by rw [e1, w1]) e2

end Numqi.Clifford
