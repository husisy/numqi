/-
The derivative used by the sweep theorem is the ε-coefficient of the forward pass over the dual numbers `R[ε]/(ε²)` (C04).
-/
import Mathlib.Algebra.DualNumber
import NumqiProofs.Backward

namespace Numqi
namespace Backward
open Finset TrivSqZeroExt

variable {R : Type} [CommRing R] {n k n' : Nat}

/-- `x + ε·dx` -/
def dualOf (x dx : R) : DualNumber R := inl x + inr dx

@[simp] theorem fst_dualOf (x dx : R) : (dualOf x dx).fst = x := by
  simp only [dualOf, fst_add, fst_inl, fst_inr, add_zero]
@[simp] theorem snd_dualOf (x dx : R) : (dualOf x dx).snd = dx := by
  simp only [dualOf, snd_add, snd_inl, snd_inr, zero_add]

theorem snd_mul' (a b : DualNumber R) : (a * b).snd = a.fst * b.snd + a.snd * b.fst := by
  rw [TrivSqZeroExt.snd_mul]; simp [mul_comm]

/-- a gate over the dual numbers: real part and ε-part of the result -/
theorem applyGate_dual (t : Fin k → Fin n) (U : Mat k (DualNumber R)) (ψ : Vec n (DualNumber R)) (x : Bits n) :
    (applyGate U t ψ x).fst = applyGate (fun a b => (U a b).fst) t (fun y => (ψ y).fst) x ∧
    (applyGate U t ψ x).snd = applyGate (fun a b => (U a b).fst) t (fun y => (ψ y).snd) x
                              + applyGate (fun a b => (U a b).snd) t (fun y => (ψ y).fst) x := by
  simp only [applyGate, sumBits_eq_sum, fst_sum, snd_sum, TrivSqZeroExt.fst_mul, snd_mul', sum_add_distrib, and_self]

theorem applyControlled_dual (isCtrl : Fin n → Bool) (rest : Fin n' → Fin n) (tNew : Fin k → Fin n')
    (U : Mat k (DualNumber R)) (ψ : Vec n (DualNumber R)) (x : Bits n) :
    (applyControlled U isCtrl rest tNew ψ x).fst
      = applyControlled (fun a b => (U a b).fst) isCtrl rest tNew (fun y => (ψ y).fst) x ∧
    (applyControlled U isCtrl rest tNew ψ x).snd
      = applyControlled (fun a b => (U a b).fst) isCtrl rest tNew (fun y => (ψ y).snd) x
        + (if ctrlOn isCtrl x then applyGate (fun a b => (U a b).snd) tNew (slice rest fun y => (ψ y).fst) (x.sel rest) else 0) := by
  simp only [applyControlled]
  split
  · have := applyGate_dual tNew U (fun z => ψ ((Bits.ones n).upd rest z)) (x.sel rest)
    exact ⟨this.1, this.2⟩
  · simp

/-- the gate tensors `Θ + ε·δΘ` -/
def dualParams (Θ δΘ : Params R) : Params (DualNumber R) := fun k s a b => dualOf (Θ k s a b) (δΘ k s a b)

/-- the same gate list over the dual numbers (constant arrays have no ε-part) -/
def Src.lift : Src k R → Src k (DualNumber R)
  | .fixed U => .fixed fun a b => inl (U a b)
  | .param s => .param s

def PGate.lift : PGate n R → PGate n (DualNumber R)
  | .unitary src t => .unitary src.lift t
  | .control src c r tn => .control src.lift c r tn
  | .custom src d => .custom src.lift d

theorem src_get_fst (Θ δΘ : Params R) (src : Src k R) :
    (fun a b => ((src.lift).get (dualParams Θ δΘ) a b).fst) = src.get Θ := by
  cases src <;> funext a b <;> simp [Src.lift, Src.get, dualParams]

theorem src_get_snd (Θ δΘ : Params R) (src : Src k R) :
    (fun a b => ((src.lift).get (dualParams Θ δΘ) a b).snd) = src.dget δΘ := by
  cases src <;> funext a b <;> simp [Src.lift, Src.get, Src.dget, dualParams]

theorem gate_dual (Θ δΘ : Params R) (g : PGate n R) (ψ : Vec n (DualNumber R)) (x : Bits n) :
    (g.lift.apply (dualParams Θ δΘ) ψ x).fst = g.apply Θ (fun y => (ψ y).fst) x ∧
    (g.lift.apply (dualParams Θ δΘ) ψ x).snd
      = g.apply Θ (fun y => (ψ y).snd) x + g.dapply δΘ (fun y => (ψ y).fst) x := by
  cases g with
  | unitary src t =>
    have h := applyGate_dual t (src.lift.get (dualParams Θ δΘ)) ψ x
    rw [src_get_fst, src_get_snd] at h
    rw [dapply_unitary]
    exact h
  | control src c r tn =>
    have h := applyControlled_dual c r tn (src.lift.get (dualParams Θ δΘ)) ψ x
    rw [src_get_fst, src_get_snd] at h
    rw [dapply_control]
    exact h
  | custom src d =>
    have hfst : (scalarOf (src.lift.get (dualParams Θ δΘ))).fst = scalarOf (src.get Θ) :=
      congrFun (congrFun (src_get_fst Θ δΘ src) _) _
    have hsnd : (scalarOf (src.lift.get (dualParams Θ δΘ))).snd = scalarOf (src.dget δΘ) :=
      congrFun (congrFun (src_get_snd Θ δΘ src) _) _
    rw [dapply_custom]
    simp only [PGate.lift, PGate.apply, customApply]
    split
    · simp only [TrivSqZeroExt.fst_mul, snd_mul', hfst, hsnd, true_and]
      exact add_comm _ _
    · simp

/-- **`dforward` is the ε-coefficient of the forward pass at `Θ + ε·δΘ`, `ψ + ε·δψ`**, and the ε⁰-coefficient is the forward pass -/
theorem forward_dual (Θ δΘ : Params R) (gates : List (PGate n R)) (ψ : Vec n (DualNumber R)) (x : Bits n) :
    (forward (dualParams Θ δΘ) (gates.map PGate.lift) ψ x).fst = forward Θ gates (fun y => (ψ y).fst) x ∧
    (forward (dualParams Θ δΘ) (gates.map PGate.lift) ψ x).snd
      = dforward Θ δΘ gates (fun y => (ψ y).fst) (fun y => (ψ y).snd) x := by
  induction gates generalizing ψ with
  | nil => exact ⟨rfl, rfl⟩
  | cons g rest ih =>
    have hf : forward (dualParams Θ δΘ) ((g :: rest).map PGate.lift) ψ
        = forward (dualParams Θ δΘ) (rest.map PGate.lift) (g.lift.apply (dualParams Θ δΘ) ψ) := rfl
    rw [hf]
    obtain ⟨i1, i2⟩ := ih (g.lift.apply (dualParams Θ δΘ) ψ)
    have e1 : (fun y => (g.lift.apply (dualParams Θ δΘ) ψ y).fst) = g.apply Θ (fun y => (ψ y).fst) :=
      funext fun y => (gate_dual Θ δΘ g ψ y).1
    have e2 : (fun y => (g.lift.apply (dualParams Θ δΘ) ψ y).snd)
        = fun y => g.apply Θ (fun z => (ψ z).snd) y + g.dapply δΘ (fun z => (ψ z).fst) y :=
      funext fun y => (gate_dual Θ δΘ g ψ y).2
    rw [i1, i2, e1, e2]
    exact ⟨rfl, rfl⟩

/-! ### Knill–Laflamme forward map over the dual numbers -/

section kl
variable [StarRing R] {m : Nat}

/-- conjugation on `R[ε]/(ε²)`: coefficient-wise -/
instance dualConj : Conj (DualNumber R) := ⟨fun z => inl (star z.fst) + inr (star z.snd)⟩

@[simp] theorem fst_conj (z : DualNumber R) : (conj z).fst = star z.fst := by
  simp only [conj, fst_add, fst_inl, fst_inr, add_zero]
@[simp] theorem snd_conj (z : DualNumber R) : (conj z).snd = star z.snd := by
  simp only [conj, snd_add, snd_inl, snd_inr, zero_add]

/-- an operator list over the dual numbers with constant (ε-free) matrices -/
def Op.liftD : Op m R → Op m (DualNumber R)
  | .unitary U t => .unitary (fun a b => inl (U a b)) t
  | .control U c r tn => .control (fun a b => inl (U a b)) c r tn
  | .measure s o => .measure s o

omit [StarRing R] in
theorem op_dual (g : Op m R) (ψ : Vec m (DualNumber R)) (x : Bits m) :
    ((Op.liftD g).apply ψ x).fst = g.apply (fun y => (ψ y).fst) x ∧
    ((Op.liftD g).apply ψ x).snd = g.apply (fun y => (ψ y).snd) x := by
  cases g with
  | unitary U t =>
    have h := applyGate_dual t (fun a b => (inl (U a b) : DualNumber R)) ψ x
    simp only [TrivSqZeroExt.fst_inl, TrivSqZeroExt.snd_inl, applyGate_zero, add_zero] at h
    exact h
  | control U c r tn =>
    have h := applyControlled_dual c r tn (fun a b => (inl (U a b) : DualNumber R)) ψ x
    simp only [TrivSqZeroExt.fst_inl, TrivSqZeroExt.snd_inl, applyGate_zero, ite_self, add_zero] at h
    exact h
  | measure s o =>
    simp only [Op.liftD, Op.apply, project]
    split <;> simp

omit [StarRing R] in
theorem applySeq_dual (ops : List (Op m R)) (ψ : Vec m (DualNumber R)) (x : Bits m) :
    (applySeq (ops.map Op.liftD) ψ x).fst = applySeq ops (fun y => (ψ y).fst) x ∧
    (applySeq (ops.map Op.liftD) ψ x).snd = applySeq ops (fun y => (ψ y).snd) x := by
  induction ops generalizing ψ with
  | nil => exact ⟨rfl, rfl⟩
  | cons g rest ih =>
    have hf : applySeq ((g :: rest).map Op.liftD) ψ = applySeq (rest.map Op.liftD) ((Op.liftD g).apply ψ) := rfl
    have hg1 : (fun y => ((Op.liftD g).apply ψ y).fst) = g.apply (fun y => (ψ y).fst) := funext fun y => (op_dual g ψ y).1
    have hg2 : (fun y => ((Op.liftD g).apply ψ y).snd) = g.apply (fun y => (ψ y).snd) := funext fun y => (op_dual g ψ y).2
    obtain ⟨i1, i2⟩ := ih ((Op.liftD g).apply ψ)
    rw [hf, i1, i2, hg1, hg2]
    exact ⟨rfl, rfl⟩

theorem vdot_dual (φ ψ : Vec m (DualNumber R)) :
    (vdot φ ψ).fst = @vdot R m _ _ _ ⟨star⟩ (fun x => (φ x).fst) (fun x => (ψ x).fst) ∧
    (vdot φ ψ).snd = @vdot R m _ _ _ ⟨star⟩ (fun x => (φ x).fst) (fun x => (ψ x).snd)
                    + @vdot R m _ _ _ ⟨star⟩ (fun x => (φ x).snd) (fun x => (ψ x).fst) := by
  simp only [vdot, sumBits_eq_sum, fst_sum, snd_sum, TrivSqZeroExt.fst_mul, snd_mul', fst_conj, snd_conj,
    Finset.sum_add_distrib]
  exact ⟨trivial, trivial⟩

end kl

end Backward
end Numqi
