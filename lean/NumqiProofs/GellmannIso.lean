/-
Gell-Mann model: coefficients = inner products, round trips, injectivity, Parseval, density-matrix helpers.
-/
import NumqiProofs.GellmannSynthesis
namespace Numqi.Gellmann
open Matrix
variable {R : Type} [CommRing R] [StarRing R] {d : Nat}

/-- coefficient `a` of `matrix_to_gellmann_basis(A)` -/
def coef (S : Scalars R) (d : Nat) (A : Mat d R) (a : Nat) : R := (analysis S d A).getD a 0

theorem coef_pos (S : Scalars R) (A : Mat d R) {k : Kind d} (hk : k ∈ kinds d) : coef S d A k.pos = coefK S A k := by
  rw [coef, analysis_eq_map, List.getD_eq_getElem?_getD, List.getElem?_map, ← idxOf_kinds hk, List.getElem?_idxOf hk]
  rfl

theorem coef_eq_inner (S : Scalars R) (hS : S.Valid d) (hd : 1 ≤ d) (A : Mat d R) {a : Nat} (ha : a < d * d) :
    coef S d A a = S.half * trace (basis S d a * Matrix.of A) := by
  obtain ⟨k, hk, rfl⟩ := exists_pos_eq hd ha
  rw [basis_pos S hk, ← coefK_eq S hS A (kinds_wf hk), coef_pos S A hk]

theorem length_analysis (S : Scalars R) (hd : 1 ≤ d) (A : Mat d R) : (analysis S d A).length = d * d := by
  rw [analysis_eq_map, List.length_map, length_kinds hd]

theorem coef_synthesis (S : Scalars R) (hS : S.Valid d) (hd : 1 ≤ d) (v : Nat → R) {a : Nat} (ha : a < d * d) :
    coef S d (synthesis S d v) a = v a := by
  rw [coef_eq_inner S hS hd _ ha, synthesis_eq_sum' S hd v, Finset.mul_sum, trace_sum, Finset.mul_sum]
  rw [Finset.sum_eq_single a]
  · rw [Matrix.mul_smul, trace_smul, basis_orthogonal S hS hd ha ha, if_pos rfl, smul_eq_mul]
    linear_combination (v a) * hS.half_two
  · intro b hb hba
    rw [Finset.mem_range] at hb
    rw [Matrix.mul_smul, trace_smul, basis_orthogonal S hS hd ha hb, if_neg (Ne.symm hba)]; simp
  · intro h; exact absurd (Finset.mem_range.2 ha) h

theorem mem_kinds_of_wf {k : Kind d} (hd : 1 ≤ d) (hk : k.WF) : k ∈ kinds d := by
  cases k with
  | sym p => simp [kinds, mem_pairs]; exact hk
  | asym p => simp [kinds, mem_pairs]; exact hk
  | diag k => simp [kinds, mem_diagIdx]; exact hk
  | ident => simp [kinds]

theorem pos_lt {k : Kind d} (hd : 1 ≤ d) (hk : k ∈ kinds d) : k.pos < d * d := by
  rw [← idxOf_kinds hk, ← length_kinds hd]; exact List.idxOf_lt_length_of_mem hk

theorem ident_pos (hd : 1 ≤ d) : (Kind.ident (d := d)).pos = d * d - 1 := by
  have := length_kinds hd
  simp only [kinds, List.length_append, List.length_map, List.length_singleton, length_diagIdx] at this
  simp only [Kind.pos]; omega

/-- partial sums of the diagonal -/
def psum (x : Fin d → R) (m : Nat) : R := ∑ r : Fin d, if r.val < m then x r else 0

omit [StarRing R] in
theorem psum_succ (x : Fin d → R) (m : Fin d) : psum x (m.val + 1) = psum x m.val + x m := by
  unfold psum
  have : ∀ r : Fin d, (if r.val < m.val + 1 then x r else 0) = (if r.val < m.val then x r else 0) + (if r = m then x r else 0) := by
    intro r
    by_cases h1 : r.val < m.val
    · have : r ≠ m := fun e => by rw [e] at h1; exact lt_irrefl _ h1
      have h2 : r.val < m.val + 1 := by omega
      simp [h1, h2, this]
    · by_cases h2 : r = m
      · subst h2; simp
      · have : ¬ r.val < m.val + 1 := fun h => h2 (Fin.ext (by omega))
        simp [h1, h2, this]
  simp only [this, Finset.sum_add_distrib, Finset.sum_ite_eq', Finset.mem_univ, if_true]

omit [StarRing R] in
theorem psum_zero (x : Fin d → R) : psum x 0 = 0 := by simp [psum]

omit [StarRing R] in
theorem psum_full (x : Fin d → R) : psum x d = ∑ r, x r := by
  unfold psum; exact Finset.sum_congr rfl (fun r _ => by simp [r.isLt])

/-- **the coefficient map is injective** (all coefficients zero ⇒ the matrix is zero) -/
theorem coef_injective (S : Scalars R) (hS : S.Valid d) (hd : 1 ≤ d) (A : Mat d R)
    (h : ∀ a, a < d * d → coef S d A a = 0) : ∀ r c, A r c = 0 := by
  have hK : ∀ k : Kind d, k.WF → coefK S A k = 0 := fun k hk => by
    have hm := mem_kinds_of_wf hd hk
    rw [← coef_pos S A hm]; exact h _ (pos_lt hd hm)
  have hh := hS.half_two
  have hI := hS.I_sq
  have hoff : ∀ i j : Fin d, i < j → A i j = 0 ∧ A j i = 0 := by
    intro i j hij
    have h1 := hK (Kind.sym (i, j)) hij
    have h2 := hK (Kind.asym (i, j)) hij
    simp only [coefK] at h1 h2
    constructor
    · linear_combination h1 - S.I * h2 + (A i j - A j i) * S.half * hI - A i j * hh
    · linear_combination h1 + S.I * h2 - (A i j - A j i) * S.half * hI - A j i * hh
  set x : Fin d → R := fun r => A r r with hx
  have hdiag : ∀ k : Fin d, 0 < k.val → psum x k.val = (k.val : R) * x k := by
    intro k hk
    have h1 := hK (Kind.diag k) hk
    simp only [coefK, sum_filter_lt, hS.aD_eq] at h1
    have h2 := hS.cD_sq k.val hk k.isLt
    have : psum x k.val - (k.val : R) * x k = 0 := by
      unfold psum
      linear_combination (S.cD k.val * ((k.val : R) * ((k.val : R) + 1))) * h1
        - ((∑ r : Fin d, if r.val < k.val then x r else 0) - (k.val : R) * x k) * S.half * h2
        - ((∑ r : Fin d, if r.val < k.val then x r else 0) - (k.val : R) * x k) * hh
    linear_combination this
  have htr : psum x d = 0 := by
    have h1 := hK Kind.ident trivial
    simp only [coefK, sumFin_eq, hS.aI_eq] at h1
    rw [psum_full]
    linear_combination (S.cI * (d : R)) * h1 - (∑ r, x r) * S.half * hS.cI_sq - (∑ r, x r) * hh
  -- downward induction from `psum x d = 0`: `psum x (k+1) = (k+1)·x_k`, and `k+1` is cancellable because `cD k² · k(k+1) = 2`
  have hps : ∀ m, m ≤ d → psum x m = 0 := fun m hm => by
    induction hm using Nat.decreasingInduction with
    | self => exact htr
    | of_succ k hk ih =>
      rcases Nat.eq_zero_or_pos k with rfl | hk0
      · exact psum_zero x
      · have h2 := hS.cD_sq k hk0 hk
        have hk' := hdiag ⟨k, hk⟩ hk0
        have e := psum_succ x ⟨k, hk⟩
        rw [ih, hk'] at e
        have : x ⟨k, hk⟩ = 0 := by
          linear_combination (-(S.cD k * S.cD k * (k : R) * S.half)) * e - x ⟨k, hk⟩ * S.half * h2 - x ⟨k, hk⟩ * hh
        rw [hk', this, mul_zero]
  have hxs : ∀ m : Fin d, x m = 0 := fun m => by
    have e := psum_succ x m
    rw [hps _ m.isLt, hps _ m.isLt.le] at e
    linear_combination -e
  intro r c
  rcases lt_trichotomy r c with h | h | h
  · exact (hoff r c h).1
  · subst h; exact hxs r
  · exact (hoff c r h).2

theorem coef_sub (S : Scalars R) (hS : S.Valid d) (hd : 1 ≤ d) (A B : Mat d R) {a : Nat} (ha : a < d * d) :
    coef S d (fun r c => A r c - B r c) a = coef S d A a - coef S d B a := by
  rw [coef_eq_inner S hS hd _ ha, coef_eq_inner S hS hd _ ha, coef_eq_inner S hS hd _ ha]
  rw [show (Matrix.of fun r c => A r c - B r c) = Matrix.of A - Matrix.of B from rfl, Matrix.mul_sub, trace_sub]; ring

/-- **matrix → vector → matrix is the identity** -/
theorem synthesis_coef (S : Scalars R) (hS : S.Valid d) (hd : 1 ≤ d) (A : Mat d R) :
    synthesis S d (coef S d A) = A := by
  have := coef_injective S hS hd (fun r c => A r c - synthesis S d (coef S d A) r c) (fun a ha => by
    rw [coef_sub S hS hd _ _ ha, coef_synthesis S hS hd _ ha, sub_self])
  funext r c
  have := this r c
  exact (sub_eq_zero.1 this).symm

/-- a matrix is the sum of its coefficients times the basis -/
theorem of_eq_sum_coef (S : Scalars R) (hS : S.Valid d) (hd : 1 ≤ d) (A : Mat d R) :
    Matrix.of A = ∑ a ∈ Finset.range (d * d), coef S d A a • basis S d a := by
  rw [← synthesis_eq_sum' S hd, synthesis_coef S hS hd]

theorem basis_hermitian (S : Scalars R) (hS : S.Valid d) (hd : 1 ≤ d) {a : Nat} (ha : a < d * d) :
    (basis S d a)ᴴ = basis S d a := by
  obtain ⟨k, hk, rfl⟩ := exists_pos_eq hd ha
  rw [basis_pos S hk]; exact mat_hermitian S hS (kinds_wf hk)

theorem basis_trace (S : Scalars R) (hd : 1 ≤ d) {a : Nat} (ha : a < d * d) :
    trace (basis S d a) = if a = d * d - 1 then (d : R) * S.cI else 0 := by
  obtain ⟨k, hk, rfl⟩ := exists_pos_eq hd ha
  rw [basis_pos S hk, mat_trace S (kinds_wf hk), ← ident_pos hd]
  simp only [pos_inj hk (mem_kinds_of_wf hd (k := Kind.ident) trivial)]

/-- **Parseval**: `Σ_a conj(x_a) y_a = ½ tr(Aᴴ B)` for the coefficient vectors `x`, `y` of `A`, `B`. -/
theorem parseval (S : Scalars R) (hS : S.Valid d) (hd : 1 ≤ d) (A B : Mat d R) :
    ∑ a ∈ Finset.range (d * d), star (coef S d A a) * coef S d B a
      = S.half * trace ((Matrix.of A)ᴴ * Matrix.of B) := by
  have hAH : (Matrix.of A)ᴴ = ∑ a ∈ Finset.range (d * d), star (coef S d A a) • basis S d a := by
    rw [of_eq_sum_coef S hS hd A, conjTranspose_sum]
    refine Finset.sum_congr rfl (fun a ha => ?_)
    rw [conjTranspose_smul, basis_hermitian S hS hd (Finset.mem_range.1 ha)]
  rw [hAH, Finset.sum_mul, trace_sum, Finset.mul_sum]
  refine Finset.sum_congr rfl (fun a ha => ?_)
  rw [Matrix.smul_mul, trace_smul, coef_eq_inner S hS hd B (Finset.mem_range.1 ha), smul_eq_mul]
  ring

/-- conjugation of the model = `star` -/
scoped instance starConj {R : Type} [Star R] : Conj R := ⟨star⟩

theorem conj_eq_star (x : R) : conj x = star x := rfl

theorem synthesis_congr (S : Scalars R) (hd : 1 ≤ d) {v w : Nat → R} (h : ∀ p, p < d * d → v p = w p) :
    synthesis S d v = synthesis S d w := by
  have : Matrix.of (synthesis S d v) = Matrix.of (synthesis S d w) := by
    rw [synthesis_eq_sum' S hd, synthesis_eq_sum' S hd]
    exact Finset.sum_congr rfl (fun a ha => by rw [h a (Finset.mem_range.1 ha)])
  exact Matrix.of.injective this

theorem star_coef (S : Scalars R) (hS : S.Valid d) (hd : 1 ≤ d) (A : Mat d R) {a : Nat} (ha : a < d * d) :
    star (coef S d A a) = S.half * trace (basis S d a * (Matrix.of A)ᴴ) := by
  rw [coef_eq_inner S hS hd _ ha, star_mul', hS.star_half, ← trace_conjTranspose, conjTranspose_mul, basis_hermitian S hS hd ha,
    trace_mul_comm]

theorem coef_star_of_hermitian (S : Scalars R) (hS : S.Valid d) (hd : 1 ≤ d) (A : Mat d R)
    (hA : (Matrix.of A)ᴴ = Matrix.of A) {a : Nat} (ha : a < d * d) : star (coef S d A a) = coef S d A a := by
  rw [star_coef S hS hd A ha, hA, coef_eq_inner S hS hd A ha]

theorem half_frobenius (S : Scalars R) (X : Mat d R) :
    sumFin (fun r => sumFin fun c => conj (X r c) * X r c) * S.half = S.half * trace ((Matrix.of X)ᴴ * Matrix.of X) := by
  simp only [sumFin_eq, conj_eq_star, trace, diag_apply, Matrix.mul_apply, conjTranspose_apply, Matrix.of_apply]
  rw [Finset.sum_comm]; ring

theorem basis_last (S : Scalars R) (hd : 1 ≤ d) : basis S d (d * d - 1) = diagonal (fun _ => S.cI) := by
  rw [← ident_pos hd, basis_pos S (mem_kinds_of_wf hd (k := Kind.ident) trivial)]
  exact G_ident S

theorem re_of_star_eq (S : Scalars R) (hS : S.Valid d) {x : R} (hx : star x = x) : re S x = x := by
  unfold re; rw [conj_eq_star, hx]; linear_combination x * hS.half_two

theorem coef_last (S : Scalars R) (hd : 1 ≤ d) (A : Mat d R) : coef S d A (d * d - 1) = (∑ l, A l l) * S.aI := by
  rw [← ident_pos hd, coef_pos S A (mem_kinds_of_wf hd (k := Kind.ident) trivial)]
  simp [coefK, sumFin_eq]

theorem dmToVec_getD (S : Scalars R) (hd : 1 ≤ d) (A : Mat d R) {p : Nat} (hp : p < d * d - 1) :
    (dmToVec S d A false).getD p 0 = re S (coef S d A p) := by
  have hl := length_analysis S hd A
  simp only [dmToVec, Bool.false_eq_true, if_false, List.dropLast_eq_take, List.length_map, hl]
  rw [List.getD_eq_getElem?_getD, List.getElem?_take_of_lt hp, List.getElem?_map, coef, List.getD_eq_getElem?_getD]
  have : p < (analysis S d A).length := by omega
  rw [List.getElem?_eq_getElem this]; rfl

/-- real coefficients give a Hermitian matrix -/
theorem synthesis_hermitian (S : Scalars R) (hS : S.Valid d) (hd : 1 ≤ d) (v : Nat → R)
    (hv : ∀ a, a < d * d → star (v a) = v a) : (Matrix.of (synthesis S d v))ᴴ = Matrix.of (synthesis S d v) := by
  rw [synthesis_eq_sum' S hd, conjTranspose_sum]
  refine Finset.sum_congr rfl (fun a ha => ?_)
  rw [conjTranspose_smul, basis_hermitian S hS hd (Finset.mem_range.1 ha), hv a (Finset.mem_range.1 ha)]

/-- the trace sees only the last coefficient -/
theorem synthesis_trace (S : Scalars R) (hd : 1 ≤ d) (v : Nat → R) :
    trace (Matrix.of (synthesis S d v)) = v (d * d - 1) * ((d : R) * S.cI) := by
  rw [synthesis_eq_sum' S hd, trace_sum]
  have hlt : d * d - 1 < d * d := by have : 0 < d * d := Nat.mul_pos hd hd; omega
  rw [Finset.sum_eq_single (d * d - 1)]
  · rw [trace_smul, basis_trace S hd hlt, if_pos rfl, smul_eq_mul]
  · intro b hb hne
    rw [trace_smul, basis_trace S hd (Finset.mem_range.1 hb), if_neg hne, smul_zero]
  · intro h; exact absurd (Finset.mem_range.2 hlt) h

end Numqi.Gellmann
