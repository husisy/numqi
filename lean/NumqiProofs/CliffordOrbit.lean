/-
`first_element` of `get_pauli_subset_equivalent` / `get_pauli_subset_stabilizer` (`gate/_pauli.py`); the orbit and
stabiliser theorems of `NumqiProps/C07.lean` rest on the enumeration of Sp(2n,F2) imported here (C09).
-/
import NumqiProofs.SpF2Enum
import NumqiProofs.SpF2Inverse
import NumqiModel.Clifford

namespace Numqi.Clifford
open Numqi.SpF2

/-- the sorted subset (`first_element`) -/
abbrev firstElement (subset : List Nat) : List Nat := subset.mergeSort (fun a b => decide (a ≤ b))

end Numqi.Clifford
