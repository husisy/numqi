/-
C19: the tableau step `conj1` is conjugation by the gate, on state vectors
(`applyGate g (P v) = P' (applyGate g v)` with `P' = conj1 P g`), for every gate of the model.
-/
import NumqiProofs.QecBits

namespace Numqi.Qec
variable {R : Type} [CommRing R]

theorem ipow_eq (I : R) (k : Nat) : ipow I k = I ^ k := by
  induction k with
  | zero => simp [ipow]
  | succ k ih => rw [ipow, ih, pow_succ]

theorem ipow_congr {I : R} (hI : I * I = -1) {a b : Nat} (h : a % 4 = b % 4) : ipow I a = ipow I b := by
  have h4 : I ^ 4 = 1 := by
    have : I ^ 4 = (I * I) * (I * I) := by ring
    rw [this, hI]; ring
  rw [ipow_eq, ipow_eq, ← Nat.div_add_mod a 4, ← Nat.div_add_mod b 4, pow_add, pow_add, pow_mul, pow_mul, h4, h]
  simp

theorem ipow_mod {I : R} (hI : I * I = -1) (a : Nat) : ipow I (a % 4) = ipow I a :=
  ipow_congr hI (by omega)

theorem ipow_add (I : R) (a b : Nat) : ipow I (a + b) = ipow I a * ipow I b := by
  simp only [ipow_eq, pow_add]

theorem ipow_zero (I : R) : ipow I 0 = 1 := rfl
theorem ipow_one (I : R) : ipow I 1 = I := by simp [ipow]
theorem ipow_two {I : R} (hI : I * I = -1) : ipow I 2 = -1 := by simp [ipow, hI]
theorem ipow_three {I : R} (hI : I * I = -1) : ipow I 3 = -I := by simp [ipow, hI]
theorem ipow_mul (I : R) (a b : Nat) : ipow I (a * b) = ipow (ipow I a) b := by
  simp only [ipow_eq, pow_mul]

/-- move single-bit flips to the right -/
theorem xor_bit_right_comm (a q b : Nat) : (a ^^^ bit q) ^^^ b = (a ^^^ b) ^^^ bit q := by ac_rfl

theorem bit_ne_testBit {c t : Nat} (h : c ≠ t) : (bit c).testBit t = false := by
  simp [testBit_bit, h]

theorem par_flipIf_and (c : Bool) (z a : Nat) {q : Nat} (hq : q < 32) :
    par (flipIf c z q &&& a) = (par (z &&& a) ^^ (c && a.testBit q)) := by
  cases c <;> simp [flipIf, par_fl_and _ _ hq]

theorem par_and_flipIf (c : Bool) (z a : Nat) {q : Nat} (hq : q < 32) :
    par (z &&& flipIf c a q) = (par (z &&& a) ^^ (c && z.testBit q)) := by
  cases c <;> simp [flipIf, par_and_fl _ _ hq]

theorem testBit_flipIf (c : Bool) (m q j : Nat) :
    (flipIf c m q).testBit j = (m.testBit j ^^ (c && decide (q = j))) := by
  cases c <;> simp [flipIf, testBit_bit]

theorem xor_flipIf (c : Bool) (a m q : Nat) : a ^^^ flipIf c m q = flipIf c (a ^^^ m) q := by
  cases c <;> simp [flipIf, Nat.xor_assoc]

/-- case split on a Boolean term, rewriting it everywhere in the goal -/
macro "bsplit " e:term : tactic =>
  `(tactic| (rcases Bool.eq_false_or_eq_true $e with h | h <;> simp only [h]))

section gates
variable {I : R} (hI : I * I = -1)
include hI

theorem conj1_x (p : MP) (q : Nat) (hq : q < 32) (v : Nat → R) :
    applyGate I (.x q) (pauliAct I p v)
      = pauliAct I ⟨(p.k + 2 * (tb p.z q).toNat) % 4, p.x, p.z⟩ (applyGate I (.x q) v) := by
  funext i
  simp only [applyGate, pauliAct, fl, tb, xor_bit_right_comm, par_and_fl _ _ hq]
  bsplit (par (p.z &&& (i ^^^ p.x))) <;> bsplit (p.z.testBit q) <;>
    simp [ipow_add, ipow_mod hI, ipow_two hI]

theorem conj1_z (p : MP) (q : Nat) (v : Nat → R) :
    applyGate I (.z q) (pauliAct I p v)
      = pauliAct I ⟨(p.k + 2 * (tb p.x q).toNat) % 4, p.x, p.z⟩ (applyGate I (.z q) v) := by
  funext i
  simp only [applyGate, pauliAct, tb, Nat.testBit_xor]
  bsplit (par (p.z &&& (i ^^^ p.x))) <;> bsplit (p.x.testBit q) <;> bsplit (i.testBit q) <;>
    simp [ipow_add, ipow_mod hI, ipow_two hI]

theorem conj1_s (p : MP) (q : Nat) (hq : q < 32) (v : Nat → R) :
    applyGate I (.s q) (pauliAct I p v)
      = pauliAct I ⟨(p.k + (tb p.x q).toNat) % 4, p.x, flipIf (tb p.x q) p.z q⟩ (applyGate I (.s q) v) := by
  funext i
  simp only [applyGate, pauliAct, tb, par_flipIf_and _ _ _ hq, Nat.testBit_xor]
  bsplit (p.x.testBit q) <;> bsplit (i.testBit q) <;> bsplit (par (p.z &&& (i ^^^ p.x))) <;>
    simp [ipow_add, ipow_mod hI, ipow_two hI, ipow_one] <;>
    first | ring1 | linear_combination (ipow I p.k * v (i ^^^ p.x)) * hI | linear_combination (-(ipow I p.k * v (i ^^^ p.x))) * hI

theorem conj1_cx (p : MP) (c t : Nat) (hc : c < 32) (ht : t < 32) (hct : c ≠ t) (v : Nat → R) :
    applyGate I (.cx c t) (pauliAct I p v)
      = pauliAct I ⟨p.k % 4, flipIf (tb p.x c) p.x t, flipIf (tb p.z t) p.z c⟩ (applyGate I (.cx c t) v) := by
  funext i
  have htc : ¬ (t = c) := fun e => hct e.symm
  simp only [applyGate, pauliAct, tb, fl, xor_flipIf, par_flipIf_and _ _ _ hc, par_and_flipIf _ _ _ ht,
    testBit_flipIf, Nat.testBit_xor, xor_bit_right_comm, par_and_fl _ _ ht, htc, decide_false, Bool.and_false, Bool.xor_false]
  bsplit (p.x.testBit c) <;> bsplit (i.testBit c) <;> bsplit (p.z.testBit t) <;>
    bsplit (par (p.z &&& (i ^^^ p.x))) <;>
    simp [flipIf, xor_bit_cancel, ipow_add, ipow_mod hI, ipow_two hI]

theorem conj1_cz (p : MP) (c t : Nat) (hc : c < 32) (ht : t < 32) (v : Nat → R) :
    applyGate I (.cz c t) (pauliAct I p v)
      = pauliAct I ⟨(p.k + 2 * (tb p.x c && tb p.x t).toNat) % 4, p.x,
          flipIf (tb p.x c) (flipIf (tb p.x t) p.z c) t⟩ (applyGate I (.cz c t) v) := by
  funext i
  simp only [applyGate, pauliAct, tb, par_flipIf_and _ _ _ hc, par_flipIf_and _ _ _ ht, Nat.testBit_xor]
  bsplit (p.x.testBit c) <;> bsplit (p.x.testBit t) <;> bsplit (i.testBit c) <;> bsplit (i.testBit t) <;>
    bsplit (par (p.z &&& (i ^^^ p.x))) <;>
    simp [ipow_add, ipow_mod hI, ipow_two hI]

theorem conj1_y (p : MP) (q : Nat) (hq : q < 32) (v : Nat → R) :
    applyGate I (.y q) (pauliAct I p v)
      = pauliAct I ⟨(p.k + 2 * (tb p.x q).toNat + 2 * (tb p.z q).toNat) % 4, p.x, p.z⟩ (applyGate I (.y q) v) := by
  funext i
  simp only [applyGate, pauliAct, tb, fl, Nat.testBit_xor, xor_bit_right_comm, par_and_fl _ _ hq]
  bsplit (p.x.testBit q) <;> bsplit (p.z.testBit q) <;> bsplit (i.testBit q) <;>
    bsplit (par (p.z &&& (i ^^^ p.x))) <;>
    simp [ipow_add, ipow_mod hI, ipow_two hI] <;> ring1

/-- `CY = S_t · CX · S_t†` with `S† = S · Z`, on state vectors -/
theorem applyGate_cy (c t : Nat) (v : Nat → R) :
    applyGate I (.cy c t) v = applyGate I (.s t) (applyGate I (.cx c t) (applyGate I (.s t) (applyGate I (.z t) v))) := by
  funext i
  simp only [applyGate, tb, fl, testBit_fl, decide_true, Bool.xor_true]
  bsplit (i.testBit c) <;> bsplit (i.testBit t) <;> simp
  linear_combination (v i) * hI

theorem conj1_cy (p : MP) (c t : Nat) (hc : c < 32) (ht : t < 32) (hct : c ≠ t) (v : Nat → R) :
    applyGate I (.cy c t) (pauliAct I p v)
      = pauliAct I
          (let xt := tb p.x t
           let k1 := (p.k + 3 * xt.toNat) % 4
           let z1 := flipIf xt p.z t
           let x2 := flipIf (tb p.x c) p.x t
           let z2 := flipIf (tb z1 t) z1 c
           let xt2 := tb x2 t
           ⟨(k1 + xt2.toNat) % 4, x2, flipIf xt2 z2 t⟩) (applyGate I (.cy c t) v) := by
  rw [applyGate_cy hI, applyGate_cy hI, conj1_z hI, conj1_s hI _ t ht, conj1_cx hI _ c t hc ht hct, conj1_s hI _ t ht]
  congr 2
  simp only
  omega

theorem conj1_h (p : MP) (q : Nat) (hq : q < 32) (v : Nat → R) :
    applyGate I (.h q) (pauliAct I p v)
      = pauliAct I ⟨(p.k + 2 * (tb p.x q && tb p.z q).toNat) % 4, flipIf (tb p.x q != tb p.z q) p.x q,
          flipIf (tb p.x q != tb p.z q) p.z q⟩ (applyGate I (.h q) v) := by
  funext i
  simp only [applyGate, pauliAct, tb, fl, xor_flipIf, par_flipIf_and _ _ _ hq, par_and_flipIf _ _ _ hq,
    testBit_flipIf, Nat.testBit_xor, xor_bit_right_comm, par_and_fl _ _ hq, decide_true, Bool.and_true]
  bsplit (p.x.testBit q) <;> bsplit (p.z.testBit q) <;> bsplit (i.testBit q) <;>
    bsplit (par (p.z &&& (i ^^^ p.x))) <;>
    simp [flipIf, xor_bit_cancel, ipow_add, ipow_mod hI, ipow_two hI] <;> ring1

/-- **The tableau step is conjugation by the gate**: `G (P v) = P' (G v)` with `P' = conj1 P G`,
for every gate of the model on qubits `< n ≤ 32`. -/
theorem conj1_sound {n : Nat} (hn : n ≤ 32) (g : Gate) (hg : gateOk n g = true) (p p' : MP)
    (h : conj1 p g = some p') (v : Nat → R) :
    applyGate I g (pauliAct I p v) = pauliAct I p' (applyGate I g v) := by
  cases g <;> simp only [gateOk, Bool.and_eq_true, decide_eq_true_eq, bne_iff_ne, ne_eq, Bool.false_eq_true] at hg <;>
    simp only [conj1, beq_iff_eq, hg, if_false, Option.some.injEq] at h <;> subst h
  · exact conj1_h hI p _ (by omega) v
  · exact conj1_x hI p _ (by omega) v
  · exact conj1_y hI p _ (by omega) v
  · exact conj1_z hI p _ v
  · exact conj1_s hI p _ (by omega) v
  · exact conj1_cx hI p _ _ (by omega) (by omega) hg.2 v
  · exact conj1_cy hI p _ _ (by omega) (by omega) hg.2 v
  · exact conj1_cz hI p _ _ (by omega) (by omega) v

/-- the same through a whole circuit: `U (P v) = P' (U v)` with `P' = conjCirc P gates` -/
theorem conjCirc_sound {n : Nat} (hn : n ≤ 32) (gs : List Gate) (hg : gs.all (gateOk n) = true) (p p' : MP)
    (h : conjCirc p gs = some p') (v : Nat → R) :
    run I gs (pauliAct I p v) = pauliAct I p' (run I gs v) := by
  induction gs generalizing p v with
  | nil => simp only [conjCirc, Option.some.injEq] at h; subst h; rfl
  | cons g gs ih =>
    simp only [List.all_cons, Bool.and_eq_true] at hg
    simp only [conjCirc] at h
    cases h1 : conj1 p g with
    | none => simp [h1] at h
    | some p1 =>
      simp only [h1] at h
      simp only [run]
      rw [conj1_sound hI hn g hg.1 p p1 h1 v]
      exact ih hg.2 p1 h _

end gates
end Numqi.Qec
