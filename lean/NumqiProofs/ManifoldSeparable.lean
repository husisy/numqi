/- C01: SeparableDensityMatrix — unit trace and positive semidefiniteness of a convex mixture of product projectors. -/
import NumqiProofs.ManifoldSym
namespace Numqi.Manifold
open Finset

theorem mixture_trace {ι κ : Type} [Fintype ι] [Fintype κ] (n : Nat) (p : Fin n → ℂ) (A : Fin n → ι → ℂ) (B : Fin n → κ → ℂ)
    (hA : ∀ k, ∑ i, A k i * star (A k i) = 1) (hB : ∀ k, ∑ j, B k j * star (B k j) = 1) (hp : ∑ k, p k = 1) :
    ∑ i, ∑ j, ∑ k, p k * (A k i * star (A k i)) * (B k j * star (B k j)) = 1 := by
  calc ∑ i, ∑ j, ∑ k, p k * (A k i * star (A k i)) * (B k j * star (B k j))
      = ∑ i, ∑ k, ∑ j, p k * (A k i * star (A k i)) * (B k j * star (B k j)) := Finset.sum_congr rfl (fun i _ => Finset.sum_comm)
    _ = ∑ k, ∑ i, ∑ j, p k * (A k i * star (A k i)) * (B k j * star (B k j)) := Finset.sum_comm
    _ = ∑ k, p k := by
        refine Finset.sum_congr rfl (fun k _ => ?_)
        have : ∀ i, ∑ j, p k * (A k i * star (A k i)) * (B k j * star (B k j)) = p k * (A k i * star (A k i)) := by
          intro i; rw [← Finset.mul_sum, hB k, mul_one]
        simp only [this]
        rw [← Finset.mul_sum, hA k, mul_one]
    _ = 1 := hp

theorem mixture_quadratic {ι : Type} [Fintype ι] (n : Nat) (p : Fin n → ℂ) (A : Fin n → ι → ℂ) (v : ι → ℂ) :
    ∑ x, ∑ y, star (v x) * (∑ k, p k * (A k x * star (A k y))) * v y
      = ∑ k, p k * ((∑ x, star (v x) * A k x) * star (∑ x, star (v x) * A k x)) := by
  have hs : ∀ k, star (∑ x, star (v x) * A k x) = ∑ y, v y * star (A k y) := by
    intro k; simp [star_sum]
  calc ∑ x, ∑ y, star (v x) * (∑ k, p k * (A k x * star (A k y))) * v y
      = ∑ x, ∑ y, ∑ k, p k * ((star (v x) * A k x) * (v y * star (A k y))) := by
        refine Finset.sum_congr rfl (fun x _ => Finset.sum_congr rfl (fun y _ => ?_))
        rw [Finset.mul_sum, Finset.sum_mul]
        refine Finset.sum_congr rfl (fun k _ => ?_); ring
    _ = ∑ x, ∑ k, ∑ y, p k * ((star (v x) * A k x) * (v y * star (A k y))) := Finset.sum_congr rfl (fun x _ => Finset.sum_comm)
    _ = ∑ k, ∑ x, ∑ y, p k * ((star (v x) * A k x) * (v y * star (A k y))) := Finset.sum_comm
    _ = _ := by
        refine Finset.sum_congr rfl (fun k _ => ?_)
        rw [hs k, Finset.sum_mul_sum, Finset.mul_sum]
        refine Finset.sum_congr rfl (fun x _ => ?_)
        rw [Finset.mul_sum]

/-- `SeparableDensityMatrix`: the output is by construction `Σ_k p_k (a_k a_kᴴ) ⊗ (b_k b_kᴴ)` -/
theorem separableDM_eq (n : Nat) (p : Nat → ℂ) (a b : NMat ℂ) (i j i' j' : Nat) :
    separableDM n p a b i j i' j'
      = ∑ k : Fin n, p k.val * (a.get k.val i * star (a.get k.val i')) * (b.get k.val j * star (b.get k.val j')) := by
  simp only [separableDM, sumK_eq, CxOps.conj]
  refine Finset.sum_congr rfl (fun k _ => ?_)
  simp only [Complex.star_def]; ring

/-- `SeparableDensityMatrix()`: unit trace when the weights sum to one and every `a_k`, `b_k` is a unit vector -/
theorem separableDM_trace (n dA dB : Nat) (p : Nat → ℂ) (a b : NMat ℂ)
    (hA : ∀ k, k < n → ∑ i : Fin dA, a.get k i.val * star (a.get k i.val) = 1)
    (hB : ∀ k, k < n → ∑ j : Fin dB, b.get k j.val * star (b.get k j.val) = 1)
    (hp : ∑ k : Fin n, p k.val = 1) :
    ∑ i : Fin dA, ∑ j : Fin dB, separableDM n p a b i.val j.val i.val j.val = 1 := by
  have key := mixture_trace (ι := Fin dA) (κ := Fin dB) n (fun k => p k.val) (fun k i => a.get k.val i.val) (fun k j => b.get k.val j.val)
    (fun k => hA k.val k.isLt) (fun k => hB k.val k.isLt) hp
  rw [← key]
  exact Finset.sum_congr rfl (fun i _ => Finset.sum_congr rfl (fun j _ => separableDM_eq n p a b _ _ _ _))

/-- … and positive semidefinite: its quadratic form is `Σ_k p_k |⟨v, a_k ⊗ b_k⟩|²` -/
theorem separableDM_quadratic (n dA dB : Nat) (p : Nat → ℂ) (a b : NMat ℂ) (v : Fin dA × Fin dB → ℂ) :
    ∑ x : Fin dA × Fin dB, ∑ y : Fin dA × Fin dB, star (v x) * separableDM n p a b x.1.val x.2.val y.1.val y.2.val * v y
      = ∑ k : Fin n, p k.val * ((∑ x : Fin dA × Fin dB, star (v x) * (a.get k.val x.1.val * b.get k.val x.2.val))
          * star (∑ x : Fin dA × Fin dB, star (v x) * (a.get k.val x.1.val * b.get k.val x.2.val))) := by
  rw [← mixture_quadratic n (fun k => p k.val) (fun k (x : Fin dA × Fin dB) => a.get k.val x.1.val * b.get k.val x.2.val) v]
  refine Finset.sum_congr rfl (fun x _ => Finset.sum_congr rfl (fun y _ => ?_))
  rw [separableDM_eq]
  congr 2
  refine Finset.sum_congr rfl (fun k _ => ?_)
  rw [star_mul']; ring

/-- the rows `pairCx ∘ sphereQuotientVec` of the composite are unit vectors -/
theorem pairCx_quotient_row (n d : Nat) (t : Nat → Nat → ℝ) {k : Nat} (hk : k < n) (ht : normSq (d + d) (t k) ≠ 0) :
    ∑ i : Fin d, (NMat.ofFn n d fun k i => pairCx (K := ℂ) d (sphereQuotientVec (d + d) (t k)) i).get k i.val
      * star ((NMat.ofFn n d fun k i => pairCx (K := ℂ) d (sphereQuotientVec (d + d) (t k)) i).get k i.val) = 1 := by
  have : ∑ j ∈ range d, Complex.normSq (pairCx (K := ℂ) d (sphereQuotientVec (d + d) (t k)) j) = 1 := by
    rw [pairCx_normSq]; exact sphereQuotient_normSq (d + d) (t k) ht
  rw [Finset.sum_range] at this
  simp only [NMat.get_ofFn _ _ _ hk (Fin.isLt _), Complex.star_def, Complex.mul_conj]
  exact_mod_cast this

/-- the composite that op `sepdm` executes (softmax weights, quotient-sphere vectors) has unit trace -/
theorem separable_composite_trace_one' (n dA dB : Nat) (hn : 0 < n) (tp : Nat → ℝ) (ta tb : Nat → Nat → ℝ)
    (hA : ∀ k, k < n → normSq (dA + dA) (ta k) ≠ 0) (hB : ∀ k, k < n → normSq (dB + dB) (tb k) ≠ 0) :
    ∑ i : Fin dA, ∑ j : Fin dB, separableDM n (fun k => ((softmaxVec n tp k : ℝ) : ℂ))
      (NMat.ofFn n dA fun k i => pairCx (K := ℂ) dA (sphereQuotientVec (dA + dA) (ta k)) i)
      (NMat.ofFn n dB fun k j => pairCx (K := ℂ) dB (sphereQuotientVec (dB + dB) (tb k)) j) i.val j.val i.val j.val = 1 := by
  refine separableDM_trace n dA dB _ _ _ (fun k hk => pairCx_quotient_row n dA ta hk (hA k hk))
    (fun k hk => pairCx_quotient_row n dB tb hk (hB k hk)) ?_
  have := softmax_sum' n tp hn
  rw [Finset.sum_range] at this
  exact_mod_cast this
end Numqi.Manifold
