/-
Helper lemmas for C18: the six-parameter 3×3 UPB — local vectors are unit vectors and every pair of product vectors is
orthogonal on party A or on party B, for all parameter values (`c²+s²=1`, `|e|=1`, `nrm² = cos²γ + sin²γ cos²θ ≠ 0`).
-/
import NumqiProofs.Catalogue
import NumqiProofs.Lie

set_option linter.unusedSectionVars false

namespace Numqi.Catalogue
open Numqi.Lie

variable {F : Type} [Field F]

theorem hdot3 (u0 u1 u2 v0 v1 v2 : Cx F) :
    hdot [u0, u1, u2] [v0, v1, v2] = u0.conj * v0 + u1.conj * v1 + u2.conj * v2 := by
  simp [hdot]

theorem hdot_conj (u v : List (Cx F)) : hdot v u = (hdot u v).conj := by
  have step : ∀ (u v : List (Cx F)) (acc : Cx F),
      (v.zip u).foldl (fun acc q => acc + q.1.conj * q.2) acc.conj = ((u.zip v).foldl (fun acc q => acc + q.1.conj * q.2) acc).conj := by
    intro u
    induction u with
    | nil => intro v acc; simp
    | cons a u ih =>
      intro v acc
      cases v with
      | nil => simp
      | cons b v =>
        simp only [List.zip_cons_cons, List.foldl_cons]
        rw [← ih]
        congr 1
        ext <;> simp <;> ring
  have := step u v 0
  rwa [show (0 : Cx F).conj = 0 by ext <;> simp] at this

theorem hdot_swap_zero (u v : List (Cx F)) (h : hdot u v = 0) : hdot v u = 0 := by
  rw [hdot_conj, h]; ext <;> simp

theorem hdot_e0 (v0 v1 v2 : Cx F) : hdot [1, 0, 0] [v0, v1, v2] = v0 := by
  rw [hdot3]; ext <;> simp

theorem hdot_e1 (v0 v1 v2 : Cx F) : hdot [0, 1, 0] [v0, v1, v2] = v1 := by
  rw [hdot3]; ext <;> simp

variable (cg sg ct st nrm : F) (e : Cx F)

theorem six_norm_theta (ht : ct * ct + st * st = 1) : hdot (sixRowTheta ct st) (sixRowTheta ct st) = (1 : Cx F) := by
  rw [sixRowTheta, hdot3]; ext <;> simp <;> linear_combination ht

theorem six_norm_mixed (hg : cg * cg + sg * sg = 1) (ht : ct * ct + st * st = 1) (he : e.re * e.re + e.im * e.im = 1) :
    hdot (sixRowMixed cg sg ct st e) (sixRowMixed cg sg ct st e) = (1 : Cx F) := by
  rw [sixRowMixed, hdot3]; ext <;> simp
  · linear_combination (sg * sg) * ht + (cg * cg) * he + hg
  · ring

theorem six_norm_last (he : e.re * e.re + e.im * e.im = 1) (hn : nrm * nrm = cg * cg + sg * sg * (ct * ct)) (hn0 : nrm ≠ 0) :
    hdot (sixRowLast cg sg ct nrm e) (sixRowLast cg sg ct nrm e) = (1 : Cx F) := by
  rw [sixRowLast, hdot3]; ext <;> simp
  · field_simp
    linear_combination (sg * sg * (ct * ct)) * he - hn
  · field_simp; ring

theorem six_theta_mixed : hdot (sixRowTheta ct st) (sixRowMixed cg sg ct st e) = 0 := by
  rw [sixRowTheta, sixRowMixed, hdot3]; ext <;> simp <;> ring

theorem six_mixed_theta : hdot (sixRowMixed cg sg ct st e) (sixRowTheta ct st) = 0 :=
  hdot_swap_zero _ _ (six_theta_mixed cg sg ct st e)

theorem six_mixed_last (he : e.re * e.re + e.im * e.im = 1) (hn0 : nrm ≠ 0) :
    hdot (sixRowMixed cg sg ct st e) (sixRowLast cg sg ct nrm e) = 0 := by
  rw [sixRowMixed, sixRowLast, hdot3]; ext <;> simp
  · field_simp
    linear_combination (cg * sg * ct) * he
  · field_simp; ring

end Numqi.Catalogue
