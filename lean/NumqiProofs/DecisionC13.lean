/-
C13, scalar / guard layer — property theorems about the guarded closed forms of `NumqiModel/Decision.lean`
(`get_eof_2qubit`, `get_gme_2qubit` as functions of the concurrence) at the guard flags of
`NumqiModel/Generated/Thresholds.lean`, regenerated from the numqi sources on every run.
Listed in `THEOREM_FILES` of `harness/c13.py`.  Instantiation at ℝ: `sqrt = Real.sqrt`, `log = Real.log`.
-/
import NumqiModel.Decision
import NumqiProofs.EntangleSpin
import Mathlib.Tactic
import Mathlib.Analysis.SpecialFunctions.BinaryEntropy
import Mathlib.Analysis.SpecialFunctions.Sqrt
import Mathlib.Algebra.BigOperators.Fin

namespace Numqi.C13
open Numqi Numqi.Ent Numqi.Ent.Thresholds Real

noncomputable instance : SqrtLog ℝ := ⟨Real.sqrt, Real.log⟩

/-- the translator recognised the structure of both closed forms -/
theorem guards_recognised : eofRecognised = true ∧ gmeRecognised = true ∧ concPureRecognised = true := by decide

/-! ### totality: no `log` of a non-positive number, no `sqrt` of a negative number, on any branch -/

/-- **`get_eof_2qubit`: the argument of `np.sqrt` is `≥ 0` for every real `c`** — including `c = 1+ulp`
(the concurrence of a maximally entangled state can round above 1). Needs the `max(0,·)` clamp. -/
theorem eof_sqrtArg_nonneg (c : ℝ) : 0 ≤ sqrtArg eofClampSqrtArg c := by
  simp only [sqrtArg, eofClampSqrtArg, if_true, pyMax0]
  split_ifs with h <;> linarith

/-- **`get_gme_2qubit`: the argument of `np.sqrt` is `≥ 0` for every real `c`** -/
theorem gme_guard_total (c : ℝ) : 0 ≤ sqrtArg gmeClampSqrtArg c := by
  simp only [sqrtArg, gmeClampSqrtArg, if_true, pyMax0]
  split_ifs with h <;> linarith

/-- **`get_concurrence_pure`: the argument of `np.sqrt` is `≥ 0` for every value of the radicand** — the purity of the
reduced state of a product state rounds to `1+ulp` for ~40 % of them. -/
theorem concPure_guard_total (x : ℝ) : 0 ≤ concPureSqrtArg x := by
  simp only [concPureSqrtArg, concPureClampSqrtArg, if_true, pyMax0]
  split_ifs with h <;> linarith

private theorem sqrt_sqrtArg_le_one (b : Bool) (c : ℝ) : Real.sqrt (sqrtArg b c) ≤ 1 := by
  refine Real.sqrt_le_one.2 ?_
  simp only [sqrtArg, pyMax0]
  split_ifs <;> nlinarith [sq_nonneg c]

/-- `tmp1 ∈ [1/2, 1]` for every real `c` (exact arithmetic; correctly rounded `sqrt`, `+`, `/2` preserve the interval) -/
theorem eofT_range (c : ℝ) : 1 / 2 ≤ eofT c ∧ eofT c ≤ 1 := by
  have s0 := Real.sqrt_nonneg (sqrtArg eofClampSqrtArg c)
  have s1 := sqrt_sqrtArg_le_one eofClampSqrtArg c
  simp only [eofT, SqrtLog.sqrt]
  constructor <;> linarith

/-- **`get_eof_2qubit` is total** (`eof_guard_total`): whatever value `t ∈ [1/2,1]` the rounded `tmp1` takes — in
particular `t = 1`, which happens for every concurrence below `~1e-8` because `1-c²` rounds to 1 — every `np.log`
evaluated on the branch taken has a strictly positive argument (so no `0·log 0 = NaN`). Needs the `if tmp1<1` guard. -/
theorem eof_guard_total (t : ℝ) (h0 : 1 / 2 ≤ t) (h1 : t ≤ 1) : ∀ x ∈ eofLogArgs t, 0 < x := by
  intro x hx
  simp only [eofLogArgs, eofSecondTermGuardLt1, if_true] at hx
  split_ifs at hx with h
  · simp only [List.mem_cons, List.not_mem_nil, or_false] at hx
    rcases hx with rfl | rfl <;> linarith
  · simp only [List.mem_cons, List.not_mem_nil, or_false] at hx
    subst hx; linarith

/-! ### the closed forms over ℝ -/

/-- the guarded body is the binary entropy (natural logarithm) of `tmp1` -/
theorem eofBody_eq_binEntropy (t : ℝ) (h1 : t ≤ 1) : eofBody t = Real.binEntropy t := by
  simp only [eofBody, eofSecondTermGuardLt1, if_true, SqrtLog.log, Real.binEntropy_eq_negMulLog_add_negMulLog_one_sub,
    Real.negMulLog]
  split_ifs with h
  · ring
  · have : t = 1 := le_antisymm h1 (not_lt.1 h)
    subst this; simp

/-- **`get_eof_2qubit(c) = h((1+√(1-c²))/2)`** for every `c`, the `c = 0` shortcut included -/
theorem eof_eq_binEntropy (c : ℝ) : eof2qubit c = Real.binEntropy (eofT c) := by
  simp only [eof2qubit, eofZeroShortcut, Bool.true_and]
  split_ifs with h
  · have hc : c = 0 := by simpa using h
    subst hc
    simp [eofT, sqrtArg, eofClampSqrtArg, pyMax0, SqrtLog.sqrt]
  · exact eofBody_eq_binEntropy _ (eofT_range c).2

/-- **range of the entanglement of formation**: finite, in `[0, ln 2]`, for every real `c` -/
theorem eof_range (c : ℝ) : 0 ≤ eof2qubit c ∧ eof2qubit c ≤ Real.log 2 := by
  rw [eof_eq_binEntropy]
  obtain ⟨h0, h1⟩ := eofT_range c
  exact ⟨Real.binEntropy_nonneg (by linarith) h1, Real.binEntropy_le_log_two⟩

theorem eof_zero : eof2qubit (0 : ℝ) = 0 := by
  simp [eof2qubit, eofZeroShortcut]

/-- `1 - c² ∈ [0,1]` is its own clamp on `[0,1]` -/
private theorem sqrtArg_of_mem (b : Bool) {c : ℝ} (h0 : 0 ≤ c) (h1 : c ≤ 1) : sqrtArg b c = 1 - c * c := by
  simp only [sqrtArg, pyMax0]
  cases b
  · simp
  · simp only [if_true]
    split_ifs with h
    · rfl
    · nlinarith

/-- on `[0,1]` the root `√(1-c²)` equals `1` only at `c = 0` … -/
private theorem sqrt_one_sub_sq_eq_one {c : ℝ} (h0 : 0 ≤ c) (h1 : c ≤ 1) (hs : Real.sqrt (1 - c * c) = 1) : c = 0 := by
  have := Real.sq_sqrt (show 0 ≤ 1 - c * c by nlinarith)
  rw [hs] at this
  nlinarith

/-- … and is strictly decreasing -/
private theorem sqrt_one_sub_sq_lt {c1 c2 : ℝ} (h0 : 0 ≤ c1) (h12 : c1 < c2) (h2 : c2 ≤ 1) :
    Real.sqrt (1 - c2 * c2) < Real.sqrt (1 - c1 * c1) :=
  Real.sqrt_lt_sqrt (by nlinarith) (by nlinarith)

/-- **EOF vanishes only at `c = 0`** on the physical range -/
theorem eof_eq_zero_iff {c : ℝ} (h0 : 0 ≤ c) (h1 : c ≤ 1) : eof2qubit c = 0 ↔ c = 0 := by
  constructor
  · intro h
    rw [eof_eq_binEntropy, Real.binEntropy_eq_zero] at h
    obtain ⟨hl, _⟩ := eofT_range c
    rcases h with h | h
    · linarith
    · simp only [eofT, SqrtLog.sqrt, sqrtArg_of_mem _ h0 h1] at h
      exact sqrt_one_sub_sq_eq_one h0 h1 (by linarith)
  · rintro rfl; exact eof_zero

/-- **EOF is strictly increasing in the concurrence** on `[0,1]` -/
theorem eof_strictMono {c1 c2 : ℝ} (h0 : 0 ≤ c1) (h12 : c1 < c2) (h2 : c2 ≤ 1) : eof2qubit c1 < eof2qubit c2 := by
  rw [eof_eq_binEntropy, eof_eq_binEntropy]
  have r1 := eofT_range c1
  have r2 := eofT_range c2
  apply Real.binEntropy_strictAntiOn ⟨by simpa using r2.1, r2.2⟩ ⟨by simpa using r1.1, r1.2⟩
  simp only [eofT, SqrtLog.sqrt, sqrtArg_of_mem _ h0 (by linarith), sqrtArg_of_mem _ (by linarith) h2]
  have := sqrt_one_sub_sq_lt h0 h12 h2
  linarith

/-- **range of the geometric measure**: in `[0, 1/2]` for every real `c` -/
theorem gme_range (c : ℝ) : 0 ≤ gme2qubit c ∧ gme2qubit c ≤ 1 / 2 := by
  have s0 := Real.sqrt_nonneg (sqrtArg gmeClampSqrtArg c)
  have s1 := sqrt_sqrtArg_le_one gmeClampSqrtArg c
  simp only [gme2qubit, SqrtLog.sqrt]
  constructor <;> linarith

/-- **GME vanishes exactly at `c = 0`** on the physical range -/
theorem gme_eq_zero_iff {c : ℝ} (h0 : 0 ≤ c) (h1 : c ≤ 1) : gme2qubit c = 0 ↔ c = 0 := by
  simp only [gme2qubit, SqrtLog.sqrt, sqrtArg_of_mem _ h0 h1]
  constructor
  · intro h
    exact sqrt_one_sub_sq_eq_one h0 h1 (by linarith)
  · rintro rfl; simp

/-- **GME is strictly increasing in the concurrence** on `[0,1]` -/
theorem gme_strictMono {c1 c2 : ℝ} (h0 : 0 ≤ c1) (h12 : c1 < c2) (h2 : c2 ≤ 1) : gme2qubit c1 < gme2qubit c2 := by
  simp only [gme2qubit, SqrtLog.sqrt, sqrtArg_of_mem _ h0 (by linarith), sqrtArg_of_mem _ (by linarith) h2]
  have := sqrt_one_sub_sq_lt h0 h12 h2
  linarith

/-- **relation between the two measures**: `EOF = h(1 − GME)` -/
theorem eof_eq_binEntropy_one_sub_gme {c : ℝ} (h0 : 0 ≤ c) (h1 : c ≤ 1) :
    eof2qubit c = Real.binEntropy (1 - gme2qubit c) := by
  rw [eof_eq_binEntropy]
  congr 1
  simp only [eofT, gme2qubit, SqrtLog.sqrt, sqrtArg_of_mem _ h0 h1]
  ring

/-! ### eigenvalue read-outs: pure states and Bell-diagonal states -/

private theorem pyMax0_eq_max (x : ℝ) : pyMax0 x = max 0 x := by
  unfold pyMax0; split_ifs with h
  · exact (max_eq_right h.le).symm
  · exact (max_eq_left (not_lt.1 h)).symm

/-- **Wootters read-out on a spectrum `(a², b², c², d²)` with `0 ≤ a,b,c ≤ d`**: `max(0, d − a − b − c)` -/
theorem woottersReadout_sq {a b c d : ℝ} (ha : 0 ≤ a) (hb : 0 ≤ b) (hc : 0 ≤ c) (hd : 0 ≤ d) :
    woottersReadout [a ^ 2, b ^ 2, c ^ 2, d ^ 2] = max 0 (2 * d - (a + b + c + d)) := by
  simp only [woottersReadout, List.map_cons, List.map_nil, List.getLastD_cons, List.getLastD_nil, List.foldl_cons, List.foldl_nil,
    pyMax0_eq_max, SqrtLog.sqrt, max_eq_right (sq_nonneg _), Real.sqrt_sq ha, Real.sqrt_sq hb, Real.sqrt_sq hc, Real.sqrt_sq hd]
  congr 1; ring

/-- **pure states**: the spectrum `(0,0,0,t)` (theorem `concurrenceArg_pure`: `t = (2|det ψ|)²`) reads out as `√t = 2|det ψ|`,
which is `get_concurrence_pure` (theorem `concPureRadicand_two_qubit`) -/
theorem woottersReadout_pure {t : ℝ} (ht : 0 ≤ t) : woottersReadout [0, 0, 0, t] = Real.sqrt t := by
  have := woottersReadout_sq (le_refl 0) (le_refl 0) (le_refl 0) (Real.sqrt_nonneg t)
  simp only [Real.sq_sqrt ht, ne_eq, OfNat.ofNat_ne_zero, not_false_eq_true, zero_pow] at this
  rw [this]
  have := Real.sqrt_nonneg t
  rw [max_eq_right] <;> linarith

/-- the zero spectrum (pure product states, theorem `concurrenceArg_product`) reads out as concurrence 0 -/
theorem woottersReadout_zero : woottersReadout [(0 : ℝ), 0, 0, 0] = 0 := by
  rw [woottersReadout_pure le_rfl, Real.sqrt_zero]

/-- **negativity read-out**: for a spectrum summing to 1 (the partial transpose preserves the trace) it is the sum of the absolute values of
the negative eigenvalues … -/
theorem negativityReadout_eq_neg_part (ev : List ℝ) (hs : ev.sum = 1) :
    negativityReadout ev = (ev.map fun x => max (-x) 0).sum := by
  have key : ∀ (l : List ℝ) (acc : ℝ), (l.map fun x => if x < 0 then -x else x).foldl (· + ·) acc
      = acc + l.sum + 2 * (l.map fun x => max (-x) 0).sum := by
    intro l
    induction l with
    | nil => intro acc; simp
    | cons x l ih =>
      intro acc
      simp only [List.map_cons, List.foldl_cons, List.sum_cons, ih]
      split_ifs with h
      · rw [max_eq_left (by linarith)]; ring
      · rw [max_eq_right (by linarith)]; ring
  simp only [negativityReadout, key, hs]
  ring

/-- … hence **zero for a positive semidefinite partial transpose** (every separable state, theorem `C05.sep_ppt_full`) -/
theorem negativityReadout_zero_of_nonneg (ev : List ℝ) (hs : ev.sum = 1) (h0 : ∀ x ∈ ev, 0 ≤ x) : negativityReadout ev = 0 := by
  rw [negativityReadout_eq_neg_part ev hs]
  apply List.sum_eq_zero
  intro y hy
  obtain ⟨x, hx, rfl⟩ := List.mem_map.1 hy
  exact max_eq_right (by linarith [h0 x hx])

/-- **Bell-diagonal states**: spectrum `(p_i²)`, weights summing to 1, `d` the largest: concurrence `max(0, 2 p_max − 1)` -/
theorem woottersReadout_bellDiag {a b c d : ℝ} (ha : 0 ≤ a) (hb : 0 ≤ b) (hc : 0 ≤ c) (hd : 0 ≤ d) (hs : a + b + c + d = 1) :
    woottersReadout [a ^ 2, b ^ 2, c ^ 2, d ^ 2] = max 0 (2 * d - 1) := by
  rw [woottersReadout_sq ha hb hc hd, hs]

/-- **non-zero exactly when NPT, on the Bell-diagonal family**: the read-out of the spectrum `(p_i²)` (weights `≥ 0`, sum 1, `d` the
largest) is positive iff some weight exceeds ½, i.e. (theorem `C05.bellDiag_ppt_iff`) iff the partial transpose is not positive semidefinite -/
theorem woottersReadout_bellDiag_pos_iff {a b c d : ℝ} (ha : 0 ≤ a) (hb : 0 ≤ b) (hc : 0 ≤ c) (hd : 0 ≤ d) (hs : a + b + c + d = 1)
    (hda : a ≤ d) (hdb : b ≤ d) (hdc : c ≤ d) :
    0 < woottersReadout [a ^ 2, b ^ 2, c ^ 2, d ^ 2] ↔ ¬ (a ≤ 1 / 2 ∧ b ≤ 1 / 2 ∧ c ≤ 1 / 2 ∧ d ≤ 1 / 2) := by
  rw [woottersReadout_bellDiag ha hb hc hd hs]
  constructor
  · intro h ⟨_, _, _, h4⟩
    rw [max_eq_left (by linarith)] at h; exact lt_irrefl _ h
  · intro h
    have : 1 / 2 < d := by
      by_contra hn
      exact h ⟨by linarith, by linarith, by linarith, by linarith⟩
    exact lt_max_of_lt_right (by linarith)

/-- Schmidt weights of a normalised two-qubit pure state: `l₁ + l₂ = 1`, `l₁ l₂ = D = |det ψ|²` (theorem `schmidt_trace_det`),
`l₂ ≤ l₁` ⇒ `l₁ = (1+√(1−4D))/2` -/
private theorem schmidt_weight_max {l1 l2 D : ℝ} (h1 : l1 + l2 = 1) (hD : l1 * l2 = D) (hle : l2 ≤ l1) :
    l1 = (1 + Real.sqrt (1 - 4 * D)) / 2 := by
  have h : 1 - 4 * D = (l1 - l2) ^ 2 := by rw [← hD]; nlinarith
  rw [h, Real.sqrt_sq (by linarith)]; linarith

/-- `D = l₁ l₂ ∈ [0, 1/4]` -/
private theorem schmidt_det_range {l1 l2 D : ℝ} (h1 : l1 + l2 = 1) (hD : l1 * l2 = D) (hle : l2 ≤ l1) (h2 : 0 ≤ l2) :
    0 ≤ D ∧ D ≤ 1 / 4 := by
  rw [← hD]
  constructor <;> nlinarith [sq_nonneg (l1 - l2)]

/-- at the concurrence `c = 2√D` of a pure state the radicand `1 - c²` is `1 - 4D`, clamped or not -/
private theorem sqrtArg_two_sqrt (b : Bool) {D : ℝ} (hD0 : 0 ≤ D) (hD4 : D ≤ 1 / 4) : sqrtArg b (2 * Real.sqrt D) = 1 - 4 * D := by
  have hs : Real.sqrt D ≤ 1 / 2 := by
    rw [show (1 / 2 : ℝ) = Real.sqrt ((1 / 2) ^ 2) from (Real.sqrt_sq (by norm_num)).symm]
    exact Real.sqrt_le_sqrt (by linarith)
  rw [sqrtArg_of_mem b (by positivity) (by linarith)]
  linarith [Real.mul_self_sqrt hD0]

/-- **`get_eof_pure` = `get_eof_2qubit` on pure states**: the entropy of the Schmidt weights is the closed form at `c = 2|det ψ|` -/
theorem eof_pure_eq {l1 l2 D : ℝ} (h1 : l1 + l2 = 1) (hD : l1 * l2 = D) (hle : l2 ≤ l1) (h2 : 0 ≤ l2) :
    Real.negMulLog l1 + Real.negMulLog l2 = eof2qubit (2 * Real.sqrt D) := by
  obtain ⟨hD0, hD4⟩ := schmidt_det_range h1 hD hle h2
  have ht : eofT (2 * Real.sqrt D) = l1 := by
    simp only [eofT, SqrtLog.sqrt, sqrtArg_two_sqrt _ hD0 hD4]
    exact (schmidt_weight_max h1 hD hle).symm
  rw [eof_eq_binEntropy, Real.binEntropy_eq_negMulLog_add_negMulLog_one_sub, ht, show 1 - l1 = l2 by linarith]

/-- **GME of a pure state** `1 − l₁` (one minus the largest Schmidt weight) is `get_gme_2qubit` at `c = 2|det ψ|` -/
theorem gme_pure_eq {l1 l2 D : ℝ} (h1 : l1 + l2 = 1) (hD : l1 * l2 = D) (hle : l2 ≤ l1) (h2 : 0 ≤ l2) :
    1 - l1 = gme2qubit (2 * Real.sqrt D) := by
  obtain ⟨hD0, hD4⟩ := schmidt_det_range h1 hD hle h2
  simp only [gme2qubit, SqrtLog.sqrt, sqrtArg_two_sqrt _ hD0 hD4]
  rw [schmidt_weight_max h1 hD hle]; ring

/-- `get_eof_pure`'s read-out drops weights `≤ eps` and sums `-x log x` over the rest -/
theorem eofPureFromWeights_two {eps l1 l2 : ℝ} (h1 : eps < l1) (h2 : eps < l2) :
    eofPureFromWeights eps [l2, l1] = Real.negMulLog l1 + Real.negMulLog l2 := by
  simp [eofPureFromWeights, h1, h2, SqrtLog.log, Real.negMulLog]


/-! ### the four losses as convex combinations of member values -/

private theorem foldl_add_eq {β : Type} (f : β → ℝ) (l : List β) (a : ℝ) :
    l.foldl (fun acc m => acc + f m) a = a + (l.map f).sum := by
  induction l generalizing a with
  | nil => simp
  | cons x l ih => simp [ih, add_assoc]

private theorem sum_map_sub {β : Type} (f g : β → ℝ) (l : List β) :
    (l.map f).sum - (l.map g).sum = (l.map fun m => f m - g m).sum := by
  induction l with
  | nil => simp
  | cons x l ih => simp only [List.map_cons, List.sum_cons]; linarith

theorem concLoss_eq_sum (eps : ℝ) (l : List (ℝ × ℝ)) : concLoss eps l = (l.map (concMember eps)).sum := by
  simp [concLoss, foldl_add_eq]

theorem eofLoss_eq_sum (eps : ℝ) (l : List (ℝ × List ℝ)) : eofLoss eps l = (l.map (eofMember eps)).sum := by
  simp [eofLoss, foldl_add_eq]

theorem linentLoss_eq_sum (eps sign : ℝ) (l : List (ℝ × ℝ)) :
    linentLoss eps sign l = sign * (1 - (l.map fun m => m.2 / clampBelow eps m.1).sum) := by
  simp [linentLoss, foldl_add_eq]

theorem gmeLoss_eq_sum (l : List (ℝ × ℝ)) : gmeLoss l = 1 - (l.map fun z => z.1 * z.1 + z.2 * z.2).sum := by
  simp [gmeLoss, foldl_add_eq]

/-- a sum of member values `v_α ∈ [0, p_α·c]` with weights summing to 1 lies in `[0, c]` -/
private theorem members_range {β : Type} (l : List β) (v w : β → ℝ) (c : ℝ) (h : ∀ m ∈ l, 0 ≤ v m ∧ v m ≤ w m * c)
    (hw : (l.map w).sum = 1) : 0 ≤ (l.map v).sum ∧ (l.map v).sum ≤ c := by
  have key : 0 ≤ (l.map v).sum ∧ (l.map v).sum ≤ (l.map w).sum * c := by
    clear hw
    induction l with
    | nil => simp
    | cons x l ih =>
      have hx := h x (by simp)
      have := ih fun m hm => h m (List.mem_cons_of_mem _ hm)
      simp only [List.map_cons, List.sum_cons]
      constructor
      · linarith [this.1, hx.1]
      · nlinarith [this.2, hx.2]
  rw [hw, one_mul] at key
  exact key

/-- **one member of the concurrence loss** (`d` = dimension of the reduced state): with `p²/d ≤ purity ≤ p²`
(theorems `gram_purity_le/ge`) its value lies in `[0, p·√(2(1−1/d))]` — for two qubits in `[0, p]` -/
theorem concMember_range {eps p pur : ℝ} {d : ℕ} (hd : 1 ≤ d) (hp : 0 ≤ p) (_h1 : pur ≤ p * p) (h2 : p * p ≤ d * pur)
    (he : eps ≤ 2 * (p * p) * (1 - 1 / d)) :
    0 ≤ concMember eps (p, pur) ∧ concMember eps (p, pur) ≤ p * Real.sqrt (2 * (1 - 1 / d)) := by
  have hd' : (0 : ℝ) < d := by exact_mod_cast hd
  refine ⟨Real.sqrt_nonneg _, ?_⟩
  have hx : 2 * (p * p - pur) ≤ 2 * (p * p) * (1 - 1 / d) := by
    have : p * p / d ≤ pur := by rw [div_le_iff₀ hd']; linarith
    have e : 2 * (p * p) * (1 - 1 / (d : ℝ)) = 2 * (p * p - p * p / d) := by field_simp
    rw [e]; linarith
  have hc : clampBelow eps (2 * (p * p - pur)) ≤ 2 * (p * p) * (1 - 1 / d) := by
    unfold clampBelow; split_ifs <;> assumption
  calc concMember eps (p, pur) ≤ Real.sqrt (2 * (p * p) * (1 - 1 / d)) := Real.sqrt_le_sqrt hc
    _ = p * Real.sqrt (2 * (1 - 1 / d)) := by
        rw [show 2 * (p * p) * (1 - 1 / (d : ℝ)) = p ^ 2 * (2 * (1 - 1 / d)) by ring, Real.sqrt_mul (sq_nonneg p), Real.sqrt_sq hp]

/-- **one member of the linear-entropy loss**: `p − purity/p ∈ [0, p(1−1/d)]` -/
theorem linentMember_range {eps p pur : ℝ} {d : ℕ} (hd : 1 ≤ d) (hp : 0 < p) (he : eps ≤ p) (h1 : pur ≤ p * p) (h2 : p * p ≤ d * pur) :
    0 ≤ p - pur / clampBelow eps p ∧ p - pur / clampBelow eps p ≤ p * (1 - 1 / d) := by
  have hd' : (0 : ℝ) < d := by exact_mod_cast hd
  have hc : clampBelow eps p = p := by
    unfold clampBelow; split_ifs with h
    · rfl
    · linarith [not_lt.1 h]
  rw [hc]
  constructor
  · rw [sub_nonneg, div_le_iff₀ hp]; exact h1
  · have : p / d ≤ pur / p := by rw [div_le_div_iff₀ hd' hp]; linarith
    have e : p * (1 - 1 / (d : ℝ)) = p - p / d := by field_simp
    rw [e]; linarith

/-- **one member of the EOF loss** for a spectrum `λ ≥ 0`, `Σλ = p`, every non-zero value above the clamp `eps`:
the member is `p log p − Σ λ log λ ∈ [0, p log d]` (theorem `member_entropy_range` in `NumqiProofs/EntangleSpin.lean`) -/
theorem eofMember_eq {eps p : ℝ} {d : ℕ} (lam : Fin d → ℝ) (_he : 0 < eps) (hp : p = 0 ∨ eps < p) (hl : ∀ i, lam i = 0 ∨ eps < lam i) :
    eofMember eps (p, List.ofFn lam) = p * Real.log p - ∑ i, lam i * Real.log (lam i) := by
  have hx : ∀ x : ℝ, (x = 0 ∨ eps < x) → clampXLogX eps x = x * Real.log x := by
    intro x hx
    unfold clampXLogX clampBelow
    rcases hx with rfl | h
    · simp
    · simp [h, SqrtLog.log]
  simp only [eofMember, foldl_add_eq, zero_add, hx p hp, List.map_ofFn, List.sum_ofFn, Function.comp]
  congr 1
  exact Finset.sum_congr rfl fun i _ => hx _ (hl i)

/-- **one member of the EOF loss lies in `[0, p log d]`** (on the constant `eofMember`; Jensen for `-x log x`) -/
theorem eofMember_range {eps p : ℝ} {d : ℕ} (hd : 0 < d) (lam : Fin d → ℝ) (he : 0 < eps) (h0 : ∀ i, 0 ≤ lam i) (hsum : ∑ i, lam i = p)
    (hp : p = 0 ∨ eps < p) (hl : ∀ i, lam i = 0 ∨ eps < lam i) :
    0 ≤ eofMember eps (p, List.ofFn lam) ∧ eofMember eps (p, List.ofFn lam) ≤ p * Real.log d := by
  rw [eofMember_eq lam he hp hl]
  exact member_entropy_range lam h0 p hsum hd

/-- **the concurrence loss is a convex combination of member values in range** (two qubits: `loss ∈ [0,1]`) -/
theorem concLoss_range (eps : ℝ) (l : List (ℝ × ℝ)) (d : ℕ) (hd : 1 ≤ d)
    (h : ∀ m ∈ l, 0 ≤ m.1 ∧ m.2 ≤ m.1 * m.1 ∧ m.1 * m.1 ≤ d * m.2 ∧ eps ≤ 2 * (m.1 * m.1) * (1 - 1 / d))
    (hw : (l.map Prod.fst).sum = 1) :
    0 ≤ concLoss eps l ∧ concLoss eps l ≤ Real.sqrt (2 * (1 - 1 / d)) := by
  rw [concLoss_eq_sum]
  exact members_range l (concMember eps) Prod.fst _ (fun m hm => by
    obtain ⟨a, b, c, e⟩ := h m hm
    exact concMember_range hd a b c e) hw

/-- **the linear-entropy loss (`kind='convex'`) is a convex combination of member values in `[0, p(1−1/d)]`** -/
theorem linentLoss_range (eps : ℝ) (l : List (ℝ × ℝ)) (d : ℕ) (hd : 1 ≤ d)
    (h : ∀ m ∈ l, 0 < m.1 ∧ eps ≤ m.1 ∧ m.2 ≤ m.1 * m.1 ∧ m.1 * m.1 ≤ d * m.2) (hw : (l.map Prod.fst).sum = 1) :
    0 ≤ linentLoss eps 1 l ∧ linentLoss eps 1 l ≤ 1 - 1 / d := by
  have e : linentLoss eps 1 l = (l.map fun m => m.1 - m.2 / clampBelow eps m.1).sum := by
    rw [linentLoss_eq_sum, one_mul, ← hw]
    exact sum_map_sub Prod.fst _ l
  rw [e]
  exact members_range l _ Prod.fst _ (fun m hm => by
    obtain ⟨a, b, c, e'⟩ := h m hm
    exact linentMember_range hd a b c e') hw

/-- `kind='concave'` of the linear-entropy model is minus the convex loss (the same ensemble average, maximised instead of minimised) -/
theorem linentLoss_neg (eps : ℝ) (l : List (ℝ × ℝ)) : linentLoss eps (-1) l = -(linentLoss eps 1 l) := by
  simp [linentLoss]

/-- the scale applied to a kept eigenvector is a square root of its (non-negative) eigenvalue; a rounding-negative eigenvalue is clamped to 0 -/
theorem sqrtRhoScale_sq {lam : ℝ} (h : 0 ≤ lam) : sqrtRhoScale lam * sqrtRhoScale lam = lam := by
  simp only [sqrtRhoScale, SqrtLog.sqrt, pyMax0]
  split_ifs with hp
  · exact Real.mul_self_sqrt h
  · have : lam = 0 := le_antisymm (not_lt.1 hp) h
    simp [this]

theorem sqrtRhoScale_of_neg {lam : ℝ} (h : lam ≤ 0) : sqrtRhoScale lam = 0 := by
  simp only [sqrtRhoScale, SqrtLog.sqrt, pyMax0, not_lt.2 h, if_false, Real.sqrt_zero]

/-- both cases at once: the squared scale is the clamped eigenvalue `max(0, λ)` -/
theorem sqrtRhoScale_mul_self (lam : ℝ) : sqrtRhoScale lam * sqrtRhoScale lam = max 0 lam := by
  rcases le_total 0 lam with h | h
  · rw [sqrtRhoScale_sq h, max_eq_right h]
  · rw [sqrtRhoScale_of_neg h, max_eq_left h]; simp

/-- **`sqrtRho_gram` at the executed instance**: with `S[k,j] = sqrtRhoEntry …` (real and imaginary part of `EVC[k, N-rank+j]` scaled by
`sqrtRhoScale(EVL[N-rank+j])`, the constants the driver op `sqrtrho` executes) the Gram matrix of `_sqrt_rho` is the truncated spectral sum
with every eigenvalue clamped at 0: `Σ_j S[k,j] conj S[k',j] = Σ_j max(0, λ_j) v[k,j] conj v[k',j]` - for non-negative kept eigenvalues the
`eigh` contract makes this `ρ` (rank-truncated); a rounding-negative eigenvalue contributes exactly 0. -/
theorem sqrtRhoEntry_gram (evl : List ℝ) (N rank : ℕ) (vr vi : ℕ → ℕ → ℝ) (k k' : ℕ) :
    ∑ j ∈ Finset.range rank, (⟨sqrtRhoEntry evl N rank j (vr k j), sqrtRhoEntry evl N rank j (vi k j)⟩ : ℂ)
        * star (⟨sqrtRhoEntry evl N rank j (vr k' j), sqrtRhoEntry evl N rank j (vi k' j)⟩ : ℂ)
      = ∑ j ∈ Finset.range rank, ((max 0 (evl.getD (N - rank + j) 0) : ℝ) : ℂ)
          * ((⟨vr k j, vi k j⟩ : ℂ) * star (⟨vr k' j, vi k' j⟩ : ℂ)) := by
  refine Finset.sum_congr rfl fun j _ => ?_
  have hs := sqrtRhoScale_mul_self (evl.getD (N - rank + j) 0)
  set s := sqrtRhoScale (evl.getD (N - rank + j) 0) with hsd
  apply Complex.ext
  · simp only [sqrtRhoEntry, Complex.mul_re, Complex.star_def, Complex.conj_re, Complex.conj_im, Complex.ofReal_re, Complex.ofReal_im, ← hs, ← hsd]
    ring
  · simp only [sqrtRhoEntry, Complex.mul_im, Complex.mul_re, Complex.star_def, Complex.conj_re, Complex.conj_im, Complex.ofReal_re, Complex.ofReal_im, ← hs, ← hsd]
    ring

/-- **the GME loss lies in `[0,1]`**: each `|overlap_α|² ≤ p_α` (theorem `overlap_sq_le`), `Σ p_α = 1` -/
theorem gmeLoss_range (l : List ((ℝ × ℝ) × ℝ)) (h : ∀ m ∈ l, m.1.1 * m.1.1 + m.1.2 * m.1.2 ≤ m.2)
    (hw : (l.map Prod.snd).sum = 1) : 0 ≤ gmeLoss (l.map Prod.fst) ∧ gmeLoss (l.map Prod.fst) ≤ 1 := by
  rw [gmeLoss_eq_sum, List.map_map]
  have key := members_range l (fun m => m.2 - (m.1.1 * m.1.1 + m.1.2 * m.1.2)) Prod.snd 1 (fun m hm => by
    have := h m hm
    constructor
    · linarith
    · nlinarith [mul_self_nonneg m.1.1, mul_self_nonneg m.1.2]) hw
  have e : (l.map fun m => m.2 - (m.1.1 * m.1.1 + m.1.2 * m.1.2)).sum
      = 1 - (l.map ((fun z : ℝ × ℝ => z.1 * z.1 + z.2 * z.2) ∘ Prod.fst)).sum := by
    rw [← hw]
    exact (sum_map_sub Prod.snd _ l).symm
  rw [← e]; exact key


/-! ### non-vacuity -/

example : eof2qubit (1 : ℝ) = Real.log 2 := by
  rw [eof_eq_binEntropy, Real.binEntropy_eq_log_two]
  simp [eofT, sqrtArg, eofClampSqrtArg, pyMax0, SqrtLog.sqrt]

example : gme2qubit (1 : ℝ) = 1 / 2 := by
  simp [gme2qubit, sqrtArg, gmeClampSqrtArg, pyMax0, SqrtLog.sqrt]

/-- the rounded case the guard exists for: `t = 1` -/
example : ∀ x ∈ eofLogArgs (1 : ℝ), 0 < x := eof_guard_total 1 (by norm_num) le_rfl

/-- a maximally entangled pure state: spectrum `(0,0,0,1)` reads out as concurrence 1 -/
example : woottersReadout [(0 : ℝ), 0, 0, 1] = 1 := by
  rw [woottersReadout_pure zero_le_one]; simp

/-- the boundary of the Bell-diagonal family `p = (0,0,½,½)`: concurrence 0 -/
example : woottersReadout [(0 : ℝ) ^ 2, 0 ^ 2, (1 / 2) ^ 2, (1 / 2) ^ 2] = 0 := by
  rw [woottersReadout_bellDiag le_rfl le_rfl (by norm_num) (by norm_num) (by norm_num)]; norm_num

/-- the hypotheses of `concLoss_range` are satisfiable (one member of weight 1 with purity ½: a maximally entangled member) -/
example : 0 ≤ concLoss 0 [((1 : ℝ), 1 / 2)] ∧ concLoss 0 [((1 : ℝ), 1 / 2)] ≤ Real.sqrt (2 * (1 - 1 / (2 : ℕ))) :=
  concLoss_range 0 _ 2 (by norm_num) (fun m hm => by
    simp only [List.mem_singleton] at hm; subst hm; norm_num) (by simp)

end Numqi.C13
