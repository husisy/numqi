/-
Helper lemmas for the partial-trace model (C17; `sumRange` bridge reused by C12, C04).
-/
import Mathlib.Tactic
import Mathlib.Algebra.BigOperators.Fin
import Mathlib.Algebra.BigOperators.Intervals
import NumqiModel.PartialTrace

namespace Numqi
open Finset

theorem sumRange_eq_sum {M : Type} [AddCommMonoid M] (n : ℕ) (f : ℕ → M) :
    sumRange n f = ∑ i ∈ range n, f i := by
  induction n with
  | zero => simp [sumRange]
  | succ n ih => rw [sumRange, ih, Finset.sum_range_succ]

/-- in the theorem files complex conjugation is `star` -/
instance (priority := 100) chanStarConj {R : Type} [Star R] : Conj R := ⟨star⟩

theorem conj_eq_star {R : Type} [Star R] (x : R) : conj x = star x := rfl

theorem div_of_lt {q r P : ℕ} (hr : r < P) : (q * P + r) / P = q := by
  rw [Nat.add_comm, Nat.add_mul_div_right _ _ (by omega), Nat.div_eq_of_lt hr, Nat.zero_add]

theorem mod_of_lt {q r P : ℕ} (hr : r < P) : (q * P + r) % P = r := by
  rw [Nat.add_comm, Nat.add_mul_mod_self_right, Nat.mod_eq_of_lt hr]

theorem mul_add_lt {q d r P : ℕ} (hq : q < d) (hr : r < P) : q * P + r < d * P := by
  calc q * P + r < q * P + P := by omega
    _ = (q + 1) * P := by ring
    _ ≤ d * P := Nat.mul_le_mul_right _ (by omega)

theorem div_mod_lt {x d P : ℕ} (hx : x < d * P) : x / P < d ∧ x % P < P := by
  have hpos : 0 < P := Nat.pos_of_ne_zero (by rintro rfl; simp at hx)
  exact ⟨(Nat.div_lt_iff_lt_mul hpos).2 hx, Nat.mod_lt _ hpos⟩

/-- a sum over `range (m*n)` as a double sum (row-major split of a flat index) -/
theorem sum_range_mul {M : Type*} [AddCommMonoid M] (m n : ℕ) (g : ℕ → M) :
    ∑ x ∈ range (m * n), g x = ∑ q ∈ range m, ∑ r ∈ range n, g (q * n + r) := by
  induction m with
  | zero => simp
  | succ m ih =>
    rw [Nat.succ_mul, Finset.sum_range_add, ih, Finset.sum_range_succ]

/-- a double sum against the indicator of one index pair keeps that pair's term -/
theorem sum_sum_ite_pair {M : Type*} [AddCommMonoid M] {L i0 j0 : ℕ} (hi : i0 < L) (hj : j0 < L) (g : ℕ → ℕ → M) :
    ∑ i ∈ range L, ∑ j ∈ range L, (if i = i0 ∧ j = j0 then g i j else 0) = g i0 j0 := by
  rw [sum_eq_single i0]
  · rw [sum_eq_single j0]
    · simp
    · intro j _ hne; simp [hne]
    · intro h; exact absurd (mem_range.2 hj) h
  · intro i _ hne; exact sum_eq_zero fun j _ => by simp [hne]
  · intro h; exact absurd (mem_range.2 hi) h

namespace PT

theorem prodSel_eq_prodDims_sel (b : Bool) (dims : List ℕ) (keep : List Bool) :
    prodSel b dims keep = prodDims (sel b dims keep) := by
  induction dims generalizing keep with
  | nil => cases keep <;> simp [prodSel, sel, prodDims]
  | cons d ds ih =>
    cases keep with
    | nil => simp [prodSel, sel, prodDims]
    | cons k ks =>
      by_cases h : k = b
      · simp [prodSel, sel, prodDims, h, ih]
      · simp [prodSel, sel, h, ih]

theorem prodDims_eq_mul (dims : List ℕ) (keep : List Bool) (hlen : dims.length = keep.length) :
    prodDims dims = prodSel true dims keep * prodSel false dims keep := by
  induction dims generalizing keep with
  | nil => cases keep <;> simp [prodSel, prodDims]
  | cons d ds ih =>
    cases keep with
    | nil => simp at hlen
    | cons k ks =>
      have := ih ks (by simpa using hlen)
      cases k <;> simp [prodSel, prodDims, this] <;> ring

/-- one step of `ptIndex`: the coordinate on the side of the head bit is split by `/` and `%`, the other is passed on -/
theorem ptIndex_cons (d : ℕ) (ds : List ℕ) (k : Bool) (ks : List Bool) (a t : ℕ) :
    ptIndex (d :: ds) (k :: ks) a t
      = (if k = true then a else t) / prodSel k ds ks * prodDims ds
        + ptIndex ds ks (if k = true then a % prodSel true ds ks else a)
            (if k = true then t else t % prodSel false ds ks) := by
  cases k <;> rfl

/-- the quotient is a digit of the head axis and both coordinates passed on are in range for the tail -/
theorem ptIndex_cons_bounds {d : ℕ} {ds : List ℕ} {k : Bool} {ks : List Bool} {a t : ℕ}
    (ha : a < prodSel true (d :: ds) (k :: ks)) (ht : t < prodSel false (d :: ds) (k :: ks)) :
    (if k = true then a else t) / prodSel k ds ks < d
      ∧ (if k = true then a % prodSel true ds ks else a) < prodSel true ds ks
      ∧ (if k = true then t else t % prodSel false ds ks) < prodSel false ds ks := by
  cases k
  · simp only [prodSel, Bool.false_eq_true, if_false, if_true, one_mul] at ha ht ⊢
    exact ⟨(div_mod_lt ht).1, ha, (div_mod_lt ht).2⟩
  · simp only [prodSel, Bool.true_eq_false, if_false, if_true, one_mul] at ha ht ⊢
    exact ⟨(div_mod_lt ha).1, (div_mod_lt ha).2, ht⟩

theorem ptIndex_lt (dims : List ℕ) (keep : List Bool) (hlen : dims.length = keep.length) (a t : ℕ)
    (ha : a < prodSel true dims keep) (ht : t < prodSel false dims keep) :
    ptIndex dims keep a t < prodDims dims := by
  induction dims generalizing keep a t with
  | nil => cases keep <;> simp [ptIndex, prodDims]
  | cons d ds ih =>
    cases keep with
    | nil => simp at hlen
    | cons k ks =>
      obtain ⟨hq, ha', ht'⟩ := ptIndex_cons_bounds ha ht
      rw [ptIndex_cons]
      exact mul_add_lt hq (ih ks (by simpa using hlen) _ _ ha' ht')

theorem ptIndex_false_mul_add (d : ℕ) (ds : List ℕ) (ks : List Bool) (a q : ℕ) {r : ℕ}
    (hr : r < prodSel false ds ks) :
    ptIndex (d :: ds) (false :: ks) a (q * prodSel false ds ks + r) = q * prodDims ds + ptIndex ds ks a r := by
  simp only [ptIndex, Bool.false_eq_true, if_false, div_of_lt hr, mod_of_lt hr]

theorem ptIndex_true_mul_add (d : ℕ) (ds : List ℕ) (ks : List Bool) (t q : ℕ) {r : ℕ}
    (hr : r < prodSel true ds ks) :
    ptIndex (d :: ds) (true :: ks) (q * prodSel true ds ks + r) t = q * prodDims ds + ptIndex ds ks r t := by
  simp only [ptIndex, if_true, div_of_lt hr, mod_of_lt hr]

theorem part_lt (b : Bool) (dims : List ℕ) (keep : List Bool) (hlen : dims.length = keep.length) (x : ℕ)
    (hx : x < prodDims dims) : part b dims keep x < prodSel b dims keep := by
  induction dims generalizing keep x with
  | nil => cases keep <;> simp [part, prodSel]
  | cons d ds ih =>
    cases keep with
    | nil => simp at hlen
    | cons k ks =>
      have hl : ds.length = ks.length := by simpa using hlen
      obtain ⟨hq, hr⟩ := div_mod_lt hx
      have h1 := ih ks hl _ hr
      by_cases h : k = b
      · simp only [part, prodSel, h, if_true]
        exact mul_add_lt hq h1
      · simp only [part, prodSel, h, if_false, one_mul]
        exact h1

theorem part_ptIndex (dims : List ℕ) (keep : List Bool) (hlen : dims.length = keep.length) (a t : ℕ)
    (ha : a < prodSel true dims keep) (ht : t < prodSel false dims keep) :
    part true dims keep (ptIndex dims keep a t) = a ∧ part false dims keep (ptIndex dims keep a t) = t := by
  induction dims generalizing keep a t with
  | nil =>
    cases keep <;> simp [prodSel] at ha ht <;> simp [part, ha, ht]
  | cons d ds ih =>
    cases keep with
    | nil => simp at hlen
    | cons k ks =>
      have hl : ds.length = ks.length := by simpa using hlen
      obtain ⟨-, ha', ht'⟩ := ptIndex_cons_bounds ha ht
      have hlt := ptIndex_lt ds ks hl _ _ ha' ht'
      obtain ⟨h1, h2⟩ := ih ks hl _ _ ha' ht'
      rw [ptIndex_cons]
      simp only [part, div_of_lt hlt, mod_of_lt hlt, h1, h2]
      cases k <;> simp [Nat.div_add_mod']

theorem ptIndex_part (dims : List ℕ) (keep : List Bool) (hlen : dims.length = keep.length) (x : ℕ)
    (hx : x < prodDims dims) :
    ptIndex dims keep (part true dims keep x) (part false dims keep x) = x := by
  induction dims generalizing keep x with
  | nil =>
    cases keep <;> simp [prodDims] at hx <;> simp [ptIndex, hx]
  | cons d ds ih =>
    cases keep with
    | nil => simp at hlen
    | cons k ks =>
      have hl : ds.length = ks.length := by simpa using hlen
      have hr := (div_mod_lt hx).2
      have h1 := ih ks hl (x % prodDims ds) hr
      have hpt := part_lt true ds ks hl _ hr
      have hpf := part_lt false ds ks hl _ hr
      cases k <;>
        simp only [ptIndex, part, Bool.false_eq_true, Bool.true_eq_false, if_false, if_true,
          div_of_lt hpf, mod_of_lt hpf, div_of_lt hpt, mod_of_lt hpt, h1] <;>
        exact Nat.div_add_mod' _ _

/-- `(a, t) ↦ ptIndex a t` enumerates every flat index exactly once -/
theorem sum_ptIndex {M : Type*} [AddCommMonoid M] (dims : List ℕ) (keep : List Bool)
    (hlen : dims.length = keep.length) (f : ℕ → M) :
    ∑ a ∈ range (prodSel true dims keep), ∑ t ∈ range (prodSel false dims keep), f (ptIndex dims keep a t)
      = ∑ x ∈ range (prodDims dims), f x := by
  rw [← sum_product']
  refine sum_nbij' (fun p => ptIndex dims keep p.1 p.2) (fun x => (part true dims keep x, part false dims keep x))
    ?_ ?_ ?_ ?_ fun _ _ => rfl
  · intro p hp
    rw [mem_product, mem_range, mem_range] at hp
    exact mem_range.2 (ptIndex_lt dims keep hlen _ _ hp.1 hp.2)
  · intro x hx
    exact mem_product.2 ⟨mem_range.2 (part_lt true dims keep hlen x (mem_range.1 hx)),
      mem_range.2 (part_lt false dims keep hlen x (mem_range.1 hx))⟩
  · intro p hp
    rw [mem_product, mem_range, mem_range] at hp
    exact Prod.ext_iff.2 (part_ptIndex dims keep hlen _ _ hp.1 hp.2)
  · intro x hx
    exact ptIndex_part dims keep hlen x (mem_range.1 hx)

/-- the kept (traced) part of `x` has exactly the digits of `x` on the kept (traced) axes -/
theorem unravel_part (b : Bool) (dims : List ℕ) (keep : List Bool) (hlen : dims.length = keep.length) (x : ℕ)
    (hx : x < prodDims dims) :
    unravel (sel b dims keep) (part b dims keep x) = sel b (unravel dims x) keep := by
  induction dims generalizing keep x with
  | nil => cases keep <;> simp [sel, unravel]
  | cons d ds ih =>
    cases keep with
    | nil => simp [sel, unravel]
    | cons k ks =>
      have hl : ds.length = ks.length := by simpa using hlen
      have hr := (div_mod_lt hx).2
      have h1 := ih ks hl (x % prodDims ds) hr
      have hp := part_lt b ds ks hl _ hr
      rw [prodSel_eq_prodDims_sel] at hp
      by_cases h : k = b
      · simp only [sel, part, unravel, h, if_true, prodSel_eq_prodDims_sel, div_of_lt hp, mod_of_lt hp, h1]
      · simp only [sel, part, unravel, h, if_false, h1]


theorem prodSel_compose (dims : List ℕ) (keep1 keep2 : List Bool) :
    prodSel true dims (composeMask keep1 keep2) = prodSel true (sel true dims keep1) keep2 := by
  induction dims generalizing keep1 keep2 with
  | nil => cases keep1 <;> cases keep2 <;> simp [prodSel, sel, composeMask]
  | cons d ds ih =>
    cases keep1 with
    | nil => cases keep2 <;> simp [prodSel, sel, composeMask]
    | cons k1 k1s =>
      cases k1
      · simp [prodSel, sel, composeMask, ih]
      · cases keep2 with
        | nil => simp [prodSel, sel, composeMask]
        | cons k2 k2s => cases k2 <;> simp [prodSel, sel, composeMask, ih]

/-- tracing `keep1ᶜ` after `keep2ᶜ`-within-`keep1` enumerates the traced indices of the composed mask -/
theorem sum_compose {M : Type*} [AddCommMonoid M] (dims : List ℕ) (keep1 keep2 : List Bool)
    (h1 : dims.length = keep1.length) (h2 : (sel true dims keep1).length = keep2.length)
    (g : ℕ → ℕ → M) (a b : ℕ)
    (ha : a < prodSel true (sel true dims keep1) keep2) (hb : b < prodSel true (sel true dims keep1) keep2) :
    ∑ t ∈ range (prodSel false dims (composeMask keep1 keep2)),
        g (ptIndex dims (composeMask keep1 keep2) a t) (ptIndex dims (composeMask keep1 keep2) b t)
      = ∑ t2 ∈ range (prodSel false (sel true dims keep1) keep2), ∑ t1 ∈ range (prodSel false dims keep1),
        g (ptIndex dims keep1 (ptIndex (sel true dims keep1) keep2 a t2) t1)
          (ptIndex dims keep1 (ptIndex (sel true dims keep1) keep2 b t2) t1) := by
  induction dims generalizing keep1 keep2 g a b with
  | nil =>
    cases keep1 with
    | nil => cases keep2 <;> simp [prodSel, sel, composeMask, ptIndex]
    | cons k1 k1s => simp at h1
  | cons d ds ih =>
    cases keep1 with
    | nil => simp at h1
    | cons k1 k1s =>
      have hl1 : ds.length = k1s.length := by simpa using h1
      cases k1
      · -- axis traced in the first step
        have hsel : sel true (d :: ds) (false :: k1s) = sel true ds k1s := by simp [sel]
        rw [hsel] at h2 ha hb ⊢
        have hcm : composeMask (false :: k1s) keep2 = false :: composeMask k1s keep2 := by
          cases keep2 <;> simp [composeMask]
        rw [hcm]
        simp only [prodSel, Bool.false_eq_true, if_false, if_true, one_mul]
        rw [sum_range_mul]
        have hL : ∀ q ∈ range d, ∑ r ∈ range (prodSel false ds (composeMask k1s keep2)),
            g (ptIndex (d :: ds) (false :: composeMask k1s keep2) a (q * prodSel false ds (composeMask k1s keep2) + r))
              (ptIndex (d :: ds) (false :: composeMask k1s keep2) b (q * prodSel false ds (composeMask k1s keep2) + r))
            = ∑ t2 ∈ range (prodSel false (sel true ds k1s) keep2), ∑ r ∈ range (prodSel false ds k1s),
              g (q * prodDims ds + ptIndex ds k1s (ptIndex (sel true ds k1s) keep2 a t2) r)
                (q * prodDims ds + ptIndex ds k1s (ptIndex (sel true ds k1s) keep2 b t2) r) := by
          intro q _
          rw [← ih k1s keep2 hl1 h2 (fun x y => g (q * prodDims ds + x) (q * prodDims ds + y)) a b ha hb]
          exact sum_congr rfl fun r hr => by simp only [ptIndex_false_mul_add _ _ _ _ _ (mem_range.1 hr)]
        rw [sum_congr rfl hL, sum_comm]
        refine sum_congr rfl fun t2 _ => ?_
        rw [sum_range_mul]
        exact sum_congr rfl fun q _ => sum_congr rfl fun r hr => by
          simp only [ptIndex_false_mul_add _ _ _ _ _ (mem_range.1 hr)]
      · -- axis kept in the first step
        have hsel : sel true (d :: ds) (true :: k1s) = d :: sel true ds k1s := by simp [sel]
        rw [hsel] at h2 ha hb ⊢
        cases keep2 with
        | nil => simp at h2
        | cons k2 k2s =>
          have hl2 : (sel true ds k1s).length = k2s.length := by simpa using h2
          have hcm : composeMask (true :: k1s) (k2 :: k2s) = k2 :: composeMask k1s k2s := by simp [composeMask]
          rw [hcm]
          have hPS : prodDims (sel true ds k1s) = prodSel true ds k1s := (prodSel_eq_prodDims_sel _ _ _).symm
          cases k2
          · -- traced in the second step
            simp only [prodSel, Bool.false_eq_true, Bool.true_eq_false, if_false, if_true, one_mul] at ha hb ⊢
            rw [sum_range_mul, sum_range_mul]
            refine sum_congr rfl fun q _ => ?_
            have := ih k1s k2s hl1 hl2 (fun x y => g (q * prodDims ds + x) (q * prodDims ds + y)) a b ha hb
            refine Eq.trans (Eq.trans (sum_congr rfl fun r hr => ?_) this) (sum_congr rfl fun r2 hr2 => sum_congr rfl fun t1 _ => ?_)
            · simp only [ptIndex_false_mul_add _ _ _ _ _ (mem_range.1 hr)]
            · have hr' := mem_range.1 hr2
              have hia := ptIndex_lt (sel true ds k1s) k2s hl2 a r2 ha hr'
              have hib := ptIndex_lt (sel true ds k1s) k2s hl2 b r2 hb hr'
              rw [hPS] at hia hib
              simp only [ptIndex_false_mul_add _ _ _ _ _ hr', hPS, ptIndex_true_mul_add _ _ _ _ _ hia,
                ptIndex_true_mul_add _ _ _ _ _ hib]
          · -- kept in both steps
            simp only [prodSel, Bool.false_eq_true, Bool.true_eq_false, if_false, if_true, one_mul] at ha hb ⊢
            have ha' := (div_mod_lt ha).2
            have hb' := (div_mod_lt hb).2
            have hpc := prodSel_compose ds k1s k2s
            have := ih k1s k2s hl1 hl2
              (fun x y => g (a / prodSel true (sel true ds k1s) k2s * prodDims ds + x)
                (b / prodSel true (sel true ds k1s) k2s * prodDims ds + y))
              (a % prodSel true (sel true ds k1s) k2s) (b % prodSel true (sel true ds k1s) k2s) ha' hb'
            refine Eq.trans (Eq.trans (sum_congr rfl fun r _ => ?_) this) (sum_congr rfl fun r2 hr2 => sum_congr rfl fun t1 _ => ?_)
            · simp only [ptIndex, if_true, hpc]
            · have hr' := mem_range.1 hr2
              have hia := ptIndex_lt (sel true ds k1s) k2s hl2 _ r2 ha' hr'
              have hib := ptIndex_lt (sel true ds k1s) k2s hl2 _ r2 hb' hr'
              rw [hPS] at hia hib
              simp only [ptIndex, if_true, hPS, div_of_lt hia, mod_of_lt hia, div_of_lt hib, mod_of_lt hib]

theorem foldl_ite_add {M : Type*} [AddCommMonoid M] {β : Type*} (es : List β) (p : β → Prop) [DecidablePred p]
    (v : β → M) (init : M) :
    es.foldl (fun acc e => if p e then acc + v e else acc) init
      = init + (es.map fun e => if p e then v e else 0).sum := by
  induction es generalizing init with
  | nil => simp
  | cons e es ih =>
    simp only [List.foldl_cons, List.map_cons, List.sum_cons, ih]
    split <;> simp [add_assoc]

theorem sparse_single {M : Type*} [AddCommMonoid M] (dims : List ℕ) (keep : List Bool) (hlen : dims.length = keep.length)
    (x y : ℕ) (v : M) (hx : x < prodDims dims) (hy : y < prodDims dims) (a b : ℕ)
    (ha : a < prodSel true dims keep) (hb : b < prodSel true dims keep) :
    ∑ t ∈ range (prodSel false dims keep), (if x = ptIndex dims keep a t ∧ y = ptIndex dims keep b t then v else 0)
      = if part true dims keep x = a ∧ part true dims keep y = b ∧ part false dims keep x = part false dims keep y
        then v else 0 := by
  by_cases hC : part true dims keep x = a ∧ part true dims keep y = b ∧ part false dims keep x = part false dims keep y
  · rw [if_pos hC]
    obtain ⟨hxa, hyb, hxy⟩ := hC
    have ht0 := part_lt false dims keep hlen x hx
    rw [sum_eq_single (part false dims keep x)]
    · have e1 := ptIndex_part dims keep hlen x hx
      have e2 := ptIndex_part dims keep hlen y hy
      rw [hxa] at e1; rw [hyb, ← hxy] at e2
      rw [if_pos ⟨e1.symm, e2.symm⟩]
    · intro t ht hne
      rw [if_neg]
      rintro ⟨h, _⟩
      have := (part_ptIndex dims keep hlen a t ha (mem_range.1 ht)).2
      rw [← h] at this; exact hne this.symm
    · intro h; exact absurd (mem_range.2 ht0) h
  · rw [if_neg hC]
    refine sum_eq_zero fun t ht => ?_
    rw [if_neg]
    rintro ⟨h1, h2⟩
    have p1 := part_ptIndex dims keep hlen a t ha (mem_range.1 ht)
    have p2 := part_ptIndex dims keep hlen b t hb (mem_range.1 ht)
    rw [← h1] at p1; rw [← h2] at p2
    exact hC ⟨p1.1, p2.1, p1.2.trans p2.2.symm⟩

theorem sparse_eq {M : Type} [AddCommMonoid M] (dims : List ℕ) (keep : List Bool) (hlen : dims.length = keep.length)
    (es : List (ℕ × ℕ × M)) (hes : ∀ e ∈ es, e.1 < prodDims dims ∧ e.2.1 < prodDims dims) (a b : ℕ)
    (ha : a < prodSel true dims keep) (hb : b < prodSel true dims keep) :
    partialTraceSparse dims keep es a b = partialTrace dims keep (denseOf es) a b := by
  simp only [partialTraceSparse, partialTrace, denseOf, sumRange_eq_sum]
  rw [foldl_ite_add es (fun e => part true dims keep e.1 = a ∧ part true dims keep e.2.1 = b
        ∧ part false dims keep e.1 = part false dims keep e.2.1) (fun e => e.2.2), zero_add]
  have : ∀ t, List.foldl (fun acc (e : ℕ × ℕ × M) =>
        if e.1 = ptIndex dims keep a t ∧ e.2.1 = ptIndex dims keep b t then acc + e.2.2 else acc) 0 es
      = (es.map fun e => if e.1 = ptIndex dims keep a t ∧ e.2.1 = ptIndex dims keep b t then e.2.2 else 0).sum := by
    intro t
    rw [foldl_ite_add es (fun e => e.1 = ptIndex dims keep a t ∧ e.2.1 = ptIndex dims keep b t) (fun e => e.2.2), zero_add]
  simp only [this]
  clear this
  induction es with
  | nil => simp
  | cons e es ih =>
    have he := hes e (List.mem_cons_self ..)
    simp only [List.map_cons, List.sum_cons, sum_add_distrib]
    rw [← ih (fun e' h' => hes e' (List.mem_cons_of_mem _ h'))]
    rw [sparse_single dims keep hlen e.1 e.2.1 e.2.2 he.1 he.2 a b ha hb]


/-! ### operators embedded on the kept axes; regrouping of axes -/

/-- **expectation of an embedded operator = expectation in the reduced state**:
`Σ_{x,y} conj(ψ_x)·(G ⊗ 1)_{xy}·ψ_y = Σ_{u,v} G_{uv}·(Tr_T |ψ⟩⟨ψ|)_{vu}` -/
theorem embedKeep_expectation {M : Type} [CommRing M] [StarRing M] (dims : List ℕ) (keep : List Bool)
    (hlen : dims.length = keep.length) (G : ℕ → ℕ → M) (ψ : ℕ → M) :
    ∑ x ∈ range (prodDims dims), ∑ y ∈ range (prodDims dims), star (ψ x) * embedKeep dims keep G x y * ψ y
      = ∑ u ∈ range (prodSel true dims keep), ∑ v ∈ range (prodSel true dims keep),
          G u v * partialTrace dims keep (fun y x => ψ y * star (ψ x)) v u := by
  have hA : ∑ x ∈ range (prodDims dims), ∑ y ∈ range (prodDims dims), star (ψ x) * embedKeep dims keep G x y * ψ y
      = ∑ u ∈ range (prodSel true dims keep), ∑ t ∈ range (prodSel false dims keep),
        ∑ v ∈ range (prodSel true dims keep), ∑ t' ∈ range (prodSel false dims keep),
          star (ψ (ptIndex dims keep u t)) * embedKeep dims keep G (ptIndex dims keep u t) (ptIndex dims keep v t')
            * ψ (ptIndex dims keep v t') := by
    rw [← sum_ptIndex dims keep hlen (fun x => ∑ y ∈ range (prodDims dims), star (ψ x) * embedKeep dims keep G x y * ψ y)]
    refine sum_congr rfl fun u _ => sum_congr rfl fun t _ => ?_
    rw [← sum_ptIndex dims keep hlen
      (fun y => star (ψ (ptIndex dims keep u t)) * embedKeep dims keep G (ptIndex dims keep u t) y * ψ y)]
  rw [hA]
  simp only [partialTrace, sumRange_eq_sum, mul_sum]
  refine sum_congr rfl fun u hu => ?_
  rw [sum_comm]
  refine sum_congr rfl fun v hv => sum_congr rfl fun t ht => ?_
  have h1 := part_ptIndex dims keep hlen u t (mem_range.1 hu) (mem_range.1 ht)
  rw [sum_eq_single t]
  · have h2 := part_ptIndex dims keep hlen v t (mem_range.1 hv) (mem_range.1 ht)
    simp only [embedKeep, h1.1, h1.2, h2.1, h2.2, if_true]; ring
  · intro t' ht' hne
    have h2 := part_ptIndex dims keep hlen v t' (mem_range.1 hv) (mem_range.1 ht')
    simp only [embedKeep, h1.2, h2.2, if_neg (Ne.symm hne), mul_zero, zero_mul]
  · intro h; exact absurd ht h

theorem split_arith (t d2 P D : ℕ) : t / (d2 * P) * (d2 * D) + t % (d2 * P) / P * D = t / P * D := by
  rw [Nat.mod_mul_left_div_self, Nat.mul_comm d2 P, ← Nat.div_div_eq_div_mul]
  have := Nat.div_add_mod (t / P) d2
  calc t / P / d2 * (d2 * D) + t / P % d2 * D = (d2 * (t / P / d2) + t / P % d2) * D := by ring
    _ = t / P * D := by rw [this]

/-- splitting one axis `d1·d2` into two axes `d1, d2` with the same mask bit does not change the index function -/
theorem ptIndex_split (d1 d2 : ℕ) (ds : List ℕ) (k : Bool) (ks : List Bool) (a t : ℕ) :
    ptIndex (d1 :: d2 :: ds) (k :: k :: ks) a t = ptIndex (d1 * d2 :: ds) (k :: ks) a t := by
  cases k <;>
    simp only [ptIndex, prodSel, prodDims, Bool.false_eq_true, if_false, if_true, one_mul] <;>
    rw [Nat.mod_mul_left_mod, ← Nat.add_assoc, split_arith]

theorem prodSel_split (b : Bool) (d1 d2 : ℕ) (ds : List ℕ) (k : Bool) (ks : List Bool) :
    prodSel b (d1 :: d2 :: ds) (k :: k :: ks) = prodSel b (d1 * d2 :: ds) (k :: ks) := by
  by_cases h : k = b <;> simp [prodSel, h, Nat.mul_assoc]

theorem partialTrace_split {M : Type} [AddCommMonoid M] (d1 d2 : ℕ) (ds : List ℕ) (k : Bool) (ks : List Bool)
    (ρ : ℕ → ℕ → M) (a b : ℕ) :
    partialTrace (d1 :: d2 :: ds) (k :: k :: ks) ρ a b = partialTrace (d1 * d2 :: ds) (k :: ks) ρ a b := by
  simp only [partialTrace, prodSel_split, ptIndex_split]

/-- **the two `cvxpy.partial_trace` calls of `sdp_2local_rdm_solve` compute the reduced state of the middle block** of the
register `[L, 4, R]` (qubits `ind0, ind0+1` of the chain) -/
theorem rdmTwoStep_eq {M : Type} [AddCommMonoid M] (L R : ℕ) (hL : L ≠ 1) (hR : R ≠ 1) (X : ℕ → ℕ → M) (a b : ℕ) :
    rdmTwoStep L R X a b = partialTrace [L, 4, R] [false, true, false] X a b := by
  simp only [rdmTwoStep, hL, hR, if_false, partialTrace, sumRange_eq_sum, ptIndex, prodSel, prodDims,
    Bool.false_eq_true, Bool.true_eq_false, if_true, one_mul, mul_one, Nat.div_one, Nat.mod_one, Nat.zero_mul,
    Nat.add_zero, Nat.mul_one]
  rw [sum_range_mul, sum_comm]
  refine sum_congr rfl fun q _ => sum_congr rfl fun r hr => ?_
  have hr' := mem_range.1 hr
  simp only [div_of_lt hr', mod_of_lt hr']

/-- the boundary cases: no left block (`ind0 = 0`) / no right block (`ind0 = n-2`) -/
theorem rdmTwoStep_left {M : Type} [AddCommMonoid M] (R : ℕ) (hR : R ≠ 1) (X : ℕ → ℕ → M) (a b : ℕ) :
    rdmTwoStep 1 R X a b = partialTrace [4, R] [true, false] X a b := by
  simp [rdmTwoStep, hR]

theorem rdmTwoStep_right {M : Type} [AddCommMonoid M] (L : ℕ) (hL : L ≠ 1) (X : ℕ → ℕ → M) (a b : ℕ) :
    rdmTwoStep L 1 X a b = partialTrace [L, 4] [false, true] X a b := by
  simp [rdmTwoStep, hL]

end PT
end Numqi
