/-
C05, verdict layer — property theorems about `NumqiModel/Decision.lean` at the constants of
`NumqiModel/Generated/Thresholds.lean` (regenerated from the numqi sources on every run).
Listed in `THEOREM_FILES` of `harness/c05.py`; kept apart from `NumqiProps/C05.lean` so that a change of a tolerance or
comparison in the source breaks exactly these obligations.
-/
import NumqiModel.Decision
import Mathlib.Tactic
import Mathlib.Data.Real.Basic

namespace Numqi.C05
open Numqi Numqi.Ent Numqi.Ent.Thresholds

/-! ## verdict layer: robust acceptance with the regenerated constants -/

/-- every comparison / guard of the verdict functions was recognised by the translator -/
theorem thresholds_recognised :
    psdCholesky = true ∧ psdShiftCoeff ≠ 0 ∧ isPptShiftCoeff ≠ 0 ∧ reductionShiftCoeff ≠ 0 ∧
    gpptAcceptOp ≠ Cmp.other ∧ gpptBreakOp ≠ Cmp.other ∧ gpptRhsOnePlusThreshold = true ∧ swapOp ≠ Cmp.other := by
  decide

/-- the Hermiticity guards of `is_ppt`, `check_reduction_witness`, `get_negativity` are present and complete (reject real-asymmetric,
imaginary-diagonal and imaginary-symmetric deviations of size `1` and `1e-9`, accept deviations of `1e-12`) -/
theorem herm_guards_recognised : isPptHermGuard = true ∧ reductionHermGuard = true ∧ negativityHermGuard = true := by
  decide

/-- a guard never rejects a Hermitian matrix - in particular never a separable state -/
theorem hermGuard_accepts_hermitian (guard : Bool) (N : ℕ) (herm : ℕ → ℕ → Bool) (h : ∀ r c, r < N → c < N → herm r c = true) :
    hermGuardRejects guard N herm = false := by
  have hall : ((List.range N).all fun r => (List.range N).all fun c => herm r c) = true := by
    simp only [List.all_eq_true, List.mem_range]
    exact fun r hr c hc => h r c hr hc
  simp [hermGuardRejects, hall]

/-- with the guard present, a matrix with a non-Hermitian pair of entries is rejected -/
theorem hermGuard_rejects (N : ℕ) (herm : ℕ → ℕ → Bool) (r c : ℕ) (hr : r < N) (hc : c < N) (h : herm r c = false) :
    hermGuardRejects true N herm = true := by
  have hall : ((List.range N).all fun r => (List.range N).all fun c => herm r c) = false := by
    rw [Bool.eq_false_iff]
    intro hh
    simp only [List.all_eq_true, List.mem_range] at hh
    rw [hh r hr c hc] at h
    exact Bool.noConfusion h
  simp [hermGuardRejects, hall]

/-- the shift that `is_ppt` really adds to the diagonal before Cholesky, at the default `eps` -/
def pptSlack : ℚ := (psdShiftCoeff : ℚ) * ((isPptShiftCoeff : ℚ) * isPptEpsDefault)
/-- … and `check_reduction_witness` -/
def reductionSlack : ℚ := (psdShiftCoeff : ℚ) * ((reductionShiftCoeff : ℚ) * reductionEpsDefault)
/-- distance of the swap-witness threshold below the exact bound 0 -/
def swapSlack : ℚ := -swapEpsDefault
/-- distance of the nuclear-norm threshold above the exact bound 1 -/
def gpptSlack : ℚ := gpptThresholdDefault

/-- **slack obligations**: every criterion has strictly positive room for rounding. These fail to elaborate when a
default tolerance is set to 0, changes sign, or a shift is applied with the wrong sign. -/
theorem ppt_slack_pos : 0 < pptSlack := by
  norm_num [pptSlack, psdShiftCoeff, isPptShiftCoeff, isPptEpsDefault]
theorem reduction_slack_pos : 0 < reductionSlack := by
  norm_num [reductionSlack, psdShiftCoeff, reductionShiftCoeff, reductionEpsDefault]
theorem swap_slack_pos : 0 < swapSlack := by
  norm_num [swapSlack, swapEpsDefault]
theorem gppt_slack_pos : 0 < gpptSlack := by
  norm_num [gpptSlack, gpptThresholdDefault]

/-- the shifted Cholesky test accepts whenever the exact smallest eigenvalue is `≥ 0` and the rounding stays below the shift -/
private theorem psd_robust_accept (shift lminExact lmin δ : ℝ) (h0 : 0 ≤ lminExact) (hδ : |lmin - lminExact| ≤ δ)
    (hs : δ < ((psdShiftCoeff : ℤ) : ℝ) * shift) : psdAccept lmin shift = true := by
  have := abs_le.1 hδ
  simp only [psdAccept, psdCholesky, Bool.true_and, decide_eq_true_eq]
  linarith [this.1]

/-- **`is_ppt` accepts robustly**: if the exact smallest eigenvalue of a partial transpose is `≥ 0` (theorem
`sep_ppt_full`) and the eigenvalue seen by Cholesky differs from it by at most `δ < slack`, the verdict is `True`. -/
theorem isPpt_robust_accept (lminExact lmin δ : ℝ) (h0 : 0 ≤ lminExact) (hδ : |lmin - lminExact| ≤ δ)
    (hs : δ < (pptSlack : ℝ)) : isPptAccept ((isPptEpsDefault : ℚ) : ℝ) lmin = true := by
  refine psd_robust_accept _ lminExact lmin δ h0 hδ (lt_of_lt_of_eq hs ?_)
  simp [pptSlack]

theorem reduction_robust_accept (lminExact lmin δ : ℝ) (h0 : 0 ≤ lminExact) (hδ : |lmin - lminExact| ≤ δ)
    (hs : δ < (reductionSlack : ℝ)) : reductionAccept ((reductionEpsDefault : ℚ) : ℝ) lmin = true := by
  refine psd_robust_accept _ lminExact lmin δ h0 hδ (lt_of_lt_of_eq hs ?_)
  simp [reductionSlack]

/-- **`check_swap_witness` accepts robustly** -/
theorem swap_robust_accept (vExact v δ : ℝ) (h0 : 0 ≤ vExact) (hδ : |v - vExact| ≤ δ)
    (hs : δ < (swapSlack : ℝ)) : swapAccept ((swapEpsDefault : ℚ) : ℝ) v = true := by
  have := abs_le.1 hδ
  have e : ((swapSlack : ℚ) : ℝ) = -((swapEpsDefault : ℚ) : ℝ) := by simp [swapSlack]
  rw [e] at hs
  simp only [swapAccept, swapOp, Cmp.eval, decide_eq_true_eq]
  linarith [this.1]

/-- **`is_generalized_ppt` accepts robustly**: exact nuclear norm `≤ 1`, rounding `δ ≤ threshold` -/
theorem gppt_robust_accept (nucExact nuc δ : ℝ) (h1 : nucExact ≤ 1) (hδ : |nuc - nucExact| ≤ δ)
    (hs : δ ≤ (gpptSlack : ℝ)) : gpptAccept ((gpptThresholdDefault : ℚ) : ℝ) nuc = true := by
  have := abs_le.1 hδ
  have e : ((gpptSlack : ℚ) : ℝ) = ((gpptThresholdDefault : ℚ) : ℝ) := rfl
  rw [e] at hs
  simp only [gpptAccept, gpptRhsOnePlusThreshold, gpptAcceptOp, Cmp.eval, Bool.true_and, decide_eq_true_eq]
  linarith [this.2]

/-- the early exit of `is_generalized_ppt` (`return_info=False`) fires exactly when the final test would fail,
for every threshold: both return paths give the same verdict -/
theorem gppt_break_iff_reject (threshold nuc : ℝ) : gpptBreak threshold nuc = !gpptAccept threshold nuc := by
  simp only [gpptBreak, gpptAccept, gpptRhsOnePlusThreshold, gpptAcceptOp, gpptBreakOp, Cmp.eval, Bool.true_and]
  by_cases h : nuc ≤ 1 + threshold <;> simp [h, not_lt.2, lt_of_not_ge]


/-! ## non-vacuity -/

/-- the robust-acceptance hypotheses are satisfiable: exact value on the boundary, no rounding -/
example : isPptAccept ((isPptEpsDefault : ℚ) : ℝ) 0 = true :=
  isPpt_robust_accept 0 0 0 le_rfl (by simp) (by exact_mod_cast ppt_slack_pos)

example : gpptAccept ((gpptThresholdDefault : ℚ) : ℝ) 1 = true :=
  gppt_robust_accept 1 1 0 le_rfl (by simp) (by exact_mod_cast gppt_slack_pos.le)

/-- a rejection is a certificate: `is_ppt` answers False only if the (computed) eigenvalue is below `-slack` -/
example (lmin : ℝ) (h : isPptAccept ((isPptEpsDefault : ℚ) : ℝ) lmin = false) : lmin ≤ -(pptSlack : ℝ) := by
  by_contra hc
  simp only [isPptAccept, psdAccept, psdCholesky, Bool.true_and, decide_eq_false_iff_not, not_lt] at h
  have e : ((pptSlack : ℚ) : ℝ) = ((psdShiftCoeff : ℤ) : ℝ) * (((isPptShiftCoeff : ℤ) : ℝ) * ((isPptEpsDefault : ℚ) : ℝ)) := by
    simp [pptSlack]
  rw [e] at hc
  linarith

end Numqi.C05
