/-
Helper lemmas for C18: the GenShifts UPB — for every pair of product vectors some qubit carries local vectors whose angles
differ by a quarter turn.
-/
import NumqiProofs.Catalogue

set_option linter.unusedSectionVars false

namespace Numqi.Catalogue

theorem gsIndex_zero (k x : ℕ) : gsIndex k x 0 = 0 := by simp [gsIndex]

/-- value of the rolled index when the offset `(i-1) - x mod n` is known (`n = 2k-1`; stated without subtraction) -/
theorem gsIndex_of (k n x i r : ℕ) (hn : n + 1 = 2 * k) (hi : 0 < i) (hr : r < n)
    (h : i + n = x + r + 1 ∨ i = x + r + 1) : gsIndex k x i = 1 + r := by
  have hn' : 2 * k - 1 = n := by omega
  unfold gsIndex
  rw [if_neg (by omega), hn']
  rcases h with h | h
  · rw [show i - 1 + n - x = r by omega, Nat.mod_eq_of_lt hr]
  · rw [show i - 1 + n - x = r + n by omega, Nat.add_mod_right, Nat.mod_eq_of_lt hr]

/-- every vector `i ≥ 1` sits at any prescribed offset `r` on exactly one party -/
theorem gs_party (n i r : ℕ) (hi : 0 < i) (hin : i ≤ n) (hr : r < n) : ∃ x < n, i + n = x + r + 1 ∨ i = x + r + 1 := by
  by_cases h : r + 1 ≤ i
  · exact ⟨i - (r + 1), by omega, Or.inr (by omega)⟩
  · exact ⟨i + n - (r + 1), by omega, Or.inl (by omega)⟩

/-- positions `k+1-v` and `k+v` carry the angles `v` and `v+k` (`v = w+1`, `r = k-v`) -/
theorem gsAngle_pair (k x a b r w : ℕ) (hk : r + w + 1 = k)
    (ha : gsIndex k x a = 1 + r) (hb : gsIndex k x b = 1 + (r + 2 * w + 1)) : gsAngle k x a + k = gsAngle k x b := by
  simp only [gsAngle, ha, hb, gsPerm]
  rw [if_neg (by omega), if_pos (by omega), if_neg (by omega), if_neg (by omega)]
  omega

/-- for `i < j` there is a party on which the two angles are `v` and `v + k` -/
theorem gs_pair_lt (k i j : ℕ) (hij : i < j) (hj : j < 2 * k) :
    ∃ x < 2 * k - 1, gsAngle k x i + k = gsAngle k x j ∨ gsAngle k x j + k = gsAngle k x i := by
  obtain ⟨n, hn⟩ : ∃ n, n + 1 = 2 * k := ⟨2 * k - 1, by omega⟩
  rw [show 2 * k - 1 = n by omega]
  by_cases hi0 : i = 0
  · -- vector 0 has angle 0 everywhere; vector j has angle k on party j-1
    subst hi0
    refine ⟨j - 1, by omega, Or.inl ?_⟩
    have h1 : gsIndex k (j - 1) j = 1 + 0 := gsIndex_of k n (j - 1) j 0 hn hij (by omega) (Or.inr (by omega))
    simp only [gsAngle, gsIndex_zero, h1, gsPerm]
    have : (1 : ℕ) ≤ k := by omega
    simp [this]
  · by_cases hodd : (j - i) % 2 = 1
    · -- `j - i = 2v-1`: put `i` at position `k+1-v`, then `j` is at `k+v`
      obtain ⟨w, hw⟩ : ∃ w, j = i + 2 * w + 1 := ⟨(j - i) / 2, by omega⟩
      obtain ⟨r, hr⟩ : ∃ r, r + w + 1 = k := ⟨k - (w + 1), by omega⟩
      obtain ⟨x, hx, h⟩ := gs_party n i r (by omega) (by omega) (by omega)
      exact ⟨x, hx, Or.inl (gsAngle_pair k x i j r w hr (gsIndex_of k n x i r hn (by omega) (by omega) h)
        (gsIndex_of k n x j _ hn (by omega) (by omega) (by omega)))⟩
    · -- `j - i` even: `(2k-1) - (j-i) = 2v-1`, put `j` at position `k+1-v`, then `i` is at `k+v`
      obtain ⟨w, hw⟩ : ∃ w, 2 * k + i = j + 2 * w + 2 := ⟨(2 * k - (j - i)) / 2 - 1, by omega⟩
      obtain ⟨r, hr⟩ : ∃ r, r + w + 1 = k := ⟨k - (w + 1), by omega⟩
      obtain ⟨x, hx, h⟩ := gs_party n j r (by omega) (by omega) (by omega)
      exact ⟨x, hx, Or.inr (gsAngle_pair k x j i r w hr (gsIndex_of k n x j r hn (by omega) (by omega) h)
        (gsIndex_of k n x i _ hn (by omega) (by omega) (by omega)))⟩

end Numqi.Catalogue
