/- Model-specific lemmas for C01: symmetric matrices, Frobenius normalisation, channel compositions. -/
import NumqiProofs.ManifoldPsd

namespace Numqi.Manifold
open Matrix Finset
open Numqi.Gellmann (Scalars synthesis)
open scoped ComplexOrder

variable {dim rank : Nat}

/-! ### `to_symmetric_matrix` -/

/-- coefficient vector of the traceless real placement `[θ[:N0], 0_{N0}, θ[N0:], 0]` -/
def symVecR (dim : Nat) (θ : Nat → ℝ) : Nat → ℂ := fun p =>
  if p < dim * (dim - 1) / 2 then ((θ p : ℝ) : ℂ) else if p < 2 * (dim * (dim - 1) / 2) then 0
  else if p < dim * dim - 1 then ((θ (p - dim * (dim - 1) / 2) : ℝ) : ℂ) else 0

theorem symVecR_real (θ : Nat → ℝ) (a : Nat) : star (symVecR dim θ a) = symVecR dim θ a := by
  unfold symVecR; split_ifs <;> simp

theorem symVecR_last (θ : Nat → ℝ) (hd : 1 ≤ dim) : symVecR dim θ (dim * dim - 1) = 0 := by
  obtain ⟨-, hpred, -, -, hle, -, -⟩ := Count.products dim dim le_rfl
  unfold symVecR
  rw [if_neg (by omega), if_neg (by omega), if_neg (lt_irrefl _)]

/-- the traceless placements of `to_symmetric_matrix` are Gell-Mann syntheses: of `[θ, 0]` in the complex case, … -/
theorem toM_symmetricRaw_traceless_complex (S : Scalars ℂ) (θ : Nat → ℝ) :
    toM dim dim (symmetricRaw S dim false true θ) = Matrix.of (synthesis S dim (genVecC dim θ)) := by
  ext r c
  simp only [toM, symmetricRaw, Matrix.of_apply, NMat.get_ofFn_fin, synthesisN_fin]; rfl

/-- … and the entrywise real part of that of `symVecR θ` in the real case -/
theorem toM_symmetricRaw_traceless_real (S : Scalars ℂ) (θ : Nat → ℝ) :
    toM dim dim (symmetricRaw S dim true true θ) = Matrix.of fun r c => (((synthesis S dim (symVecR dim θ) r c).re : ℝ) : ℂ) := by
  ext r c
  simp only [toM, symmetricRaw, Matrix.of_apply, NMat.get_ofFn_fin, synthesisN_fin]; rfl

/-! ### normalisation by the Frobenius norm -/

theorem frobSq_eq (m n : Nat) (A : NMat ℂ) :
    frobSq m n A = ∑ i : Fin m, ∑ j : Fin n, Complex.normSq (A.get i.val j.val) := by
  unfold frobSq
  rw [sumRange_eq, Finset.sum_range]
  refine Finset.sum_congr rfl (fun i _ => ?_)
  rw [sumRange_eq, Finset.sum_range]
  refine Finset.sum_congr rfl (fun j _ => ?_)
  simp only [CxOps.re, CxOps.conj]
  rw [mul_comm, Complex.mul_conj]; simp

theorem frobSq_nonneg (m n : Nat) (A : NMat ℂ) : 0 ≤ frobSq m n A := by
  rw [frobSq_eq]; exact Finset.sum_nonneg fun i _ => Finset.sum_nonneg fun j _ => Complex.normSq_nonneg _

/-- **dividing by the Frobenius norm gives Frobenius norm one** (non-zero matrix) -/
theorem frobSq_divReal (m n : Nat) (A : NMat ℂ) (hA : frobSq m n A ≠ 0) :
    frobSq m n (divReal m n A (sqrt (frobSq m n A))) = 1 := by
  have h0 := frobSq_nonneg m n A
  have hs : Real.sqrt (frobSq m n A) * Real.sqrt (frobSq m n A) = frobSq m n A := Real.mul_self_sqrt h0
  rw [frobSq_eq]
  have : ∀ (i : Fin m) (j : Fin n), Complex.normSq ((divReal m n A (sqrt (frobSq m n A))).get i.val j.val)
      = Complex.normSq (A.get i.val j.val) / frobSq m n A := by
    intro i j
    simp only [divReal, NMat.get_ofFn_fin, CxOps.ofReal, CxOps.I, CxOps.re, CxOps.im, sqrt_eq]
    rw [normSq_ofReal_add_I_mul, Complex.normSq_apply, div_mul_div_comm, div_mul_div_comm, hs, add_div]
  simp only [this, ← Finset.sum_div]
  rw [← frobSq_eq]; exact div_self hA

/-! ### compositions -/

/-- **complete Kraus set**: `Σ_s K_sᴴ K_s = XᴴX` (so `= 1` on the Stiefel manifold) -/
theorem kraus_complete' (dimIn dimOut choiRank : Nat) (X : NMat ℂ) (i j : Fin dimIn) :
    ∑ s : Fin choiRank, ∑ o : Fin dimOut, star (krausOfStiefel dimOut X s.val o.val i.val) * krausOfStiefel dimOut X s.val o.val j.val
      = ((toM (choiRank * dimOut) dimIn X)ᴴ * toM (choiRank * dimOut) dimIn X) i j := by
  simp only [Matrix.mul_apply, conjTranspose_apply, toM, Matrix.of_apply, krausOfStiefel]
  rw [← Finset.sum_product', ← (finProdFinEquiv (m := choiRank) (n := dimOut)).sum_comp]
  refine Finset.sum_congr rfl (fun x _ => ?_)
  simp only [finProdFinEquiv_apply_val]
  rw [show x.2.val + dimOut * x.1.val = x.1.val * dimOut + x.2.val by ring]

/-- trace preservation: the partial trace of the Choi operator over the output is `conj(XᴴX)` (`= 1` on the Stiefel manifold) -/
theorem choi_partial_trace' (dimIn dimOut choiRank : Nat) (X : NMat ℂ) (i i' : Fin dimIn) :
    ∑ o : Fin dimOut, choiOfKraus choiRank (krausOfStiefel dimOut X) o.val i.val o.val i'.val
      = star (((toM (choiRank * dimOut) dimIn X)ᴴ * toM (choiRank * dimOut) dimIn X) i i') := by
  rw [← kraus_complete' dimIn dimOut choiRank X i i']
  simp only [choiOfKraus, sumK_eq, CxOps.conj, star_sum, star_mul', star_star]
  rw [Finset.sum_comm]
  refine Finset.sum_congr rfl (fun s _ => Finset.sum_congr rfl (fun o _ => ?_))
  rw [Complex.star_def, mul_comm]

/-- dividing by a real number is a real scalar multiple -/
theorem toM_divReal (m n : Nat) (A : NMat ℂ) (x : ℝ) : toM m n (divReal m n A x) = ((x⁻¹ : ℝ) : ℂ) • toM m n A := by
  ext i j
  simp only [toM, divReal, Matrix.of_apply, NMat.get_ofFn_fin, Matrix.smul_apply, smul_eq_mul, CxOps.ofReal, CxOps.I, CxOps.re, CxOps.im]
  apply Complex.ext <;> simp [div_eq_inv_mul]

end Numqi.Manifold
