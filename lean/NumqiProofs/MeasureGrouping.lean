/-
The steps of `C11.grouping_spec`, the grouping specification of `measure_quantum_vector`: for every register size and every
ascending tuple of measured qubits, un-ravelling a flat position against the merged (run-length) shape and ravelling the
kept digits equals reading the measured bits.  Route: literal positional form → structural form on the run-length list
(`gIdx`) → structural bitwise form on the kind list (`bIdx`) → the literal bitwise fold.
-/
import NumqiProofs.MeasureLemmas

namespace Numqi
open Function

/-- positional selection = structural selection -/
theorem filter_pos_map {α β : Type} (P : α → Bool) (a0 : α) (d : β) :
    ∀ (z : List α) (l : List β), l.length = z.length →
      ((List.range z.length).filter (fun x => P (z.getD x a0))).map (fun x => l.getD x d)
        = ((z.zip l).filter (fun q => P q.1)).map (·.2)
  | [], l, _ => by simp
  | a :: z, [], h => by simp at h
  | a :: z, e :: l, h => by
    have ih := filter_pos_map P a0 d z l (by simpa using h)
    rw [List.length_cons, List.range_succ_eq_map, List.filter_cons, List.zip_cons_cons, List.filter_cons]
    have hmap : (List.filter (fun x => P ((a :: z).getD x a0)) (List.map Nat.succ (List.range z.length))).map
        (fun x => (e :: l).getD x d) = ((z.zip l).filter (fun q => P q.1)).map (·.2) := by
      rw [List.filter_map, List.map_map, ← ih]
      rfl
    by_cases hp : P a = true
    · simp only [List.getD_cons_zero, hp, if_true, List.map_cons, hmap]
    · have hp' : P a = false := by simpa using hp
      simp only [List.getD_cons_zero, hp', Bool.false_eq_true, if_false, hmap]

theorem zip_filter_fst {α β : Type} (P : α → Bool) :
    ∀ (z : List α) (l : List β), l.length = z.length →
      ((z.zip l).filter (fun q => P q.1)).map (·.1) = z.filter P
  | [], l, _ => by simp
  | a :: z, [], h => by simp at h
  | a :: z, e :: l, h => by
    have ih := zip_filter_fst P z l (by simpa using h)
    rw [List.zip_cons_cons, List.filter_cons, List.filter_cons]
    by_cases hp : P a = true
    · simp [hp, ih]
    · simp [hp, ih]

theorem foldl_mul_pow2 (z : List (Bool × Nat)) (a : Nat) :
    (z.map fun g => 2 ^ g.2).foldl (· * ·) a = a * 2 ^ (z.map (·.2)).sum := by
  induction z generalizing a with
  | nil => simp
  | cons g z ih => simp only [List.map_cons, List.foldl_cons, ih, List.sum_cons, pow_add]; ring

theorem unravel_length : ∀ (shape : List Nat) (p : Nat), (unravel shape p).length = shape.length
  | [], _ => rfl
  | _ :: ds, p => by simp [unravel, unravel_length ds]



def grpBits (z : List (Bool × Nat)) : Nat := (z.map (·.2)).sum
def keptBits (z : List (Bool × Nat)) : Nat := ((z.filter (·.1)).map (·.2)).sum

/-- the merged shape `2^len₁, 2^len₂, …` has `2 ^ grpBits` entries -/
theorem shapeProd_eq (z : List (Bool × Nat)) : (z.map fun g => 2 ^ g.2).foldl (· * ·) 1 = 2 ^ grpBits z := by
  rw [foldl_mul_pow2, one_mul]; rfl

/-- structural form of the grouped index -/
def gIdx : List (Bool × Nat) → Nat → Nat
  | [], _ => 0
  | (b, _) :: r, p => (if b then (p / 2 ^ grpBits r) * 2 ^ keptBits r else 0) + gIdx r (p % 2 ^ grpBits r)

/-- structural form of the bitwise index -/
def bIdx : List Bool → Nat → Nat
  | [], _ => 0
  | b :: r, p => (if b then (p / 2 ^ r.length % 2) * 2 ^ (r.count true) else 0) + bIdx r (p % 2 ^ r.length)

/-- one more bit either joins the head run or starts a run of its own -/
theorem runLength_cons_cases (b : Bool) (l : List Bool) :
    (∃ c r, runLength l = (b, c) :: r ∧ runLength (b :: l) = (b, c + 1) :: r) ∨
      runLength (b :: l) = (b, 1) :: runLength l := by
  cases h : runLength l with
  | nil => exact Or.inr (by simp [runLength, h])
  | cons g r =>
    obtain ⟨b', c⟩ := g
    by_cases hb : b = b'
    · subst hb
      exact Or.inl ⟨c, r, rfl, by simp [runLength, h]⟩
    · exact Or.inr (by simp [runLength, h, hb])

theorem grpBits_runLength : ∀ l : List Bool, grpBits (runLength l) = l.length
  | [] => rfl
  | b :: l => by
    have ih := grpBits_runLength l
    rcases runLength_cons_cases b l with ⟨c, r, hl, h⟩ | h
    · rw [hl] at ih
      rw [h]
      simp only [grpBits, List.map_cons, List.sum_cons, List.length_cons] at ih ⊢; omega
    · rw [h]
      simp only [grpBits, List.map_cons, List.sum_cons, List.length_cons] at ih ⊢; omega

theorem keptBits_runLength : ∀ l : List Bool, keptBits (runLength l) = l.count true
  | [] => rfl
  | b :: l => by
    have ih := keptBits_runLength l
    rcases runLength_cons_cases b l with ⟨c, r, hl, h⟩ | h
    · rw [hl] at ih
      rw [h]
      cases b <;> simp [keptBits] at ih ⊢ <;> omega
    · rw [h]
      cases b <;> simp [keptBits] at ih ⊢ <;> omega

theorem gIdx_runLength_eq_bIdx : ∀ (l : List Bool) (p : Nat), p < 2 ^ l.length → gIdx (runLength l) p = bIdx l p
  | [], p, _ => rfl
  | b :: l, p, hp => by
    have hg := grpBits_runLength l
    have hk := keptBits_runLength l
    have hp' : p % 2 ^ l.length < 2 ^ l.length := Nat.mod_lt _ (by positivity)
    have ih := gIdx_runLength_eq_bIdx l (p % 2 ^ l.length) hp'
    have hlt : p / 2 ^ l.length < 2 := by
      rw [Nat.div_lt_iff_lt_mul (by positivity)]; simpa [pow_succ, mul_comm] using hp
    have hmod2 : p / 2 ^ l.length % 2 = p / 2 ^ l.length := Nat.mod_eq_of_lt hlt
    simp only [bIdx, hmod2]
    rw [← ih]
    rcases runLength_cons_cases b l with ⟨c, r, hl, h⟩ | h
    · -- the bit joins the head run
      rw [hl] at hg hk ⊢
      rw [h]
      simp only [gIdx]
      have hgl : l.length = c + grpBits r := by
        simp only [grpBits, List.map_cons, List.sum_cons] at hg ⊢; omega
      have hW : (2 : Nat) ^ l.length = 2 ^ c * 2 ^ grpBits r := by rw [hgl, pow_add]
      have hmm : p % 2 ^ l.length % 2 ^ grpBits r = p % 2 ^ grpBits r := by
        rw [hW]; exact Nat.mod_mul_left_mod _ _ _
      have hdiv : p / 2 ^ grpBits r = (p / 2 ^ l.length) * 2 ^ c + p % 2 ^ l.length / 2 ^ grpBits r := by
        rw [hW]
        have h2 : 0 < 2 ^ grpBits r := by positivity
        have h3 : 0 < 2 ^ c := by positivity
        rw [mul_comm (2 ^ c) (2 ^ grpBits r), ← Nat.div_div_eq_div_mul, Nat.mod_mul_right_div_self]
        exact (Nat.div_add_mod' (p / 2 ^ grpBits r) (2 ^ c)).symm
      rw [hmm]
      cases b
      · simp
      · have hkc : l.count true = c + keptBits r := by
          simp only [keptBits, List.filter_cons, if_true, List.map_cons, List.sum_cons] at hk ⊢; omega
        simp only [if_true, hdiv, hkc, pow_add]
        ring
    · -- a run of its own
      rw [h]
      simp only [gIdx]
      rw [hg, hk]


/-- kept (group, digit) pairs of the position `p` -/
def keptPairs (z : List (Bool × Nat)) (p : Nat) : List ((Bool × Nat) × Nat) :=
  (z.zip (unravel (z.map fun g => 2 ^ g.2) p)).filter (fun q => q.1.1)

def ravelPairs (F : List ((Bool × Nat) × Nat)) (a : Nat) : Nat := F.foldl (fun acc q => acc * 2 ^ q.1.2 + q.2) a

theorem ravelPairs_acc (F : List ((Bool × Nat) × Nat)) (a : Nat) :
    ravelPairs F a = a * 2 ^ (F.map (·.1.2)).sum + ravelPairs F 0 := by
  induction F generalizing a with
  | nil => simp [ravelPairs]
  | cons q F ih =>
    simp only [ravelPairs, List.foldl_cons] at ih ⊢
    rw [ih (a * 2 ^ q.1.2 + q.2), ih (0 * 2 ^ q.1.2 + q.2)]
    simp only [List.map_cons, List.sum_cons, pow_add]
    ring

theorem keptPairs_bits (z : List (Bool × Nat)) (p : Nat) : ((keptPairs z p).map (·.1.2)).sum = keptBits z := by
  have h := zip_filter_fst (fun g : Bool × Nat => g.1) z (unravel (z.map fun g => 2 ^ g.2) p)
    (by rw [unravel_length, List.length_map])
  unfold keptPairs keptBits
  rw [← h, List.map_map]; rfl

theorem ravelPairs_keptPairs : ∀ (z : List (Bool × Nat)) (p : Nat), ravelPairs (keptPairs z p) 0 = gIdx z p
  | [], p => by simp [keptPairs, ravelPairs, gIdx, unravel]
  | (b, c) :: r, p => by
    have ih := ravelPairs_keptPairs r (p % 2 ^ grpBits r)
    have hk := keptPairs_bits r (p % 2 ^ grpBits r)
    have hunf : keptPairs ((b, c) :: r) p
        = if b then ((b, c), p / 2 ^ grpBits r) :: keptPairs r (p % 2 ^ grpBits r) else keptPairs r (p % 2 ^ grpBits r) := by
      simp only [keptPairs, List.map_cons, unravel, shapeProd_eq, List.zip_cons_cons, List.filter_cons]
    rw [hunf]
    cases b
    · simp only [Bool.false_eq_true, if_false, gIdx, ih, zero_add]
    · simp only [if_true, gIdx]
      rw [ravelPairs, List.foldl_cons]
      have := ravelPairs_acc (keptPairs r (p % 2 ^ grpBits r)) (0 * 2 ^ c + p / 2 ^ grpBits r)
      rw [ravelPairs] at this
      rw [this, hk, ih]
      ring

/-- the literal grouped index is the structural one -/
theorem keptIndexGrouped_eq_gIdx (n : Nat) (index : List Nat) (p : Nat) :
    keptIndexGrouped n index p = gIdx (runLength ((List.range n).map fun i => index.contains i)) p := by
  rw [← ravelPairs_keptPairs]
  simp only [keptIndexGrouped, measureGrouping]
  set z := runLength ((List.range n).map fun i => index.contains i) with hz
  have h1 := filter_pos_map (fun g : Bool × Nat => g.1) (false, 0) (0 : Nat) z (unravel (z.map fun g => 2 ^ g.2) p)
    (by rw [unravel_length, List.length_map])
  have h2 := filter_pos_map (fun g : Bool × Nat => g.1) (false, 0) (1 : Nat) z (z.map fun g => 2 ^ g.2) (by simp)
  have h3 : ((z.zip (z.map fun g => 2 ^ g.2)).filter fun q => q.1.1).map (·.2) = (keptPairs z p).map (fun q => 2 ^ q.1.2) := by
    have hz1 := zip_filter_fst (fun g : Bool × Nat => g.1) z (unravel (z.map fun g => 2 ^ g.2) p)
      (by rw [unravel_length, List.length_map])
    have : (keptPairs z p).map (fun q => 2 ^ q.1.2) = (z.filter (·.1)).map (fun g => 2 ^ g.2) := by
      unfold keptPairs; rw [← hz1, List.map_map]; rfl
    rw [this]
    clear h1 h2 hz1 this hz
    induction z with
    | nil => rfl
    | cons g z ih =>
      simp only [List.map_cons, List.zip_cons_cons, List.filter_cons]
      cases g.1 <;> simp [ih]
  rw [h1, h2, h3]
  unfold ravel ravelPairs
  rw [show List.filter (fun q => q.1.1) (z.zip (unravel (List.map (fun g => 2 ^ g.2) z) p)) = keptPairs z p from rfl,
    List.zip_map', List.foldl_map]



/-- positions of the `true` entries -/
def posTrue (K : List Bool) : List Nat := (List.range K.length).filter fun q => K.getD q false

theorem posTrue_cons (b : Bool) (r : List Bool) :
    posTrue (b :: r) = (if b then [0] else []) ++ (posTrue r).map Nat.succ := by
  unfold posTrue
  rw [List.length_cons, List.range_succ_eq_map, List.filter_cons, List.filter_map]
  have : (fun q => (b :: r).getD q false) ∘ Nat.succ = fun q => r.getD q false := by funext q; simp
  rw [this]
  cases b <;> simp

theorem posTrue_length (K : List Bool) : (posTrue K).length = K.count true := by
  induction K with
  | nil => rfl
  | cons b r ih => rw [posTrue_cons]; cases b <;> simp [ih]

theorem posTrue_lt (K : List Bool) : ∀ q ∈ posTrue K, q < K.length := by
  intro q hq; unfold posTrue at hq; simp at hq; exact hq.1

theorem foldl_bit_acc (h : Nat → Nat) (l : List Nat) (a : Nat) :
    l.foldl (fun acc q => 2 * acc + h q) a = a * 2 ^ l.length + l.foldl (fun acc q => 2 * acc + h q) 0 := by
  induction l generalizing a with
  | nil => simp
  | cons q l ih =>
    simp only [List.foldl_cons, List.length_cons]
    rw [ih (2 * a + h q), ih (2 * 0 + h q)]
    ring

theorem foldl_congr_mem {β : Type} (f g : β → Nat → β) (l : List Nat) (a : β) (h : ∀ q ∈ l, ∀ acc, f acc q = g acc q) :
    l.foldl f a = l.foldl g a := by
  induction l generalizing a with
  | nil => rfl
  | cons q l ih =>
    simp only [List.foldl_cons]
    rw [h q (by simp), ih _ (fun q' hq' => h q' (List.mem_cons_of_mem _ hq'))]

theorem keptIndexBitwise_posTrue : ∀ (K : List Bool) (p : Nat), keptIndexBitwise K.length (posTrue K) p = bIdx K p
  | [], p => by simp [keptIndexBitwise, posTrue, bIdx]
  | b :: r, p => by
    have ih := keptIndexBitwise_posTrue r (p % 2 ^ r.length)
    unfold keptIndexBitwise at ih ⊢
    rw [posTrue_cons, List.foldl_append, List.foldl_map]
    -- the tail reads the low bits only
    have htail : ∀ a, (posTrue r).foldl (fun acc q => 2 * acc + (p.testBit ((b :: r).length - 1 - q.succ)).toNat) a
        = (posTrue r).foldl (fun acc q => 2 * acc + ((p % 2 ^ r.length).testBit (r.length - 1 - q)).toNat) a := by
      intro a
      apply foldl_congr_mem
      intro q hq acc
      have hlt := posTrue_lt r q hq
      have e1 : (b :: r).length - 1 - q.succ = r.length - 1 - q := by simp; omega
      rw [e1, Nat.testBit_mod_two_pow]
      have : r.length - 1 - q < r.length := by omega
      simp [this]
    rw [htail, foldl_bit_acc, ih, posTrue_length]
    simp only [bIdx]
    cases b
    · simp
    · simp only [if_true, List.foldl_cons, List.foldl_nil, List.length_cons, Nat.add_sub_cancel, Nat.sub_zero, mul_zero, zero_add]
      congr 2
      rw [Nat.testBit, Nat.shiftRight_eq_div_pow]
      rcases Nat.mod_two_eq_zero_or_one (p / 2 ^ r.length) with h | h <;> simp [h]


theorem filter_contains_of_sublist {n : Nat} {index : List Nat} (h : index.Sublist (List.range n)) :
    (List.range n).filter (fun q => index.contains q) = index := by
  have h2 : (List.range n).Pairwise (· < ·) := List.pairwise_lt_range
  have h1 : index.Pairwise (· < ·) := h2.sublist h
  have h3 : ((List.range n).filter (fun q => index.contains q)).Pairwise (· < ·) := h2.sublist List.filter_sublist
  refine List.Pairwise.eq_of_mem_iff h3 h1 (fun a => ?_)
  simp only [List.mem_filter, List.contains_eq_mem, decide_eq_true_eq]
  exact ⟨fun h => h.2, fun ha => ⟨h.subset ha, ha⟩⟩

end Numqi
