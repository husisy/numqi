/-
Ranges of entropy / fidelity / relative entropy at the eigenvalue level (C12).
-/
import Mathlib.Tactic
import Mathlib.Analysis.SpecialFunctions.Log.NegMulLog
import Mathlib.Analysis.Convex.Jensen
import Mathlib.Analysis.Real.Sqrt
import Mathlib.Algebra.BigOperators.Fin
import NumqiModel.Channel

namespace Numqi
namespace Channel
open Finset Real

/-- over ℝ the three analytic operations are the usual ones -/
noncomputable instance : Analytic ℝ := ⟨Real.log, Real.sqrt, max⟩

theorem listSum_eq (l : List ℝ) : listSum l = l.sum := rfl

theorem listSum_ofFn {d : ℕ} (f : Fin d → ℝ) (g : ℝ → ℝ) : listSum ((List.ofFn f).map g) = ∑ i, g (f i) := by
  rw [listSum_eq, List.map_ofFn, List.sum_ofFn]; rfl

theorem listSum_zip_ofFn {d : ℕ} (p q : Fin d → ℝ) (g : ℝ × ℝ → ℝ) :
    listSum (((List.ofFn p).zip (List.ofFn q)).map g) = ∑ i, g (p i, q i) := by
  have : (List.ofFn p).zip (List.ofFn q) = List.ofFn fun i => (p i, q i) := by
    apply List.ext_getElem <;> simp
  rw [this, listSum_eq, List.map_ofFn, List.sum_ofFn]; rfl

/-- with `eps = 0` and non-negative eigenvalues the entropy is `Σ negMulLog p_i` -/
theorem entropySpec_zero {d : ℕ} (p : Fin d → ℝ) (hp : ∀ i, 0 ≤ p i) :
    entropySpec 0 (List.ofFn p) = ∑ i, negMulLog (p i) := by
  unfold entropySpec
  rw [listSum_ofFn p (fun x => Analytic.max x 0 * Analytic.log (Analytic.max x 0)), ← sum_neg_distrib]
  refine sum_congr rfl fun i _ => ?_
  show -(max (p i) 0 * Real.log (max (p i) 0)) = _
  rw [max_eq_left (hp i), negMulLog]; ring

theorem entropy_nonneg' {d : ℕ} (p : Fin d → ℝ) (hp : ∀ i, 0 ≤ p i) (hsum : ∑ i, p i = 1) :
    0 ≤ ∑ i, negMulLog (p i) := by
  refine sum_nonneg fun i _ => negMulLog_nonneg (hp i) ?_
  rw [← hsum]; exact single_le_sum (fun j _ => hp j) (mem_univ i)

/-- Jensen with uniform weights: `Σ f(p_i) ≤ d·f(1/d)` for a probability vector `p` and `f` concave on `[0, ∞)` -/
theorem sum_le_card_mul_of_concaveOn {d : ℕ} (hd : 0 < d) {f : ℝ → ℝ} (hf : ConcaveOn ℝ (Set.Ici 0) f) (p : Fin d → ℝ)
    (hp : ∀ i, 0 ≤ p i) (hsum : ∑ i, p i = 1) : ∑ i, f (p i) ≤ d * f (1 / d) := by
  have hd' : (0 : ℝ) < d := by exact_mod_cast hd
  have J := hf.le_map_sum (t := (univ : Finset (Fin d))) (w := fun _ => (1 : ℝ) / d) (p := p)
    (fun _ _ => by positivity) (by simp; field_simp) (fun i _ => hp i)
  simp only [smul_eq_mul, ← mul_sum, hsum, mul_one] at J
  have := mul_le_mul_of_nonneg_left J hd'.le
  rwa [← mul_assoc, mul_one_div_cancel hd'.ne', one_mul] at this

theorem entropy_le_log' {d : ℕ} (hd : 0 < d) (p : Fin d → ℝ) (hp : ∀ i, 0 ≤ p i) (hsum : ∑ i, p i = 1) :
    ∑ i, negMulLog (p i) ≤ Real.log d := by
  have hd' : (0 : ℝ) < d := by exact_mod_cast hd
  refine (sum_le_card_mul_of_concaveOn hd concaveOn_negMulLog p hp hsum).trans (le_of_eq ?_)
  rw [negMulLog, one_div, Real.log_inv]
  field_simp

/-- fidelity of commuting states is the squared Bhattacharyya coefficient -/
theorem fidelitySpec_eq {d : ℕ} (p q : Fin d → ℝ) (hp : ∀ i, 0 ≤ p i) (hq : ∀ i, 0 ≤ q i) :
    fidelitySpec (List.ofFn p) (List.ofFn q) = (∑ i, √(p i) * √(q i)) ^ 2 := by
  unfold fidelitySpec
  simp only
  rw [listSum_zip_ofFn p q, sq]
  have : ∀ i, Analytic.sqrt (Analytic.max 0 (Analytic.sqrt (Analytic.max 0 (p i)) * q i * Analytic.sqrt (Analytic.max 0 (p i))))
      = √(p i) * √(q i) := by
    intro i
    show √(max 0 (√(max 0 (p i)) * q i * √(max 0 (p i)))) = _
    rw [max_eq_right (hp i)]
    have h1 : √(p i) * q i * √(p i) = p i * q i := by
      rw [mul_comm (√(p i)) (q i), mul_assoc, Real.mul_self_sqrt (hp i)]; ring
    rw [h1, max_eq_right (mul_nonneg (hp i) (hq i)), Real.sqrt_mul (hp i)]
  simp only [this]

theorem bc_le_one {d : ℕ} (p q : Fin d → ℝ) (hp : ∀ i, 0 ≤ p i) (hq : ∀ i, 0 ≤ q i)
    (hsp : ∑ i, p i = 1) (hsq : ∑ i, q i = 1) : ∑ i, √(p i) * √(q i) ≤ 1 := by
  have := Real.sum_sqrt_mul_sqrt_le (univ : Finset (Fin d)) (fun i => hp i) (fun i => hq i)
  rwa [hsp, hsq, Real.sqrt_one, one_mul] at this

/-- Gibbs' inequality term by term -/
theorem gibbs_term (x y : ℝ) (hx : 0 ≤ x) (hy : 0 < y) : x - y ≤ x * Real.log x - x * Real.log y := by
  rcases hx.eq_or_lt with rfl | hx
  · simp; exact hy.le
  · have h := Real.log_le_sub_one_of_pos (div_pos hy hx)
    rw [Real.log_div hy.ne' hx.ne'] at h
    have := mul_le_mul_of_nonneg_left h hx.le
    have e : x * (y / x - 1) = y - x := by field_simp
    rw [e] at this
    nlinarith

end Channel
end Numqi
