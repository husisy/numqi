/-
The objects the simulator statements rest on (`Op.WF`, `circuitMatrix`, `Op.targets`, `Op.controls`, the index equivalence `equivFin`)
and the lemmas about the simulator model shared by C03, C04 and C11.
-/
import Mathlib.Tactic
import Mathlib.Data.List.GetD
import Mathlib.Data.Matrix.Mul
import Mathlib.Algebra.BigOperators.Fin
import Mathlib.LinearAlgebra.UnitaryGroup
import NumqiProofs.PauliLemmas
import NumqiModel.Sim

namespace Numqi
open Function

namespace Bits
variable {n k : Nat}

theorem toNat_lt : ∀ {n : Nat} (x : Bits n), x.toNat < 2 ^ n
  | 0, _ => by simp [toNat]
  | n + 1, x => by
    have ih := toNat_lt (fun i : Fin n => x i.succ)
    have : (x 0).toNat ≤ 1 := Bool.toNat_le _
    simp only [toNat, pow_succ]
    nlinarith

theorem ofNat_toNat : ∀ {n : Nat} (x : Bits n), ofNat n x.toNat = x
  | 0, x => by funext i; exact i.elim0
  | n + 1, x => by
    have ih := ofNat_toNat (fun i : Fin n => x i.succ)
    have hlt := toNat_lt (fun i : Fin n => x i.succ)
    funext i
    simp only [ofNat, toNat]
    rw [mul_comm, Nat.testBit_two_pow_mul_add _ hlt]
    refine Fin.cases ?_ (fun j => ?_) i
    · simp
      cases x 0 <;> simp
    · have hj : n + 1 - 1 - (j.succ : Fin (n+1)).val < n := by
        have := j.isLt; simp only [Fin.val_succ]; omega
      rw [if_pos hj]
      have := congrFun ih j
      simp only [ofNat] at this
      rw [← this]
      congr 1
      have := j.isLt; simp only [Fin.val_succ]; omega

theorem toNat_ofNat : ∀ {n : Nat} {v : Nat}, v < 2 ^ n → (ofNat n v).toNat = v
  | 0, v, h => by simp at h; simp [toNat, h]
  | n + 1, v, h => by
    have hdiv : v / 2 ^ n < 2 := by
      rw [Nat.div_lt_iff_lt_mul (by positivity)]; rw [pow_succ] at h; omega
    have ih := toNat_ofNat (n := n) (v := v % 2 ^ n) (Nat.mod_lt _ (by positivity))
    simp only [toNat]
    have h0 : (ofNat (n + 1) v 0).toNat = v / 2 ^ n := by
      simp only [ofNat]
      simp [Nat.testBit, Nat.shiftRight_eq_div_pow]
      interval_cases (v / 2 ^ n) <;> simp
    have hs : (fun i : Fin n => ofNat (n + 1) v i.succ) = ofNat n (v % 2 ^ n) := by
      funext i
      simp only [ofNat, Nat.testBit_mod_two_pow]
      have : n - 1 - i.val < n := by have := i.isLt; omega
      simp [this]
      congr 1
      omega
    rw [h0, hs, ih]
    exact Nat.div_add_mod' v (2 ^ n)


/-- the flat index is a bijection between `Fin (2^n)` and bit vectors -/
def equivFin (n : Nat) : Fin (2 ^ n) ≃ Bits n where
  toFun i := ofNat n i.val
  invFun x := ⟨x.toNat, toNat_lt x⟩
  left_inv i := Fin.ext (toNat_ofNat i.isLt)
  right_inv x := ofNat_toNat x

theorem toNat_injective : Injective (toNat (n := n)) := fun x y h => by
  rw [← ofNat_toNat x, ← ofNat_toNat y, h]

/-! ### `sel`, `upd`, `agreeOff` -/

theorem upd_apply_target {t : Fin k → Fin n} (ht : Injective t) (x : Bits n) (y : Bits k) (j : Fin k) :
    x.upd t y (t j) = y j := by
  unfold upd
  have : (List.finRange k).find? (fun j' => t j' == t j) = some j := by
    rw [List.find?_eq_some_iff_append]
    refine ⟨by simp, ?_⟩
    obtain ⟨as, bs, h⟩ := List.append_of_mem (List.mem_finRange j)
    refine ⟨as, bs, h, fun a ha => ?_⟩
    have hnd : (List.finRange k).Nodup := List.nodup_finRange k
    rw [h] at hnd
    have : a ≠ j := by
      rintro rfl
      have := (List.nodup_append.1 hnd).2.2 a ha a (by simp)
      exact this rfl
    simpa using fun e => this (ht e)
  rw [this]; rfl

theorem upd_apply_off {t : Fin k → Fin n} (x : Bits n) (y : Bits k) {i : Fin n} (hi : ∀ j, t j ≠ i) :
    x.upd t y i = x i := by
  unfold upd
  have : (List.finRange k).find? (fun j' => t j' == i) = none := by
    rw [List.find?_eq_none]; intro j _; simpa using hi j
  rw [this]; rfl

theorem sel_upd {t : Fin k → Fin n} (ht : Injective t) (x : Bits n) (y : Bits k) : (x.upd t y).sel t = y := by
  funext j; exact upd_apply_target ht x y j

theorem agreeOff_iff {t : Fin k → Fin n} (x x' : Bits n) :
    agreeOff x x' t = true ↔ ∀ i, (∀ j, t j ≠ i) → x i = x' i := by
  unfold agreeOff
  simp only [List.all_eq_true, List.mem_finRange, true_implies, Bool.or_eq_true, List.any_eq_true,
    beq_iff_eq, true_and]
  constructor
  · intro h i hi
    rcases h i with ⟨j, hj⟩ | h
    · exact absurd hj (hi j)
    · exact h
  · intro h i
    by_cases hi : ∃ j, t j = i
    · exact Or.inl hi
    · exact Or.inr (h i (fun j e => hi ⟨j, e⟩))

theorem agreeOff_upd {t : Fin k → Fin n} (x : Bits n) (y : Bits k) : agreeOff x (x.upd t y) t = true := by
  rw [agreeOff_iff]; intro i hi; rw [upd_apply_off x y hi]

theorem upd_sel_of_agreeOff {t : Fin k → Fin n} (ht : Injective t) {x x' : Bits n}
    (h : agreeOff x x' t = true) : x.upd t (x'.sel t) = x' := by
  rw [agreeOff_iff] at h
  funext i
  by_cases hi : ∃ j, t j = i
  · obtain ⟨j, rfl⟩ := hi; rw [upd_apply_target ht]; rfl
  · have hi' : ∀ j, t j ≠ i := fun j e => hi ⟨j, e⟩
    rw [upd_apply_off _ _ hi', h i hi']

theorem eq_of_agreeOff_of_sel {t : Fin k → Fin n} {x x' : Bits n}
    (h : agreeOff x x' t = true) (hs : x.sel t = x'.sel t) : x = x' := by
  rw [agreeOff_iff] at h
  funext i
  by_cases hi : ∃ j, t j = i
  · obtain ⟨j, rfl⟩ := hi; exact congrFun hs j
  · exact h i (fun j e => hi ⟨j, e⟩)

theorem agreeOff_refl {t : Fin k → Fin n} (x : Bits n) : agreeOff x x t = true := by
  rw [agreeOff_iff]; intros; rfl

theorem agreeOff_symm {t : Fin k → Fin n} {x x' : Bits n} (h : agreeOff x x' t = true) :
    agreeOff x' x t = true := by
  rw [agreeOff_iff] at *; intro i hi; exact (h i hi).symm

theorem agreeOff_trans {t : Fin k → Fin n} {x y z : Bits n} (h1 : agreeOff x y t = true)
    (h2 : agreeOff y z t = true) : agreeOff x z t = true := by
  rw [agreeOff_iff] at *; intro i hi; exact (h1 i hi).trans (h2 i hi)

end Bits

/-- first `d` bits / last `n` bits of a `(d+n)`-qubit index -/
def Bits.head {n : Nat} (d : Nat) (x : Bits (d + n)) : Bits d := fun i => x (Fin.castAdd n i)
def Bits.tail {n : Nat} (d : Nat) (x : Bits (d + n)) : Bits n := fun i => x (Fin.natAdd d i)

/-! ### controls -/

theorem ctrlOn_iff {n : Nat} (isCtrl : Fin n → Bool) (x : Bits n) :
    ctrlOn isCtrl x = true ↔ ∀ i, isCtrl i = true → x i = true := by
  unfold ctrlOn
  simp only [List.all_eq_true, List.mem_finRange, true_implies, Bool.or_eq_true, Bool.not_eq_true']
  constructor
  · intro h i hi; rcases h i with h | h
    · rw [hi] at h; exact absurd h (by simp)
    · exact h
  · intro h i; cases hc : isCtrl i
    · exact Or.inl rfl
    · exact Or.inr (h i hc)

/-- the write-back of `apply_control_n_gate` addresses the same entry as the direct update of the target bits -/
theorem ctrl_upd_eq {n n' k : Nat} {isCtrl : Fin n → Bool} {rest : Fin n' → Fin n} {tNew : Fin k → Fin n'}
    (hrest : Injective rest) (htn : Injective tNew) (hfree : ∀ i, isCtrl i = false ↔ ∃ m, rest m = i)
    {x : Bits n} (hx : ctrlOn isCtrl x = true) (y : Bits k) :
    (Bits.ones n).upd rest ((x.sel rest).upd tNew y) = x.upd (fun j => rest (tNew j)) y := by
  rw [ctrlOn_iff] at hx
  funext i
  cases hc : isCtrl i
  · obtain ⟨m, rfl⟩ := (hfree i).1 hc
    rw [Bits.upd_apply_target hrest]
    by_cases hm : ∃ j, tNew j = m
    · obtain ⟨j, rfl⟩ := hm
      rw [Bits.upd_apply_target htn, Bits.upd_apply_target (t := fun j => rest (tNew j)) (hrest.comp htn)]
    · have h1 : ∀ j, tNew j ≠ m := fun j e => hm ⟨j, e⟩
      rw [Bits.upd_apply_off _ _ h1, Bits.upd_apply_off]
      · rfl
      · intro j e; exact h1 j (hrest e)
  · have h1 : ∀ m, rest m ≠ i := fun m e => by
      have := (hfree i).2 ⟨m, e⟩; rw [hc] at this; exact absurd this (by simp)
    rw [Bits.upd_apply_off _ _ h1, Bits.upd_apply_off _ _ (fun j => h1 (tNew j)), hx i hc]; rfl

/-- a gate whose targets avoid the controls does not change whether the controls are all 1 -/
theorem ctrlOn_of_agreeOff {n k : Nat} {isCtrl : Fin n → Bool} {t : Fin k → Fin n}
    (hdisj : ∀ j, isCtrl (t j) = false) {x x' : Bits n} (h : Bits.agreeOff x x' t = true) :
    ctrlOn isCtrl x = ctrlOn isCtrl x' := by
  rw [Bits.agreeOff_iff] at h
  rw [Bool.eq_iff_iff, ctrlOn_iff, ctrlOn_iff]
  have key : ∀ i, isCtrl i = true → x i = x' i := fun i hi =>
    h i (fun j e => by have := hdisj j; rw [e, hi] at this; exact absurd this (by simp))
  exact ⟨fun hx i hi => by rw [← key i hi]; exact hx i hi, fun hx i hi => by rw [key i hi]; exact hx i hi⟩

/-! ### head / tail of a longer register -/

theorem agreeOff_shift (d : Nat) (t : Fin k → Fin n) (x x' : Bits (d + n)) :
    Bits.agreeOff x x' (fun j => Fin.natAdd d (t j)) = true ↔
      Bits.head d x = Bits.head d x' ∧ Bits.agreeOff (Bits.tail d x) (Bits.tail d x') t = true := by
  rw [Bits.agreeOff_iff, Bits.agreeOff_iff]
  constructor
  · intro h
    refine ⟨?_, ?_⟩
    · funext i
      exact h _ (fun j e => by
        have := congrArg Fin.val e; simp only [Fin.val_natAdd, Fin.val_castAdd] at this; omega)
    · intro i hi
      exact h _ (fun j e => hi j (Fin.natAdd_injective _ _ e))
  · rintro ⟨h1, h2⟩ i
    refine Fin.addCases (fun a => ?_) (fun b => ?_) i
    · intro _; exact congrFun h1 a
    · intro hi
      exact h2 b (fun j e => hi j (by rw [e]))

theorem bits_eq_iff_head_tail (d : Nat) (x x' : Bits (d + n)) :
    x = x' ↔ Bits.head d x = Bits.head d x' ∧ Bits.tail d x = Bits.tail d x' := by
  constructor
  · rintro rfl; exact ⟨rfl, rfl⟩
  · rintro ⟨h1, h2⟩
    funext i
    refine Fin.addCases (fun a => ?_) (fun b => ?_) i
    · exact congrFun h1 a
    · exact congrFun h2 b

theorem ctrlOn_shift (d : Nat) (isCtrl : Fin n → Bool) (x : Bits (d + n)) :
    ctrlOn (fun i => Fin.addCases (fun _ => false) isCtrl i) x = ctrlOn isCtrl (Bits.tail d x) := by
  rw [Bool.eq_iff_iff, ctrlOn_iff, ctrlOn_iff]
  constructor
  · intro h i hi
    exact h (Fin.natAdd d i) (by simpa using hi)
  · intro h i
    refine Fin.addCases (fun a => ?_) (fun b => ?_) i
    · simp
    · intro hb; exact h b (by simpa using hb)

/-! ### sums -/

theorem sumBits_eq_sum {M : Type} [AddCommMonoid M] (k : Nat) (f : Bits k → M) :
    sumBits k f = ∑ y, f y := by
  unfold sumBits
  rw [← Fin.sum_univ_def]
  exact Fintype.sum_equiv (Bits.equivFin k) _ _ (fun _ => rfl)

/-- in the proofs the model's conjugation is `star` -/
@[reducible] def starConj (R : Type) [Star R] : Conj R := ⟨star⟩

/-! ### flat arrays -/
section arrays
variable {α : Type} {n k : Nat}

theorem getD_ofFn [Zero α] {N : Nat} (f : Fin N → α) (i : Nat) (h : i < N) : (Array.ofFn f).getD i 0 = f ⟨i, h⟩ := by
  simp [Array.getD, h]

theorem lookup_tabulate [Zero α] (ψ : Vec n α) : lookup (tabulate ψ) = ψ := by
  funext x
  unfold lookup tabulate
  rw [getD_ofFn _ _ (Bits.toNat_lt x)]
  simp [Bits.ofNat_toNat]

theorem flat_div {N a b : Nat} (hb : b < N) : (a * N + b) / N = a := by
  have hN : 0 < N := by omega
  rw [Nat.add_comm, Nat.add_mul_div_right _ _ hN, Nat.div_eq_of_lt hb]; simp
theorem flat_mod {N a b : Nat} (hb : b < N) : (a * N + b) % N = b := by
  rw [Nat.add_comm, Nat.add_mul_mod_self_right, Nat.mod_eq_of_lt hb]
theorem flat_lt {N a b : Nat} (ha : a < N) (hb : b < N) : a * N + b < N * N := by nlinarith

theorem lookupMat_tabulateMat [Zero α] (U : Mat k α) : lookupMat (tabulateMat U) = U := by
  funext r c
  unfold lookupMat tabulateMat
  rw [getD_ofFn _ _ (flat_lt (Bits.toNat_lt r) (Bits.toNat_lt c))]
  simp only [flat_div (Bits.toNat_lt c), flat_mod (Bits.toNat_lt c), Bits.ofNat_toNat]
end arrays

/-! ### gate-list entries -/

/-- the side conditions under which an entry of the gate list denotes its matrix: duplicate-free targets; for
controlled entries `rest` enumerates exactly the non-control qubits and the renumbered targets are duplicate-free -/
def Op.WF {n : Nat} {α : Type} : Op n α → Prop
  | .unitary _ t => Injective t
  | .control _ isCtrl rest tNew =>
      Injective rest ∧ Injective tNew ∧ ∀ i, isCtrl i = false ↔ ∃ m, rest m = i
  | .measure _ _ => True

/-- the operator of the whole gate list: product of the entries' operators, last gate leftmost -/
def circuitMatrix {n : Nat} {R : Type} [Semiring R] (c : List (Op n R)) : Matrix (Bits n) (Bits n) R :=
  ((c.map fun g => (Matrix.of g.matrix : Matrix (Bits n) (Bits n) R)).reverse).prod

theorem circuitMatrix_cons {n : Nat} {R : Type} [Semiring R] (g : Op n R) (c : List (Op n R)) :
    circuitMatrix (g :: c) = circuitMatrix c * Matrix.of g.matrix := by
  simp [circuitMatrix]

theorem circuitMatrix_nil {n : Nat} {R : Type} [Semiring R] : circuitMatrix ([] : List (Op n R)) = 1 := by
  simp [circuitMatrix]

theorem mulVec_basis {n : Nat} {R : Type} [Semiring R] (M : Matrix (Bits n) (Bits n) R) (b x : Bits n) :
    M.mulVec (basis b) x = M x b := by
  simp only [Matrix.mulVec, dotProduct, basis, Bits.beq_iff]
  rw [Finset.sum_eq_single b]
  · simp
  · intro w _ hw; simp [hw]
  · intro h; exact absurd (Finset.mem_univ b) h

/-! ### resolving raw gate-list entries (`RawOp.compile`) -/

theorem distinct_iff (l : List Int) : distinct l = true ↔ l.Nodup := by
  induction l with
  | nil => simp [distinct]
  | cons a l ih => simp [distinct, ih, List.nodup_cons]

theorem validIndex_iff (n : Nat) (t : List Int) :
    validIndex n t = true ↔ (∀ x ∈ t, 0 ≤ x ∧ x < n) ∧ t.Nodup := by
  simp [validIndex, distinct_iff, List.all_eq_true]

theorem mkTarget_val {n : Nat} {t : List Int} (h : ∀ x ∈ t, 0 ≤ x ∧ x < (n + 1 : Nat)) (j : Fin t.length) :
    ((mkTarget n t j).val : Int) = t[j.val] := by
  have hj := h _ (List.getElem_mem j.isLt)
  simp only [mkTarget, List.getD_eq_getElem _ _ j.isLt, Fin.val_ofNat]
  have : (t[j.val]).toNat < n + 1 := by omega
  rw [Nat.mod_eq_of_lt this]
  omega

theorem mkTarget_injective {n : Nat} {t : List Int} (h : ∀ x ∈ t, 0 ≤ x ∧ x < (n + 1 : Nat)) (hd : t.Nodup) :
    Injective (mkTarget n t) := by
  intro j j' e
  have h1 := mkTarget_val h j
  have h2 := mkTarget_val h j'
  rw [e] at h1
  have : t[j.val] = t[j'.val] := by rw [← h1, ← h2]
  exact Fin.ext ((List.Nodup.getElem_inj_iff hd).1 this)

theorem freeQubits_mem (n : Nat) (c : List Int) (x : Nat) :
    x ∈ freeQubits n c ↔ x < n ∧ c.contains (x : Int) = false := by
  simp [freeQubits]

theorem freeQubits_nodup (n : Nat) (c : List Int) : (freeQubits n c).Nodup :=
  List.Nodup.filter _ List.nodup_range

/-- what `_control_n_index` computes (`tmp0`, `index_map`, `ind_target_new`) is a valid sub-register:
`rest` enumerates exactly the non-control qubits, the renumbered targets are distinct, and `rest ∘ tNew` is the
original target tuple -/
theorem ctrl_data {n n' : Nat} {c t : List Int} (hlen : (freeQubits (n + 1) c).length = n' + 1)
    (hrange : ∀ x ∈ c ++ t, 0 ≤ x ∧ x < ((n + 1 : Nat) : Int)) (hnd : (c ++ t).Nodup) :
    let rest : Fin (n' + 1) → Fin (n + 1) := fun m => Fin.ofNat (n + 1) ((freeQubits (n + 1) c).getD m.val 0)
    let tNew : Fin t.length → Fin (n' + 1) :=
      fun j => Fin.ofNat (n' + 1) ((freeQubits (n + 1) c).idxOf (t.getD j.val 0).toNat)
    Injective rest ∧ Injective tNew ∧ (∀ i : Fin (n + 1), c.contains (i.val : Int) = false ↔ ∃ m, rest m = i)
      ∧ ∀ j : Fin t.length, ((rest (tNew j)).val : Int) = t[j.val] := by
  have hfn := freeQubits_nodup (n + 1) c
  have hfm := freeQubits_mem (n + 1) c
  set free := freeQubits (n + 1) c with hfree
  intro rest tNew
  have hget : ∀ m : Fin (n' + 1), free.getD m.val 0 = free[m.val]'(by rw [hlen]; exact m.isLt) :=
    fun m => List.getD_eq_getElem _ _ _
  have htget : ∀ j : Fin t.length, t.getD j.val 0 = t[j.val] := fun j => List.getD_eq_getElem _ _ j.isLt
  have hlt : ∀ m : Fin (n' + 1), free.getD m.val 0 < n + 1 := by
    intro m; rw [hget]; exact ((hfm _).1 (List.getElem_mem _)).1
  have htmem : ∀ j : Fin t.length, (t.getD j.val 0).toNat ∈ free := by
    intro j
    have hj : t[j.val] ∈ c ++ t := List.mem_append_right _ (List.getElem_mem j.isLt)
    have hr := hrange _ hj
    rw [hfm, htget]
    refine ⟨by omega, ?_⟩
    have : ((t[j.val]).toNat : Int) = t[j.val] := by omega
    rw [this]
    have hdis := (List.nodup_append.1 hnd).2.2
    simp only [List.contains_eq_mem, decide_eq_false_iff_not]
    intro hmem
    exact hdis _ hmem _ (List.getElem_mem j.isLt) rfl
  have hidx : ∀ j : Fin t.length, free.idxOf (t.getD j.val 0).toNat < n' + 1 := by
    intro j; rw [← hlen]; exact List.idxOf_lt_length_of_mem (htmem j)
  refine ⟨?_, ?_, ?_, ?_⟩
  · intro m m' e
    have := congrArg Fin.val e
    simp only [rest, Fin.val_ofNat] at this
    rw [Nat.mod_eq_of_lt (hlt m), Nat.mod_eq_of_lt (hlt m'), hget, hget] at this
    exact Fin.ext ((List.Nodup.getElem_inj_iff hfn).1 this)
  · intro j j' e
    have := congrArg Fin.val e
    simp only [tNew, Fin.val_ofNat, Nat.mod_eq_of_lt (hidx j), Nat.mod_eq_of_lt (hidx j')] at this
    have e2 : (t.getD j.val 0).toNat = (t.getD j'.val 0).toNat := (List.idxOf_inj (htmem j)).1 this
    rw [htget, htget] at e2
    have hr1 := hrange _ (List.mem_append_right _ (List.getElem_mem j.isLt))
    have hr2 := hrange _ (List.mem_append_right _ (List.getElem_mem j'.isLt))
    have e3 : t[j.val] = t[j'.val] := by omega
    exact Fin.ext ((List.Nodup.getElem_inj_iff (List.nodup_append.1 hnd).2.1).1 e3)
  · intro i
    constructor
    · intro hi
      have : i.val ∈ free := (hfm _).2 ⟨i.isLt, hi⟩
      obtain ⟨m, hm, hmi⟩ := List.getElem_of_mem this
      refine ⟨⟨m, by rw [← hlen]; exact hm⟩, Fin.ext ?_⟩
      simp only [rest, Fin.val_ofNat]
      have : free.getD m 0 = i.val := by rw [List.getD_eq_getElem _ _ hm, hmi]
      rw [this, Nat.mod_eq_of_lt i.isLt]
    · rintro ⟨m, rfl⟩
      simp only [rest, Fin.val_ofNat]
      rw [Nat.mod_eq_of_lt (hlt m), hget]
      exact ((hfm _).1 (List.getElem_mem _)).2
  · intro j
    have hx := htmem j
    have h1 : free.getD (free.idxOf (t.getD j.val 0).toNat) 0 = (t.getD j.val 0).toNat := by
      rw [List.getD_eq_getElem?_getD, List.getElem?_idxOf hx]; rfl
    simp only [rest, tNew, Fin.val_ofNat, Nat.mod_eq_of_lt (hidx j)]
    rw [h1, Nat.mod_eq_of_lt ((hfm _).1 hx).1]
    have hr := hrange _ (List.mem_append_right _ (List.getElem_mem j.isLt))
    rw [htget]
    omega

/-- the index tuple an entry refers to, and its control qubits -/
def Op.targets {n : Nat} {α : Type} : Op n α → List (Fin n)
  | .unitary _ t => List.ofFn t
  | .control _ _ rest tNew => List.ofFn fun j => rest (tNew j)
  | .measure s _ => List.ofFn s

def Op.controls {n : Nat} {α : Type} : Op n α → List (Fin n)
  | .control _ isCtrl _ _ => (List.finRange n).filter isCtrl
  | _ => []


/-- a tuple whose entries are those of `t` lists `t` -/
theorem ofFn_val_eq {n : Nat} {t : List Int} (f : Fin t.length → Fin n) (hf : ∀ j, ((f j).val : Int) = t[j.val]) :
    ((List.ofFn f).map fun i => (i.val : Int)) = t := by
  apply List.ext_getElem
  · rw [List.length_map, List.length_ofFn]
  · intro i _ h2
    rw [List.getElem_map, List.getElem_ofFn]
    exact hf ⟨i, h2⟩

/-! ### `num_qubit`, index shifting -/

/-- the qubit indices an entry mentions (`kind='custom'` entries mention none: `index = ()`) -/
def RawOp.indices {α : Type} : RawOp α → List Int
  | .unitary _ t => t
  | .control _ c t => c ++ t
  | .measure s _ => s
  | .custom _ => []

theorem foldl_max_ge_init (l : List Int) (a : Int) : a ≤ l.foldl max a := by
  induction l generalizing a with
  | nil => simp
  | cons x l ih => exact le_trans (le_max_left a x) (ih (max a x))

theorem foldl_max_ge_mem (l : List Int) (a : Int) : ∀ x ∈ l, x ≤ l.foldl max a := by
  induction l generalizing a with
  | nil => simp
  | cons y l ih =>
    intro x hx
    rcases List.mem_cons.1 hx with rfl | hx
    · exact le_trans (le_max_right a x) (foldl_max_ge_init l _)
    · exact ih _ x hx

theorem foldl_max_mem (l : List Int) (a : Int) : l.foldl max a = a ∨ l.foldl max a ∈ l := by
  induction l generalizing a with
  | nil => simp
  | cons y l ih =>
    rcases ih (max a y) with h | h
    · rw [List.foldl_cons, h]
      rcases max_choice a y with h' | h'
      · exact Or.inl h'
      · exact Or.inr (by rw [h']; simp)
    · exact Or.inr (List.mem_cons_of_mem _ h)

theorem maxIndex_eq {α : Type} (g : RawOp α) : g.maxIndex = g.indices.foldl max 0 := by
  cases g <;> rfl


/-- a successful `mapM` into `Option` succeeds at the head and on the tail -/
theorem mapM_cons_some {α β : Type} (f : α → Option β) (a : α) (l : List α) (c : List β)
    (h : (a :: l).mapM f = some c) : ∃ b c0, f a = some b ∧ l.mapM f = some c0 ∧ c = b :: c0 := by
  rw [List.mapM_cons] at h
  cases hfa : f a with
  | none => simp [hfa] at h
  | some b =>
    cases hl : l.mapM f with
    | none => simp [hfa, hl] at h
    | some c0 => simp [hfa, hl] at h; exact ⟨b, c0, rfl, rfl, h.symm⟩

/-! ### what `RawOp.compile` returns, entry kind by entry kind -/

section compile
variable {α : Type} [Zero α] {n : Nat}

/-- no entry resolves against an empty register -/
theorem compile_pos {g : RawOp α} {op : Op n α} (h : g.compile n = some op) : ∃ m, n = m + 1 := by
  cases n with
  | zero => simp [RawOp.compile] at h
  | succ m => exact ⟨m, rfl⟩

theorem compile_unitary_some {U : Array α} {t : List Int} {op : Op (n + 1) α}
    (h : (RawOp.unitary U t).compile (n + 1) = some op) :
    ((∀ x ∈ t, 0 ≤ x ∧ x < ((n + 1 : Nat) : Int)) ∧ t.Nodup) ∧ U.size = 2 ^ t.length * 2 ^ t.length ∧
      op = .unitary (lookupMat U) (mkTarget n t) := by
  simp only [RawOp.compile, Option.ite_none_right_eq_some, Option.some.injEq, Bool.and_eq_true, validIndex_iff,
    beq_iff_eq] at h
  exact ⟨h.1.1.1, h.1.2, h.2.symm⟩

theorem compile_control_some {U : Array α} {c t : List Int} {op : Op (n + 1) α}
    (h : (RawOp.control U c t).compile (n + 1) = some op) :
    ∃ n', (freeQubits (n + 1) c).length = n' + 1 ∧
      ((∀ x ∈ c ++ t, 0 ≤ x ∧ x < ((n + 1 : Nat) : Int)) ∧ (c ++ t).Nodup) ∧ U.size = 2 ^ t.length * 2 ^ t.length ∧
      op = .control (k := t.length) (n' := n' + 1) (lookupMat U) (fun i => c.contains (i.val : Int))
        (fun m => Fin.ofNat (n + 1) ((freeQubits (n + 1) c).getD m.val 0))
        (fun j => Fin.ofNat (n' + 1) ((freeQubits (n + 1) c).idxOf (t.getD j.val 0).toNat)) := by
  simp only [RawOp.compile] at h
  split at h
  · cases h
  · rename_i n' hlen
    simp only [Option.ite_none_right_eq_some, Option.some.injEq, Bool.and_eq_true, validIndex_iff, beq_iff_eq] at h
    exact ⟨n', hlen, h.1.1.1, h.1.2, h.2.symm⟩

theorem compile_measure_some {s : List Int} {o : List Bool} {op : Op (n + 1) α}
    (h : (RawOp.measure (α := α) s o).compile (n + 1) = some op) :
    (∀ x ∈ s, 0 ≤ x ∧ x < ((n + 1 : Nat) : Int)) ∧ strictAsc s = true ∧
      op = .measure (m := s.length) (mkTarget n s) (fun j => o.getD j.val false) := by
  simp only [RawOp.compile, Option.ite_none_right_eq_some, Option.some.injEq, Bool.and_eq_true, List.all_eq_true,
    decide_eq_true_eq] at h
  exact ⟨h.1.1.1, h.1.1.2, h.2.symm⟩

theorem compile_custom_some {U : Array α} {op : Op (n + 1) α} (h : (RawOp.custom U).compile (n + 1) = some op) :
    U.size = 2 ^ (n + 1) * 2 ^ (n + 1) ∧ op = .unitary (k := n + 1) (lookupMat U) id := by
  simp only [RawOp.compile, Option.ite_none_right_eq_some, Option.some.injEq, beq_iff_eq] at h
  exact ⟨h.1, h.2.symm⟩

end compile

section castk
variable {R : Type}

theorem embed_cast_k [Zero R] {n k k' : Nat} (h : k' = k) (A : Array R) (t : Fin k → Fin n) (t' : Fin k' → Fin n)
    (ht : ∀ j : Fin k', t' j = t (Fin.cast h j)) :
    embed (lookupMat (k := k') A) t' = embed (lookupMat (k := k) A) t := by
  subst h
  have : t' = t := funext fun j => by simpa using ht j
  rw [this]

theorem ctrlEmbed_cast_k [Zero R] [One R] {n k k' : Nat} (h : k' = k) (A : Array R) (isCtrl isCtrl' : Fin n → Bool)
    (hi : ∀ i, isCtrl' i = isCtrl i)
    (t : Fin k → Fin n) (t' : Fin k' → Fin n) (ht : ∀ j : Fin k', t' j = t (Fin.cast h j)) :
    ctrlEmbed (lookupMat (k := k') A) isCtrl' t' = ctrlEmbed (lookupMat (k := k) A) isCtrl t := by
  subst h
  have : t' = t := funext fun j => by simpa using ht j
  have hi' : isCtrl' = isCtrl := funext hi
  rw [this, hi']

end castk

end Numqi
