/-
Helper lemmas for `get_element_probing_POVM('eq9', dim)` (C18): row orthonormality and completeness (column orthonormality) of the four bases for every even `dim ≥ 4`.
-/
import NumqiProofs.ScalarInstances
import NumqiModel.Catalogue

namespace Numqi.Catalogue
open Finset

theorem foldl_add_range (f : ℕ → GInt) (m : ℕ) :
    (List.range m).foldl (fun acc t => acc + f t) 0 = ∑ t ∈ Finset.range m, f t := by
  induction m with
  | zero => simp
  | succ m ih => rw [List.range_succ, List.foldl_append, List.foldl_cons, List.foldl_nil, ih, Finset.sum_range_succ]

/-- rows `2k`, `2k+1` are supported on the columns `P_k`, `Q_k` (for the odd bases the last pair wraps to column 0) with
entries `1` and `±u` -/
def e9P (b k : ℕ) : ℕ := if b % 2 = 0 then 2 * k else 2 * k + 1
def e9Q (b dim k : ℕ) : ℕ := if b % 2 = 0 then 2 * k + 1 else (if 2 * k + 2 = dim then 0 else 2 * k + 2)
def e9u (b : ℕ) : GInt := if b < 2 then ⟨1, 0⟩ else ⟨0, 1⟩
def e9v (b i : ℕ) : GInt := if i % 2 = 0 then e9u b else -e9u b

theorem eprobe9_eq (b dim i c : ℕ) (hi : 2 * (i / 2) + 2 ≤ dim) :
    eprobe9 b dim i c = if c = e9Q b dim (i / 2) then e9v b i else if c = e9P b (i / 2) then 1 else 0 := by
  have hP : (if b % 2 = 0 then (i / 2) * 2 else (i / 2) * 2 + 1) = e9P b (i / 2) := by unfold e9P; split <;> omega
  have hQ : (if b % 2 = 0 then (i / 2) * 2 + 1 else ((i / 2) * 2 + 2) % dim) = e9Q b dim (i / 2) := by
    unfold e9Q
    split
    · omega
    · split
      · rw [show i / 2 * 2 + 2 = dim by omega, Nat.mod_self]
      · rw [Nat.mod_eq_of_lt (by omega)]; omega
  show (if c = (if b % 2 = 0 then (i / 2) * 2 + 1 else ((i / 2) * 2 + 2) % dim) then e9v b i
    else if c = (if b % 2 = 0 then (i / 2) * 2 else (i / 2) * 2 + 1) then 1 else 0) = _
  rw [hP, hQ]

theorem e9PQ_ne (b dim k : ℕ) : e9P b k ≠ e9Q b dim k := by
  unfold e9P e9Q; split_ifs <;> omega

theorem e9PQ_lt (b dim k : ℕ) (hk : 2 * k + 2 ≤ dim) : e9P b k < dim ∧ e9Q b dim k < dim := by
  unfold e9P e9Q; split_ifs <;> omega

/-- different pairs have disjoint supports -/
theorem e9PQ_disjoint (b dim k k' : ℕ) (hne : k ≠ k') :
    e9P b k ≠ e9P b k' ∧ e9P b k ≠ e9Q b dim k' ∧ e9Q b dim k ≠ e9P b k' ∧ e9Q b dim k ≠ e9Q b dim k' := by
  unfold e9P e9Q; split_ifs <;> omega

theorem e9v_norm (b i j : ℕ) (h : i / 2 = j / 2) :
    conj (e9v b i) * e9v b j = if i = j then 1 else -1 := by
  have : i = j ∨ (i % 2 ≠ j % 2) := by omega
  unfold e9v e9u
  rcases this with rfl | hne
  · simp only [if_true]; split_ifs <;> decide
  · have hij : i ≠ j := by rintro rfl; exact hne rfl
    rw [if_neg hij]
    split_ifs <;> first | decide | omega

theorem eprobe9_row_inner (b dim i j : ℕ) (hd : 4 ≤ dim) (he : dim % 2 = 0) (hi : i < dim) (hj : j < dim) :
    ∑ c ∈ Finset.range dim, conj (eprobe9 b dim i c) * eprobe9 b dim j c = if i = j then ⟨2, 0⟩ else 0 := by
  have hi2 : 2 * (i / 2) + 2 ≤ dim := by omega
  have hj2 : 2 * (j / 2) + 2 ≤ dim := by omega
  have hne := e9PQ_ne b dim (i / 2)
  obtain ⟨hp, hq⟩ := e9PQ_lt b dim (i / 2) hi2
  rw [Finset.sum_eq_add (e9P b (i / 2)) (e9Q b dim (i / 2)) hne]
  · simp only [eprobe9_eq b dim i _ hi2, eprobe9_eq b dim j _ hj2]
    by_cases hk : i / 2 = j / 2
    · -- same pair: `1·1 + conj(±u)(±u)`
      simp only [← hk, if_neg hne, if_true]
      have hc1 : conj (1 : GInt) * 1 = 1 := by decide
      rw [hc1, e9v_norm b i j hk]
      split_ifs <;> decide
    · obtain ⟨d1, d2, d3, d4⟩ := e9PQ_disjoint b dim (i / 2) (j / 2) hk
      rw [if_neg (show ¬ i = j from fun e => hk (by rw [e])), if_neg d2, if_neg d1, if_neg d4, if_neg d3]
      simp
  · intro c _ hc
    rw [eprobe9_eq b dim i c hi2, if_neg hc.2, if_neg hc.1]
    have : conj (0 : GInt) = 0 := by decide
    rw [this, zero_mul]
  · intro h; exact absurd (Finset.mem_range.2 hp) h
  · intro h; exact absurd (Finset.mem_range.2 hq) h

/-! ### columns: rows `2k, 2k+1` contribute `2·[c = c' ∈ {P_k, Q_k}]`, and the pairs `{P_k, Q_k}` partition the columns -/

theorem sum_range_two_mul (f : ℕ → GInt) (m : ℕ) :
    ∑ i ∈ Finset.range (2 * m), f i = ∑ k ∈ Finset.range m, (f (2 * k) + f (2 * k + 1)) := by
  induction m with
  | zero => simp
  | succ m ih =>
    rw [show 2 * (m + 1) = 2 * m + 1 + 1 by omega, Finset.sum_range_succ, Finset.sum_range_succ, ih, Finset.sum_range_succ]
    abel

theorem eprobe9_even (b dim k c : ℕ) (hk : 2 * k + 2 ≤ dim) :
    eprobe9 b dim (2 * k) c = if c = e9Q b dim k then e9u b else if c = e9P b k then 1 else 0 := by
  have h2 : 2 * k / 2 = k := by omega
  rw [eprobe9_eq b dim (2 * k) c (by omega), h2, e9v, if_pos (show 2 * k % 2 = 0 by omega)]

theorem eprobe9_odd (b dim k c : ℕ) (hk : 2 * k + 2 ≤ dim) :
    eprobe9 b dim (2 * k + 1) c = if c = e9Q b dim k then -e9u b else if c = e9P b k then 1 else 0 := by
  have h2 : (2 * k + 1) / 2 = k := by omega
  rw [eprobe9_eq b dim (2 * k + 1) c (by omega), h2, e9v, if_neg (show ¬ (2 * k + 1) % 2 = 0 by omega)]

theorem e9_pair (b dim k c c' : ℕ) (hk : 2 * k + 2 ≤ dim) :
    eprobe9 b dim (2 * k) c * conj (eprobe9 b dim (2 * k) c') + eprobe9 b dim (2 * k + 1) c * conj (eprobe9 b dim (2 * k + 1) c')
      = if (c = e9P b k ∨ c = e9Q b dim k) ∧ c = c' then ⟨2, 0⟩ else 0 := by
  rw [eprobe9_even b dim k c hk, eprobe9_even b dim k c' hk, eprobe9_odd b dim k c hk, eprobe9_odd b dim k c' hk]
  have hne := e9PQ_ne b dim k
  have hu : e9u b = ⟨1, 0⟩ ∨ e9u b = ⟨0, 1⟩ := by unfold e9u; split_ifs <;> simp
  rcases hu with hu | hu <;> rw [hu] <;> split_ifs <;> first | decide | (exfalso; omega)

theorem eprobe9_col_inner (b dim c c' : ℕ) (hd : 4 ≤ dim) (he : dim % 2 = 0) (hc : c < dim) (hc' : c' < dim) :
    ∑ i ∈ Finset.range dim, eprobe9 b dim i c * conj (eprobe9 b dim i c') = if c = c' then ⟨2, 0⟩ else 0 := by
  obtain ⟨m, rfl⟩ : ∃ m, dim = 2 * m := ⟨dim / 2, by omega⟩
  rw [sum_range_two_mul]
  rw [Finset.sum_congr rfl (fun k hk => e9_pair b (2 * m) k c c' (by have := Finset.mem_range.1 hk; omega))]
  by_cases hcc : c = c'
  · subst hcc
    rw [if_pos rfl]
    set k0 : ℕ := if b % 2 = 0 then c / 2 else (if c = 0 then m - 1 else (c - 1) / 2) with hk0
    rw [Finset.sum_eq_single k0]
    · rw [if_pos]
      refine ⟨?_, rfl⟩
      rw [hk0]; unfold e9P e9Q; split_ifs <;> omega
    · intro k hk hne
      have hk' := Finset.mem_range.1 hk
      rw [if_neg]
      rintro ⟨h, -⟩
      rw [hk0] at hne
      revert h hne; unfold e9P e9Q; split_ifs <;> omega
    · intro h
      exfalso; apply h; rw [Finset.mem_range, hk0]; split_ifs <;> omega
  · rw [if_neg hcc]
    exact Finset.sum_eq_zero (fun k _ => if_neg (fun h => hcc h.2))

end Numqi.Catalogue
