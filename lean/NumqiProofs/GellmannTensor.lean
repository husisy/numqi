/- C16 helpers for the executed `tensor_n = 2` list: the `itertools.product` enumeration, `np.kron` as a reindexed Kronecker product,
traces under reindexing; the `with_I=False` lists are the prefixes without the last element. -/
import NumqiProofs.GellmannLemmas
import Mathlib.LinearAlgebra.Matrix.Kronecker
import Mathlib.Logic.Equiv.Fin.Basic

namespace Numqi.Gellmann
open Matrix

variable {R : Type} [CommRing R] {d : Nat}

/-- element `a*|L₂| + b` of the `itertools.product` enumeration -/
theorem getElem?_flatMap_map {β γ δ : Type} (f : β → γ → δ) (L₁ : List β) (L₂ : List γ) (a b : Nat) (ha : a < L₁.length) (hb : b < L₂.length) :
    (L₁.flatMap fun A => L₂.map fun B => f A B)[a * L₂.length + b]? = some (f L₁[a] L₂[b]) := by
  induction L₁ generalizing a with
  | nil => simp at ha
  | cons A t ih =>
    rw [List.flatMap_cons]
    cases a with
    | zero =>
      rw [Nat.zero_mul, Nat.zero_add, List.getElem?_append_left (by simpa using hb)]
      simp [hb]
    | succ a =>
      have hle : (L₂.map fun B => f A B).length ≤ (a + 1) * L₂.length + b := by
        simp only [List.length_map]; nlinarith
      rw [List.getElem?_append_right hle]
      have : (a + 1) * L₂.length + b - (L₂.map fun B => f A B).length = a * L₂.length + b := by
        simp only [List.length_map]; rw [Nat.add_mul, Nat.one_mul]; omega
      rw [this, ih a (by simpa using ha)]
      simp

theorem length_flatMap_map {β γ δ : Type} (f : β → γ → δ) (L₁ : List β) (L₂ : List γ) :
    (L₁.flatMap fun A => L₂.map fun B => f A B).length = L₁.length * L₂.length := by
  simp [List.length_flatMap]

/-- `np.kron` of two matrices is the Mathlib Kronecker product reindexed by `(r1, r2) ↦ r1*d + r2` -/
theorem of_kron2 (A B : Mat d R) :
    Matrix.of (kron2 d A B) = Matrix.reindex finProdFinEquiv finProdFinEquiv (kroneckerMap (· * ·) (Matrix.of A) (Matrix.of B)) := by
  ext r c
  simp only [Matrix.of_apply, kron2, Matrix.reindex_apply, Matrix.submatrix_apply, kroneckerMap_apply]
  rfl

/-- element `x` of the executed `all_gellmann_matrix(d, tensor_n=2)` as a Mathlib matrix (`0` outside the range) -/
def basisT2 (S : Scalars R) (d x : Nat) : Matrix (Fin (d * d)) (Fin (d * d)) R := ((allGellmannT2 S d true).map Matrix.of).getD x 0

theorem trace_reindex_mul {m n : Type} [Fintype m] [Fintype n] [DecidableEq m] [DecidableEq n] (e : m ≃ n) (M N : Matrix m m R) :
    trace (Matrix.reindex e e M * Matrix.reindex e e N) = trace (M * N) := by
  simp only [Matrix.reindex_apply, Matrix.submatrix_mul_equiv]
  simp only [trace, Matrix.diag, Matrix.submatrix_apply]
  exact Equiv.sum_comp e.symm (fun i => (M * N) i i)

/-- `with_I = False`: the same lists without their last element (the identity, resp. `I ⊗ I`) -/
theorem allGellmannOpt_false (S : Scalars R) : allGellmannOpt S d false = (allGellmann S d).dropLast := rfl
theorem allGellmannT2_false (S : Scalars R) : allGellmannT2 S d false = (allGellmannT2 S d true).dropLast := rfl
theorem getElem?_dropLast_of_lt {β : Type} (L : List β) (x : Nat) (hx : x + 1 < L.length) : L.dropLast[x]? = L[x]? := by
  rw [List.dropLast_eq_take, List.getElem?_take_of_lt (by omega)]

end Numqi.Gellmann
