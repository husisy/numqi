/-
Helper lemmas for C15: `cis θ = cos θ + i sin θ` over `Cx ℝ` and de Moivre, for the bridge between the literal phases
`exp(-iMα)·exp(-iNγ)` of `get_su2_irrep` and the half-angle form `p̄^{j2}(pm)^i(pm̄)^k` used by `irrepCS`.
-/
import NumqiProofs.LieIrrep
import NumqiProofs.LieReal

set_option linter.unusedSectionVars false

namespace Numqi.Lie

/-- `cos θ + i sin θ` -/
noncomputable def cis (θ : ℝ) : Cx ℝ := ⟨Real.cos θ, Real.sin θ⟩

theorem cis_add (x y : ℝ) : cis (x + y) = cis x * cis y := by
  ext <;> simp [cis, Real.cos_add, Real.sin_add] <;> ring

theorem cis_zero : cis 0 = 1 := by ext <;> simp [cis]

theorem cis_conj (x : ℝ) : (cis x).conj = cis (-x) := by ext <;> simp [cis]

theorem cis_pow (x : ℝ) (n : ℕ) : cis x ^ n = cis (n * x) := by
  induction n with
  | zero => simp [cis_zero]
  | succ n ih => rw [pow_succ, ih, ← cis_add]; congr 1; push_cast; ring

end Numqi.Lie
