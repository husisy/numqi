/-
C07 helper lemmas: the cache invariant of the `CliffordCircuit` state machine.
-/
import Mathlib.Tactic
import NumqiModel.Clifford

namespace Numqi.Clifford

/-- the memoised tableau, when present, is the tableau of the recorded gates -/
def Inv (st : St) : Prop := st.cache = none ∨ ∃ t, symplecticOf st.gates = .ok t ∧ st.cache = some t

theorem inv_init : Inv St.init := Or.inl rfl

/-- `to_symplectic_form` under the invariant: gates unchanged, invariant kept, answer = fresh computation -/
theorem query_spec (st : St) (h : Inv st) :
    (st.query).1.gates = st.gates ∧ Inv (st.query).1 ∧ (st.query).2 = symplecticOf st.gates := by
  unfold St.query
  rcases h with h | ⟨t, h1, h2⟩
  · rw [h]
    cases hs : symplecticOf st.gates with
    | ok t => exact ⟨rfl, Or.inr ⟨t, hs, rfl⟩, rfl⟩
    | error e => exact ⟨rfl, Or.inl h, rfl⟩
  · rw [h2]
    exact ⟨rfl, Or.inr ⟨t, h1, h2⟩, h1.symm⟩

/-- one method call: same recorded gates and same answer as the cache-free specification, invariant kept -/
theorem step_spec (st : St) (h : Inv st) (op : Op) :
    (step st op).1.gates = (specStep st.gates op).1 ∧ (step st op).2 = (specStep st.gates op).2 ∧
      Inv (step st op).1 := by
  cases op with
  | append key args =>
    simp only [step, specStep]
    cases checkArgs key args with
    | none => exact ⟨rfl, rfl, h⟩
    | some idx => exact ⟨rfl, rfl, Or.inl rfl⟩
  | gateI | exportCirc => exact ⟨rfl, rfl, h⟩
  | query | applyPauli p len =>
    obtain ⟨h1, h2, h3⟩ := query_spec st h
    simp only [step, specStep]
    rcases hq : st.query with ⟨st', res⟩
    rw [hq] at h1 h2 h3
    simp only at h1 h2 h3
    rw [← h3]
    cases res <;> exact ⟨h1, rfl, h2⟩

theorem run_spec (ops : List Op) : ∀ (st : St), Inv st → run st ops = specRun st.gates ops := by
  induction ops with
  | nil => intro st _; rfl
  | cons op ops ih =>
    intro st h
    obtain ⟨h1, h2, h3⟩ := step_spec st h op
    simp only [run, specRun]
    rw [ih _ h3, h1, h2]

end Numqi.Clifford
