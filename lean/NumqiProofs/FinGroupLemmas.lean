/-
Helper lemmas for C14 (Cayley tables): the group-table predicate `IsGroupTable`, soundness of the Boolean checker
(`isGroupTable_of_B`) and the generic "table by dictionary look-up of the product" lemma `tableOf_isGroupTable`.
-/
import Mathlib.Tactic
import Mathlib.Data.List.Basic
import Mathlib.Data.List.Perm.Basic
import Mathlib.Data.List.Nodup
import NumqiProofs.NodupFlatMap
import NumqiModel.FinGroup

namespace Numqi.FinGroup

/-- **group table of order `N`**: `N` rows of length `N`, entries `< N` (closure), associative,
a two-sided identity, two-sided inverses.  All quantifiers are guarded by `< N`
(`entry` is totalised). -/
structure IsGroupTable (T : Table) (N : Nat) : Prop where
  rows : T.length = N
  cols : ∀ i, i < N → (T.getD i []).length = N
  closed : ∀ i j, i < N → j < N → entry T i j < N
  assoc : ∀ i j k, i < N → j < N → k < N → entry T (entry T i j) k = entry T i (entry T j k)
  ident : ∃ e, e < N ∧ (∀ i, i < N → entry T e i = i ∧ entry T i e = i) ∧
    ∀ i, i < N → ∃ j, j < N ∧ entry T i j = e ∧ entry T j i = e

/-! ### the Boolean checker is sound -/

theorem allLt_iff (N : Nat) (p : Nat → Bool) : allLt N p = true ↔ ∀ i, i < N → p i = true := by
  simp [allLt, List.all_eq_true]

theorem isGroupTable_of_B {T : Table} {N : Nat} (h : isGroupTableB T N = true) : IsGroupTable T N := by
  simp only [isGroupTableB, Bool.and_eq_true, List.any_eq_true, List.mem_range] at h
  obtain ⟨⟨hs, ha⟩, e, he, hid, hinv⟩ := h
  simp only [shapeB, Bool.and_eq_true, beq_iff_eq, List.all_eq_true, decide_eq_true_eq] at hs
  obtain ⟨hlen, hrow⟩ := hs
  have hget : ∀ i, i < N → T.getD i [] ∈ T := by
    intro i hi
    rw [List.getD_eq_getElem?_getD, List.getElem?_eq_getElem (by omega)]
    exact List.getElem_mem _
  refine ⟨hlen, fun i hi => (hrow _ (hget i hi)).1, ?_, ?_, e, he, ?_, ?_⟩
  · intro i j hi hj
    have := hrow _ (hget i hi)
    unfold entry
    have hj' : j < (T.getD i []).length := by omega
    rw [List.getD_eq_getElem?_getD (l := T.getD i []), List.getElem?_eq_getElem hj']
    exact this.2 _ (List.getElem_mem _)
  · intro i j k hi hj hk
    simp only [assocB, allLt_iff, beq_iff_eq] at ha
    exact ha i hi j hj k hk
  · intro i hi
    simp only [isIdentityB, allLt_iff, Bool.and_eq_true, beq_iff_eq] at hid
    exact hid i hi
  · intro i hi
    simp only [allLt_iff, hasInverseB, List.any_eq_true, List.mem_range, Bool.and_eq_true, beq_iff_eq] at hinv
    obtain ⟨j, hj, h1, h2⟩ := hinv i hi
    exact ⟨j, hj, h1, h2⟩

/-! ### tables built by look-up of the product -/

section tableOf
variable {α : Type} [BEq α] [LawfulBEq α]

omit [LawfulBEq α] in
theorem entry_tableOf (L : List α) (op : α → α → α) {i j : Nat} (hi : i < L.length) (hj : j < L.length) :
    entry (tableOf L op) i j = L.idxOf (op L[i] L[j]) := by
  simp [entry, tableOf, List.getD_eq_getElem?_getD, hi, hj]

theorem getElem_idxOf' {L : List α} {a : α} (h : a ∈ L) :
    ∃ h' : L.idxOf a < L.length, L[L.idxOf a] = a :=
  ⟨List.idxOf_lt_length_iff.2 h, List.getElem_idxOf _⟩

/-- **Generic lemma**: if the element list is duplicate-free and `(elems, op)` is a group
(closed, associative, identity, inverses), the look-up table is a group table of order `len(elems)`. -/
theorem tableOf_isGroupTable (L : List α) (op : α → α → α) (hnd : L.Nodup)
    (hclosed : ∀ a ∈ L, ∀ b ∈ L, op a b ∈ L)
    (hassoc : ∀ a ∈ L, ∀ b ∈ L, ∀ c ∈ L, op (op a b) c = op a (op b c))
    (e : α) (he : e ∈ L) (hid : ∀ a ∈ L, op e a = a ∧ op a e = a)
    (hinv : ∀ a ∈ L, ∃ b ∈ L, op a b = e ∧ op b a = e) :
    IsGroupTable (tableOf L op) L.length := by
  have hmem : ∀ i (h : i < L.length), L[i] ∈ L := fun i h => List.getElem_mem h
  refine ⟨by simp [tableOf], ?_, ?_, ?_, ?_⟩
  · intro i hi
    unfold tableOf
    rw [List.getD_eq_getElem?_getD, List.getElem?_map, List.getElem?_eq_getElem hi]
    simp
  · intro i j hi hj
    rw [entry_tableOf L op hi hj]
    exact List.idxOf_lt_length_iff.2 (hclosed _ (hmem i hi) _ (hmem j hj))
  · intro i j k hi hj hk
    have hij := hclosed _ (hmem i hi) _ (hmem j hj)
    have hjk := hclosed _ (hmem j hj) _ (hmem k hk)
    obtain ⟨h1, e1⟩ := getElem_idxOf' hij
    obtain ⟨h2, e2⟩ := getElem_idxOf' hjk
    rw [entry_tableOf L op hi hj, entry_tableOf L op hj hk, entry_tableOf L op h1 hk,
      entry_tableOf L op hi h2, e1, e2, hassoc _ (hmem i hi) _ (hmem j hj) _ (hmem k hk)]
  · obtain ⟨h0, e0⟩ := getElem_idxOf' he
    refine ⟨L.idxOf e, h0, ?_, ?_⟩
    · intro i hi
      rw [entry_tableOf L op h0 hi, entry_tableOf L op hi h0, e0, (hid _ (hmem i hi)).1, (hid _ (hmem i hi)).2]
      exact ⟨hnd.idxOf_getElem i hi, hnd.idxOf_getElem i hi⟩
    · intro i hi
      obtain ⟨b, hb, hb1, hb2⟩ := hinv _ (hmem i hi)
      obtain ⟨h1, e1⟩ := getElem_idxOf' hb
      refine ⟨L.idxOf b, h1, ?_, ?_⟩
      · rw [entry_tableOf L op hi h1, e1, hb1]
      · rw [entry_tableOf L op h1 hi, e1, hb2]

end tableOf

end Numqi.FinGroup
