/-
C14 helper (tableaux, part 2): shapes (`ValidShape`, `colsFrom`, `upB`, `transpose_drop_sum`), the tableau predicate
`IsTab` with `ColChain` / `colLt`, and the structural facts of standard tableaux that the later parts share:
`first_row_le` (everything right of and below a first-row entry is at least as large), hence the minimum in the corner
(`tab_corner`) and the counting bound behind `upper_bound` (`tab_upper`).
-/
import NumqiProofs.YoungComb

namespace Numqi.Young

/-! ### shapes -/

/-- `check_young_diagram`: non-empty, positive, non-increasing -/
def ValidShape (shape : List Nat) : Prop := shape ≠ [] ∧ (∀ a ∈ shape, 0 < a) ∧ shape.Pairwise (· ≥ ·)

theorem validShape_of_check : ∀ {shape : List Nat}, checkShape shape = true → ValidShape shape
  | [], h => by simp [checkShape] at h
  | [a], h => by
    simp only [checkShape, decide_eq_true_eq] at h
    exact ⟨by simp, by simpa using h, List.pairwise_singleton _ _⟩
  | a :: b :: rest, h => by
    simp only [checkShape, Bool.and_eq_true, decide_eq_true_eq] at h
    obtain ⟨_, hp, hs⟩ := validShape_of_check h.2
    refine ⟨by simp, ?_, ?_⟩
    · intro x hx
      rcases List.mem_cons.1 hx with rfl | hx
      · have := hp b List.mem_cons_self; omega
      · exact hp x hx
    · rw [List.pairwise_cons]
      refine ⟨?_, hs⟩
      intro x hx
      rcases List.mem_cons.1 hx with rfl | hx
      · exact h.1
      · have := (List.pairwise_cons.1 hs).1 x hx; omega

theorem ValidShape.tail {a b : Nat} {rest : List Nat} (h : ValidShape (a :: b :: rest)) : ValidShape (b :: rest) :=
  ⟨by simp, fun x hx => h.2.1 x (List.mem_cons_of_mem _ hx), (List.pairwise_cons.1 h.2.2).2⟩

theorem ValidShape.le_head {a : Nat} {rest : List Nat} (h : ValidShape (a :: rest)) : ∀ x ∈ a :: rest, x ≤ a := by
  intro x hx
  rcases List.mem_cons.1 hx with rfl | hx
  · exact le_refl _
  · exact (List.pairwise_cons.1 h.2.2).1 x hx

/-- number of cells in the columns `≥ c` -/
def colsFrom (shape : List Nat) (c : Nat) : Nat := (shape.map (· - c)).sum

theorem sum_ite_range' (a : Nat) : ∀ (k c : Nat),
    ((List.range' c k).map fun c' => if c' < a then 1 else 0).sum = min a (c + k) - c := by
  intro k
  induction k with
  | zero => intro c; simp
  | succ k ih =>
    intro c
    rw [List.range'_succ, List.map_cons, List.sum_cons, ih (c + 1)]
    by_cases h : c < a
    · simp only [h, if_true]; omega
    · simp only [h, if_false]; omega

theorem sum_filter_range' (r : Nat) : ∀ (s : List Nat) (c : Nat), (∀ a ∈ s, a ≤ r) →
    ((List.range' c (r - c)).map fun c' => (s.filter (· > c')).length).sum = (s.map (· - c)).sum := by
  intro s
  induction s with
  | nil => intro c _; simp
  | cons a s ih =>
    intro c hs
    have ha : a ≤ r := hs a List.mem_cons_self
    have hsplit : ∀ c', ((a :: s).filter (· > c')).length = (if c' < a then 1 else 0) + (s.filter (· > c')).length := by
      intro c'
      by_cases h : c' < a
      · simp [h]; omega
      · simp [h]
    simp only [hsplit, List.sum_map_add, List.map_cons, List.sum_cons]
    rw [ih c (fun x hx => hs x (List.mem_cons_of_mem _ hx)), sum_ite_range']
    omega

/-- **`(youngT[c:]).sum()` is the number of cells in the columns `≥ c`** -/
theorem transpose_drop_sum {shape : List Nat} (hv : ValidShape shape) (c : Nat) :
    ((transpose shape).drop c).sum = colsFrom shape c := by
  obtain ⟨a, rest, rfl⟩ := List.exists_cons_of_ne_nil hv.1
  unfold transpose colsFrom
  simp only [List.headD_cons]
  rw [← List.map_drop, List.range_eq_range', List.drop_range']
  simp only [zero_add, mul_one]
  exact sum_filter_range' a (a :: rest) c hv.le_head

theorem colsFrom_zero (shape : List Nat) : colsFrom shape 0 = shape.sum := by simp [colsFrom]

theorem colsFrom_cons (a : Nat) (rest : List Nat) (c : Nat) : colsFrom (a :: rest) c = (a - c) + colsFrom rest c := by
  simp [colsFrom]

theorem colsFrom_le (shape : List Nat) (c : Nat) : colsFrom shape c ≤ shape.sum := by
  induction shape with
  | nil => simp [colsFrom]
  | cons a s ih => rw [colsFrom_cons, List.sum_cons]; omega

/-- the exclusive upper bound the code puts on the position of the entry in row 0, column `i+1` -/
def upB (shape : List Nat) (i : Nat) : Nat := shape.sum - colsFrom shape (i + 1)

/-! ### tableaux -/

/-- entries of `b` are above the entries of `a` in the same column -/
def colLt (a b : List Nat) : Prop := ∀ j, j < a.length → j < b.length → a.getD j 0 < b.getD j 0

def ColChain : List (List Nat) → Prop
  | [] => True
  | [_] => True
  | a :: b :: rest => colLt a b ∧ ColChain (b :: rest)

/-- `t` is a filling of `shape` with the numbers `idx`, increasing along rows and down columns -/
structure IsTab (shape idx : List Nat) (t : List (List Nat)) : Prop where
  rows : t.map List.length = shape
  perm : t.flatten.Perm idx
  rowInc : ∀ row ∈ t, SInc row
  colInc : ColChain t

theorem IsTab.length_eq {s idx : List Nat} {t : List (List Nat)} (ht : IsTab s idx t) : t.length = s.length := by
  simpa using congrArg List.length ht.rows

theorem IsTab.exists_cons {a : Nat} {s idx : List Nat} {t : List (List Nat)} (ht : IsTab (a :: s) idx t) :
    ∃ R t', t = R :: t' := by
  cases t with
  | nil => exact absurd ht.rows (by simp)
  | cons R t' => exact ⟨R, t', rfl⟩

theorem colChain_head_lt : ∀ (a : List Nat) (rest : List (List Nat)), ColChain (a :: rest) →
    ((a :: rest).map List.length).Pairwise (· ≥ ·) →
    ∀ b ∈ rest, ∀ j, j < b.length → a.getD j 0 < b.getD j 0 := by
  intro a rest
  induction rest generalizing a with
  | nil => intro _ _ b hb; simp at hb
  | cons b rest ih =>
    intro hc hl b' hb' j hj
    obtain ⟨hab, hc'⟩ := hc
    simp only [List.map_cons, List.pairwise_cons] at hl
    have hba : b.length ≤ a.length := hl.1 b.length (by simp)
    rcases List.mem_cons.1 hb' with rfl | hb'
    · exact hab j (by omega) hj
    · have h1 := ih b hc' (by simpa [List.pairwise_cons] using hl.2) b' hb' j hj
      have hb'b : b'.length ≤ b.length := hl.2.1 b'.length (List.mem_map.2 ⟨b', hb', rfl⟩)
      have h2 := hab j (by omega) (by omega)
      omega

theorem sinc_head_le {x : Nat} {row : List Nat} (h : SInc (x :: row)) : ∀ e ∈ x :: row, x ≤ e := by
  intro e he
  rcases List.mem_cons.1 he with rfl | he
  · exact le_refl _
  · exact le_of_lt ((sinc_cons.1 h).1 e he)

theorem getD_mem {l : List Nat} {j : Nat} (h : j < l.length) : l.getD j 0 ∈ l := by
  rw [getD_eq_getElem' _ h]; exact List.getElem_mem _

theorem sinc_getD_le {l : List Nat} (h : SInc l) {i j : Nat} (hij : i ≤ j) (hj : j < l.length) :
    l.getD i 0 ≤ l.getD j 0 := by
  rw [getD_eq_getElem' _ hj, getD_eq_getElem' _ (by omega : i < l.length)]
  rcases Nat.lt_or_ge i j with h1 | h1
  · exact le_of_lt (sinc_getElem_lt h h1 hj)
  · have : i = j := by omega
    subst this; exact le_refl _

/-- everything in the columns `≥ c` is at least the entry of the first row in column `c` -/
theorem first_row_le {R0 row' : List Nat} {rest : List (List Nat)} (hR0 : SInc R0) (hc : ColChain (R0 :: rest))
    (hpw : ((R0 :: rest).map List.length).Pairwise (· ≥ ·)) (hrow' : row' ∈ R0 :: rest) {c j : Nat} (hcj : c ≤ j)
    (hj : j < row'.length) : R0.getD c 0 ≤ row'.getD j 0 := by
  rcases List.mem_cons.1 hrow' with rfl | hr'
  · exact sinc_getD_le hR0 hcj hj
  · have hle : row'.length ≤ R0.length := (List.pairwise_cons.1 hpw).1 _ (List.mem_map_of_mem hr')
    exact (sinc_getD_le hR0 hcj (by omega)).trans (colChain_head_lt R0 rest hc hpw row' hr' j hj).le

section corner
variable {r : Nat} {srest idx np0 R0 : List Nat} {i0 : Nat} {rest : List (List Nat)}

theorem tab_lengths (hv : ValidShape (r :: srest)) (ht : IsTab (r :: srest) idx (R0 :: rest)) :
    R0.length = r ∧ ((R0 :: rest).map List.length).Pairwise (· ≥ ·) := by
  have := ht.rows
  refine ⟨by simpa using (List.cons.inj (by simpa using this)).1, ?_⟩
  rw [this]; exact hv.2.2

/-- **the smallest number sits in the corner** -/
theorem tab_corner (hv : ValidShape (r :: srest)) (hidx : SInc (i0 :: np0))
    (ht : IsTab (r :: srest) (i0 :: np0) (R0 :: rest)) : ∃ row, R0 = i0 :: row := by
  obtain ⟨hlen, hpw⟩ := tab_lengths hv ht
  have hr : 0 < r := hv.2.1 r List.mem_cons_self
  cases R0 with
  | nil => simp at hlen; omega
  | cons x row =>
    refine ⟨row, ?_⟩
    congr 1
    have hR0 : SInc (x :: row) := ht.rowInc _ List.mem_cons_self
    -- x is one of the numbers, so i0 ≤ x
    have hx : x ∈ i0 :: np0 := ht.perm.mem_iff.1 (by simp)
    have h1 : i0 ≤ x := sinc_head_le hidx x hx
    -- i0 is somewhere in the tableau, and everything in the tableau is ≥ x
    obtain ⟨row', hrow', hi0'⟩ := List.mem_flatten.1 (ht.perm.mem_iff.2 List.mem_cons_self)
    obtain ⟨j, hj, rfl⟩ := List.getElem_of_mem hi0'
    have h2 := first_row_le hR0 ht.colInc hpw hrow' (Nat.zero_le j) hj
    rw [getD_eq_getElem' _ hj, List.getD_cons_zero] at h2
    omega

/-- **the counting bound behind `upper_bound`**: the entry in row 0, column `c ≥ 1` has at most
`N − 1 − #cells in columns ≥ c` smaller numbers among `idx[1:]` -/
theorem tab_upper (hv : ValidShape (r :: srest)) (hidx : SInc (i0 :: np0)) (hN : (i0 :: np0).length = (r :: srest).sum)
    (ht : IsTab (r :: srest) (i0 :: np0) (R0 :: rest)) {c : Nat} (hc1 : 1 ≤ c) (hc : c < r) :
    cntLt np0 (R0.getD c 0) + 1 + colsFrom (r :: srest) c ≤ (r :: srest).sum := by
  obtain ⟨hlen, hpw⟩ := tab_lengths hv ht
  obtain ⟨row, rfl⟩ := tab_corner hv hidx ht
  set v := (i0 :: row).getD c 0 with hvdef
  have hR0 : SInc (i0 :: row) := ht.rowInc _ List.mem_cons_self
  have hcl : c < (i0 :: row).length := by omega
  -- every entry in a column ≥ c is ≥ v
  have hge : ∀ row' ∈ (i0 :: row) :: rest, ∀ e ∈ row'.drop c, v ≤ e := by
    intro row' hrow' e he
    obtain ⟨k, hk, rfl⟩ := List.getElem_of_mem he
    have hk' : c + k < row'.length := by simp at hk; omega
    rw [List.getElem_drop, ← getD_eq_getElem' _ hk']
    exact first_row_le hR0 ht.colInc hpw hrow' (Nat.le_add_right c k) hk'
  -- count them
  have hcount : colsFrom (r :: srest) c ≤ ((i0 :: row) :: rest).flatten.countP (fun e => decide (v ≤ e)) := by
    rw [List.countP_flatten]
    have : colsFrom (r :: srest) c = ((((i0 :: row) :: rest).map List.length).map (· - c)).sum := by rw [ht.rows]; rfl
    rw [this, List.map_map]
    apply List.sum_le_sum
    intro row' hrow'
    simp only [Function.comp_apply]
    calc row'.length - c = (row'.drop c).length := by simp
      _ = (row'.drop c).countP (fun e => decide (v ≤ e)) := by
          rw [List.countP_eq_length.2]; intro e he; simpa using hge row' hrow' e he
      _ ≤ row'.countP (fun e => decide (v ≤ e)) := (List.drop_sublist c row').countP_le
  rw [ht.perm.countP_eq] at hcount
  have hsplit := List.length_eq_countP_add_countP (fun e => decide (e < v)) (l := i0 :: np0)
  have hneg : (i0 :: np0).countP (fun a => decide ¬decide (a < v) = true) = (i0 :: np0).countP (fun e => decide (v ≤ e)) := by
    apply List.countP_congr; intro e _; simp
  have hi0v : i0 < v := by
    have := sinc_getElem_lt hR0 (show 0 < c by omega) hcl
    rw [hvdef, getD_eq_getElem' _ hcl]; simpa using this
  have hcnt : (i0 :: np0).countP (fun e => decide (e < v)) = cntLt np0 v + 1 := by
    have := cntLt_cons i0 np0 v
    simp only [hi0v, if_true] at this
    exact this
  have hNN : (i0 :: np0).length = (r :: srest).sum := hN
  omega

/-- the first row after the corner is taken from the remaining numbers -/
theorem tab_row_sub {row : List Nat} (ht : IsTab (r :: srest) (i0 :: np0) ((i0 :: row) :: rest)) : ∀ v ∈ row, v ∈ np0 := by
  intro v hv
  have hm : v ∈ i0 :: np0 := ht.perm.mem_iff.1 (by simp [hv])
  rcases List.mem_cons.1 hm with rfl | h
  · exact absurd ((sinc_cons.1 (ht.rowInc _ List.mem_cons_self)).1 v hv) (lt_irrefl _)
  · exact h

end corner


end Numqi.Young
