/-
C10 helper (validity): the composed generators of `NumqiModel/RandNorm.lean` at `K = ℂ`.
-/
import NumqiProofs.RandNormLemmas
import NumqiProofs.GellmannLemmas
import Mathlib.LinearAlgebra.Matrix.Kronecker
import Mathlib.LinearAlgebra.Matrix.Rank
import Mathlib.Analysis.Matrix.Order
import Mathlib.Tactic

namespace Numqi.RandNorm
open Matrix
open scoped ComplexOrder Kronecker

/-! ### flat index `x = a*n + b` -/

theorem sum_flat (m n : Nat) (f : Nat → Nat → ℂ) :
    ∑ x : Fin (m * n), f (x.val / n) (x.val % n) = ∑ a : Fin m, ∑ b : Fin n, f a.val b.val := by
  rw [← Fintype.sum_prod_type']
  refine Fintype.sum_equiv finProdFinEquiv.symm _ _ fun x => ?_
  simp [finProdFinEquiv, Fin.divNat, Fin.modNat]

/-- the flat matrix of a Kronecker product -/
theorem toMat_kron (dA dB : Nat) (A B : Nat → Nat → ℂ) :
    toMat (dA * dB) (dA * dB) (kron dB A B) =
      (toMat dA dA A ⊗ₖ toMat dB dB B).submatrix finProdFinEquiv.symm finProdFinEquiv.symm := by
  ext x y
  simp [toMat, kron, finProdFinEquiv, Fin.divNat, Fin.modNat, Matrix.kroneckerMap_apply]

theorem trace_submatrix_equiv {m n : Type} [Fintype m] [Fintype n] (e : m ≃ n) (M : Matrix n n ℂ) :
    (M.submatrix e e).trace = M.trace := by
  simp only [Matrix.trace, Matrix.diag, Matrix.submatrix_apply]
  exact Fintype.sum_equiv e _ _ fun _ => rfl

/-! ### pure states -/

theorem toMat_pureDm (n : Nat) (v : Nat → ℂ) :
    toMat n n (pureDm v) = vecMulVec (fun i : Fin n => v i.val) (star fun i : Fin n => v i.val) := by
  ext i j
  simp [toMat, pureDm, vecMulVec_apply, conj_eq_star]

theorem trace_pureDm (n : Nat) (v : Nat → ℂ) : (toMat n n (pureDm v)).trace = normSq n v := by
  simp [Matrix.trace, toMat, pureDm, normSq, sumR_eq]

/-! ### bipartite state of Schmidt rank `k` -/

/-- the `dA × dB` coefficient matrix of `bipartiteOut` -/
theorem bipartite_factor (dA dB k : Nat) (Q0 Q1 : Nat → Nat → ℂ) (c : Nat → ℂ) :
    (Matrix.of fun (a : Fin dA) (b : Fin dB) => bipartiteOut dB k Q0 Q1 c (a.val * dB + b.val)) =
      toMat dA k Q0 * Matrix.diagonal (fun s : Fin k => normalize k c s.val) * (toMat dB k Q1)ᵀ := by
  ext a b
  have hb : 0 < dB := Nat.lt_of_le_of_lt (Nat.zero_le _) b.isLt
  have h1 : (a.val * dB + b.val) / dB = a.val := by
    rw [Nat.add_comm, Nat.add_mul_div_right _ _ hb, Nat.div_eq_of_lt b.isLt, Nat.zero_add]
  have h2 : (a.val * dB + b.val) % dB = b.val := by
    rw [Nat.add_comm, Nat.add_mul_mod_self_right, Nat.mod_eq_of_lt b.isLt]
  simp [bipartiteOut, sumR_eq, toMat, Matrix.mul_apply, Matrix.diagonal_apply, h1, Nat.mod_eq_of_lt b.isLt]

theorem normSq_flat (dA dB : Nat) (ψ : Nat → ℂ) :
    normSq (dA * dB) ψ =
      ((Matrix.of fun (a : Fin dA) (b : Fin dB) => ψ (a.val * dB + b.val)) *
        (Matrix.of fun (a : Fin dA) (b : Fin dB) => ψ (a.val * dB + b.val))ᴴ).trace := by
  simp only [normSq, sumR_eq, conj_eq_star, Matrix.trace, Matrix.diag, Matrix.mul_apply, Matrix.conjTranspose_apply, Matrix.of_apply]
  have := sum_flat dA dB fun a b => ψ (a * dB + b) * star (ψ (a * dB + b))
  rw [← this]
  refine Finset.sum_congr rfl fun x _ => ?_
  rw [Nat.div_add_mod']

theorem normSq_bipartite (dA dB k : Nat) (Q0 Q1 : Nat → Nat → ℂ) (c : Nat → ℂ)
    (h0 : (toMat dA k Q0)ᴴ * toMat dA k Q0 = 1) (h1 : (toMat dB k Q1)ᴴ * toMat dB k Q1 = 1) (hc : normSq k c ≠ 0) :
    normSq (dA * dB) (bipartiteOut dB k Q0 Q1 c) = 1 := by
  rw [normSq_flat, bipartite_factor]
  set A := toMat dA k Q0
  set B := toMat dB k Q1
  set D := Matrix.diagonal (fun s : Fin k => normalize k c s.val)
  have hB : Bᵀ * (Bᵀ)ᴴ = 1 := by
    have : Bᵀ * (Bᵀ)ᴴ = (Bᴴ * B)ᵀ := by
      ext i j
      simp [Matrix.mul_apply, mul_comm]
    rw [this, h1, Matrix.transpose_one]
  calc (A * D * Bᵀ * (A * D * Bᵀ)ᴴ).trace = (A * (D * (Bᵀ * (Bᵀ)ᴴ) * Dᴴ) * Aᴴ).trace := by
        simp only [Matrix.conjTranspose_mul, Matrix.mul_assoc]
    _ = (A * (D * Dᴴ) * Aᴴ).trace := by rw [hB, Matrix.mul_one]
    _ = (Aᴴ * A * (D * Dᴴ)).trace := by rw [Matrix.trace_mul_comm, ← Matrix.mul_assoc]
    _ = (D * Dᴴ).trace := by rw [h0, Matrix.one_mul]
    _ = 1 := by
        have := normSq_normalize k c hc
        simp only [normSq, sumR_eq, conj_eq_star] at this
        simpa [D, Matrix.trace, Matrix.diagonal_conjTranspose, Matrix.diagonal_mul_diagonal] using this

/-! ### separable mixtures -/

theorem toMat_sepMix (k dA dB : Nat) (p : Nat → ℂ) (A B : Nat → Nat → Nat → ℂ) :
    toMat (dA * dB) (dA * dB) (sepMix k dB p A B) =
      ∑ i : Fin k, probNorm k p i.val • toMat (dA * dB) (dA * dB) (kron dB (A i.val) (B i.val)) := by
  ext x y
  simp [toMat, sepMix, sumR_eq, Matrix.sum_apply]

theorem probNorm_real (k : Nat) (p : Nat → ℝ) (i : Nat) :
    probNorm k (fun i => (p i : ℂ)) i = ((p i / ∑ j : Fin k, p j.val : ℝ) : ℂ) := by
  simp [probNorm, sumR_eq]

theorem sum_probNorm (k : Nat) (p : Nat → ℝ) (hs : ∑ j : Fin k, p j.val ≠ 0) :
    ∑ i : Fin k, probNorm k (fun i => (p i : ℂ)) i.val = 1 := by
  simp only [probNorm_real]
  rw [← Complex.ofReal_sum, ← Finset.sum_div, div_self hs]; simp

theorem posSemidef_kron (dA dB : Nat) (A B : Nat → Nat → ℂ) (hA : (toMat dA dA A).PosSemidef) (hB : (toMat dB dB B).PosSemidef) :
    (toMat (dA * dB) (dA * dB) (kron dB A B)).PosSemidef := by
  rw [toMat_kron]
  exact (hA.kronecker hB).submatrix _

theorem trace_kron (dA dB : Nat) (A B : Nat → Nat → ℂ) :
    (toMat (dA * dB) (dA * dB) (kron dB A B)).trace = (toMat dA dA A).trace * (toMat dB dB B).trace := by
  rw [toMat_kron, trace_submatrix_equiv, Matrix.trace_kronecker]

theorem sepMix_posSemidef (k dA dB : Nat) (p : Nat → ℝ) (A B : Nat → Nat → Nat → ℂ) (hp : ∀ i, i < k → 0 ≤ p i)
    (hA : ∀ i, i < k → (toMat dA dA (A i)).PosSemidef) (hB : ∀ i, i < k → (toMat dB dB (B i)).PosSemidef) :
    (toMat (dA * dB) (dA * dB) (sepMix k dB (fun i => (p i : ℂ)) A B)).PosSemidef := by
  rw [toMat_sepMix]
  refine Matrix.posSemidef_sum _ fun i _ => ?_
  rw [probNorm_real]
  refine (posSemidef_kron dA dB _ _ (hA i.val i.isLt) (hB i.val i.isLt)).smul ?_
  have h0 : 0 ≤ ∑ j : Fin k, p j.val := Finset.sum_nonneg fun j _ => hp j.val j.isLt
  exact_mod_cast div_nonneg (hp i.val i.isLt) h0

theorem sepMix_trace (k dA dB : Nat) (p : Nat → ℝ) (A B : Nat → Nat → Nat → ℂ) (hs : ∑ j : Fin k, p j.val ≠ 0)
    (hA : ∀ i, i < k → (toMat dA dA (A i)).trace = 1) (hB : ∀ i, i < k → (toMat dB dB (B i)).trace = 1) :
    (toMat (dA * dB) (dA * dB) (sepMix k dB (fun i => (p i : ℂ)) A B)).trace = 1 := by
  rw [toMat_sepMix, Matrix.trace_sum]
  have : ∀ i : Fin k, (probNorm k (fun i => (p i : ℂ)) i.val • toMat (dA * dB) (dA * dB) (kron dB (A i.val) (B i.val))).trace
      = probNorm k (fun i => (p i : ℂ)) i.val := by
    intro i
    rw [Matrix.trace_smul, trace_kron, hA i.val i.isLt, hB i.val i.isLt]; simp
  rw [Finset.sum_congr rfl fun i _ => this i]
  exact sum_probNorm k p hs

/-- the partial transpose (second factor) of a separable mixture is the mixture of the transposed second factors -/
theorem sepMix_partialTranspose (k dB : Nat) (hdB : 0 < dB) (p : Nat → ℂ) (A B : Nat → Nat → Nat → ℂ) (x y : Nat) :
    sepMix k dB p A B (x / dB * dB + y % dB) (y / dB * dB + x % dB) = sepMix k dB p A (fun i a b => B i b a) x y := by
  have h1 : ∀ u v : Nat, (u / dB * dB + v % dB) / dB = u / dB := by
    intro u v
    rw [Nat.add_comm, Nat.add_mul_div_right _ _ hdB, Nat.div_eq_of_lt (Nat.mod_lt _ hdB), Nat.zero_add]
  have h2 : ∀ u v : Nat, (u / dB * dB + v % dB) % dB = v % dB := by
    intro u v
    rw [Nat.add_comm, Nat.add_mul_mod_self_right, Nat.mod_mod]
  simp only [sepMix, kron, h1, h2]

theorem sepMixPure_eq (k dB : Nat) (p : Nat → ℂ) (u v : Nat → Nat → ℂ) (x y : Nat) :
    sepMixPure k dB p u v x y = sepMix k dB p (fun i => pureDm (u i)) (fun i => pureDm (v i)) x y := by
  simp only [sepMixPure, sepMix, kron, kronVec, pureDm, conj_eq_star, star_mul']
  congr 1; funext i; ring

/-! ### orthonormal bases as projector resolutions -/

/-- `P a` (`a < D`) are Hermitian, mutually orthogonal idempotents of trace one that sum to the identity: the rank-one projectors of an
orthonormal basis of `ℂ^D` -/
structure IsRes (D : Nat) (P : Nat → Nat → Nat → ℂ) : Prop where
  herm : ∀ a c j, conj (P a c j) = P a j c
  mul : ∀ a b c j, a < D → b < D → sumR D (fun m => P a c m * P b m j) = if a = b then P a c j else 0
  sum : ∀ c j, c < D → j < D → sumR D (fun a => P a c j) = if c = j then 1 else 0
  tr : ∀ a, a < D → sumR D (fun c => P a c c) = 1

theorem sumR_ite_eq {D : Nat} (a : Nat) (ha : a < D) (f : Nat → ℂ) : sumR D (fun m => if a = m then f m else 0) = f a := by
  rw [sumR_eq, Fin.sum_univ_eq_sum_range (fun m => if a = m then f m else 0), Finset.sum_ite_eq, if_pos (Finset.mem_range.2 ha)]

theorem isRes_compBasis (D : Nat) : IsRes D (compBasis (K := ℂ)) where
  herm a c j := by
    simp only [compBasis, conj_eq_star, and_comm]
    split_ifs <;> simp
  mul a b c j ha hb := by
    have : ∀ m, compBasis (K := ℂ) a c m * compBasis b m j = if a = m then (if a = b then compBasis a c j else 0) else 0 := fun m => by
      simp only [compBasis, ite_zero_mul_ite_zero, mul_one, ← ite_and]
      exact if_congr (by omega) rfl rfl
    simp only [this]
    exact sumR_ite_eq a ha _
  sum c j hc hj := by
    have : ∀ a, compBasis (K := ℂ) a c j = if c = a then (if c = j then 1 else 0) else 0 := fun a => by
      simp only [compBasis, ← ite_and]
      exact if_congr (by omega) rfl rfl
    simp only [this]
    exact sumR_ite_eq c hc _
  tr a ha := by
    simp only [compBasis, and_self]
    exact sumR_ite_eq a ha fun _ => 1

/-- the rows of a unitary matrix -/
theorem isRes_onbProj (D : Nat) (U : Nat → Nat → ℂ) (h1 : toMat D D U * (toMat D D U)ᴴ = 1) (h2 : (toMat D D U)ᴴ * toMat D D U = 1) :
    IsRes D (onbProj U) where
  herm a c j := by simp only [onbProj, conj_eq_star, star_mul', star_star]; ring
  mul a b c j ha hb := by
    have hrow : ∑ m : Fin D, U b m.val * star (U a m.val) = if a = b then 1 else 0 := by
      have := congrFun (congrFun h1 ⟨b, hb⟩) ⟨a, ha⟩
      simp only [Matrix.mul_apply, toMat, Matrix.of_apply, Matrix.conjTranspose_apply, Matrix.one_apply, Fin.mk.injEq] at this
      rw [this]; by_cases h : a = b <;> simp [h, eq_comm]
    rw [sumR_eq]
    have : ∀ m : Fin D, onbProj U a c m.val * onbProj U b m.val j = U a c * star (U b j) * (U b m.val * star (U a m.val)) := by
      intro m; simp only [onbProj, conj_eq_star]; ring
    rw [Finset.sum_congr rfl fun m _ => this m, ← Finset.mul_sum, hrow]
    by_cases h : a = b
    · subst h; simp [onbProj, conj_eq_star]
    · simp [h]
  sum c j hc hj := by
    have := congrFun (congrFun h2 ⟨j, hj⟩) ⟨c, hc⟩
    simp only [Matrix.mul_apply, toMat, Matrix.of_apply, Matrix.conjTranspose_apply, Matrix.one_apply, Fin.mk.injEq] at this
    rw [sumR_eq]
    simp only [onbProj, conj_eq_star]
    rw [Finset.sum_congr rfl fun a _ => mul_comm _ _, this]
    by_cases h : c = j <;> simp [h, eq_comm]
  tr a ha := by
    have := congrFun (congrFun h1 ⟨a, ha⟩) ⟨a, ha⟩
    simp only [Matrix.mul_apply, toMat, Matrix.of_apply, Matrix.conjTranspose_apply, Matrix.one_apply, if_true] at this
    rw [sumR_eq]
    simpa [onbProj, conj_eq_star] using this

theorem div_mod_lt {D1 d a : Nat} (h : a < D1 * d) : a / d < D1 ∧ a % d < d := by
  have hd : 0 < d := by
    rcases Nat.eq_zero_or_pos d with e | e
    · subst e; simp at h
    · exact e
  exact ⟨(Nat.div_lt_iff_lt_mul hd).2 h, Nat.mod_lt _ hd⟩

theorem eq_iff_div_mod (d a b : Nat) : a = b ↔ a / d = b / d ∧ a % d = b % d := by
  constructor
  · rintro rfl; exact ⟨rfl, rfl⟩
  · rintro ⟨h1, h2⟩
    rw [← Nat.div_add_mod a d, ← Nat.div_add_mod b d, h1, h2]

/-- a sum over the flat index of a product factorises -/
theorem sumR_kron (D1 d : Nat) (f g : Nat → ℂ) : sumR (D1 * d) (fun m => f (m / d) * g (m % d)) = sumR D1 f * sumR d g := by
  rw [sumR_eq, sumR_eq, sumR_eq, sum_flat D1 d fun a b => f a * g b, Finset.sum_mul_sum]

theorem isRes_kron3 (D1 d : Nat) (P Q : Nat → Nat → Nat → ℂ) (hP : IsRes D1 P) (hQ : IsRes d Q) : IsRes (D1 * d) (kron3 d P Q) where
  herm a c j := by
    simp only [kron3, conj_eq_star, star_mul']
    rw [← conj_eq_star, ← conj_eq_star, hP.herm, hQ.herm]
  mul a b c j ha hb := by
    obtain ⟨ha1, ha2⟩ := div_mod_lt ha
    obtain ⟨hb1, hb2⟩ := div_mod_lt hb
    have e : (fun m => kron3 d P Q a c m * kron3 d P Q b m j)
        = fun m => (P (a / d) (c / d) (m / d) * P (b / d) (m / d) (j / d)) * (Q (a % d) (c % d) (m % d) * Q (b % d) (m % d) (j % d)) :=
      funext fun m => by simp only [kron3]; ring
    rw [e, sumR_kron D1 d (fun m => P (a / d) (c / d) m * P (b / d) m (j / d)) (fun m => Q (a % d) (c % d) m * Q (b % d) m (j % d)),
      hP.mul _ _ _ _ ha1 hb1, hQ.mul _ _ _ _ ha2 hb2, ite_zero_mul_ite_zero]
    exact if_congr (eq_iff_div_mod d a b).symm rfl rfl
  sum c j hc hj := by
    obtain ⟨hc1, hc2⟩ := div_mod_lt hc
    obtain ⟨hj1, hj2⟩ := div_mod_lt hj
    simp only [kron3]
    rw [sumR_kron D1 d (fun a => P a (c / d) (j / d)) (fun a => Q a (c % d) (j % d)), hP.sum _ _ hc1 hj1, hQ.sum _ _ hc2 hj2,
      ite_zero_mul_ite_zero, mul_one]
    exact if_congr (eq_iff_div_mod d c j).symm rfl rfl
  tr a ha := by
    obtain ⟨ha1, ha2⟩ := div_mod_lt ha
    simp only [kron3]
    rw [sumR_kron D1 d (fun c => P (a / d) c c) (fun c => Q (a % d) c c), hP.tr _ ha1, hQ.tr _ ha2, mul_one]

theorem isRes_foldl (d : Nat) : ∀ (l : List (Nat → Nat → Nat → ℂ)) (D0 : Nat) (P0 : Nat → Nat → Nat → ℂ),
    IsRes D0 P0 → (∀ Q ∈ l, IsRes d Q) → IsRes (D0 * d ^ l.length) (l.foldl (kron3 d) P0) := by
  intro l
  induction l with
  | nil => intro D0 P0 h _; simpa using h
  | cons Q l ih =>
    intro D0 P0 h hl
    have := ih (D0 * d) (kron3 d P0 Q) (isRes_kron3 D0 d P0 Q h (hl Q (List.mem_cons_self ..)))
      (fun Q' hQ' => hl Q' (List.mem_cons_of_mem _ hQ'))
    simpa [List.foldl_cons, pow_succ, Nat.mul_assoc, Nat.mul_comm d] using this

theorem isRes_onbBasis (d : Nat) (U : Nat → Nat → Nat → ℂ)
    (hU : ∀ o, toMat d d (U o) * (toMat d d (U o))ᴴ = 1 ∧ (toMat d d (U o))ᴴ * toMat d d (U o) = 1) (o : Nat) : IsRes d (onbBasis U o) := by
  unfold onbBasis
  split
  · exact isRes_compBasis d
  · exact isRes_onbProj d _ (hU _).1 (hU _).2

/-! ### Hermitian symmetrisation, Gell-Mann placement -/

theorem hermSym_conj (Z : Nat → Nat → ℂ) (i j : Nat) : conj (hermSym Z i j) = hermSym Z j i := by
  simp only [hermSym, conj_eq_star, star_add, star_star]; ring

open Numqi.Gellmann (Scalars synthesis sumFin)

/-- the scalars of `gellmann.py` as complex numbers: `1/2`, `i`, and real square roots -/
structure RealScalars (S : Scalars ℂ) : Prop where
  half : S.half = 1 / 2
  I : S.I = Complex.I
  cD : ∀ k, star (S.cD k) = S.cD k
  cI : star S.cI = S.cI

/-- `.real` is real and does not see conjugation -/
theorem re_star (S : Scalars ℂ) (hS : RealScalars S) (x : ℂ) :
    Gellmann.re S (star x) = Gellmann.re S x ∧ star (Gellmann.re S x) = Gellmann.re S x := by
  simp [Gellmann.re, conj_eq_star, hS.half, add_comm]

/-- `.imag` is real and changes sign under conjugation -/
theorem imPart_star (S : Scalars ℂ) (hS : RealScalars S) (x : ℂ) :
    imPart S (star x) = -imPart S x ∧ star (imPart S x) = imPart S x := by
  have hI : star Complex.I = -Complex.I := Complex.conj_I
  have hh : star (1 / 2 : ℂ) = 1 / 2 := by simp
  simp only [imPart, conj_eq_star, hS.half, hS.I, star_star, star_mul', star_sub, star_neg, hI, hh]
  constructor <;> ring

/-- the diagonal entries of `synthesis` are real for real coefficients -/
theorem synthesis_diag_real (S : Scalars ℂ) (hS : RealScalars S) (d : Nat) (v : Nat → ℂ) (hv : ∀ p, star (v p) = v p) (r : Fin d) :
    star (synthesis S d v r r) = synthesis S d v r r := by
  simp only [synthesis, lt_irrefl, if_false, Gellmann.sumFin_eq, star_sum]
  refine Finset.sum_congr rfl fun k _ => ?_
  rw [star_mul']
  congr 1
  · split
    · rw [star_mul', hS.cD, hv]
    · rw [star_mul', hS.cI, hv]
  · rw [star_add]
    congr 1
    · split <;> simp
    · split <;> simp

theorem synthesis_hermitian (S : Scalars ℂ) (hS : RealScalars S) (d : Nat) (v : Nat → ℂ) (hv : ∀ p, star (v p) = v p) (r c : Fin d) :
    star (synthesis S d v r c) = synthesis S d v c r := by
  rcases lt_trichotomy r c with h | h | h
  · have hcr : ¬ c < r := not_lt.2 h.le
    simp only [synthesis, h, hcr, if_true, if_false, star_sub, star_mul', hv, hS.I, Complex.star_def, Complex.conj_I]
    ring
  · subst h; exact synthesis_diag_real S hS d v hv r
  · have hrc : ¬ r < c := not_lt.2 h.le
    simp only [synthesis, h, hrc, if_true, if_false, star_add, star_mul', hv, hS.I, Complex.star_def, Complex.conj_I]
    ring

theorem synthesis_real_sym (S : Scalars ℂ) (hS : RealScalars S) (d : Nat) (v : Nat → ℂ) (hv : ∀ p, star (v p) = v p) (r c : Fin d) :
    Gellmann.re S (synthesis S d v r c) = Gellmann.re S (synthesis S d v c r) ∧
      star (Gellmann.re S (synthesis S d v r c)) = Gellmann.re S (synthesis S d v r c) :=
  ⟨by rw [← synthesis_hermitian S hS d v hv c r, (re_star S hS _).1], (re_star S hS _).2⟩

theorem synthesis_imag_antisym (S : Scalars ℂ) (hS : RealScalars S) (d : Nat) (v : Nat → ℂ) (hv : ∀ p, star (v p) = v p) (r c : Fin d) :
    imPart S (synthesis S d v r c) = - imPart S (synthesis S d v c r) ∧
      star (imPart S (synthesis S d v r c)) = imPart S (synthesis S d v r c) :=
  ⟨by rw [← synthesis_hermitian S hS d v hv c r, (imPart_star S hS _).1], (imPart_star S hS _).2⟩

theorem qcmsCoeff_real (d : Nat) (t : Nat → ℂ) (ht : ∀ p, star (t p) = t p) :
    (∀ p, star (qcmsSymCoeff d t p) = qcmsSymCoeff d t p) ∧ (∀ p, star (qcmsAntiCoeff d t p) = qcmsAntiCoeff d t p) ∧
      (∀ p, star (qcmsHermCoeff d t p) = qcmsHermCoeff d t p) := by
  refine ⟨fun p => ?_, fun p => ?_, fun p => ?_⟩
  · simp only [qcmsSymCoeff]; split_ifs <;> simp [ht]
  · simp only [qcmsAntiCoeff]; split_ifs <;> simp [ht]
  · simp only [qcmsHermCoeff]; split_ifs <;> simp [ht]

/-! ### the Choi operator -/

/-- the Choi operator is the Gram matrix of `(1 ⊗ T)ᴴ G` -/
theorem choiOut_eq_gram (din dout r : Nat) (G T : Nat → Nat → ℂ) (x y : Nat) :
    choiOut din dout r G T x y
      = gram r (fun z s => sumR din fun i => conj (T i (z / dout)) * G (i * dout + z % dout) s) x y := by
  simp only [choiOut, gram, sumR_eq, conj_eq_star, star_sum, star_mul', star_star, Finset.sum_mul, Finset.mul_sum]
  refine (Finset.sum_congr rfl fun i _ => Finset.sum_comm).trans (Finset.sum_comm.trans (Finset.sum_congr rfl fun s _ =>
    Finset.sum_comm.trans (Finset.sum_congr rfl fun j _ => Finset.sum_congr rfl fun i _ => ?_)))
  ring

end Numqi.RandNorm
