/-
`choi_op_to_bloch_map` returns the affine Bloch-vector map of the channel (C12), on top of the Gell-Mann theorems of C16.
-/
import NumqiProofs.Channel
import NumqiProofs.GellmannIso

namespace Numqi
namespace Channel
open Finset Matrix Numqi.Gellmann

variable {R : Type} [CommRing R] [StarRing R]

theorem blochTmp1_eq {din : ℕ} (Sin : Scalars R) (dout : ℕ) (C : ℕ → ℕ → R) (a b μ : ℕ) :
    blochTmp1 Sin din dout C a b μ = coef Sin din (fun j i : Fin din => C (i.val * dout + a) (j.val * dout + b)) μ := rfl

theorem blochX_eq {dout : ℕ} (Sout : Scalars R) (T : ℕ → ℕ → ℕ → R) (μ ν : ℕ) :
    blochX Sout dout T μ ν = coef Sout dout (fun a b : Fin dout => T a.val b.val μ) ν := rfl

/-- `Tr(G_μ A) = 2·coef_μ(A)` -/
theorem trace_basis_mul {d : ℕ} (S : Scalars R) (hS : S.Valid d) (hd : 1 ≤ d) (A : Mat d R) {μ : ℕ} (hμ : μ < d * d) :
    trace (basis S d μ * Matrix.of A) = coef S d A μ * 2 := by
  rw [coef_eq_inner S hS hd A hμ, mul_comm S.half, mul_assoc, hS.half_two, mul_one]

/-- coefficients are linear: coefficient of a combination of matrices -/
theorem coef_sum {d : ℕ} (S : Scalars R) (hS : S.Valid d) (hd : 1 ≤ d) (L : ℕ) (c : ℕ → R) (N : ℕ → Mat d R) {ν : ℕ}
    (hν : ν < d * d) :
    coef S d (fun a b => ∑ μ ∈ range L, c μ * N μ a b) ν = ∑ μ ∈ range L, c μ * coef S d (N μ) ν := by
  rw [coef_eq_inner S hS hd _ hν]
  have : (Matrix.of (fun a b => ∑ μ ∈ range L, c μ * N μ a b) : Matrix (Fin d) (Fin d) R)
      = ∑ μ ∈ range L, c μ • Matrix.of (N μ) := by
    ext a b; simp [Matrix.sum_apply]
  rw [this, Matrix.mul_sum, trace_sum, mul_sum]
  refine sum_congr rfl fun μ _ => ?_
  rw [Matrix.mul_smul, trace_smul, coef_eq_inner S hS hd _ hν, smul_eq_mul]; ring

/-- the channel output in terms of the Gell-Mann coefficients of the input -/
theorem applyChoi_expand {din dout : ℕ} (Sin : Scalars R) (hSin : Sin.Valid din) (hdin : 1 ≤ din)
    (C ρ : ℕ → ℕ → R) (a b : ℕ) :
    applyChoi din dout C ρ a b
      = ∑ μ ∈ range (din * din), (coef Sin din (fun i j : Fin din => ρ i.val j.val) μ * 2) * blochTmp1 Sin din dout C a b μ := by
  set M : Mat din R := fun j i => C (i.val * dout + a) (j.val * dout + b) with hM
  have h1 : applyChoi din dout C ρ a b = trace (Matrix.of M * Matrix.of (fun i j : Fin din => ρ i.val j.val)) := by
    simp only [applyChoi, sumRange_eq_sum, trace, diag_apply, Matrix.mul_apply, Matrix.of_apply, hM, Finset.sum_range]
    rw [sum_comm]
  rw [h1, of_eq_sum_coef Sin hSin hdin (fun i j : Fin din => ρ i.val j.val), Matrix.mul_sum, trace_sum]
  refine sum_congr rfl fun μ hμ => ?_
  rw [Matrix.mul_smul, trace_smul, trace_mul_comm, trace_basis_mul Sin hSin hdin M (mem_range.1 hμ), smul_eq_mul, blochTmp1_eq]
  ring

/-- the affine Bloch map, complex-linear core: coefficient `ν` of the output state -/
theorem coef_applyChoi {din dout : ℕ} (Sin Sout : Scalars R) (hSin : Sin.Valid din) (hSout : Sout.Valid dout)
    (hdin : 1 ≤ din) (hdout : 1 ≤ dout) (C ρ : ℕ → ℕ → R) {ν : ℕ} (hν : ν < dout * dout) :
    coef Sout dout (fun a b : Fin dout => applyChoi din dout C ρ a.val b.val) ν
      = ∑ μ ∈ range (din * din), (coef Sin din (fun i j : Fin din => ρ i.val j.val) μ * 2)
          * blochX Sout dout (blochTmp1 Sin din dout C) μ ν := by
  have h1 : (fun a b : Fin dout => applyChoi din dout C ρ a.val b.val)
      = fun a b : Fin dout => ∑ μ ∈ range (din * din),
          (coef Sin din (fun i j : Fin din => ρ i.val j.val) μ * 2) * blochTmp1 Sin din dout C a.val b.val μ := by
    funext a b; exact applyChoi_expand Sin hSin hdin C ρ a.val b.val
  rw [h1, coef_sum Sout hSout hdout (din * din) _ (fun μ a b => blochTmp1 Sin din dout C a.val b.val μ) hν]
  simp only [blochX_eq]

/-- **`choi_op_to_bloch_map` is the affine action on Bloch vectors** (all `din, dout ≥ 1`): for a Hermitian input of trace
one and a channel whose second-stage coefficients are real (Hermiticity-preserving map, see `blochX_real`),
`r(Φρ)_ν = Σ_μ A[ν,μ]·r(ρ)_μ + b_ν`. -/
theorem bloch_affine {din dout : ℕ} (Sin Sout : Scalars R) (hSin : Sin.Valid din) (hSout : Sout.Valid dout)
    (hdin : 1 ≤ din) (hdout : 1 ≤ dout) (C ρ : ℕ → ℕ → R)
    (hρH : (Matrix.of (fun i j : Fin din => ρ i.val j.val))ᴴ = Matrix.of (fun i j : Fin din => ρ i.val j.val))
    (hρtr : ∑ l : Fin din, ρ l.val l.val = 1)
    (hX : ∀ μ ν, μ < din * din → ν < dout * dout →
      star (blochX Sout dout (blochTmp1 Sin din dout C) μ ν) = blochX Sout dout (blochTmp1 Sin din dout C) μ ν)
    {ν : ℕ} (hν : ν < dout * dout - 1) :
    (dmToVec Sout dout (fun a b : Fin dout => applyChoi din dout C ρ a.val b.val) false).getD ν 0
      = (∑ μ ∈ range (din * din - 1),
          blochA Sin Sout din dout C ν μ * (dmToVec Sin din (fun i j : Fin din => ρ i.val j.val) false).getD μ 0)
        + blochB Sin Sout din dout C ν := by
  have hν' : ν < dout * dout := by omega
  have hpos : 0 < din * din := Nat.mul_pos hdin hdin
  have hlast : din * din - 1 < din * din := by omega
  set ρm : Mat din R := fun i j => ρ i.val j.val with hρm
  have hx : ∀ μ, μ < din * din → star (coef Sin din ρm μ) = coef Sin din ρm μ :=
    fun μ hμ => coef_star_of_hermitian Sin hSin hdin ρm hρH hμ
  rw [dmToVec_getD Sout hdout _ hν, coef_applyChoi Sin Sout hSin hSout hdin hdout C ρ hν']
  have hreal : star (∑ μ ∈ range (din * din), (coef Sin din ρm μ * 2) * blochX Sout dout (blochTmp1 Sin din dout C) μ ν)
      = ∑ μ ∈ range (din * din), (coef Sin din ρm μ * 2) * blochX Sout dout (blochTmp1 Sin din dout C) μ ν := by
    rw [star_sum]
    refine sum_congr rfl fun μ hμ => ?_
    rw [star_mul', star_mul', hx μ (mem_range.1 hμ), star_ofNat, hX μ ν (mem_range.1 hμ) hν']
  rw [re_of_star_eq Sout hSout hreal]
  have hsplit : din * din = (din * din - 1) + 1 := by omega
  rw [hsplit, sum_range_succ, ← hsplit]
  congr 1
  · refine sum_congr rfl fun μ hμ => ?_
    have hμ' : μ < din * din := by have := mem_range.1 hμ; omega
    rw [dmToVec_getD Sin hdin ρm (mem_range.1 hμ), re_of_star_eq Sin hSin (hx μ hμ')]
    simp only [blochA, blochGm]
    rw [re_of_star_eq Sout hSout (hX μ ν hμ' hν')]
    ring
  · rw [coef_last Sin hdin ρm, hρtr, one_mul]
    simp only [blochB, blochGm]
    rw [re_of_star_eq Sout hSout (hX _ ν hlast hν'), hSin.aI_eq]
    have := hSin.half_two
    linear_combination (Sin.cI * blochX Sout dout (blochTmp1 Sin din dout C) (din * din - 1) ν) * this

/-- for a Hermitian Choi operator (Hermiticity-preserving map) the second-stage coefficients are real, so `.real` loses nothing -/
theorem blochX_real {din dout : ℕ} (Sin Sout : Scalars R) (hSin : Sin.Valid din) (hSout : Sout.Valid dout)
    (hdin : 1 ≤ din) (hdout : 1 ≤ dout) (C : ℕ → ℕ → R) (hC : ∀ x y, star (C x y) = C y x)
    (μ ν : ℕ) (hμ : μ < din * din) (hν : ν < dout * dout) :
    star (blochX Sout dout (blochTmp1 Sin din dout C) μ ν) = blochX Sout dout (blochTmp1 Sin din dout C) μ ν := by
  rw [blochX_eq]
  refine coef_star_of_hermitian Sout hSout hdout _ ?_ hν
  ext a b
  simp only [Matrix.conjTranspose_apply, Matrix.of_apply, blochTmp1_eq]
  rw [star_coef Sin hSin hdin _ hμ, coef_eq_inner Sin hSin hdin _ hμ]
  congr 3
  ext j i
  exact hC _ _

end Channel
end Numqi
