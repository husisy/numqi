/- Model-specific lemmas for C01: the Euler–Hurwitz (Givens) recursion of to_stiefel_euler keeps the columns orthonormal. -/
import NumqiProofs.ManifoldSym

namespace Numqi.Manifold
open Matrix Finset
open scoped ComplexOrder

/-! ### Euler–Hurwitz recursion -/

theorem cis_eq (x : ℝ) : cis (K := ℂ) x = Complex.exp (x * Complex.I) := by
  rw [Complex.exp_mul_I]
  simp only [cis, CxOps.ofReal, CxOps.I, cos_eq, sin_eq, Complex.ofReal_cos, Complex.ofReal_sin]
  ring

theorem cis_add (x y : ℝ) : cis (K := ℂ) (x + y) = cis x * cis y := by
  rw [cis_eq, cis_eq, cis_eq, ← Complex.exp_add]; push_cast; ring_nf

theorem cis_zero : cis (K := ℂ) 0 = 1 := by rw [cis_eq]; simp

theorem cis_mul_conj (x : ℝ) : cis (K := ℂ) x * star (cis (K := ℂ) x) = 1 := by
  rw [cis_eq, Complex.star_def, ← Complex.exp_conj, ← Complex.exp_add]
  simp

theorem cis_sub (x y : ℝ) : cis (K := ℂ) (x - y) = cis x * star (cis (K := ℂ) y) := by
  have h := cis_add (x - y) y
  rw [sub_add_cancel] at h
  rw [h, mul_assoc, cis_mul_conj, mul_one]

section step
variable (N0 : Nat) (tθ tφ : Nat → ℝ)

/-- cosine / sine / phase factors of one block -/
noncomputable def eCt (I : Nat) : ℂ := ((Real.cos (tθ I) : ℝ) : ℂ)
noncomputable def eSt (I : Nat) : ℂ := ((Real.sin (tθ I) : ℝ) : ℂ)
noncomputable def eEp (I : Nat) : ℂ := cis (tφ I)

/-- the carried component of `Q e₀` -/
noncomputable def eW (I : Nat) : ℂ := ((∏ j ∈ range I, Real.sin (tθ j) : ℝ) : ℂ) * cis (∑ m ∈ range I, tφ m)

/-- first column `rowJ` -/
noncomputable def eU (r : Nat) : ℂ :=
  ((sphereCoordVec N0 tθ r : ℝ) : ℂ) * cis (sumRange r tφ - (if r < N0 then tφ r else 0))

theorem eU_lt {I : Nat} (h : I < N0) : eU N0 tθ tφ I = (eCt tθ I * star (eEp tφ I)) * eW tθ tφ I := by
  unfold eU eW eCt eEp
  rw [if_pos h, sumRange_eq, cis_sub]
  simp only [sphereCoordVec, if_pos h, prodRange_eq, cos_eq, sin_eq]
  push_cast; ring

theorem eU_last : eU N0 tθ tφ N0 = eW tθ tφ N0 := by
  unfold eU eW
  rw [if_neg (lt_irrefl _), sumRange_eq, sub_zero]
  simp only [sphereCoordVec, if_neg (lt_irrefl _), prodRange_eq, sin_eq, one_mul]

theorem eW_succ (I : Nat) : eW tθ tφ (I + 1) = (eSt tθ I * eEp tφ I) * eW tθ tφ I := by
  unfold eW eSt eEp
  rw [Finset.prod_range_succ, Finset.sum_range_succ, cis_add]
  push_cast; ring

theorem eW_zero : eW tθ tφ 0 = 1 := by simp [eW, cis_zero]

theorem ct_sq_add_st_sq (I : Nat) : eCt tθ I * eCt tθ I + eSt tθ I * eSt tθ I = 1 := by
  unfold eCt eSt
  rw [← Complex.ofReal_mul, ← Complex.ofReal_mul, ← Complex.ofReal_add, ← sq, ← sq, Real.cos_sq_add_sin_sq, Complex.ofReal_one]

theorem star_eCt (I : Nat) : star (eCt tθ I) = eCt tθ I := by unfold eCt; exact Complex.conj_ofReal _
theorem star_eSt (I : Nat) : star (eSt tθ I) = eSt tθ I := by unfold eSt; exact Complex.conj_ofReal _
theorem eEp_mul_star (I : Nat) : eEp tφ I * star (eEp tφ I) = 1 := cis_mul_conj _
theorem star_eEp_mul (I : Nat) : star (eEp tφ I) * eEp tφ I = 1 := by rw [mul_comm]; exact cis_mul_conj _

/-- the chain on an arbitrary previous column `b` -/
noncomputable def eA (b : Nat → ℂ) : Nat → ℂ := eulerChain (eCt tθ) (eSt tθ) (eEp tφ) b
noncomputable def eZ (b : Nat → ℂ) (I : Nat) : ℂ :=
  (eCt tθ I * star (eEp tφ I)) * eA tθ tφ b I - (eSt tθ I * star (eEp tφ I)) * b I

theorem eA_zero (b : Nat → ℂ) : eA tθ tφ b 0 = 0 := rfl
theorem eA_succ (b : Nat → ℂ) (I : Nat) :
    eA tθ tφ b (I + 1) = (eCt tθ I * eEp tφ I) * b I + (eSt tθ I * eEp tφ I) * eA tθ tφ b I := rfl

/-- a Givens rotation preserves inner products -/
theorem rot_inner (b1 b2 : Nat → ℂ) (I : Nat) :
    star (eZ tθ tφ b1 I) * eZ tθ tφ b2 I + star (eA tθ tφ b1 (I + 1)) * eA tθ tφ b2 (I + 1)
      = star (eA tθ tφ b1 I) * eA tθ tφ b2 I + star (b1 I) * b2 I := by
  simp only [eZ, eA_succ, star_sub, star_add, star_mul', star_star, star_eCt, star_eSt]
  have h1 := ct_sq_add_st_sq tθ I
  have h2 := eEp_mul_star tφ I
  have h3 := star_eEp_mul tφ I
  set c := eCt tθ I; set s := eSt tθ I; set e := eEp tφ I; set e' := star (eEp tφ I)
  set a1 := eA tθ tφ b1 I; set a2 := eA tθ tφ b2 I
  set a1' := star a1; set b1' := star (b1 I)
  linear_combination (a1' * a2 + b1' * b2 I) * h1 + ((c * a1' - s * b1') * (c * a2 - s * b2 I)) * h2 + ((c * b1' + s * a1') * (c * b2 I + s * a2)) * h3

/-- telescoped: the rotated columns have the Gram matrix of the previous columns -/
theorem gram_chain (b1 b2 : Nat → ℂ) (k : Nat) :
    ∑ I ∈ range k, star (eZ tθ tφ b1 I) * eZ tθ tφ b2 I + star (eA tθ tφ b1 k) * eA tθ tφ b2 k
      = ∑ I ∈ range k, star (b1 I) * b2 I := by
  induction k with
  | zero => simp [eA_zero]
  | succ k ih =>
    rw [Finset.sum_range_succ, Finset.sum_range_succ, ← ih]
    have := rot_inner tθ tφ b1 b2 k
    linear_combination this

/-- the rotated columns are orthogonal to the first column -/
theorem first_col_chain (b : Nat → ℂ) (k : Nat) (hk : k ≤ N0) :
    ∑ I ∈ range k, star (eU N0 tθ tφ I) * eZ tθ tφ b I + star (eW tθ tφ k) * eA tθ tφ b k = 0 := by
  induction k with
  | zero => simp [eA_zero]
  | succ k ih =>
    have hk' : k < N0 := hk
    rw [Finset.sum_range_succ]
    have h0 := ih (le_of_lt hk')
    rw [eU_lt N0 tθ tφ hk', eW_succ, eA_succ]
    have hz : eZ tθ tφ b k = (eCt tθ k * star (eEp tφ k)) * eA tθ tφ b k - (eSt tθ k * star (eEp tφ k)) * b k := rfl
    rw [hz]
    simp only [star_mul', star_star, star_eCt, star_eSt]
    have h1 := ct_sq_add_st_sq tθ k
    have h2 := eEp_mul_star tφ k
    have h3 := star_eEp_mul tφ k
    set c := eCt tθ k; set s := eSt tθ k; set e := eEp tφ k; set e' := star (eEp tφ k)
    set w' := star (eW tθ tφ k); set a := eA tθ tφ b k
    linear_combination h0 + (w' * c * (c * a - s * b k)) * h2 + (w' * s * (c * b k + s * a)) * h3 + (w' * a) * h1

end step

theorem eU_normSq (N0 : Nat) (tθ tφ : Nat → ℝ) : ∑ r ∈ range (N0 + 1), star (eU N0 tθ tφ r) * eU N0 tθ tφ r = 1 := by
  have h := sphereCoord_normSq N0 tθ
  rw [normSq_eq] at h
  rw [← Complex.ofReal_one, ← h, Complex.ofReal_sum]
  refine Finset.sum_congr rfl (fun r _ => ?_)
  unfold eU
  rw [star_mul', mul_mul_mul_comm, mul_comm (star (cis _)), cis_mul_conj, mul_one, Complex.star_def, Complex.conj_ofReal]
  push_cast; ring

section gram
variable (N0 j : Nat) (tθ tφ : Nat → ℝ) (prev : NMat ℂ)

theorem eulerStep_first {r : Nat} (hr : r < N0 + 1) : (eulerStep N0 j tθ tφ prev).get r 0 = eU N0 tθ tφ r := by
  unfold eulerStep
  rw [NMat.get_ofFn _ _ _ hr (Nat.succ_pos j)]
  simp only [if_true, eU, CxOps.ofReal]

theorem eulerStep_succ {r c : Nat} (hr : r < N0 + 1) (hc : c < j) :
    (eulerStep N0 j tθ tφ prev).get r (c + 1)
      = if r < N0 then eZ tθ tφ (fun I => prev.get I c) r else eA tθ tφ (fun I => prev.get I c) N0 := by
  unfold eulerStep
  rw [NMat.get_ofFn _ _ _ hr (Nat.succ_lt_succ hc)]
  simp only [Nat.succ_ne_zero, if_false]
  rfl

theorem eulerStep_succ_lt {r c : Nat} (hr : r < N0) (hc : c < j) :
    (eulerStep N0 j tθ tφ prev).get r (c + 1) = eZ tθ tφ (fun I => prev.get I c) r := by
  rw [eulerStep_succ _ _ _ _ _ (Nat.lt_succ_of_lt hr) hc, if_pos hr]

theorem eulerStep_succ_last {c : Nat} (hc : c < j) :
    (eulerStep N0 j tθ tφ prev).get N0 (c + 1) = eA tθ tφ (fun I => prev.get I c) N0 := by
  rw [eulerStep_succ _ _ _ _ _ (Nat.lt_succ_self N0) hc, if_neg (lt_irrefl _)]

/-- the new first column is a unit vector, -/
theorem eulerStep_inner_zero_zero :
    ∑ r ∈ range (N0 + 1), star ((eulerStep N0 j tθ tφ prev).get r 0) * (eulerStep N0 j tθ tφ prev).get r 0 = 1 := by
  rw [← eU_normSq N0 tθ tφ]
  exact Finset.sum_congr rfl fun r hr => by rw [eulerStep_first _ _ _ _ _ (mem_range.1 hr)]

/-- it is orthogonal to the rotated columns, -/
theorem eulerStep_inner_zero_succ {c : Nat} (hc : c < j) :
    ∑ r ∈ range (N0 + 1), star ((eulerStep N0 j tθ tφ prev).get r 0) * (eulerStep N0 j tθ tφ prev).get r (c + 1) = 0 := by
  rw [Finset.sum_range_succ, eulerStep_succ_last _ _ _ _ _ hc, eulerStep_first _ _ _ _ _ (Nat.lt_succ_self N0), eU_last,
    ← first_col_chain N0 tθ tφ (fun I => prev.get I c) N0 le_rfl]
  refine congrArg₂ (· + ·) (Finset.sum_congr rfl fun r hr => ?_) rfl
  rw [eulerStep_succ_lt _ _ _ _ _ (mem_range.1 hr) hc, eulerStep_first _ _ _ _ _ (Nat.lt_succ_of_lt (mem_range.1 hr))]

/-- and the rotated columns keep the inner products of the previous columns -/
theorem eulerStep_inner_succ_succ {c1 c2 : Nat} (h1 : c1 < j) (h2 : c2 < j) :
    ∑ r ∈ range (N0 + 1), star ((eulerStep N0 j tθ tφ prev).get r (c1 + 1)) * (eulerStep N0 j tθ tφ prev).get r (c2 + 1)
      = ∑ I ∈ range N0, star (prev.get I c1) * prev.get I c2 := by
  rw [Finset.sum_range_succ, eulerStep_succ_last _ _ _ _ _ h1, eulerStep_succ_last _ _ _ _ _ h2, ← gram_chain tθ tφ (fun I => prev.get I c1) (fun I => prev.get I c2) N0]
  refine congrArg₂ (· + ·) (Finset.sum_congr rfl fun r hr => ?_) rfl
  rw [eulerStep_succ_lt _ _ _ _ _ (mem_range.1 hr) h1, eulerStep_succ_lt _ _ _ _ _ (mem_range.1 hr) h2]

/-- **one step of the Euler–Hurwitz recursion preserves orthonormality of the columns** -/
theorem eulerStep_orthonormal (hP : (toM N0 j prev)ᴴ * toM N0 j prev = 1) :
    (toM (N0 + 1) (j + 1) (eulerStep N0 j tθ tφ prev))ᴴ * toM (N0 + 1) (j + 1) (eulerStep N0 j tθ tφ prev) = 1 := by
  ext c1 c2
  rw [gram_toM_apply]
  refine Fin.cases ?_ (fun c1' => ?_) c1 <;> refine Fin.cases ?_ (fun c2' => ?_) c2
  · exact eulerStep_inner_zero_zero N0 j tθ tφ prev
  · rw [Matrix.one_apply_ne (Fin.succ_ne_zero c2').symm]
    exact eulerStep_inner_zero_succ N0 j tθ tφ prev c2'.isLt
  · rw [Matrix.one_apply_ne (Fin.succ_ne_zero c1'), ← star_zero ℂ, ← eulerStep_inner_zero_succ N0 j tθ tφ prev c1'.isLt, star_sum]
    exact Finset.sum_congr rfl fun r _ => by rw [star_mul', star_star, mul_comm]; rfl
  · have := congrFun (congrFun hP c1') c2'
    rw [gram_toM_apply] at this
    have hone : (1 : Matrix (Fin (j + 1)) (Fin (j + 1)) ℂ) c1'.succ c2'.succ = (1 : Matrix (Fin j) (Fin j) ℂ) c1' c2' := by
      simp only [Matrix.one_apply, Fin.succ_inj]
    rw [hone, ← this]
    exact eulerStep_inner_succ_succ N0 j tθ tφ prev c1'.isLt c2'.isLt

end gram

/-- multiplying each column by a number of modulus one keeps the columns orthonormal -/
theorem orthonormal_mul_phase (m n : Nat) (E : NMat ℂ) (u : Nat → ℂ) (hu : ∀ c, star (u c) * u c = 1)
    (hE : (toM m n E)ᴴ * toM m n E = 1) :
    (toM m n (NMat.ofFn m n fun r c => E.get r c * u c))ᴴ * toM m n (NMat.ofFn m n fun r c => E.get r c * u c) = 1 := by
  ext c1 c2
  rw [gram_toM_apply]
  trans (star (u c1) * u c2) * ∑ r ∈ range m, star (E.get r c1) * E.get r c2
  · rw [Finset.mul_sum]
    exact Finset.sum_congr rfl fun r hr => by
      rw [NMat.get_ofFn _ _ _ (mem_range.1 hr) c1.isLt, NMat.get_ofFn _ _ _ (mem_range.1 hr) c2.isLt, star_mul']
      ring
  · rw [← gram_toM_apply, hE]
    by_cases hc : c1 = c2
    · rw [hc, Matrix.one_apply_eq, mul_one, hu]
    · rw [Matrix.one_apply_ne hc, mul_zero]

theorem eulerRec_orthonormal (dim rank : Nat) (isReal : Bool) (θ : Nat → ℝ) (j : Nat) :
    (toM (dim - rank + j) j (eulerRec (K := ℂ) dim rank isReal θ j))ᴴ * toM (dim - rank + j) j (eulerRec (K := ℂ) dim rank isReal θ j) = 1 := by
  induction j with
  | zero => ext c1; exact c1.elim0
  | succ j ih => exact eulerStep_orthonormal _ _ _ _ _ ih

end Numqi.Manifold
