/-
Bridges between the C05 constants and the C06 constants (`NumqiModel/Boundary.lean`, `NumqiProofs/BoundaryLemmas.lean`):
* `symExt_isSymExt`, `sep_subset_kext` — the candidate extension of a separable state (`C05.symExt`, theorem `sep_symext`) is a symmetric
  extension in the sense of C06 (`Boundary.IsSymExt`, last copy kept): SEP ⊆ k-extendible for every `k`;
* `ptB_models_agree` — the two models of the two-party partial transpose (`Ent.ptB`: numpy reshape/transpose on flat indices, executed by
  the C05 driver; `Boundary.ptB`: on pairs, executed by the C06 driver) agree on their common domain.
Listed in `THEOREM_FILES` of `harness/c05.py`.
-/
import NumqiProps.C05
import NumqiProofs.BoundaryLemmas

namespace Numqi.C05
open Numqi Numqi.Ent
open scoped ComplexOrder
open Matrix

variable {K : Type} [Fintype K] {dA dB : ℕ}

/-- the separable state `Σ_k p_k a_k a_kᴴ ⊗ b_k b_kᴴ` as a matrix over pairs (the index type of C06) -/
def sepState (p : K → ℝ) (a : K → Fin dA → ℂ) (b : K → Fin dB → ℂ) : Matrix (Fin dA × Fin dB) (Fin dA × Fin dB) ℂ :=
  Matrix.of fun x y => ∑ k, (p k : ℂ) * (a k x.1 * b k x.2) * star (a k y.1 * b k y.2)

/-- **SEP ⊆ k-extendible, with the explicit extension**: for normalised `b_k` and `p ≥ 0`, `C05.symExt (k+1) p a b` is a symmetric
extension (C06's `IsSymExt k`) of `sepState p a b`, for every `k` and all local dimensions. -/
theorem symExt_isSymExt (k : ℕ) (p : K → ℝ) (hp : ∀ i, 0 ≤ p i) (a : K → Fin dA → ℂ) (b : K → Fin dB → ℂ)
    (hb : ∀ i, ∑ v, b i v * star (b i v) = 1) :
    Boundary.IsSymExt k (sepState p a b) (symExt (k + 1) p a b) := by
  obtain ⟨hpsd, hperm, _, hmarg⟩ := sep_symext k p hp a b hb
  refine ⟨hpsd, hperm, fun x y => ?_⟩
  rw [sepState, Matrix.of_apply, ← hmarg x y]
  refine Finset.sum_congr rfl fun r _ => ?_
  -- keeping the last copy instead of the first is a rotation of the copies
  rw [Fin.snoc_eq_cons_rotate, Fin.snoc_eq_cons_rotate]
  exact (hperm (finRotate _) (x.1, Fin.cons x.2 r) (y.1, Fin.cons y.2 r)).symm

/-- **every separable state is `k`-extendible** (membership form, for use with C06's `KEXT` / `beta_mono`) -/
theorem sep_subset_kext (k : ℕ) (p : K → ℝ) (hp : ∀ i, 0 ≤ p i) (a : K → Fin dA → ℂ) (b : K → Fin dB → ℂ)
    (hb : ∀ i, ∑ v, b i v * star (b i v) = 1) : ∃ σ, Boundary.IsSymExt k (sepState p a b) σ :=
  ⟨_, symExt_isSymExt k p hp a b hb⟩

/-- **the two partial-transpose models agree**: for `F` the flat read-out of a pair-indexed matrix `M`, the numpy-style `Ent.ptB`
(C05 driver, theorem `ptB_entry`) read at the flat positions of two pairs is C06's `Boundary.ptB M` at those pairs. -/
theorem ptB_models_agree {α : Type} (M : Fin dA × Fin dB → Fin dA × Fin dB → α) (F : Nat → Nat → α)
    (hF : ∀ x y, F (Boundary.flatOfPair x) (Boundary.flatOfPair y) = M x y) (x y : Fin dA × Fin dB) :
    Ent.ptB dA dB F (Boundary.flatOfPair x) (Boundary.flatOfPair y) = Boundary.ptB M x y := by
  have hf : ∀ z : Fin dA × Fin dB, Boundary.flatOfPair z = flat [dA, dB] [z.1.val, z.2.val] := by
    intro z; simp [Boundary.flatOfPair, flat, prodL]
  have h := ptB_entry dA dB F x.1.2 y.2.2 y.1.2 x.2.2
  rw [hf x, hf y, h]
  have e1 : flat [dA, dB] [x.1.val, y.2.val] = Boundary.flatOfPair (x.1, y.2) := (hf (x.1, y.2)).symm
  have e2 : flat [dA, dB] [y.1.val, x.2.val] = Boundary.flatOfPair (y.1, x.2) := (hf (y.1, x.2)).symm
  rw [e1, e2, hF]
  rfl

/-- non-vacuity: one product term of two qubits is 1-extendible -/
example : ∃ σ, Boundary.IsSymExt 1 (sepState (fun _ : Unit => 1) (fun _ (i : Fin 2) => if i = 0 then 1 else 0)
    (fun _ (i : Fin 2) => if i = 0 then 1 else 0)) σ :=
  sep_subset_kext 1 _ (fun _ => zero_le_one) _ _ (fun _ => by simp)

end Numqi.C05
