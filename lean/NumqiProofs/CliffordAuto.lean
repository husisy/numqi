/-
C07: a symplectic tableau preserves the symplectic form and acts injectively on the n-qubit Paulis, a finite set.
-/
import NumqiProofs.CliffordGates
namespace Numqi.Clifford

/-- a symplectic tableau preserves the symplectic form -/
theorem form_preserved (t : Tab) (h : t.colSp = true) (v w : Nat) :
    (om t.n (matVec t.cols v (2 * t.n)) (matVec t.cols w (2 * t.n)) +
      om t.n (matVec t.cols w (2 * t.n)) (matVec t.cols v (2 * t.n))) % 2 = (om t.n v w + om t.n w v) % 2 := by
  have c1 := Fph_cocycle t h v w
  have c2 := Fph_cocycle t h w v
  rw [Nat.xor_comm w v] at c2
  omega

theorem shiftRight_pow_lt {j n : Nat} (hj : j < n) : 2 ^ j >>> n = 0 := by
  rw [Nat.shiftRight_eq_div_pow]; exact Nat.div_eq_of_lt (Nat.pow_lt_pow_right (by norm_num) hj)

/-- the form is non-degenerate on vectors below `4^n` -/
theorem eq_zero_of_form {n u : Nat} (hu : u < 4 ^ n) (h : ∀ w, (om n u w + om n w u) % 2 = 0) : u = 0 := by
  apply Nat.eq_of_testBit_eq; intro j
  rw [Nat.zero_testBit]
  rw [SpF2.four_pow] at hu
  by_cases hj : j < n
  · -- pair with e_{n+j}
    have := h (2 ^ (n + j))
    rw [om_pow_right] at this
    have h1 : ¬ (n + j < n ∧ u.testBit (n + (n + j)) = true) := by omega
    rw [if_neg h1] at this
    have h2 : om n (2 ^ (n + j)) u = if u.testBit j then 1 else 0 := by
      unfold om
      have : 2 ^ (n + j) >>> n = 2 ^ j := by
        rw [Nat.shiftRight_eq_div_pow, Nat.pow_add, Nat.mul_div_cancel_left _ (by positivity)]
      rw [this, cnt_pow_left]; simp [hj]
    rw [h2] at this
    cases hb : u.testBit j
    · rfl
    · rw [hb] at this; simp at this
  · by_cases hj2 : j < 2 * n
    · have := h (2 ^ (j - n))
      rw [om_pow_right] at this
      have h2 : om n (2 ^ (j - n)) u = 0 := by
        unfold om; rw [shiftRight_pow_lt (by omega), cnt_zero_left]
      have e : n + (j - n) = j := by omega
      rw [h2, e] at this
      cases hb : u.testBit j
      · rfl
      · have : j - n < n := by omega
        simp [hb, this] at *
    · exact SpF2.testBit_eq_false_of_lt hu (by omega)

theorem matVec_mod (cols : List Nat) (v m N : Nat) (hN : m ≤ N) : matVec cols (v % 2 ^ N) m = matVec cols v m := by
  induction m with
  | zero => rfl
  | succ m ih =>
    rw [matVec, matVec, ih (by omega), Nat.testBit_mod_two_pow]
    simp [show m < N by omega]

/-- **the tableau action is injective on `n`-qubit Paulis** (with `apply_hom`: a phase-exact automorphism, being an injective
endomorphism of a finite group) -/
theorem apply_injective (t : Tab) (h : t.colSp = true) (p q : PauliB) (hp : p.v < 4 ^ t.n) (hq : q.v < 4 ^ t.n)
    (he : applyOnPauli p t = applyOnPauli q t) : p = q := by
  have hv : matVec t.cols p.v (2 * t.n) = matVec t.cols q.v (2 * t.n) := by
    have := congrArg PauliB.v he; rwa [apply_v, apply_v] at this
  have hu : p.v ^^^ q.v < 4 ^ t.n := by rw [SpF2.four_pow] at *; exact SpF2.xor_lt hp hq
  have hz : matVec t.cols (p.v ^^^ q.v) (2 * t.n) = 0 := by rw [matVec_xor, hv, Nat.xor_self]
  have hw : p.v ^^^ q.v = 0 := by
    apply eq_zero_of_form hu
    intro w
    have := form_preserved t h (p.v ^^^ q.v) w
    rw [hz, om_zero_left, om_zero_right] at this
    omega
  have hpq : p.v = q.v := by
    have := congrArg (· ^^^ q.v) hw
    simp only [Nat.xor_assoc, Nat.xor_self, Nat.xor_zero, Nat.zero_xor] at this
    exact this
  apply PauliB.ext_ph hpq
  have h1 := apply_ph p t
  have h2 := apply_ph q t
  rw [he, hpq] at h1
  omega

theorem finite_paulis (N : Nat) : {p : PauliB | p.v < N}.Finite := by
  have hf : ((Set.univ : Set Bool) ×ˢ ((Set.univ : Set Bool) ×ˢ {v : Nat | v < N})).Finite :=
    Set.finite_univ.prod (Set.finite_univ.prod (Set.finite_lt_nat N))
  refine (hf.image (fun x : Bool × Bool × Nat => PauliB.mk x.1 x.2.1 x.2.2)).subset ?_
  rintro ⟨a, b, v⟩ hv
  exact ⟨(a, b, v), ⟨trivial, trivial, hv⟩, rfl⟩

end Numqi.Clifford
