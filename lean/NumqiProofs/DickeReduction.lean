/-
The index table of `get_partial_trace_ABk_to_AB_index` lists exactly the support of the closed-form overlap coefficient
(list bookkeeping for `C17.dicke_reduction_eq`).
-/
import Mathlib.Tactic
import Mathlib.Algebra.BigOperators.Fin
import Mathlib.Data.List.Nodup
import Mathlib.Data.List.GetD
import NumqiModel.Dicke
import NumqiProofs.Dicke
import Mathlib.Analysis.Real.Sqrt
import Mathlib.Data.Complex.Basic

namespace Numqi
namespace Dicke
open Finset

/-- `zipIdx` as a map over the index range -/
theorem zipIdx_eq_range_map {β : Type} (l : List β) (dflt : β) :
    l.zipIdx = (List.range l.length).map fun i => (l.getD i dflt, i) := by
  apply List.ext_getElem
  · simp
  · intro i h1 h2
    have hi : i < l.length := by simpa using h1
    simp [List.getElem?_eq_getElem hi]

/-- value of `g` on an optional entry, `0` if there is none -/
def optVal {M : Type*} [Zero M] {γ : Type*} (g : γ → M) : Option γ → M
  | some e => g e
  | none => 0

/-- a sum over a list produced by `filterMap` over an index range is a sum over the range -/
theorem sum_filterMap_range {M : Type*} [AddCommMonoid M] {γ : Type*} (L : ℕ) (φ : ℕ → Option γ) (g : γ → M) :
    (((List.range L).filterMap φ).map g).sum = ∑ i ∈ range L, optVal g (φ i) := by
  induction L with
  | zero => simp
  | succ L ih =>
    rw [List.range_succ, List.filterMap_append, List.map_append, List.sum_append, ih, Finset.sum_range_succ]
    congr 1
    cases h : φ L <;> simp [h, optVal]

theorem foldr_eq_sum_map {M : Type*} [AddCommMonoid M] {γ : Type*} (T : List γ) (g : γ → M) :
    T.foldr (fun e acc => g e + acc) 0 = (T.map g).sum := by
  induction T with
  | nil => rfl
  | cons e T ih => simp [ih]

/-! ### `shift` and the support condition of the overlap coefficient -/

/-- the condition under which `⟨r,·|D_a⟩` and `⟨s,·|D_b⟩` overlap: `a − e_r = b − e_s` -/
def Cond (r s : ℕ) (a b : List ℕ) : Prop :=
  0 < a.getD r 0 ∧ 0 < b.getD s 0 ∧ a.set r (a.getD r 0 - 1) = b.set s (b.getD s 0 - 1)

instance (r s : ℕ) (a b : List ℕ) : Decidable (Cond r s a b) := by unfold Cond; infer_instance

theorem shift_none (a : List ℕ) (r s : ℕ) (h : a.getD r 0 = 0) : shift a r s = none := by
  unfold shift; rw [if_pos h]

theorem shift_some (a : List ℕ) (r s : ℕ) (h : 0 < a.getD r 0) :
    shift a r s = some ((a.set r (a.getD r 0 - 1)).set s ((a.set r (a.getD r 0 - 1)).getD s 0 + 1)) := by
  have : ¬ a.getD r 0 = 0 := by omega
  unfold shift; rw [if_neg this]

theorem getD_set_self (l : List ℕ) (i x : ℕ) (h : i < l.length) : (l.set i x).getD i 0 = x := by
  rw [List.getD_eq_getElem _ _ (by simpa using h), List.getElem_set_self]

theorem set_getD_self (l : List ℕ) (i : ℕ) (h : i < l.length) : l.set i (l.getD i 0) = l := by
  rw [List.getD_eq_getElem _ _ h, List.set_getElem_self]

theorem cond_core (a' b : List ℕ) (s : ℕ) (hs : s < b.length) (hsa' : s < a'.length) :
    (0 < b.getD s 0 ∧ a' = b.set s (b.getD s 0 - 1)) ↔ b = a'.set s (a'.getD s 0 + 1) := by
  constructor
  · rintro ⟨hb, he⟩
    have h1 : a'.getD s 0 = b.getD s 0 - 1 := by rw [he, getD_set_self b s _ hs]
    have h2 : b = (b.set s (b.getD s 0 - 1)).set s (b.getD s 0) := by
      rw [List.set_set, set_getD_self b s hs]
    rw [h1, Nat.sub_add_cancel hb, he]; exact h2
  · intro hb
    refine ⟨?_, ?_⟩
    · rw [hb, getD_set_self _ _ _ hsa']; omega
    · rw [hb, getD_set_self _ _ _ hsa', List.set_set, Nat.add_sub_cancel, set_getD_self _ _ hsa']

/-- the only partner of `a` is `b₀ = a − e_r + e_s` -/
theorem cond_iff (r s : ℕ) (a b : List ℕ) (hs : s < b.length) (hsa : s < a.length) (ha : 0 < a.getD r 0) :
    Cond r s a b ↔ b = (a.set r (a.getD r 0 - 1)).set s ((a.set r (a.getD r 0 - 1)).getD s 0 + 1) := by
  rw [← cond_core (a.set r (a.getD r 0 - 1)) b s hs (by simpa using hsa)]
  unfold Cond
  constructor
  · rintro ⟨_, h2, h3⟩; exact ⟨h2, h3⟩
  · rintro ⟨h2, h3⟩; exact ⟨ha, h2, h3⟩

theorem sum_set_incr (l : List ℕ) (i : ℕ) (h : i < l.length) : (l.set i (l.getD i 0 + 1)).sum = l.sum + 1 := by
  have := sum_set_add l i (l.getD i 0 + 1) h
  omega

/-- real coefficient for total copy number `N` -/
noncomputable def coefN (N r s : ℕ) (a b : List ℕ) : ℝ :=
  if Cond r s a b then √((a.getD r 0 : ℝ) * (b.getD s 0 : ℝ)) / (N : ℝ) else 0

/-- `√(value²)` of a table entry -/
noncomputable def wRoot (q : ℚ) : ℂ := ((√((q : ℚ) : ℝ) : ℝ) : ℂ)

theorem wRoot_entry (N x y : ℕ) :
    wRoot (((x * y : ℕ) : ℚ) / ((N * N : ℕ) : ℚ)) = ((√((x : ℝ) * (y : ℝ)) / (N : ℝ) : ℝ) : ℂ) := by
  unfold wRoot
  congr 1
  push_cast
  rw [Real.sqrt_div (by positivity), Real.sqrt_mul_self (by positivity)]

/-- the row of the table belonging to the Dicke index `i`, written over the index range -/
def rowEntry (N d r s : ℕ) (i : ℕ) : Option (ℕ × ℕ × ℚ) :=
  let kl := klist d N
  let a := kl.getD i []
  if r = s then some (i, i, ((a.getD r 0 * a.getD r 0 : ℕ) : ℚ) / ((N * N : ℕ) : ℚ))
  else match shift a r s with
    | none => none
    | some b => match indexOf? kl b with
      | none => none
      | some j => some (i, j, ((a.getD r 0 * b.getD s 0 : ℕ) : ℚ) / ((N * N : ℕ) : ℚ))

theorem bijTable_eq (N d r s : ℕ) :
    bijTable N d r s = (List.range (klist d N).length).filterMap (rowEntry N d r s) := by
  unfold bijTable rowEntry
  simp only
  rw [zipIdx_eq_range_map (klist d N) []]
  by_cases h : r = s
  · simp only [h, if_true, List.map_map]
    rw [← List.filterMap_eq_map]
    rfl
  · simp only [h, if_false, List.filterMap_map]
    rfl

theorem indexOf_some (l : List (List ℕ)) (b : List ℕ) (hb : b ∈ l) :
    ∃ j, indexOf? l b = some j ∧ j < l.length ∧ l.getD j [] = b := by
  have hlt : l.idxOf b < l.length := List.idxOf_lt_length_iff.2 hb
  refine ⟨l.idxOf b, by simp [indexOf?, hlt], hlt, ?_⟩
  rw [List.getD_eq_getElem _ _ hlt, List.getElem_idxOf]

/-- **row lemma**: the entry stored for the Dicke index `i` carries exactly the non-zero overlap coefficients of `a_i` -/
theorem row_sum (N d r s : ℕ) (hd : 1 ≤ d) (hr : r < d) (hs : s < d) (i : ℕ) (hi : i < (klist d N).length)
    (G : ℕ → ℕ → ℂ) :
    optVal (fun e : ℕ × ℕ × ℚ => G e.1 e.2.1 * wRoot e.2.2) (rowEntry N d r s i)
      = ∑ j ∈ range (klist d N).length, G i j * ((coefN N r s ((klist d N).getD i []) ((klist d N).getD j []) : ℝ) : ℂ) := by
  obtain ⟨d', rfl⟩ : ∃ d', d = d' + 1 := ⟨d - 1, by omega⟩
  set kl := klist (d' + 1) N with hkl
  set a := kl.getD i [] with ha
  have hmem : ∀ j, j < kl.length → (kl.getD j []).length = d' + 1 ∧ (kl.getD j []).sum = N := by
    intro j hj
    rw [List.getD_eq_getElem _ _ hj]
    exact (mem_klist_iff d' N _).1 (List.getElem_mem hj)
  have hnd : kl.Nodup := klist_nodup d' N
  obtain ⟨hal, has⟩ := hmem i hi
  rw [← ha] at hal has
  by_cases hpos : 0 < a.getD r 0
  · -- the partner b₀ = a − e_r + e_s is in the list
    set a' := a.set r (a.getD r 0 - 1) with ha'
    set b0 := a'.set s (a'.getD s 0 + 1) with hb0
    have ha'l : a'.length = d' + 1 := by simp [ha', hal]
    have hb0l : b0.length = d' + 1 := by simp [hb0, ha'l]
    have ha's : a'.sum + 1 = N := by rw [← has]; exact sum_set a r (by omega) hpos
    have hb0s : b0.sum = N := by rw [hb0, sum_set_incr a' s (by omega)]; exact ha's
    have hb0mem : b0 ∈ kl := (mem_klist_iff d' N b0).2 ⟨hb0l, hb0s⟩
    obtain ⟨j0, hj0, hj0lt, hj0e⟩ := indexOf_some kl b0 hb0mem
    have hcond : ∀ j, j < kl.length → (Cond r s a (kl.getD j []) ↔ kl.getD j [] = b0) := fun j hj =>
      cond_iff r s a _ (by rw [(hmem j hj).1]; exact hs) (by rw [hal]; exact hs) hpos
    have hb0s_val : b0.getD s 0 = a'.getD s 0 + 1 := getD_set_self a' s _ (by omega)
    have huniq : ∀ j, j < kl.length → kl.getD j [] = b0 → j = j0 := by
      intro j hj e
      rw [← hj0e, List.getD_eq_getElem _ _ hj, List.getD_eq_getElem _ _ hj0lt] at e
      exact (hnd.getElem_inj_iff).1 e
    have hrow : rowEntry N (d' + 1) r s i
        = some (i, j0, ((a.getD r 0 * b0.getD s 0 : ℕ) : ℚ) / ((N * N : ℕ) : ℚ)) := by
      by_cases hrs : r = s
      · -- diagonal branch: b₀ = a, so j₀ = i and the stored entry is (i, i, a_r²/N²)
        subst hrs
        have hb0a : b0 = a := by
          rw [hb0, ha', getD_set_self a r _ (by omega), List.set_set, Nat.sub_add_cancel hpos, set_getD_self a r (by omega)]
        rw [← huniq i hi (by rw [← ha, hb0a]), hb0a]
        unfold rowEntry; exact if_pos rfl
      · simp only [rowEntry, ← hkl, ← ha, hrs, if_false, shift_some a r s hpos, ← ha', ← hb0, hj0]
    rw [hrow, sum_eq_single j0]
    · simp only [optVal]
      rw [wRoot_entry, coefN, if_pos ((hcond j0 hj0lt).2 hj0e), hj0e]
    · intro j hj hne
      have : ¬ Cond r s a (kl.getD j []) := fun h => hne (huniq j (mem_range.1 hj) ((hcond j (mem_range.1 hj)).1 h))
      rw [coefN, if_neg this]; simp
    · intro h; exact absurd (mem_range.2 hj0lt) h
  · -- a_r = 0: no partner; the diagonal branch stores the value 0
    have hz : a.getD r 0 = 0 := by omega
    have hzero : ∀ j, coefN N r s a (kl.getD j []) = 0 := by
      intro j; rw [coefN, if_neg]; rintro ⟨h, _⟩; omega
    simp only [hzero, Complex.ofReal_zero, mul_zero, sum_const_zero]
    by_cases hrs : r = s
    · subst hrs
      have hrow : rowEntry N (d' + 1) r r i = some (i, i, ((a.getD r 0 * a.getD r 0 : ℕ) : ℚ) / ((N * N : ℕ) : ℚ)) := by
        unfold rowEntry; exact if_pos rfl
      rw [hrow]; simp only [hz, optVal]; simp [wRoot]
    · have hrow : rowEntry N (d' + 1) r s i = none := by
        simp only [rowEntry, ← hkl, ← ha, hrs, if_false, shift_none a r s hz]
      rw [hrow]; rfl

/-- the table summed against `G` runs over all pairs of Dicke indices, each with its closed-form coefficient -/
theorem bijTable_sum (N d r s : ℕ) (hd : 1 ≤ d) (hr : r < d) (hs : s < d) (G : ℕ → ℕ → ℂ) :
    ((bijTable N d r s).map fun e => G e.1 e.2.1 * wRoot e.2.2).sum
      = ∑ i ∈ range (klist d N).length, ∑ j ∈ range (klist d N).length,
          G i j * ((coefN N r s ((klist d N).getD i []) ((klist d N).getD j []) : ℝ) : ℂ) := by
  rw [bijTable_eq, sum_filterMap_range]
  exact sum_congr rfl fun i hi => row_sum N d r s hd hr hs i (mem_range.1 hi) G

end Dicke
end Numqi
