/-
C19: `Circuit.shift_qubit_index_` moves a circuit onto the upper qubits of a larger register (used for `VarQEC.get_code()`:
shifted encoder on the logical ⊗ physical register).
-/
import NumqiProofs.QecKL

namespace Numqi.Qec
variable {R : Type} [CommRing R]

/-- the part of a vector on `k + n` qubits with the first `k` qubits fixed to the position `lo` -/
def slice (k lo : Nat) (w : Nat → R) : Nat → R := fun hi => w (lo + 2 ^ k * hi)

theorem testBit_lo_hi (k lo hi q : Nat) (hlo : lo < 2 ^ k) : (lo + 2 ^ k * hi).testBit (q + k) = hi.testBit q := by
  rw [Nat.add_comm lo, Nat.testBit_two_pow_mul_add _ hlo]
  have : ¬ (q + k < k) := by omega
  simp [this]

theorem fl_lo_hi (k lo hi q : Nat) (hlo : lo < 2 ^ k) : fl (lo + 2 ^ k * hi) (q + k) = lo + 2 ^ k * fl hi q := by
  unfold fl
  apply Nat.eq_of_testBit_eq
  intro j
  rw [Nat.testBit_xor, testBit_bit, Nat.add_comm lo, Nat.testBit_two_pow_mul_add _ hlo,
    Nat.add_comm lo, Nat.testBit_two_pow_mul_add _ hlo]
  by_cases hj : j < k
  · have : ¬ (q + k = j) := by omega
    simp [hj, this]
  · simp only [hj, if_false, Nat.testBit_xor, testBit_bit]
    congr 1
    have : (q + k = j) ↔ (q = j - k) := by omega
    simp [this]

/-- **one shifted gate acts on the slices** -/
theorem applyGate_shift (I : R) (k lo : Nat) (hlo : lo < 2 ^ k) (g : Gate) (w : Nat → R) :
    slice k lo (applyGate I (g.shift k) w) = applyGate I g (slice k lo w) := by
  funext hi
  cases g <;>
    simp only [slice, Gate.shift, applyGate, tb, testBit_lo_hi k lo hi _ hlo, fl_lo_hi k lo hi _ hlo]

/-- **`shift_qubit_index_(k)` puts the circuit on the qubits `k, k+1, …`**: running the shifted gate list on a
vector of the larger register is running the original list on every slice with the first `k` qubits fixed. -/
theorem run_shift (I : R) (k lo : Nat) (hlo : lo < 2 ^ k) (gs : List Gate) (w : Nat → R) :
    slice k lo (run I (gs.map (Gate.shift k)) w) = run I gs (slice k lo w) := by
  induction gs generalizing w with
  | nil => rfl
  | cons g gs ih =>
    simp only [List.map_cons, run]
    rw [ih, applyGate_shift I k lo hlo]

/-- a gate that fits on `n` qubits, shifted by `k`, fits on `n + k` qubits -/
theorem gateOk_shift (n k : Nat) (g : Gate) (h : gateOk n g = true) : gateOk (n + k) (g.shift k) = true := by
  cases g <;> simp only [gateOk, Gate.shift, Bool.and_eq_true, decide_eq_true_eq, bne_iff_ne, ne_eq] at h ⊢
  all_goals omega

theorem allOk_shift (n k : Nat) (gs : List Gate) (h : gs.all (gateOk n) = true) :
    (gs.map (Gate.shift k)).all (gateOk (n + k)) = true := by
  rw [List.all_eq_true] at h ⊢
  intro g hg
  obtain ⟨g0, hg0, rfl⟩ := List.mem_map.1 hg
  exact gateOk_shift n k g0 (h g0 hg0)

/-- shifting back: `Gate.shift` is injective, index by index -/
theorem shift_zero (g : Gate) : g.shift 0 = g := by cases g <;> rfl

theorem shift_add (a b : Nat) (g : Gate) : (g.shift a).shift b = g.shift (a + b) := by
  cases g <;> simp [Gate.shift, Nat.add_assoc]

theorem le_two_pow_ceilLog2 (K : Nat) : K ≤ 2 ^ ceilLog2 K := by
  unfold ceilLog2
  split
  · simp; omega
  · have := Nat.lt_log2_self (n := K - 1)
    omega

end Numqi.Qec
