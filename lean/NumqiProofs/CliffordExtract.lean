/-
C07: the executed `clifford_array_to_F2` (list-of-lists ℤ[i] matrices of the driver) is sound — bridge Mat ↔ Matrix,
`pauliMat = C08.mat` for every k, Hermiticity of the images and symplecticity of the stored tableau derived.
-/
import NumqiProofs.CliffordDense
import NumqiProofs.CliffordCircuit
namespace Numqi.Clifford
open Numqi Matrix
variable {R : Type} [CommRing R]

/-! ### list-of-lists matrices over ℤ[i] (what the driver executes) as Mathlib matrices over `R` -/

/-- the `2^k × 2^k` matrix of a list-of-lists `Mat` (row-major, qubit 0 most significant) under `ℤ[i] → R` -/
def toMatrix (k : Nat) (I : R) (M : Clifford.Mat) : Matrix (Bits k) (Bits k) R :=
  fun a b => gintTo I (M.get a.toNat b.toNat)

theorem get_map_range (m : Nat) (f : Nat → Nat → GInt) {i j : Nat} (hi : i < m) (hj : j < m) :
    Mat.get ((List.range m).map fun i => (List.range m).map fun j => f i j) i j = f i j := by
  simp [Mat.get, List.getD_eq_getElem?_getD, hi, hj]

theorem gintTo_foldl {I : R} (hI : I * I = -1) (f g : Nat → GInt) (m : Nat) :
    gintTo I ((List.range m).foldl (fun acc t => acc + f t * g t) 0) =
      ∑ t ∈ Finset.range m, gintTo I (f t) * gintTo I (g t) := by
  induction m with
  | zero => simp [gintTo_zero]
  | succ m ih =>
    rw [List.range_succ, List.foldl_append, List.foldl_cons, List.foldl_nil, gintTo_add, gintTo_mul hI, ih,
      Finset.sum_range_succ]

theorem sum_range_eq_sum_bits (k : Nat) (f : Nat → R) :
    ∑ t ∈ Finset.range (2 ^ k), f t = ∑ w : Bits k, f w.toNat := by
  rw [← Fin.sum_univ_eq_sum_range, ← Equiv.sum_comp (Bits.equivFin k).symm]
  rfl

theorem toMatrix_mul {I : R} (hI : I * I = -1) (k : Nat) (A B : Clifford.Mat) :
    toMatrix k I (Mat.mul (2 ^ k) A B) = toMatrix k I A * toMatrix k I B := by
  ext a b
  rw [Matrix.mul_apply]
  simp only [toMatrix, Mat.mul]
  rw [get_map_range _ _ (Bits.toNat_lt a) (Bits.toNat_lt b), gintTo_foldl hI, sum_range_eq_sum_bits]

theorem toMatrix_scale {I : R} (hI : I * I = -1) (k : Nat) (c : GInt) (M : Clifford.Mat)
    (hM : M.length = 2 ^ k ∧ ∀ row ∈ M, row.length = 2 ^ k) :
    toMatrix k I (Mat.scale c M) = gintTo I c • toMatrix k I M := by
  ext a b
  have ha := Bits.toNat_lt a
  have hb := Bits.toNat_lt b
  simp only [toMatrix, Matrix.smul_apply, smul_eq_mul, Mat.scale, Mat.get]
  rw [← gintTo_mul hI]
  congr 1
  have h1 : a.toNat < M.length := by rw [hM.1]; exact ha
  have hrow : (M.getD a.toNat []).length = 2 ^ k := by
    rw [List.getD_eq_getElem?_getD, List.getElem?_eq_getElem h1]; exact hM.2 _ (List.getElem_mem h1)
  have h2 : b.toNat < (M.getD a.toNat []).length := by rw [hrow]; exact hb
  simp [List.getD_eq_getElem?_getD, h1, List.getElem?_eq_getElem h1] at h2 ⊢
  simp [h2]

/-! ### `pauliMat` (bit-mask entries) is C08's matrix, for every `k` -/

/-- **the executed `pauliMat k p` is C08's matrix of the same operator, for every number of qubits** -/
theorem toMatrix_pauliMat {I : R} (hI : I * I = -1) (k : Nat) (p : PauliB) :
    toMatrix k I (pauliMat k p) = PM k I p := by
  ext a b
  simp only [toMatrix, pauliMat]
  rw [get_map_range _ _ (Bits.toNat_lt a) (Bits.toNat_lt b), pauliEnt_toNat, PM_eq_pauliEntG hI]
  rfl

/-! ### what the executed `ofFullMatrix` / `arrayToF2` guarantee, as matrix identities -/

theorem ofFullMatrix_spec {k : Nat} {c : GInt} {W : Clifford.Mat} {p : PauliB} (h : ofFullMatrix k c W = some p) :
    Mat.scale c (pauliMat k p) = W := by
  unfold ofFullMatrix at h
  simp only at h
  split at h
  · cases h
  · split at h
    · cases h
    · split at h
      · rename_i heq
        cases h
        simpa using heq
      · cases h

theorem pauliMat_wf (k : Nat) (p : PauliB) :
    (pauliMat k p).length = 2 ^ k ∧ ∀ row ∈ pauliMat k p, row.length = 2 ^ k := by
  simp only [pauliMat, List.length_map, List.length_range, List.mem_map, List.mem_range]
  refine ⟨trivial, ?_⟩
  rintro row ⟨r, _, rfl⟩
  simp

theorem genPauli_eq_gen {k j : Nat} (hj : j < 2 * k) : genPauli k (j % k) (decide (k ≤ j)) = gen j := by
  simp only [genPauli, gen]
  by_cases h : k ≤ j
  · have : j % k = j - k := by
      have e : j = (j - k) + k := by omega
      conv_lhs => rw [e, Nat.add_mod_right, Nat.mod_eq_of_lt (by omega)]
    simp only [h, decide_true, if_true, this]
    congr 2; omega
  · simp only [h, decide_false, Bool.false_eq_true, if_false]
    rw [Nat.mod_eq_of_lt (by omega)]

/-- **what the executed `clifford_array_to_F2` establishes** (list-of-lists ℤ[i] matrices of the driver, mapped to `R`):
with `A = U`, `D = U†` (entrywise conjugate transpose) and `γ = (U U†)₀₀`: `A·D = γ·1`, and for every generator `j` the stored image
`W_j` satisfies `A · g_j · D = γ · W_j` -/
theorem arrayToF2_matrix {I : R} (hI : I * I = -1) {k : Nat} {U : Clifford.Mat} {T : Tab} (h : arrayToF2 k U = some T) :
    ∃ (imgs : List PauliB), T = tabOfImages k imgs ∧
      toMatrix k I U * toMatrix k I (Mat.dagger (2 ^ k) U) =
        gintTo I ((Mat.mul (2 ^ k) U (Mat.dagger (2 ^ k) U)).get 0 0) • (1 : Matrix (Bits k) (Bits k) R) ∧
      ∀ j, j < 2 * k →
        toMatrix k I U * PM k I (gen j) * toMatrix k I (Mat.dagger (2 ^ k) U) =
          gintTo I ((Mat.mul (2 ^ k) U (Mat.dagger (2 ^ k) U)).get 0 0) • PM k I (imgs.getD j ⟨false, false, 0⟩) := by
  obtain ⟨imgs, _, hT, himg⟩ := arrayToF2_spec h
  refine ⟨imgs, hT, ?_, ?_⟩
  · -- the unitarity assert
    unfold arrayToF2 at h
    simp only at h
    split at h
    · cases h
    · rename_i hc
      simp only [Bool.or_eq_true, beq_iff_eq, bne_iff_ne, ne_eq, not_or, not_not] at hc
      have := congrArg (toMatrix k I) hc.2
      rw [toMatrix_mul hI, toMatrix_scale hI k _ _ (pauliMat_wf k _), toMatrix_pauliMat hI, PM_phase hI] at this
      simpa using this
  · intro j hj
    have := congrArg (toMatrix k I) (ofFullMatrix_spec (himg j hj))
    rw [toMatrix_scale hI k _ _ (pauliMat_wf k _), toMatrix_pauliMat hI, toMatrix_mul hI, toMatrix_mul hI,
      toMatrix_pauliMat hI, genPauli_eq_gen hj] at this
    exact this.symm

/-! ### Hermiticity of the stored images and symplecticity of the stored tableau follow from the matrix identities -/

section star
variable [StarRing R]

theorem gintTo_conj {I : R} (hs : star I = -I) (z : GInt) : gintTo I (conj z) = star (gintTo I z) := by
  show ((z.re : Int) : R) + ((-z.im : Int) : R) * I = star (((z.re : Int) : R) + ((z.im : Int) : R) * I)
  simp [hs]

theorem toMatrix_dagger {I : R} (hs : star I = -I) (k : Nat) (U : Clifford.Mat) :
    toMatrix k I (Mat.dagger (2 ^ k) U) = (toMatrix k I U)ᴴ := by
  ext a b
  simp only [toMatrix, Mat.dagger, Matrix.conjTranspose_apply]
  rw [get_map_range _ _ (Bits.toNat_lt a) (Bits.toNat_lt b), gintTo_conj hs]

end star

theorem dotN_xz (k : Nat) (p : PauliB) : Bits.dotN (toPauli k p).x (toPauli k p).z = cnt k p.v (p.v >>> k) := by
  rw [Bits.dotN_eq_sum, cnt_eq_sum]
  apply Finset.sum_congr rfl; intro i _
  simp only [toPauli, Nat.testBit_shiftRight]

theorem commutes_eq_om (k : Nat) (p q : PauliB) :
    Pauli.commutes (toPauli k p) (toPauli k q) = ((om k p.v q.v + om k q.v p.v) % 2 == 0) := by
  have h1 : Bits.dotN (toPauli k p).x (toPauli k q).z = om k q.v p.v := by
    unfold om; rw [Bits.dotN_eq_sum, cnt_eq_sum]
    apply Finset.sum_congr rfl; intro i _
    simp only [toPauli, Nat.testBit_shiftRight, Bool.and_comm]
  have h2 : Bits.dotN (toPauli k p).z (toPauli k q).x = om k p.v q.v := by
    unfold om; rw [Bits.dotN_eq_sum, cnt_eq_sum]
    apply Finset.sum_congr rfl; intro i _
    simp only [toPauli, Nat.testBit_shiftRight]
  simp only [Pauli.commutes, h1, h2, Nat.add_comm]

theorem gen_commutes {k a b : Nat} (hab : a < b) (hb : b < 2 * k) :
    Pauli.commutes (toPauli k (gen a)) (toPauli k (gen b)) = !decide (b = a + k) := by
  rw [commutes_eq_om]
  simp only [gen, om_pow_pow]
  by_cases h : b = a + k
  · have h1 : ¬ (b < k ∧ a = k + b) := by omega
    have h2 : a < k ∧ b = k + a := by omega
    rw [if_neg h1, if_pos h2]; simp [h]
  · have h1 : ¬ (b < k ∧ a = k + b) := by omega
    have h2 : ¬ (a < k ∧ b = k + a) := by omega
    rw [if_neg h1, if_neg h2]; simp [h]

theorem gen_hermitian (k j : Nat) : (toPauli k (gen j)).hermitianFlag = true := by
  simp only [Pauli.hermitianFlag, dotN_xz]
  have : cnt k (gen j).v ((gen j).v >>> k) = 0 := cnt_pow_self k j
  rw [this]; rfl

section sound
variable [StarRing R]

/-- **`clifford_array_to_F2` as executed is sound.**  Over a commutative star ring with `I² = −1`, `star I = −I`, `1 ≠ −1`, in which
`γ = (U U†)₀₀` is a unit (`ℂ`; the driver's `U` is an integer matrix with `U U† = γ·1`, i.e. `U/√γ` is the unitary handed to numqi):
if `arrayToF2 k U = some T`, then for every phased Pauli `P` on `k` qubits `U · P = apply(P, T) · U`, i.e.
`apply_clifford_on_pauli(P, clifford_array_to_F2(U/√γ))` is the F2 form of `U P U† / γ`. -/
theorem arrayToF2_sound_executed {I : R} (hI : I * I = -1) (hs : star I = -I) (hne : (1 : R) ≠ -1)
    {k : Nat} {U : Clifford.Mat} {T : Tab} (h : arrayToF2 k U = some T)
    (hγ : IsUnit (gintTo I ((Mat.mul (2 ^ k) U (Mat.dagger (2 ^ k) U)).get 0 0)))
    (p : PauliB) (hp : p.v < 4 ^ k) :
    T.colSp = true ∧ toMatrix k I U * PM k I p = PM k I (applyOnPauli p T) * toMatrix k I U := by
  obtain ⟨imgs, hT, hAD, himg⟩ := arrayToF2_matrix hI h
  rw [toMatrix_dagger hs] at hAD himg
  set A := toMatrix k I U with hA
  set γ := gintTo I ((Mat.mul (2 ^ k) U (Mat.dagger (2 ^ k) U)).get 0 0) with hγdef
  obtain ⟨u, hu⟩ := hγ
  have hcancel : ∀ X Y : Matrix (Bits k) (Bits k) R, γ • X = γ • Y → X = Y := by
    intro X Y hXY
    have := congrArg (fun M => (↑u⁻¹ : R) • M) hXY
    simp only [smul_smul, ← hu, Units.inv_mul, one_smul] at this
    exact this
  -- D A = γ
  have hDA : Aᴴ * A = γ • (1 : Matrix (Bits k) (Bits k) R) := by
    have h1 : A * ((↑u⁻¹ : R) • Aᴴ) = 1 := by
      rw [Matrix.mul_smul, hAD, smul_smul, ← hu, Units.inv_mul, one_smul]
    have h2 := mul_eq_one_comm.mp h1
    rw [Matrix.smul_mul] at h2
    have := congrArg (fun M => γ • M) h2
    simp only [smul_smul, ← hu, Units.mul_inv, one_smul] at this
    rw [← hu]; exact this
  -- γ is real
  have hγr : star γ = γ := by
    have h1 := congrArg Matrix.conjTranspose hAD
    rw [Matrix.conjTranspose_mul, Matrix.conjTranspose_conjTranspose, hAD, Matrix.conjTranspose_smul,
      Matrix.conjTranspose_one] at h1
    have := congrFun (congrFun h1 (fun _ => false)) (fun _ => false)
    simpa using this.symm
  -- the intertwining relation on the generators
  have hint : ∀ j, j < 2 * k → A * PM k I (gen j) = PM k I (imgs.getD j ⟨false, false, 0⟩) * A := by
    intro j hj
    apply hcancel
    have := congrArg (fun M => M * A) (himg j hj)
    simp only [Matrix.mul_assoc, hDA, Matrix.mul_smul, Matrix.mul_one, Matrix.smul_mul] at this
    exact this
  -- Hermiticity of the images
  have hherm : ∀ j, j < 2 * k → (imgs.getD j ⟨false, false, 0⟩).s1 =
      (cnt k (imgs.getD j ⟨false, false, 0⟩).v ((imgs.getD j ⟨false, false, 0⟩).v >>> k) % 2 == 1) := by
    intro j hj
    have hg : (PM k I (gen j))ᴴ = PM k I (gen j) := (C08.hermitian_iff hI hs hne _).2 (gen_hermitian k j)
    have h1 := congrArg Matrix.conjTranspose (himg j hj)
    rw [Matrix.conjTranspose_mul, Matrix.conjTranspose_mul, Matrix.conjTranspose_conjTranspose, hg,
      ← Matrix.mul_assoc, himg j hj, Matrix.conjTranspose_smul, hγr] at h1
    have h2 := hcancel _ _ h1
    have h3 := (C08.hermitian_iff hI hs hne _).1 h2.symm
    simp only [Pauli.hermitianFlag, beq_iff_eq, dotN_xz] at h3
    exact h3
  -- symplecticity of the stored tableau
  have hsp : (tabOfImages k imgs).colSp = true := by
    rw [colSp_iff]
    intro a b hab hb
    have hb' : b < 2 * k := hb
    have ha' : a < 2 * k := by omega
    have hca : (tabOfImages k imgs).cols.getD a 0 = (imgs.getD a ⟨false, false, 0⟩).v := by
      simp only [tabOfImages]; rw [SpF2.getD_map_range _ _ _ ha']
    have hcb : (tabOfImages k imgs).cols.getD b 0 = (imgs.getD b ⟨false, false, 0⟩).v := by
      simp only [tabOfImages]; rw [SpF2.getD_map_range _ _ _ hb']
    have hcomm : Pauli.commutes (toPauli k (imgs.getD a ⟨false, false, 0⟩)) (toPauli k (imgs.getD b ⟨false, false, 0⟩)) =
        Pauli.commutes (toPauli k (gen a)) (toPauli k (gen b)) := by
      rw [Bool.eq_iff_iff, C08.commutes_iff hI hne, C08.commutes_iff hI hne]
      have ea := hint a ha'
      have eb := hint b hb'
      simp only [PM] at ea eb
      constructor
      · intro hc
        -- A g_a g_b = b_a b_b A = b_b b_a A = A g_b g_a, cancel A on the left
        have h1 : A * (C08.mat I (toPauli k (gen a)) * C08.mat I (toPauli k (gen b))) =
            A * (C08.mat I (toPauli k (gen b)) * C08.mat I (toPauli k (gen a))) := by
          rw [← Matrix.mul_assoc, ea, Matrix.mul_assoc, eb, ← Matrix.mul_assoc, hc, Matrix.mul_assoc, ← ea,
            ← Matrix.mul_assoc, ← eb, Matrix.mul_assoc]
        apply hcancel
        have := congrArg (fun M => Aᴴ * M) h1
        simp only [← Matrix.mul_assoc, hDA, Matrix.smul_mul, Matrix.one_mul] at this
        exact this
      · intro hc
        have h1 : (C08.mat I (toPauli k (imgs.getD a ⟨false, false, 0⟩)) * C08.mat I (toPauli k (imgs.getD b ⟨false, false, 0⟩))) * A =
            (C08.mat I (toPauli k (imgs.getD b ⟨false, false, 0⟩)) * C08.mat I (toPauli k (imgs.getD a ⟨false, false, 0⟩))) * A := by
          rw [Matrix.mul_assoc, ← eb, ← Matrix.mul_assoc, ← ea, Matrix.mul_assoc, hc, ← Matrix.mul_assoc, eb,
            Matrix.mul_assoc, ea, ← Matrix.mul_assoc]
        apply hcancel
        have := congrArg (fun M => M * Aᴴ) h1
        simp only [Matrix.mul_assoc, hAD, Matrix.mul_smul, Matrix.mul_one] at this
        exact this
    rw [gen_commutes hab hb', commutes_eq_om] at hcomm
    simp only [Tab.zx]
    rw [hca, hcb]
    change (om k _ _ + om k _ _) % 2 = _
    revert hcomm
    generalize om k (imgs.getD a ⟨false, false, 0⟩).v (imgs.getD b ⟨false, false, 0⟩).v = X
    generalize om k (imgs.getD b ⟨false, false, 0⟩).v (imgs.getD a ⟨false, false, 0⟩).v = Y
    intro hcomm
    have hk : (tabOfImages k imgs).n = k := rfl
    rw [hk]
    by_cases hc : b = a + k
    · simp only [hc, decide_true, Bool.not_true, beq_eq_false_iff_ne, ne_eq] at hcomm
      rw [if_pos hc]; omega
    · simp only [hc, decide_false, Bool.not_false, beq_iff_eq] at hcomm
      rw [if_neg hc]; omega
  subst hT
  exact ⟨hsp, tableau_of_images hI imgs hherm hsp A hint p hp⟩

end sound

end Numqi.Clifford
