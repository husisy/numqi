/-
Helper lemmas for C15: the row test of `cgRowsOrthonormal` is symmetric in the two labels, so it suffices to run it on the
pairs `(a, b)` with `a` not after `b` in the list of labels.
-/
import NumqiModel.Lie
import Mathlib.Data.List.Basic

namespace Numqi.Lie

/-- `f a b` for every `a` in the list and every `b` at or after it -/
def allUpper {α : Type} (f : α → α → Bool) : List α → Bool
  | [] => true
  | a :: l => (a :: l).all (f a) && allUpper f l

theorem all_all_of_allUpper {α : Type} (f : α → α → Bool) (hf : ∀ a b, f a b = f b a) (l : List α)
    (h : allUpper f l = true) : (l.all fun a => l.all (f a)) = true := by
  simp only [List.all_eq_true]
  induction l with
  | nil => intro x hx; cases hx
  | cons a l ih =>
    simp only [allUpper, Bool.and_eq_true, List.all_eq_true] at h
    obtain ⟨h1, h2⟩ := h
    intro x hx y hy
    rcases List.mem_cons.mp hx with rfl | hx' <;> rcases List.mem_cons.mp hy with rfl | hy'
    · exact h1 _ hx
    · exact h1 y hy
    · rw [hf]; exact h1 x hx
    · exact ih h2 x hx' y hy'

/-- the test `cgRowsOrthonormal` applies to a pair of labels -/
def cgRowTest (j1 j2 : Nat) (a b : Int × Int) : Bool :=
  if a.2 ≠ b.2 then true
  else
    surdSumIs (((cgRow j1 j2 a.1 a.2).zip (cgRow j1 j2 b.1 b.2)).map fun p => surdNormal (p.1.1 * p.2.1) (p.1.2 * p.2.2))
      (if a = b then 1 else 0)

theorem cgRowTest_comm (j1 j2 : Nat) (a b : Int × Int) : cgRowTest j1 j2 a b = cgRowTest j1 j2 b a := by
  unfold cgRowTest
  rw [List.map_zip_eq_zipWith, List.map_zip_eq_zipWith,
    List.zipWith_comm_of_comm (l := cgRow j1 j2 a.1 a.2) fun x y => by
      simp only [Function.curry]; rw [Int.mul_comm x.1, Rat.mul_comm x.2]]
  simp only [ne_comm (a := a.2), eq_comm (a := a)]

theorem cgRowsOrthonormal_of_allUpper (j1 j2 : Nat) (h : allUpper (cgRowTest j1 j2) (cgLabels j1 j2) = true) :
    cgRowsOrthonormal j1 j2 = true :=
  all_all_of_allUpper _ (cgRowTest_comm j1 j2) _ h

end Numqi.Lie
