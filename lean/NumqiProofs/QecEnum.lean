/-
C19: the model of `quantum_weight_enumerator` computes, for every `w`, the sums over the Pauli strings of
weight exactly `w + 1`; together with the Parseval identity this gives the sum rules for the returned arrays.
-/
import NumqiProofs.QecParseval
import NumqiProofs.QecErrorList
import NumqiProofs.QecKL

namespace Numqi.Qec
variable {R : Type} [CommRing R] [StarRing R]

/-- complex conjugation of the model = `star` -/
@[reducible] def starConj : Conj R := ⟨star⟩

attribute [local instance] starConj

omit [StarRing R] in
theorem sumL_eq (l : List R) : sumL l = l.sum := by
  induction l with
  | nil => rfl
  | cons a l ih => simp only [sumL, List.foldr_cons, List.sum_cons] at *; rw [ih]

omit [StarRing R] in
theorem sum_map_range (f : Nat → R) (N : Nat) : ((List.range N).map f).sum = ∑ i ∈ Finset.range N, f i := by
  induction N with
  | zero => simp
  | succ N ih => rw [List.range_succ, List.map_append, List.sum_append, ih, Finset.sum_range_succ]; simp

theorem ipL_eq_ip (n : Nat) (u v : Nat → R) : ipL n u v = ip n u v := by
  unfold ipL ip dotL vecL
  rw [sumL_eq, List.zipWith_map_left, List.zipWith_map_right, List.zipWith_self, sum_map_range]
  rfl

/-- `enumTerm` in terms of the matrix elements `matEl a b = ⟨c_a|P|c_b⟩` -/
theorem enumTerm_def (I : R) (n : Nat) (cw : List (Nat → R)) (p : MP) :
    enumTerm I n cw p
      = (star (sumL (cw.map fun a => matEl I n p a a)) * sumL (cw.map fun a => matEl I n p a a),
         sumL (cw.map fun a => sumL (cw.map fun b => star (matEl I n p a b) * matEl I n p a b))) := by
  unfold enumTerm
  simp only [List.zip_map', List.map_map]
  rfl

theorem matEl_eq (I : R) (n : Nat) (p : MP) (u v : Nat → R) : matEl I n p u v = ip n u (pauliAct I p v) := by
  unfold matEl; rw [ipL_eq_ip]

theorem matEl_phase {I : R} (n : Nat) (p : MP) (u v : Nat → R) :
    matEl I n p u v = ipow I p.k * matEl I n ⟨0, p.x, p.z⟩ u v := by
  rw [matEl_eq, matEl_eq]
  have : pauliAct I p v = fun i => ipow I p.k * pauliAct I ⟨0, p.x, p.z⟩ v i := funext (pauliAct_phase p v)
  rw [this, ip_smul_right]

section phase
variable {I : R} (hI : I * I = -1) (hs : star I = -I)
include hI hs

theorem star_ipow_mul_star (k : Nat) (a b : R) : star (ipow I k * a) * (ipow I k * b) = star a * b := by
  rw [star_mul]
  calc star a * star (ipow I k) * (ipow I k * b) = (star (ipow I k) * ipow I k) * (star a * b) := by ring
    _ = _ := by rw [star_ipow_mul hI hs, one_mul]

/-- the increments do not depend on the phase of the operator -/
theorem enumTerm_phase (n : Nat) (cw : List (Nat → R)) (p : MP) :
    enumTerm I n cw p = enumTerm I n cw ⟨0, p.x, p.z⟩ := by
  rw [enumTerm_def, enumTerm_def]
  have e1 : (cw.map fun a => matEl I n p a a) = cw.map fun a => ipow I p.k * matEl I n ⟨0, p.x, p.z⟩ a a := by
    apply List.map_congr_left; intro a _; exact matEl_phase n p a a
  have e2 : sumL (cw.map fun a => ipow I p.k * matEl I n ⟨0, p.x, p.z⟩ a a)
      = ipow I p.k * sumL (cw.map fun a => matEl I n ⟨0, p.x, p.z⟩ a a) := by
    rw [sumL_eq, sumL_eq, List.sum_map_mul_left]
  refine Prod.ext ?_ ?_
  · simp only [e1, e2]
    exact star_ipow_mul_star hI hs _ _ _
  · simp only
    congr 1
    apply List.map_congr_left; intro a _
    congr 1
    apply List.map_congr_left; intro b _
    simp only [matEl_phase n p a b]
    exact star_ipow_mul_star hI hs _ _ _

end phase

/-! ### strings of symbols -/

omit [StarRing R] in
theorem mem_allSyms (n : Nat) (s : List Nat) : s ∈ allSyms n ↔ s.length = n ∧ ∀ x ∈ s, x < 4 := by
  induction n generalizing s with
  | zero => simp only [allSyms, List.mem_singleton, List.length_eq_zero_iff]; constructor
            · intro h; subst h; simp
            · intro h; exact h.1
  | succ n ih =>
    simp only [allSyms, List.mem_flatMap, List.mem_map, ih]
    constructor
    · rintro ⟨a, ha, t, ⟨hl, ht⟩, rfl⟩
      refine ⟨by simp [hl], ?_⟩
      intro x hx
      rcases List.mem_cons.1 hx with rfl | hx
      · have : x = 0 ∨ x = 1 ∨ x = 2 ∨ x = 3 := by simpa using ha
        omega
      · exact ht x hx
    · rintro ⟨hl, hs⟩
      cases s with
      | nil => simp at hl
      | cons a t =>
        have ha := hs a (List.mem_cons_self ..)
        refine ⟨a, ?_, t, ⟨by simpa using hl, fun x hx => hs x (List.mem_cons_of_mem _ hx)⟩, rfl⟩
        have : a = 0 ∨ a = 1 ∨ a = 2 ∨ a = 3 := by omega
        simpa using this

omit [StarRing R] in
theorem nodup_allSyms (n : Nat) : (allSyms n).Nodup := by
  induction n with
  | zero => simp [allSyms]
  | succ n ih =>
    simp only [allSyms]
    rw [List.nodup_flatMap]
    refine ⟨fun a _ => ih.map (fun x y h => by simpa using h), ?_⟩
    have : [0, 1, 2, 3].Pairwise (fun a b : Nat => a ≠ b) := by decide
    refine this.imp ?_
    intro a b hab
    simp only [Function.onFun, List.disjoint_left, List.mem_map]
    rintro s ⟨r, _, rfl⟩ ⟨r', _, h⟩
    simp only [List.cons.injEq] at h
    exact hab h.1.symm

omit [StarRing R] in
theorem ofSyms_testBit (s : List Nat) (j : Nat) :
    (MP.ofSyms s).x.testBit j = (s.getD j 0 == 1 || s.getD j 0 == 2)
    ∧ (MP.ofSyms s).z.testBit j = (s.getD j 0 == 2 || s.getD j 0 == 3) := by
  unfold MP.ofSyms
  rw [ofSparse_x, ofSparse_z,
    any_eq_val _ s List.nodup_range (fun v => v == 1 || v == 2) rfl,
    any_eq_val _ s List.nodup_range (fun v => v == 2 || v == 3) rfl, val_range_zip]
  exact ⟨rfl, rfl⟩

omit [StarRing R] in
theorem ofSyms_lt (s : List Nat) : (MP.ofSyms s).x < 2 ^ s.length ∧ (MP.ofSyms s).z < 2 ^ s.length := by
  constructor <;>
  · apply Nat.lt_pow_two_of_testBit
    intro i hi
    have := ofSyms_testBit s i
    have h0 : s.getD i 0 = 0 := by
      rw [List.getD_eq_getElem?_getD, List.getElem?_eq_none hi]; rfl
    first | (rw [this.1, h0]; rfl) | (rw [this.2, h0]; rfl)

omit [StarRing R] in
/-- string → masks → string -/
theorem syms_ofSyms (n : Nat) (s : List Nat) (hl : s.length = n) (h4 : ∀ x ∈ s, x < 4) :
    MP.syms n ⟨0, (MP.ofSyms s).x, (MP.ofSyms s).z⟩ = s := by
  subst hl
  apply List.ext_getElem
  · simp [MP.syms]
  · intro i h1 h2
    simp only [MP.syms, List.getElem_map, List.getElem_range, MP.sym]
    have ht := ofSyms_testBit s i
    rw [ht.1, ht.2]
    have hv : s.getD i 0 = s[i] := by
      rw [List.getD_eq_getElem?_getD, List.getElem?_eq_getElem h2]; rfl
    have := h4 s[i] (List.getElem_mem h2)
    rw [hv]
    generalize s[i] = v at *
    interval_cases v <;> rfl

omit [StarRing R] in
theorem syms_mem (n : Nat) (p : MP) : MP.syms n p ∈ allSyms n := by
  rw [mem_allSyms]
  refine ⟨by simp [MP.syms], ?_⟩
  intro x hx
  simp only [MP.syms, List.mem_map] at hx
  obtain ⟨q, _, rfl⟩ := hx
  unfold MP.sym
  split <;> omega

omit [StarRing R] in
/-- masks → string → masks -/
theorem ofSyms_syms (n x z : Nat) (hx : x < 2 ^ n) (hz : z < 2 ^ n) :
    (MP.ofSyms (MP.syms n ⟨0, x, z⟩)).x = x ∧ (MP.ofSyms (MP.syms n ⟨0, x, z⟩)).z = z := by
  have hget : ∀ j, (MP.syms n ⟨0, x, z⟩).getD j 0 = if j < n then MP.sym ⟨0, x, z⟩ j else 0 := by
    intro j
    by_cases hj : j < n
    · simp [MP.syms, List.getD_eq_getElem?_getD, hj]
    · simp [MP.syms, List.getD_eq_getElem?_getD, hj]
  constructor
  · apply Nat.eq_of_testBit_eq; intro j
    rw [(ofSyms_testBit _ j).1, hget]
    by_cases hj : j < n
    · simp only [hj, if_true, MP.sym]
      cases x.testBit j <;> cases z.testBit j <;> rfl
    · have : x.testBit j = false :=
        Nat.testBit_lt_two_pow (lt_of_lt_of_le hx (Nat.pow_le_pow_right (by norm_num) (by omega)))
      simp [hj, this]
  · apply Nat.eq_of_testBit_eq; intro j
    rw [(ofSyms_testBit _ j).2, hget]
    by_cases hj : j < n
    · simp only [hj, if_true, MP.sym]
      cases x.testBit j <;> cases z.testBit j <;> rfl
    · have : z.testBit j = false :=
        Nat.testBit_lt_two_pow (lt_of_lt_of_le hz (Nat.pow_le_pow_right (by norm_num) (by omega)))
      simp [hj, this]

/-! ### the operators of one weight -/

/-- the (qubit, gate) lists of weight `w + 1`, in generation order -/
def levelErr (n w : Nat) : List (List (Nat × Nat)) :=
  (combs (List.range n) (w + 1)).flatMap fun qs => (prods (w + 1)).map fun gs => qs.zip gs

omit [StarRing R] in
theorem enumOps_eq (n w : Nat) : enumOps n w = (levelErr n w).map MP.ofSparse := by
  unfold enumOps levelErr
  rw [List.map_flatMap]
  congr 1; funext qs
  rw [List.map_map]; rfl

omit [StarRing R] in
theorem errorList_eq (n d : Nat) : errorList n d = (List.range (d - 1)).flatMap (levelErr n) := rfl

omit [StarRing R] in
theorem errorList_succ (n w : Nat) : errorList n (w + 2) = errorList n (w + 1) ++ levelErr n w := by
  rw [errorList_eq, errorList_eq]
  show (List.range (w + 1)).flatMap (levelErr n) = (List.range w).flatMap (levelErr n) ++ levelErr n w
  rw [List.range_succ, List.flatMap_append]
  simp

omit [StarRing R] in
theorem mem_levelErr (n w : Nat) (e : List (Nat × Nat)) :
    e ∈ levelErr n w ↔ ∃ qs gs : List Nat, qs.Sublist (List.range n) ∧ qs.length = w + 1 ∧
      gs.length = w + 1 ∧ (∀ g ∈ gs, g = 1 ∨ g = 2 ∨ g = 3) ∧ e = qs.zip gs := by
  simp only [levelErr, List.mem_flatMap, List.mem_map, mem_combs, mem_prods]
  constructor
  · rintro ⟨qs, ⟨hs, hl⟩, gs, ⟨hgl, hg⟩, rfl⟩
    exact ⟨qs, gs, hs, hl, hgl, hg, rfl⟩
  · rintro ⟨qs, gs, hs, hl, hgl, hg, rfl⟩
    exact ⟨qs, ⟨hs, hl⟩, gs, ⟨hgl, hg⟩, rfl⟩

omit [StarRing R] in
theorem levelErr_sub (n w : Nat) (e : List (Nat × Nat)) (h : e ∈ levelErr n w) : e ∈ errorList n (w + 2) := by
  rw [errorList_succ]; exact List.mem_append_right _ h

omit [StarRing R] in
/-- the strings of level `w` are exactly the strings of weight `w + 1`, each once -/
theorem level_strings (n w : Nat) :
    ((levelErr n w).map (sparseToSyms n)).Nodup ∧
    ((levelErr n w).map (sparseToSyms n)).toFinset = (allSyms n).toFinset.filter (fun s => symWeight s = w + 1) := by
  constructor
  · have := errorList_nodup n (w + 2)
    rw [errorList_succ, List.map_append] at this
    exact (List.nodup_append.1 this).2.1
  · ext s
    simp only [List.mem_toFinset, Finset.mem_filter, List.mem_map, mem_allSyms]
    constructor
    · rintro ⟨e, he, rfl⟩
      rw [mem_levelErr] at he
      obtain ⟨qs, gs, hs, hl, hgl, hg, rfl⟩ := he
      obtain ⟨a, b, c⟩ := syms_of_mem n qs gs hs (by omega) hg
      exact ⟨⟨a, b⟩, by omega⟩
    · rintro ⟨⟨hl, h4⟩, hw⟩
      have hm := errorList_complete n (w + 2) s hl h4 (by omega) (by omega)
      rw [List.mem_map] at hm
      obtain ⟨e, he, rfl⟩ := hm
      refine ⟨e, ?_, rfl⟩
      rw [mem_errorList] at he
      obtain ⟨qs, gs, hs, h1, h2, hgl, hg, rfl⟩ := he
      obtain ⟨_, _, c⟩ := syms_of_mem n qs gs hs hgl hg
      rw [mem_levelErr]
      exact ⟨qs, gs, hs, by omega, by omega, hg, rfl⟩

/-- **`retA[w]`, `retB[w]` (before the final division) are the sums over the Pauli strings of weight exactly
`w + 1`** of `|tr(P Π)|²` resp. `Σ_ab |⟨c_a|P|c_b⟩|²`. -/
theorem enumLevel_eq_strings (I : R) (n : Nat) (cw : List (Nat → R)) (w : Nat) :
    (enumLevel I n cw w).1
        = ∑ s ∈ (allSyms n).toFinset.filter (fun s => symWeight s = w + 1), (enumTerm I n cw (MP.ofSyms s)).1
    ∧ (enumLevel I n cw w).2
        = ∑ s ∈ (allSyms n).toFinset.filter (fun s => symWeight s = w + 1), (enumTerm I n cw (MP.ofSyms s)).2 := by
  obtain ⟨hnd, hset⟩ := level_strings n w
  have gen : ∀ g : MP → R,
      ((enumOps n w).map g).sum = ∑ s ∈ (allSyms n).toFinset.filter (fun s => symWeight s = w + 1), g (MP.ofSyms s) := by
    intro g
    rw [← hset, List.sum_toFinset _ hnd, enumOps_eq, List.map_map, List.map_map]
    congr 1
    apply List.map_congr_left
    intro e he
    simp only [Function.comp]
    rw [ofSparse_eq_ofSyms n (w + 2) e (levelErr_sub n w e he)]
  constructor
  · show sumL (((enumOps n w).map (enumTerm I n cw)).map (·.1)) = _
    rw [sumL_eq, List.map_map]
    exact gen (fun p => (enumTerm I n cw p).1)
  · show sumL (((enumOps n w).map (enumTerm I n cw)).map (·.2)) = _
    rw [sumL_eq, List.map_map]
    exact gen (fun p => (enumTerm I n cw p).2)

/-! ### totals -/

omit [StarRing R] in
theorem symWeight_le (s : List Nat) : symWeight s ≤ s.length := List.length_filter_le _ _

omit [StarRing R] in
theorem ofSyms_zeros (n : Nat) : MP.ofSyms (List.replicate n 0) = MP.one := by
  rw [MP.ofSyms, ← ofSparse_filter,
    List.filter_eq_nil_iff.2 fun p hp => by simp [(List.mem_replicate.1 (List.of_mem_zip hp).2).2]]
  rfl

omit [StarRing R] in
theorem weight_zero_strings (n : Nat) :
    (allSyms n).toFinset.filter (fun s => symWeight s = 0) = {List.replicate n 0} := by
  ext s
  simp only [Finset.mem_filter, List.mem_toFinset, mem_allSyms, Finset.mem_singleton]
  constructor
  · rintro ⟨⟨hl, _⟩, hw⟩
    rw [List.eq_replicate_iff]
    refine ⟨hl, fun x hx => ?_⟩
    unfold symWeight at hw
    rw [List.length_eq_zero_iff, List.filter_eq_nil_iff] at hw
    have := hw x hx
    simpa using this
  · rintro rfl
    refine ⟨⟨by simp, fun x hx => by rw [List.mem_replicate] at hx; omega⟩, ?_⟩
    unfold symWeight
    rw [List.length_eq_zero_iff, List.filter_eq_nil_iff]
    intro x hx; rw [List.mem_replicate] at hx; simp [hx.2]

/-- all weights together: `Σ_w level_w + (identity term) = Σ over all strings` -/
theorem weightEnum_total (I : R) (n : Nat) (cw : List (Nat → R)) :
    sumL ((weightEnum I n cw).map (·.1)) + (enumTerm I n cw MP.one).1
        = ∑ s ∈ (allSyms n).toFinset, (enumTerm I n cw (MP.ofSyms s)).1
    ∧ sumL ((weightEnum I n cw).map (·.2)) + (enumTerm I n cw MP.one).2
        = ∑ s ∈ (allSyms n).toFinset, (enumTerm I n cw (MP.ofSyms s)).2 := by
  have hmaps : ∀ s ∈ (allSyms n).toFinset, symWeight s ∈ Finset.range (n + 1) := by
    intro s hs
    rw [List.mem_toFinset, mem_allSyms] at hs
    rw [Finset.mem_range]
    have := symWeight_le s
    omega
  have gen : ∀ g : MP → R,
      ∑ w ∈ Finset.range n, ∑ s ∈ (allSyms n).toFinset.filter (fun s => symWeight s = w + 1), g (MP.ofSyms s) + g MP.one
        = ∑ s ∈ (allSyms n).toFinset, g (MP.ofSyms s) := by
    intro g
    rw [← Finset.sum_fiberwise_of_maps_to hmaps (fun s => g (MP.ofSyms s)), Finset.sum_range_succ', weight_zero_strings]
    simp [ofSyms_zeros]
  constructor
  · rw [sumL_eq, weightEnum, List.map_map, sum_map_range]
    rw [← gen (fun p => (enumTerm I n cw p).1)]
    congr 1
    apply Finset.sum_congr rfl; intro w _
    exact (enumLevel_eq_strings I n cw w).1
  · rw [sumL_eq, weightEnum, List.map_map, sum_map_range]
    rw [← gen (fun p => (enumTerm I n cw p).2)]
    congr 1
    apply Finset.sum_congr rfl; intro w _
    exact (enumLevel_eq_strings I n cw w).2

omit [StarRing R] in
/-- strings ↔ mask pairs: a sum over all strings of a phase-independent quantity is the double sum over masks -/
theorem sum_strings_eq_masks (n : Nat) (g : MP → R) (hg : ∀ p : MP, g p = g ⟨0, p.x, p.z⟩) :
    ∑ s ∈ (allSyms n).toFinset, g (MP.ofSyms s)
      = ∑ x ∈ Finset.range (2 ^ n), ∑ z ∈ Finset.range (2 ^ n), g ⟨0, x, z⟩ := by
  rw [← Finset.sum_product']
  apply Finset.sum_nbij' (fun s => ((MP.ofSyms s).x, (MP.ofSyms s).z)) (fun xz => MP.syms n ⟨0, xz.1, xz.2⟩)
  · intro s hs
    rw [List.mem_toFinset, mem_allSyms] at hs
    have := ofSyms_lt s
    rw [hs.1] at this
    simp [Finset.mem_product, this.1, this.2]
  · intro xz _
    rw [List.mem_toFinset]; exact syms_mem n _
  · intro s hs
    rw [List.mem_toFinset, mem_allSyms] at hs
    exact syms_ofSyms n s hs.1 hs.2
  · intro xz hxz
    simp only [Finset.mem_product, Finset.mem_range] at hxz
    obtain ⟨a, b⟩ := ofSyms_syms n xz.1 xz.2 hxz.1 hxz.2
    exact Prod.ext a b
  · intro s _
    exact hg _

/-! ### sum rules for the returned arrays -/

omit [StarRing R] in
theorem sumL_map_range (K : Nat) (c : Nat → Nat → R) (f : (Nat → R) → R) :
    sumL (((List.range K).map c).map f) = ∑ a ∈ Finset.range K, f (c a) := by
  rw [sumL_eq, List.map_map, sum_map_range]; rfl

/-- the two increments for the operator `X^x Z^z`, as finite sums -/
theorem enumTerm_eq (I : R) (n K : Nat) (c : Nat → Nat → R) (p : MP) :
    enumTerm I n ((List.range K).map c) p
      = (star (∑ a ∈ Finset.range K, ip n (c a) (pauliAct I p (c a))) * (∑ a ∈ Finset.range K, ip n (c a) (pauliAct I p (c a))),
         ∑ a ∈ Finset.range K, ∑ b ∈ Finset.range K,
            star (ip n (c a) (pauliAct I p (c b))) * ip n (c a) (pauliAct I p (c b))) := by
  rw [enumTerm_def]
  simp only [sumL_map_range, matEl_eq]

/-- **Sum rules for the arrays returned by the model of `quantum_weight_enumerator`**, for `K` pairwise
orthogonal vectors of squared norm `N` on `n ≤ 32` qubits: with the weight-0 (identity) terms that the
implementation leaves out, `Σ_w retA'[w] + A'_0 = 2^n K N²`, `Σ_w retB'[w] + B'_0 = 2^n K² N²`, and
`A'_0 = |K N|²`, `B'_0 = K |N|²`  (so, after the division by `K²` resp. `K` and for `N = 1`:
`A_0 = B_0 = 1`, `Σ_{j≥1} A_j = 2^n/K - 1`, `Σ_{j≥1} B_j = 2^n K - 1`). -/
theorem weightEnum_sum_rules {I : R} (hI : I * I = -1) (hs : star I = -I) (h2 : ∀ a b : R, 2 * a = 2 * b → a = b)
    (n : Nat) (hn : n ≤ 32) (K : Nat) (N : R) (c : Nat → Nat → R)
    (horth : ∀ a < K, ∀ b < K, ip n (c a) (c b) = if a = b then N else 0) :
    sumL ((weightEnum I n ((List.range K).map c)).map (·.1)) + (enumTerm I n ((List.range K).map c) MP.one).1
        = 2 ^ n * (K * (N * N))
    ∧ sumL ((weightEnum I n ((List.range K).map c)).map (·.2)) + (enumTerm I n ((List.range K).map c) MP.one).2
        = 2 ^ n * (K * K * (N * N))
    ∧ enumTerm I n ((List.range K).map c) MP.one = (star (K * N) * (K * N), K * (star N * N)) := by
  obtain ⟨t1, t2⟩ := weightEnum_total I n ((List.range K).map c)
  obtain ⟨r1, r2⟩ := enumerator_sum_rules hI h2 n hn K N c horth
  refine ⟨?_, ?_, ?_⟩
  · rw [t1, sum_strings_eq_masks n (fun p => (enumTerm I n ((List.range K).map c) p).1)
      (fun p => by simp only [enumTerm_phase hI hs n _ p]), ← r1]
    apply Finset.sum_congr rfl; intro x _
    apply Finset.sum_congr rfl; intro z _
    rw [enumTerm_eq]
  · rw [t2, sum_strings_eq_masks n (fun p => (enumTerm I n ((List.range K).map c) p).2)
      (fun p => by simp only [enumTerm_phase hI hs n _ p]), ← r2]
    apply Finset.sum_congr rfl; intro x _
    apply Finset.sum_congr rfl; intro z _
    rw [enumTerm_eq]
  · rw [enumTerm_eq]
    simp only [pauliAct_one]
    have e1 : ∑ a ∈ Finset.range K, ip n (c a) (c a) = K * N := by
      rw [Finset.sum_congr rfl (fun a ha => by rw [horth a (Finset.mem_range.1 ha) a (Finset.mem_range.1 ha), if_pos rfl])]
      simp
    have e2 : ∀ a ∈ Finset.range K, ∑ b ∈ Finset.range K, star (ip n (c a) (c b)) * ip n (c a) (c b) = star N * N := by
      intro a ha
      rw [Finset.sum_eq_single a]
      · rw [horth a (Finset.mem_range.1 ha) a (Finset.mem_range.1 ha), if_pos rfl]
      · intro b hb hba
        rw [horth a (Finset.mem_range.1 ha) b (Finset.mem_range.1 hb), if_neg (Ne.symm hba)]; simp
      · intro h; exact absurd ha h
    rw [e1, Finset.sum_congr rfl e2]
    simp

end Numqi.Qec
