/-
Nuclear norm in dual (sup) form, product row/column vectors of a realigned separable state and their norms.
Helper lemmas for `sep_realign_nuc` in `NumqiProps/C05.lean`.
-/
import NumqiProofs.EntangleSep
import Mathlib.Analysis.Complex.Norm

namespace Numqi.Ent
open scoped ComplexOrder Kronecker
open Matrix

/-- the factor attached to tensor axis `m` of `ρ.reshape(dim+dim)` for a product vector with local vectors `w`:
row axes (`m < n`) carry `w_m`, column axes (`m ≥ n`) carry the conjugate of `w_{m-n}` -/
def axisVec (n : Nat) (w : Nat → Nat → ℂ) (m v : Nat) : ℂ := if m < n then w m v else star (w (m - n) v)

/-- product of the axis factors along `axes` at the multi-index `o` -/
def rowVec (n : Nat) (w : Nat → Nat → ℂ) (axes o : List Nat) : ℂ := (List.zipWith (axisVec n w) axes o).prod

theorem inShape_of_getD {l s : List Nat} (hl : l.length = s.length) (h : ∀ i < s.length, l.getD i 0 < s.getD i 1) : InShape l s := by
  induction s generalizing l with
  | nil => cases l <;> simp_all
  | cons a s ih =>
    cases l with
    | nil => simp at hl
    | cons b l =>
      refine List.Forall₂.cons (by simpa using h 0 (by simp)) (ih (by simpa using hl) fun i hi => ?_)
      simpa using h (i + 1) (by simpa using hi)

theorem map_transposeIn {perm o : List Nat} (hnd : perm.Nodup) (hlt : ∀ p ∈ perm, p < perm.length) (ho : o.length = perm.length) :
    perm.map ((transposeIn perm o).getD · 0) = o := by
  apply List.ext_getElem
  · simp [ho]
  · intro m h1 h2
    have hm : m < perm.length := by simpa using h1
    simp only [List.getElem_map]
    rw [transposeIn_getD perm o hnd m hm (hlt _ (List.getElem_mem hm)), ← List.getElem_eq_getD (h := h2)]

theorem transposeIn_inShape {shape perm o : List Nat} (hp : perm.Perm (List.range shape.length))
    (ho : InShape o (permShape shape perm)) : InShape (transposeIn perm o) shape := by
  have hlen : perm.length = shape.length := by simpa using hp.length_eq
  apply inShape_of_getD
  · simp [transposeIn, hlen]
  · intro ax hax
    have hmem : ax ∈ perm := hp.mem_iff.2 (List.mem_range.2 hax)
    have hidx : perm.idxOf ax < perm.length := List.idxOf_lt_length_of_mem hmem
    have h1 := ho.getD_lt (perm.idxOf ax) (by simpa [permShape] using hidx)
    have h2 : (permShape shape perm).getD (perm.idxOf ax) 1 = shape.getD ax 1 := by
      simp [permShape, List.getD_eq_getElem?_getD, List.getElem?_map, List.getElem?_eq_getElem hidx, List.getElem_idxOf]
    rw [h2] at h1
    have h3 : (transposeIn perm o).getD ax 0 = o.getD (perm.idxOf ax) 0 := by
      simp [transposeIn, List.getD_eq_getElem?_getD, List.getElem?_map, List.getElem?_range (hlen ▸ hax)]
    rw [h3]; exact h1

theorem zipWith_map_self {α β γ : Type} (f : α → β → γ) (g : α → β) (l : List α) : List.zipWith f l (l.map g) = l.map fun a => f a (g a) := by
  induction l with
  | nil => rfl
  | cons a l ih => simp [ih]


/-- nuclear norm `≤ c`, in the dual (sup) form `sup { |tr(Wᴴ M)| : WᴴW ≤ 1 }` (Mathlib has no Schatten norms; the
identification of this sup with the sum of singular values is the contract of `np.linalg.norm(ord='nuc')`) -/
def NucLe {m n : Type} [Fintype m] [Fintype n] [DecidableEq n] (M : Matrix m n ℂ) (c : ℝ) : Prop :=
  ∀ W : Matrix m n ℂ, (1 - Wᴴ * W).PosSemidef → ‖(Wᴴ * M).trace‖ ≤ c

/-- a contraction does not increase the Euclidean norm -/
theorem sum_norm_sq_mulVec_le {m n : Type} [Fintype m] [Fintype n] [DecidableEq n] (W : Matrix m n ℂ)
    (hW : (1 - Wᴴ * W).PosSemidef) (v : n → ℂ) : ∑ r, ‖(W *ᵥ v) r‖ ^ 2 ≤ ∑ j, ‖v j‖ ^ 2 := by
  have h := hW.dotProduct_mulVec_nonneg v
  rw [sub_mulVec, dotProduct_sub, one_mulVec, sub_nonneg] at h
  have e : star v ⬝ᵥ ((Wᴴ * W) *ᵥ v) = star (W *ᵥ v) ⬝ᵥ (W *ᵥ v) := by
    rw [← mulVec_mulVec, star_mulVec, dotProduct_mulVec]
  rw [e, sum_star_mul_self_eq, sum_star_mul_self_eq] at h
  exact_mod_cast h

theorem nucLe_rankOne {m n : Type} [Fintype m] [Fintype n] [DecidableEq n] (u : m → ℂ) (v : n → ℂ)
    (hu : ∑ i, ‖u i‖ ^ 2 ≤ 1) (hv : ∑ j, ‖v j‖ ^ 2 ≤ 1) : NucLe (vecMulVec u (star v)) 1 := by
  intro W hW
  have htr : (Wᴴ * vecMulVec u (star v)).trace = star (star u ⬝ᵥ (W *ᵥ v)) := by
    simp only [Matrix.trace, Matrix.diag, Matrix.mul_apply, vecMulVec_apply, conjTranspose_apply, dotProduct, mulVec,
      Pi.star_apply, star_sum, star_mul', star_star, Finset.mul_sum]
    rw [Finset.sum_comm]
    refine Finset.sum_congr rfl fun r _ => Finset.sum_congr rfl fun c _ => by ring
  rw [htr, norm_star]
  have h1 := norm_dotProduct_sq_le u (W *ᵥ v)
  have h2 := sum_norm_sq_mulVec_le W hW v
  have h3 : 0 ≤ ∑ i, ‖u i‖ ^ 2 := Finset.sum_nonneg fun _ _ => by positivity
  have h4 : 0 ≤ ∑ r, ‖(W *ᵥ v) r‖ ^ 2 := Finset.sum_nonneg fun _ _ => by positivity
  have : ‖star u ⬝ᵥ (W *ᵥ v)‖ ^ 2 ≤ 1 := by
    calc ‖star u ⬝ᵥ (W *ᵥ v)‖ ^ 2 ≤ (∑ i, ‖u i‖ ^ 2) * (∑ r, ‖(W *ᵥ v) r‖ ^ 2) := h1
      _ ≤ 1 * 1 := by gcongr; exact h2.trans hv
      _ = 1 := by norm_num
  have hn := norm_nonneg (star u ⬝ᵥ (W *ᵥ v))
  nlinarith

theorem nucLe_mixture {m n K : Type} [Fintype m] [Fintype n] [DecidableEq n] [Fintype K] (p : K → ℝ) (hp : ∀ k, 0 ≤ p k)
    (hsum : ∑ k, p k = 1) (M : K → Matrix m n ℂ) (hM : ∀ k, NucLe (M k) 1) : NucLe (∑ k, (p k : ℂ) • M k) 1 := by
  intro W hW
  rw [Matrix.mul_sum, Matrix.trace_sum]
  calc ‖∑ k, (Wᴴ * ((p k : ℂ) • M k)).trace‖ ≤ ∑ k, ‖(Wᴴ * ((p k : ℂ) • M k)).trace‖ := norm_sum_le _ _
    _ = ∑ k, p k * ‖(Wᴴ * M k).trace‖ := by
        refine Finset.sum_congr rfl fun k _ => ?_
        rw [Matrix.mul_smul, Matrix.trace_smul, smul_eq_mul, norm_mul, Complex.norm_real, Real.norm_of_nonneg (hp k)]
    _ ≤ ∑ k, p k * 1 := Finset.sum_le_sum fun k _ => mul_le_mul_of_nonneg_left (hM k W hW) (hp k)
    _ = 1 := by simp [hsum]

theorem sum_range_mul_divmod {M : Type} [AddCommMonoid M] (a P : Nat) (F : Nat → Nat → M) :
    ∑ r ∈ Finset.range (a * P), F (r / P) (r % P) = ∑ i ∈ Finset.range a, ∑ j ∈ Finset.range P, F i j := by
  rcases Nat.eq_zero_or_pos P with rfl | hP
  · simp
  induction a with
  | zero => simp
  | succ a ih =>
    rw [Nat.succ_mul, Finset.sum_range_add, ih, Finset.sum_range_succ]
    congr 1
    refine Finset.sum_congr rfl fun j hj => ?_
    have hj' := Finset.mem_range.1 hj
    have h1 : (a * P + j) / P = a := by
      rw [Nat.add_comm, Nat.add_mul_div_right _ _ hP, Nat.div_eq_of_lt hj', Nat.zero_add]
    have h2 : (a * P + j) % P = j := by
      rw [Nat.add_comm, Nat.add_mul_mod_self_right, Nat.mod_eq_of_lt hj']
    rw [h1, h2]

theorem sum_rowVec_sq (n : Nat) (w : Nat → Nat → ℂ) (shape axes : List Nat) :
    ∑ r ∈ Finset.range (prodL (permShape shape axes)), ‖rowVec n w axes (unflat (permShape shape axes) r)‖ ^ 2
      = (axes.map fun m => ∑ v ∈ Finset.range (shape.getD m 1), ‖axisVec n w m v‖ ^ 2).prod := by
  induction axes with
  | nil => simp [permShape, prodL, rowVec, unflat]
  | cons m rest ih =>
    have hps : permShape shape (m :: rest) = shape.getD m 1 :: permShape shape rest := rfl
    rw [hps]
    simp only [prodL, unflat, rowVec, List.zipWith_cons_cons, List.prod_cons, norm_mul, mul_pow, List.map_cons]
    rw [sum_range_mul_divmod (shape.getD m 1) (prodL (permShape shape rest))
      (fun i j => ‖axisVec n w m i‖ ^ 2 * ‖(List.zipWith (axisVec n w) rest (unflat (permShape shape rest) j)).prod‖ ^ 2)]
    rw [← ih, Finset.sum_mul_sum]
    rfl


theorem axis_norm_one {dim : List Nat} (w : Nat → Nat → ℂ) (hw : ∀ j, j < dim.length → ∑ v ∈ Finset.range (dim.getD j 1), ‖w j v‖ ^ 2 = 1)
    {m : Nat} (hm : m < (dim ++ dim).length) :
    ∑ v ∈ Finset.range ((dim ++ dim).getD m 1), ‖axisVec dim.length w m v‖ ^ 2 = 1 := by
  by_cases h : m < dim.length
  · have e : (dim ++ dim).getD m 1 = dim.getD m 1 := by
      simp [List.getD_eq_getElem?_getD, List.getElem?_append_left h]
    simp only [axisVec, h, if_true, e]
    exact hw m h
  · have h' : m - dim.length < dim.length := by simp at hm; omega
    have e : (dim ++ dim).getD m 1 = dim.getD (m - dim.length) 1 := by
      simp [List.getD_eq_getElem?_getD, List.getElem?_append_right (not_lt.1 h)]
    simp only [axisVec, h, if_false, e, norm_star]
    exact hw _ h'

theorem sum_rowVec_eq_one {dim : List Nat} (w : Nat → Nat → ℂ) (hw : ∀ j, j < dim.length → ∑ v ∈ Finset.range (dim.getD j 1), ‖w j v‖ ^ 2 = 1)
    (axes : List Nat) (hax : ∀ m ∈ axes, m < (dim ++ dim).length) :
    ∑ r : Fin (prodL (permShape (dim ++ dim) axes)), ‖rowVec dim.length w axes (unflat (permShape (dim ++ dim) axes) r)‖ ^ 2 = 1 := by
  rw [Fin.sum_univ_eq_sum_range (fun r => ‖rowVec dim.length w axes (unflat (permShape (dim ++ dim) axes) r)‖ ^ 2), sum_rowVec_sq]
  apply List.prod_eq_one
  intro x hx
  obtain ⟨m, hm, rfl⟩ := List.mem_map.1 hx
  exact axis_norm_one w hw (hax m hm)


/-- `List.foldl` with a product over `List.range` (the spelling of the executable models) is the `Finset` product -/
theorem foldl_range_mul {R : Type} [CommSemiring R] (n : ℕ) (h : ℕ → R) :
    (List.range n).foldl (fun acc x => acc * h x) 1 = ∏ x ∈ Finset.range n, h x := by
  induction n with
  | zero => simp
  | succ n ih => rw [List.range_succ, List.foldl_append, ih, Finset.prod_range_succ]; rfl

/-- **the sum over all multi-indices of a product over the axes is the product of the sums over each axis** (`np.unravel_index` order) -/
theorem sum_prod_unflat {R : Type} [CommSemiring R] (dims : List ℕ) (g : ℕ → ℕ → R) :
    ∑ k ∈ Finset.range (prodL dims), ∏ x ∈ Finset.range dims.length, g x ((unflat dims k).getD x 0)
      = ∏ x ∈ Finset.range dims.length, ∑ i ∈ Finset.range (dims.getD x 1), g x i := by
  induction dims generalizing g with
  | nil => simp [prodL]
  | cons d ds ih =>
    simp only [prodL, List.length_cons]
    rw [Finset.prod_range_succ']
    have h1 : ∀ k, ∏ x ∈ Finset.range (ds.length + 1), g x ((unflat (d :: ds) k).getD x 0)
        = (∏ x ∈ Finset.range ds.length, g (x + 1) ((unflat ds (k % prodL ds)).getD x 0)) * g 0 (k / prodL ds) := by
      intro k
      rw [Finset.prod_range_succ']
      simp [unflat]
    simp only [h1]
    rw [sum_range_mul_divmod d (prodL ds) (fun a r => (∏ x ∈ Finset.range ds.length, g (x + 1) ((unflat ds r).getD x 0)) * g 0 a)]
    simp only [List.getD_cons_succ, List.getD_cons_zero]
    rw [← ih (fun x i => g (x + 1) i), Finset.sum_comm, ← Finset.sum_mul_sum]

end Numqi.Ent
