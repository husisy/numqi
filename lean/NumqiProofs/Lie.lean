/-
Helper lemmas for C15: the pair type `Cx R` is a commutative ring, evaluation lemmas for the explicit
3×3 / 2×2 matrices of the model.
-/
import NumqiModel.Lie
import Mathlib.Tactic
import Mathlib.Data.Matrix.Mul
import Mathlib.LinearAlgebra.Matrix.Determinant.Basic

set_option linter.unusedSectionVars false

namespace Numqi.Lie

variable {R : Type} [CommRing R]

namespace Cx

@[ext] theorem ext' {α : Type} {a b : Cx α} (h1 : a.re = b.re) (h2 : a.im = b.im) : a = b := by
  cases a; cases b; simp_all

@[simp] theorem add_re (a b : Cx R) : (a + b).re = a.re + b.re := rfl
@[simp] theorem add_im (a b : Cx R) : (a + b).im = a.im + b.im := rfl
@[simp] theorem sub_re (a b : Cx R) : (a - b).re = a.re - b.re := rfl
@[simp] theorem sub_im (a b : Cx R) : (a - b).im = a.im - b.im := rfl
@[simp] theorem neg_re (a : Cx R) : (-a).re = -a.re := rfl
@[simp] theorem neg_im (a : Cx R) : (-a).im = -a.im := rfl
@[simp] theorem mul_re (a b : Cx R) : (a * b).re = a.re * b.re - a.im * b.im := rfl
@[simp] theorem mul_im (a b : Cx R) : (a * b).im = a.re * b.im + a.im * b.re := rfl
@[simp] theorem zero_re : (0 : Cx R).re = 0 := rfl
@[simp] theorem zero_im : (0 : Cx R).im = 0 := rfl
@[simp] theorem one_re : (1 : Cx R).re = 1 := rfl
@[simp] theorem one_im : (1 : Cx R).im = 0 := rfl
@[simp] theorem conj_re (a : Cx R) : a.conj.re = a.re := rfl
@[simp] theorem conj_im (a : Cx R) : a.conj.im = -a.im := rfl
@[simp] theorem smul_re (x : R) (a : Cx R) : (smul x a).re = x * a.re := rfl
@[simp] theorem smul_im (x : R) (a : Cx R) : (smul x a).im = x * a.im := rfl
@[simp] theorem imag_re (x : R) : (imag x).re = 0 := rfl
@[simp] theorem imag_im (x : R) : (imag x).im = x := rfl
@[simp] theorem ofReal_re (x : R) : (ofReal x).re = x := rfl
@[simp] theorem ofReal_im (x : R) : (ofReal x).im = 0 := rfl
@[simp] theorem mk_re (x y : R) : (Cx.mk x y).re = x := rfl
@[simp] theorem mk_im (x y : R) : (Cx.mk x y).im = y := rfl

/-- `Cx R` with the model's own `+ - * 0 1` is a commutative ring (for `R = ℝ` it is `ℂ`). -/
instance instCommRing : CommRing (Cx R) where
  add := (· + ·)
  mul := (· * ·)
  neg := Neg.neg
  sub := (· - ·)
  zero := 0
  one := 1
  add_assoc a b c := by ext <;> simp [add_assoc]
  zero_add a := by ext <;> simp
  add_zero a := by ext <;> simp
  add_comm a b := by ext <;> simp [add_comm]
  neg_add_cancel a := by ext <;> simp
  sub_eq_add_neg a b := by ext <;> simp [sub_eq_add_neg]
  mul_assoc a b c := by ext <;> simp <;> ring
  one_mul a := by ext <;> simp
  mul_one a := by ext <;> simp
  left_distrib a b c := by ext <;> simp <;> ring
  right_distrib a b c := by ext <;> simp <;> ring
  mul_comm a b := by ext <;> simp <;> ring
  zero_mul a := by ext <;> simp
  mul_zero a := by ext <;> simp
  nsmul := nsmulRec
  zsmul := zsmulRec

end Cx

/-! ### explicit small matrices -/

@[simp] theorem mk3_00 (a b c d e f g h i : R) : mk3 a b c d e f g h i 0 0 = a := rfl
@[simp] theorem mk3_01 (a b c d e f g h i : R) : mk3 a b c d e f g h i 0 1 = b := rfl
@[simp] theorem mk3_02 (a b c d e f g h i : R) : mk3 a b c d e f g h i 0 2 = c := rfl
@[simp] theorem mk3_10 (a b c d e f g h i : R) : mk3 a b c d e f g h i 1 0 = d := rfl
@[simp] theorem mk3_11 (a b c d e f g h i : R) : mk3 a b c d e f g h i 1 1 = e := rfl
@[simp] theorem mk3_12 (a b c d e f g h i : R) : mk3 a b c d e f g h i 1 2 = f := rfl
@[simp] theorem mk3_20 (a b c d e f g h i : R) : mk3 a b c d e f g h i 2 0 = g := rfl
@[simp] theorem mk3_21 (a b c d e f g h i : R) : mk3 a b c d e f g h i 2 1 = h := rfl
@[simp] theorem mk3_22 (a b c d e f g h i : R) : mk3 a b c d e f g h i 2 2 = i := rfl

@[simp] theorem mk2_00 {S : Type} (a b c d : S) : mk2 a b c d 0 0 = a := rfl
@[simp] theorem mk2_01 {S : Type} (a b c d : S) : mk2 a b c d 0 1 = b := rfl
@[simp] theorem mk2_10 {S : Type} (a b c d : S) : mk2 a b c d 1 0 = c := rfl
@[simp] theorem mk2_11 {S : Type} (a b c d : S) : mk2 a b c d 1 1 = d := rfl

/-- view a model matrix as a Mathlib matrix (definitionally the same function) -/
abbrev M3 (m : Mat3 R) : Matrix (Fin 3) (Fin 3) R := m
abbrev M2 {S : Type} (m : Fin 2 → Fin 2 → S) : Matrix (Fin 2) (Fin 2) S := m

theorem mat3_ext {A B : Matrix (Fin 3) (Fin 3) R}
    (h00 : A 0 0 = B 0 0) (h01 : A 0 1 = B 0 1) (h02 : A 0 2 = B 0 2)
    (h10 : A 1 0 = B 1 0) (h11 : A 1 1 = B 1 1) (h12 : A 1 2 = B 1 2)
    (h20 : A 2 0 = B 2 0) (h21 : A 2 1 = B 2 1) (h22 : A 2 2 = B 2 2) : A = B := by
  ext i j; fin_cases i <;> fin_cases j <;> assumption

theorem mat2_ext {S : Type} {A B : Matrix (Fin 2) (Fin 2) S}
    (h00 : A 0 0 = B 0 0) (h01 : A 0 1 = B 0 1) (h10 : A 1 0 = B 1 0) (h11 : A 1 1 = B 1 1) : A = B := by
  ext i j; fin_cases i <;> fin_cases j <;> assumption

theorem mul3_apply (A B : Matrix (Fin 3) (Fin 3) R) (i j : Fin 3) :
    (A * B) i j = A i 0 * B 0 j + A i 1 * B 1 j + A i 2 * B 2 j := by
  rw [Matrix.mul_apply, Fin.sum_univ_three]

theorem mul2_apply {S : Type} [CommRing S] (A B : Matrix (Fin 2) (Fin 2) S) (i j : Fin 2) :
    (A * B) i j = A i 0 * B 0 j + A i 1 * B 1 j := by
  rw [Matrix.mul_apply, Fin.sum_univ_two]

/-- an orthogonal right factor drops out of `X Xᵀ` -/
theorem mul_mul_transpose_of_orthogonal {n : Type} [Fintype n] [DecidableEq n] (A : Matrix n n R) {B : Matrix n n R}
    (hB : B * B.transpose = 1) : A * B * (A * B).transpose = A * A.transpose := by
  rw [Matrix.transpose_mul, Matrix.mul_assoc, ← Matrix.mul_assoc B, hB, Matrix.one_mul]

/-- the model's explicit product is the matrix product -/
theorem mul3_eq (A B : Mat3 R) : mul3 A B = M3 A * M3 B := by
  funext i j; rw [mul3_apply]; rfl

end Numqi.Lie
