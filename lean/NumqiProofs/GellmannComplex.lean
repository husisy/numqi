/-
The exact Gell-Mann scalars over ℂ (real square roots) satisfy `Scalars.Valid` for every `d ≥ 1`:
non-vacuity of the C16 theorems, and the instance used by the C01/C02 theorems about the placements.
-/
import NumqiProofs.GellmannIso
import Mathlib.Analysis.SpecialFunctions.Pow.Real
import Mathlib.Data.Complex.Basic

namespace Numqi.Gellmann

/-- the exact scalars over ℂ -/
noncomputable def complexScalars (d : Nat) : Scalars ℂ where
  half := 1 / 2
  I := Complex.I
  cD := fun k => ((Real.sqrt (2 / ((k : ℝ) * ((k : ℝ) + 1))) : ℝ) : ℂ)
  cI := ((Real.sqrt (2 / (d : ℝ)) : ℝ) : ℂ)
  aD := fun k => 1 / 2 * ((Real.sqrt (2 / ((k : ℝ) * ((k : ℝ) + 1))) : ℝ) : ℂ)
  aI := 1 / 2 * ((Real.sqrt (2 / (d : ℝ)) : ℝ) : ℂ)
  invD := 1 / (d : ℂ)

theorem ofReal_sqrt_two_div_sq {x : ℝ} (hx : 0 < x) :
    ((Real.sqrt (2 / x) : ℝ) : ℂ) * ((Real.sqrt (2 / x) : ℝ) : ℂ) * (x : ℂ) = 2 := by
  rw [← Complex.ofReal_mul, Real.mul_self_sqrt (by positivity), ← Complex.ofReal_mul, div_mul_cancel₀ _ hx.ne', Complex.ofReal_ofNat]

theorem complexScalars_valid {d : Nat} (hd : 1 ≤ d) : (complexScalars d).Valid d := by
  have hd0 : (0 : ℝ) < d := by exact_mod_cast hd
  refine ⟨by norm_num [complexScalars], by simp [complexScalars], by simp [complexScalars], by simp [complexScalars], ?_, ?_, ?_, ?_,
    fun k => rfl, rfl, ?_⟩
  · intro k hk _
    have hk0 : (0 : ℝ) < k := by exact_mod_cast hk
    simpa [complexScalars] using ofReal_sqrt_two_div_sq (x := (k : ℝ) * ((k : ℝ) + 1)) (by positivity)
  · intro k; simp [complexScalars]
  · simpa [complexScalars] using ofReal_sqrt_two_div_sq hd0
  · simp [complexScalars]
  · simp only [complexScalars]
    have : (d : ℂ) ≠ 0 := by exact_mod_cast (by omega : d ≠ 0)
    field_simp

end Numqi.Gellmann
