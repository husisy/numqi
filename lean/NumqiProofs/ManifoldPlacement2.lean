/- C02: the parameter placements of the Stiefel / Cholesky / PSD factor maps are injective: every parameter is the real or the imaginary
part of one entry of the matrix. -/
import NumqiProofs.ManifoldPsd

namespace Numqi.Manifold
open Matrix

variable {dim rank : Nat}

theorem ofReal_add_I_inj {a b a' b' : ℝ} (h : ((a : ℝ) : ℂ) + Complex.I * ((b : ℝ) : ℂ) = ((a' : ℝ) : ℂ) + Complex.I * ((b' : ℝ) : ℂ)) : a = a' ∧ b = b' :=
  ⟨by simpa using congrArg Complex.re h, by simpa using congrArg Complex.im h⟩

theorem exists_fin_mul_add {m n q : Nat} (hq : q < m * n) : ∃ (r : Fin m) (c : Fin n), r.val * n + c.val = q := by
  have hn : 0 < n := Nat.pos_of_ne_zero fun h0 => by rw [h0] at hq; exact Nat.not_lt_zero _ hq
  exact ⟨⟨q / n, (Nat.div_lt_iff_lt_mul hn).2 hq⟩, ⟨q % n, Nat.mod_lt _ hn⟩, by rw [Nat.mul_comm]; exact Nat.div_add_mod q n⟩

/-- The layout all three maps share: from offset `o` a block of `N` parameters (the real parts of `N` entries), followed in the complex
case by the block of the `N` imaginary parts. -/
theorem eq_of_block_pair {θ θ' : Nat → ℝ} {isReal : Bool} {o N : Nat}
    (key : ∀ q, q < N → θ (o + q) = θ' (o + q) ∧ (isReal = false → θ (o + N + q) = θ' (o + N + q)))
    {p : Nat} (h1 : o ≤ p) (h2 : p < o + (if isReal then N else 2 * N)) : θ p = θ' p := by
  by_cases h : p < o + N
  · have := (key (p - o) (by omega)).1
    rwa [Nat.add_sub_cancel' h1] at this
  · cases isReal with
    | true => rw [if_pos rfl] at h2; omega
    | false =>
      rw [if_neg Bool.false_ne_true] at h2
      have := (key (p - o - N) (by omega)).2 rfl
      rwa [show o + N + (p - o - N) = p by omega] at this

theorem stiefelMat_get (isReal : Bool) (θ : Nat → ℝ) {r c : Nat} (hr : r < dim) (hc : c < rank) :
    (stiefelMat (K := ℂ) dim rank isReal θ).get r c
      = ((θ (r * rank + c) : ℝ) : ℂ) + Complex.I * ((if isReal then 0 else θ (dim * rank + (r * rank + c)) : ℝ) : ℂ) := by
  cases isReal <;>
  simp only [stiefelMat, NMat.get_ofFn _ _ _ hr hc, if_true, Bool.false_eq_true, if_false, CxOps.ofReal, CxOps.I, Complex.ofReal_zero, mul_zero,
    add_zero, Nat.add_assoc]

/-- **`θ ↦` the `dim × rank` pre-factor of `to_stiefel_polar` / `to_stiefel_qr` is injective** (pure reshape) -/
theorem stiefelMat_injective (isReal : Bool) (θ θ' : Nat → ℝ)
    (h : toM dim rank (stiefelMat (K := ℂ) dim rank isReal θ) = toM dim rank (stiefelMat (K := ℂ) dim rank isReal θ')) :
    ∀ p, p < (if isReal then dim * rank else 2 * dim * rank) → θ p = θ' p := by
  intro p hp
  rw [Nat.mul_assoc] at hp
  refine eq_of_block_pair (o := 0) (N := dim * rank) (fun q hq => ?_) (Nat.zero_le p) (by rwa [Nat.zero_add])
  obtain ⟨r, c, rfl⟩ := exists_fin_mul_add hq
  have e : (stiefelMat (K := ℂ) dim rank isReal θ).get r c = (stiefelMat (K := ℂ) dim rank isReal θ').get r c := congrFun (congrFun h r) c
  rw [stiefelMat_get _ _ r.isLt c.isLt, stiefelMat_get _ _ r.isLt c.isLt] at e
  obtain ⟨e1, e2⟩ := ofReal_add_I_inj e
  rw [Nat.zero_add, Nat.zero_add]
  exact ⟨e1, fun hc => by rw [hc] at e2; exact e2⟩

theorem length_trilSq (rank : Nat) : (trilPairs rank rank).length = rank * (rank + 1) / 2 - rank := by
  have := length_trilPairs (le_refl rank)
  obtain ⟨hsucc, -, -, hassoc, -, -, hpar⟩ := Count.products rank rank le_rfl
  omega

/-- **`θ ↦ matL` of `to_stiefel_choleskyL` is injective** (every parameter is one entry, or the real/imaginary part of one entry) -/
theorem cholLMat_placement_injective (isReal : Bool) (θ θ' : Nat → ℝ) (hrk : rank ≤ dim)
    (h : toM dim rank (cholLMat (K := ℂ) dim rank isReal θ) = toM dim rank (cholLMat (K := ℂ) dim rank isReal θ')) :
    ∀ p, p < (dim * rank - rank * (rank + 1) / 2) * (if isReal then 1 else 2) → θ p = θ' p := by
  have entry : ∀ {r c : Nat} (hr : r < dim) (hc : c < rank),
      (cholLMat (K := ℂ) dim rank isReal θ).get r c = (cholLMat (K := ℂ) dim rank isReal θ').get r c :=
    fun hr hc => congrFun (congrFun h ⟨_, hr⟩) ⟨_, hc⟩
  have hsplit : dim * rank - rank * (rank + 1) / 2 = (trilPairs rank rank).length + (dim - rank) * rank := by
    obtain ⟨hsucc, -, -, -, hle, hsq, hpar⟩ := Count.products dim rank hrk
    rw [length_trilSq, Nat.sub_mul]
    omega
  intro p hp
  rw [hsplit] at hp
  by_cases h1 : p < (if isReal then (trilPairs rank rank).length else 2 * (trilPairs rank rank).length)
  · refine eq_of_block_pair (o := 0) (fun q hq => ?_) (Nat.zero_le p) (by rwa [Nat.zero_add])
    obtain ⟨hr, hcr, -⟩ := mem_trilPairs.1 (List.getElem_mem hq)
    have e := entry (hr.trans_le hrk) (hcr.trans hr)
    simp only [cholLMat_get _ _ (hr.trans_le hrk) (hcr.trans hr), ← length_trilSq, if_pos hr, if_neg hcr.ne', if_pos hcr, Prod.mk.eta,
      nodup_trilPairs.idxOf_getElem q hq] at e
    obtain ⟨e1, e2⟩ := ofReal_add_I_inj e
    rw [Nat.zero_add, Nat.zero_add]
    exact ⟨e1, fun hc => by rw [hc] at e2; exact e2⟩
  · have hb : p < (if isReal then (trilPairs rank rank).length else 2 * (trilPairs rank rank).length)
        + (if isReal then (dim - rank) * rank else 2 * ((dim - rank) * rank)) := by
      cases isReal <;> simp only [if_true, Bool.false_eq_true, if_false] at hp ⊢ <;> omega
    refine eq_of_block_pair (fun q hq => ?_) (not_lt.1 h1) hb
    obtain ⟨r, c, rfl⟩ := exists_fin_mul_add hq
    have e := entry (r := rank + r) (by omega) c.isLt
    simp only [cholLMat_get _ _ (show rank + r.val < dim by omega) c.isLt, ← length_trilSq, if_neg (Nat.not_lt.2 (Nat.le_add_right _ _)),
      Nat.add_sub_cancel_left] at e
    obtain ⟨e1, e2⟩ := ofReal_add_I_inj e
    exact ⟨e1, fun hc => by rw [hc] at e2 ⊢; exact e2⟩

/-- **the Cholesky factor placement of `to_trace1_psd_cholesky` loses exactly the scale direction**: two parameter vectors with the same factor
*and* the same normaliser coincide (softplus on the diagonal is strictly increasing, the off-diagonal entries are the parameters themselves) -/
theorem psdCholFactor_injective_mod_scale (isReal : Bool) (θ θ' : Nat → ℝ) (hr : 1 ≤ rank) (hrk : rank ≤ dim)
    (h : toM dim rank (psdCholFactor (K := ℂ) dim rank isReal θ) = toM dim rank (psdCholFactor (K := ℂ) dim rank isReal θ'))
    (hn : psdNormaliser dim rank isReal θ = psdNormaliser dim rank isReal θ') :
    ∀ p, p < (if isReal then rank * (2 * dim - rank + 1) / 2 else 2 * (rank * (2 * dim - rank + 1) / 2) - rank) → θ p = θ' p := by
  have entry : ∀ {r c : Nat} (hr : r < dim) (hc : c < rank),
      (psdCholFactor (K := ℂ) dim rank isReal θ).get r c = (psdCholFactor (K := ℂ) dim rank isReal θ').get r c :=
    fun hr hc => congrFun (congrFun h ⟨_, hr⟩) ⟨_, hc⟩
  have hnf := (psdNormaliser_pos (dim := dim) isReal θ hr).ne'
  have hN0 : rank * (2 * dim - rank + 1) / 2 = (trilPairs dim rank).length + rank := by
    have := N0_sub_rank hrk
    obtain ⟨-, -, hN0, -, hle, hsq, -⟩ := Count.products dim rank hrk
    omega
  intro p hp
  rw [hN0] at hp
  by_cases hd : p < rank
  · have e := entry (hd.trans_le hrk) hd
    rw [psdCholFactor_get _ _ (hd.trans_le hrk) hd hrk, psdCholFactor_get _ _ (hd.trans_le hrk) hd hrk, if_pos rfl, if_pos rfl, ← hn] at e
    exact softplus_strictMono.injective ((div_left_inj' hnf).1 (Complex.ofReal_injective e))
  · have hb : p < rank + (if isReal then (trilPairs dim rank).length else 2 * (trilPairs dim rank).length) := by
      cases isReal <;> simp only [if_true, Bool.false_eq_true, if_false] at hp ⊢ <;> omega
    refine eq_of_block_pair (fun q hq => ?_) (not_lt.1 hd) hb
    obtain ⟨hr', hcr, hc⟩ := mem_trilPairs.1 (List.getElem_mem hq)
    have e := entry hr' hc
    rw [psdCholFactor_get _ _ hr' hc hrk, psdCholFactor_get _ _ hr' hc hrk, if_neg hcr.ne', if_pos hcr, if_neg hcr.ne', if_pos hcr, Prod.mk.eta, nodup_trilPairs.idxOf_getElem q hq, ← hn] at e
    obtain ⟨e1, e2⟩ := ofReal_add_I_inj e
    exact ⟨(div_left_inj' hnf).1 e1, fun hc => by subst hc; exact (div_left_inj' hnf).1 e2⟩

end Numqi.Manifold
