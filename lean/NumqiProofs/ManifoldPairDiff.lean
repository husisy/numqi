/- C02: the complex branch of to_ball / to_sphere_quotient is the real map followed by the injective pairing R^{2h} -> C^h. -/
import NumqiProofs.ManifoldVecDiff

namespace Numqi.Manifold
open Module

/-- `ℝ^{2h} → ℂ^h`, `x ↦ x[:h] + i x[h:]` (the pairing `torch.complex(x[..., :h], x[..., h:])`), an injective `ℝ`-linear map -/
noncomputable def pairLin (h : Nat) : EuclideanSpace ℝ (Fin (h + h)) →ₗ[ℝ] (Fin h → ℂ) where
  toFun x j := ((x (Fin.castAdd h j) : ℝ) : ℂ) + Complex.I * ((x (Fin.natAdd h j) : ℝ) : ℂ)
  map_add' x y := by funext j; simp; ring
  map_smul' k x := by funext j; simp; ring

theorem pairLin_injective (h : Nat) : Function.Injective (pairLin h) := by
  rw [injective_iff_map_eq_zero]
  intro x hx
  have key : ∀ j : Fin h, x (Fin.castAdd h j) = 0 ∧ x (Fin.natAdd h j) = 0 := by
    intro j
    have := congrFun hx j
    simp only [pairLin, LinearMap.coe_mk, AddHom.coe_mk, Pi.zero_apply] at this
    have hre := congrArg Complex.re this
    have him := congrArg Complex.im this
    simp at hre him
    exact ⟨hre, by simpa using him⟩
  ext i
  refine Fin.addCases (fun j => ?_) (fun j => ?_) i
  · simpa using (key j).1
  · simpa using (key j).2

/-- the model's complex branch `pairCx h y` is `pairLin` applied to the real vector -/
theorem pairCx_eq_pairLin (h : Nat) (y : Nat → ℝ) (j : Fin h) : pairCx (K := ℂ) h y j.val = pairLin h (toE (h + h) y) j := by
  simp [pairCx, pairLin, toE, CxOps.ofReal, CxOps.I, Nat.add_comm]

/-- composing with an injective linear map does not change the rank -/
theorem finrank_range_comp_injective {E F G : Type*} [AddCommGroup E] [Module ℝ E] [AddCommGroup F] [Module ℝ F] [AddCommGroup G] [Module ℝ G]
    (L : F →ₗ[ℝ] G) (hL : Function.Injective L) (D : E →ₗ[ℝ] F) :
    finrank ℝ (LinearMap.range (L ∘ₗ D)) = finrank ℝ (LinearMap.range D) := by
  rw [LinearMap.range_comp]
  exact (Submodule.equivMapOfInjective L hL (LinearMap.range D)).finrank_eq.symm

noncomputable def pairCLM (h : Nat) : EuclideanSpace ℝ (Fin (h + h)) →L[ℝ] (Fin h → ℂ) := LinearMap.toContinuousLinearMap (pairLin h)


end Numqi.Manifold
