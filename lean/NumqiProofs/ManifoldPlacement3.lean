/- C02: injectivity of the remaining three placements of `to_symmetric_matrix` (real full, complex full, real traceless). -/
import NumqiProofs.ManifoldPlacement2
import NumqiProofs.ManifoldPlacement
import NumqiProofs.ManifoldSym
namespace Numqi.Manifold
open Matrix Numqi.Gellmann
variable {dim : Nat}

/-- `to_symmetric_matrix(is_real, is_trace0=False)`: `ret[triu] = θ; ret + retᵀ` determines all `d(d+1)/2` parameters -/
theorem symmetric_full_real_injective (S : Gellmann.Scalars ℂ) (θ θ' : Nat → ℝ)
    (h : toM dim dim (symmetricRaw S dim true false θ) = toM dim dim (symmetricRaw S dim true false θ')) :
    ∀ p, p < (triuPairs dim).length → θ p = θ' p := by
  intro p hp
  have hm := mem_triuPairs.1 (List.getElem_mem hp)
  have hidx := nodup_triuPairs.idxOf_getElem p hp
  set x := (triuPairs dim)[p] with hx
  have hr : x.1 < dim := by omega
  have e := congrFun (congrFun h ⟨x.1, hr⟩) ⟨x.2, hm.2⟩
  simp only [toM, symmetricRaw, Matrix.of_apply, NMat.get_ofFn _ _ _ hr hm.2, CxOps.ofReal] at e
  rcases Nat.lt_or_eq_of_le hm.1 with hlt | heq
  · simp only [hlt, if_true, Prod.mk.eta, hidx] at e
    exact_mod_cast e
  · have h1 : ¬ x.1 < x.2 := by omega
    have h2 : ¬ x.2 < x.1 := by omega
    simp only [h1, h2, if_false, Prod.mk.eta, hidx] at e
    have : θ p + θ p = θ' p + θ' p := by exact_mod_cast e
    linarith

/-- complex, `is_trace0=False`: `M = θ.reshape(d,d)`, `triu(M)+triu(M)ᵀ + 1j(tril(M,-1) - tril(M,-1)ᵀ)` determines all `d²` parameters -/
theorem symmetric_full_complex_injective (S : Gellmann.Scalars ℂ) (θ θ' : Nat → ℝ)
    (h : toM dim dim (symmetricRaw S dim false false θ) = toM dim dim (symmetricRaw S dim false false θ')) :
    ∀ p, p < dim * dim → θ p = θ' p := by
  intro p hp
  obtain ⟨r, c, rfl⟩ := exists_fin_mul_add hp
  have e : (symmetricRaw S dim false false θ).get r c = (symmetricRaw S dim false false θ').get r c := congrFun (congrFun h r) c
  simp only [symmetricRaw, NMat.get_ofFn_fin, CxOps.ofReal, CxOps.I] at e
  rcases Nat.lt_trichotomy r.val c.val with hlt | heq | hgt
  · rw [if_pos hlt, if_pos hlt] at e
    exact (ofReal_add_I_inj e).1
  · simp only [heq, lt_irrefl, if_false] at e
    have : θ (c * dim + c) + θ (c * dim + c) = θ' (c * dim + c) + θ' (c * dim + c) := by exact_mod_cast e
    rw [heq]; linarith
  · -- strictly lower position: read it off the imaginary part of the same entry
    rw [if_neg (Nat.lt_asymm hgt), if_pos hgt, if_neg (Nat.lt_asymm hgt), if_pos hgt] at e
    exact (ofReal_add_I_inj e).2
/-- entrywise real part of a Hermitian matrix has the same symmetric and diagonal Gell-Mann coefficients -/
theorem coefK_re_of_hermitian (S : Scalars ℂ) (H : Mat dim ℂ) (hH : ∀ r c, star (H c r) = H r c) (k : Kind dim)
    (hk : (∃ p, k = Kind.sym p) ∨ (∃ j, k = Kind.diag j)) :
    coefK S (fun r c => (((H r c).re : ℝ) : ℂ)) k = coefK S H k := by
  have hdiag : ∀ l, (((H l l).re : ℝ) : ℂ) = H l l := by
    intro l
    have := hH l l
    apply Complex.ext
    · simp
    · have h2 := congrArg Complex.im this
      simp only [Complex.star_def, Complex.conj_im] at h2
      simp only [Complex.ofReal_im]; linarith
  rcases hk with ⟨p, rfl⟩ | ⟨j, rfl⟩
  · simp only [coefK]
    congr 1
    rw [← hH p.1 p.2]
    apply Complex.ext <;> simp
  · simp only [coefK, hdiag]

/-- **the real traceless placement `gellmann_basis_to_matrix([θ[:N0], 0, θ[N0:], 0]).real` is injective** on its `d(d+1)/2 - 1` parameters -/
theorem symmetric_traceless_real_injective (S : Scalars ℂ) (hS : S.Valid dim) (hd : 1 ≤ dim) (θ θ' : Nat → ℝ)
    (h : toM dim dim (symmetricRaw S dim true true θ) = toM dim dim (symmetricRaw S dim true true θ')) :
    ∀ p, p < dim * (dim - 1) / 2 + (dim - 1) → θ p = θ' p := by
  rw [toM_symmetricRaw_traceless_real, toM_symmetricRaw_traceless_real] at h
  have hA : (fun r c => (((synthesis S dim (symVecR dim θ) r c).re : ℝ) : ℂ)) = fun r c => (((synthesis S dim (symVecR dim θ') r c).re : ℝ) : ℂ) :=
    Matrix.of.injective h
  have hH : ∀ t : Nat → ℝ, ∀ r c, star (synthesis S dim (symVecR dim t) c r) = synthesis S dim (symVecR dim t) r c := by
    intro t r c
    have := Gellmann.synthesis_hermitian S hS hd (symVecR dim t) (fun a _ => symVecR_real t a)
    have e := congrFun (congrFun this r) c
    simpa only [conjTranspose_apply, Matrix.of_apply] using e
  have hlen : (pairs dim).length = dim * (dim - 1) / 2 := (half_pairs (d := dim)).symm
  have main : ∀ k : Kind dim, k.WF → ((∃ p, k = Kind.sym p) ∨ (∃ j, k = Kind.diag j)) → k.pos < dim * dim →
      symVecR dim θ k.pos = symVecR dim θ' k.pos := by
    intro k hk hform hlt
    have hmem := mem_kinds_of_wf hd hk
    have e1 := coef_synthesis S hS hd (symVecR dim θ) hlt
    have e2 := coef_synthesis S hS hd (symVecR dim θ') hlt
    rw [coef_pos S _ hmem, ← coefK_re_of_hermitian S _ (hH θ) k hform] at e1
    rw [coef_pos S _ hmem, ← coefK_re_of_hermitian S _ (hH θ') k hform] at e2
    rw [← e1, ← e2, hA]
  have hsq : dim * (dim - 1) / 2 * 2 = dim * (dim - 1) := by rw [← hlen]; exact length_pairs
  have hdd : dim * dim = dim * (dim - 1) + dim := by
    obtain ⟨n, rfl⟩ : ∃ n, dim = n + 1 := ⟨dim - 1, by omega⟩
    simp only [Nat.add_sub_cancel]; ring
  intro p hp
  by_cases h1 : p < dim * (dim - 1) / 2
  · have hp' : p < (pairs dim).length := by rw [hlen]; exact h1
    set x := (pairs dim)[p] with hx
    have hxlt : x.1 < x.2 := mem_pairs.1 (List.getElem_mem hp')
    have hidx : (pairs dim).idxOf x = p := nodup_pairs.idxOf_getElem p hp'
    have := main (Kind.sym x) hxlt (Or.inl ⟨x, rfl⟩) (by simp only [Kind.pos, hidx]; omega)
    simp only [Kind.pos, hidx, symVecR, if_pos h1] at this
    exact_mod_cast this
  · -- diagonal parameter `k - 1 = p - N0`, coefficient position `2 N0 + (k - 1)`
    have hk : p - dim * (dim - 1) / 2 + 1 < dim := by omega
    have := main (Kind.diag ⟨p - dim * (dim - 1) / 2 + 1, hk⟩) (by simp [Kind.WF]) (Or.inr ⟨_, rfl⟩)
      (by simp only [Kind.pos, hlen]; omega)
    simp only [Kind.pos, hlen, Nat.add_sub_cancel, symVecR] at this
    rw [if_neg (by omega), if_neg (by omega), if_pos (by omega), if_neg (by omega), if_neg (by omega), if_pos (by omega)] at this
    have e : dim * (dim - 1) / 2 + dim * (dim - 1) / 2 + (p - dim * (dim - 1) / 2) - dim * (dim - 1) / 2 = p := by omega
    rw [e] at this
    exact_mod_cast this
end Numqi.Manifold
