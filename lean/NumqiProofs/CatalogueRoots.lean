/-
Roots-of-unity algebra for the UPB families `gentiles1`, `gentiles2`, `quadres` of `numqi/entangle/upb.py`
(model tables: `NumqiModel/CatalogueRoots.lean`; framework `inner`/`Orthonormal`/`prodVec`: `NumqiProofs/CatalogueUpb.lean`).

The lemmas from which `NumqiProps/C18Roots.lean` assembles the orthonormality theorems: everything is proved from the *relations*
`RootData` (ω^h = 1, |ω| = 1, Σ_k ω^{jk} = 0 for 0 < j < h), `ScaleData` / `QuadScale` (the squares of the real scales);
the last section holds the numbers the library uses — ω = exp(2πi/h), scales 1/√· , N = max(−σ, 1+σ).
-/
import NumqiProofs.CatalogueUpb
import NumqiModel.CatalogueRoots
import Mathlib.RingTheory.RootsOfUnity.Complex
import Mathlib.Analysis.Real.Sqrt
import Mathlib.NumberTheory.LegendreSymbol.QuadraticChar.Basic
import Mathlib.NumberTheory.LegendreSymbol.Basic

namespace Numqi.Catalogue
open Finset


/-- what the proofs need from the root of unity `η` of order `h` -/
structure RootData (h : ℕ) (η : ℂ) : Prop where
  pow : η ^ h = 1
  unit : starRingEnd ℂ η * η = 1
  vanish : ∀ j, 0 < j → j < h → ∑ k ∈ range h, η ^ (j * k) = 0

/-- real scales -/
structure ScaleData (sc : ℕ → ℂ) (h dA dB : ℕ) : Prop where
  real : ∀ c, starRingEnd ℂ (sc c) = sc c
  one : sc 1 = 1
  tile : sc 2 * sc 2 * (h : ℂ) = 1
  stopA : sc 3 * sc 3 * (dA : ℂ) = 1
  stopB : sc 5 * sc 5 * (dB : ℂ) = 1
  half : sc 4 * sc 4 * 2 = 1

theorem conj_pow_mul_pow {η : ℂ} (hu : starRingEnd ℂ η * η = 1) (e : ℕ) : starRingEnd ℂ (η ^ e) * η ^ e = 1 := by
  rw [map_pow, ← mul_pow, hu, one_pow]

/-- `conj(η^a) · η^b = η^(b-a)` for `a ≤ b` -/
theorem conj_pow_mul_pow_le {η : ℂ} (hu : starRingEnd ℂ η * η = 1) {a b : ℕ} (hab : a ≤ b) :
    starRingEnd ℂ (η ^ a) * η ^ b = η ^ (b - a) := by
  obtain ⟨c, rfl⟩ := Nat.exists_eq_add_of_le hab
  rw [pow_add, ← mul_assoc, conj_pow_mul_pow hu, one_mul, Nat.add_sub_cancel_left]

theorem pow_mod_of {h : ℕ} {η : ℂ} (hp : η ^ h = 1) (e : ℕ) : η ^ (e % h) = η ^ e := by
  conv_rhs => rw [← Nat.div_add_mod e h, pow_add, pow_mul, hp, one_pow, one_mul]

/-- rotation index `(i - j) mod d` -/
theorem rot_eq {d i j : ℕ} (hi : i < d) (hj : j < d) : (i + d - j) % d = if j ≤ i then i - j else i + d - j := by
  split
  · rename_i h
    have : i + d - j = (i - j) + d := by omega
    rw [this, Nat.add_mod_right, Nat.mod_eq_of_lt (by omega)]
  · rw [Nat.mod_eq_of_lt (by omega)]

/-- a sum over a full period is invariant under rotation of the index -/
theorem sum_rot {d j : ℕ} (hj : j < d) (f : ℕ → ℂ) : ∑ i ∈ range d, f ((i + d - j) % d) = ∑ k ∈ range d, f k := by
  apply Finset.sum_nbij' (fun i => (i + d - j) % d) (fun k => (k + j) % d)
  · intro i hi; exact mem_range.2 (Nat.mod_lt _ (by omega))
  · intro k hk; exact mem_range.2 (Nat.mod_lt _ (by omega))
  · intro i hi
    have hi' := mem_range.1 hi
    show _ = _
    rw [rot_eq hi' hj]
    split
    · rename_i h; have : i - j + j = i := by omega
      rw [this, Nat.mod_eq_of_lt hi']
    · have : i + d - j + j = i + d := by omega
      rw [this, Nat.add_mod_right, Nat.mod_eq_of_lt hi']
  · intro k hk
    have hk' := mem_range.1 hk
    show _ = _
    by_cases h : k + j < d
    · rw [Nat.mod_eq_of_lt h, rot_eq h hj, if_pos (by omega)]; omega
    · have e : (k + j) % d = k + j - d := by
        have : k + j = (k + j - d) + d := by omega
        rw [this, Nat.add_mod_right, Nat.mod_eq_of_lt (by omega)]; omega
      rw [e, rot_eq (by omega) hj, if_neg (by omega)]; omega
  · intro i _; rfl

theorem succ_mod {a m : ℕ} (ha : a < m) : (a + 1) % m = if a + 1 < m then a + 1 else 0 := by
  split
  · exact Nat.mod_eq_of_lt ‹_›
  · have : a + 1 = m := by omega
    rw [this, Nat.mod_self]

theorem sum_conj_pow {N : ℕ} {ζ : ℂ} (hR : RootData N ζ) {l l' : ℕ} (hl : l < N) (hl' : l' < N) :
    ∑ a ∈ range N, starRingEnd ℂ (ζ ^ (l * a)) * ζ ^ (l' * a) = if l = l' then (N : ℂ) else 0 := by
  by_cases hmm : l = l'
  · subst hmm
    rw [if_pos rfl, Finset.sum_congr rfl (fun k _ => conj_pow_mul_pow hR.unit (l * k))]
    simp
  · rw [if_neg hmm]
    rcases Nat.lt_or_gt_of_ne hmm with hlt | hgt
    · have : ∀ k ∈ range N, starRingEnd ℂ (ζ ^ (l * k)) * ζ ^ (l' * k) = ζ ^ ((l' - l) * k) := by
        intro k _
        rw [conj_pow_mul_pow_le hR.unit (Nat.mul_le_mul_right k (le_of_lt hlt)), Nat.sub_mul]
      rw [Finset.sum_congr rfl this, hR.vanish (l' - l) (by omega) (by omega)]
    · have : ∀ k ∈ range N, starRingEnd ℂ (ζ ^ (l * k)) * ζ ^ (l' * k) = starRingEnd ℂ (ζ ^ ((l - l') * k)) := by
        intro k _
        rw [Nat.sub_mul, ← conj_pow_mul_pow_le hR.unit (Nat.mul_le_mul_right k (le_of_lt hgt)), map_mul,
          Complex.conj_conj, mul_comm]
      rw [Finset.sum_congr rfl this, ← map_sum, hR.vanish (l - l') (by omega) (by omega), map_zero]

/-! Local vectors of the form `s·η^(l·σ i)` on a support `P` (zero off it), where `σ` enumerates `range N` once over the
support (`hsum`): characters `l ≠ l'` are orthogonal, and orthogonal to constants for `l ≠ 0`. -/

theorem inner_char_char {D N : ℕ} {η s : ℂ} (hR : RootData N η) (hs : starRingEnd ℂ s = s) (hsN : s * s * (N : ℂ) = 1)
    {P : ℕ → Prop} [DecidablePred P] {σ : ℕ → ℕ}
    (hsum : ∀ g : ℕ → ℂ, ∑ i ∈ range D, (if P i then g (σ i) else 0) = ∑ k ∈ range N, g k)
    {l l' : ℕ} (hl : l < N) (hl' : l' < N) {x y : ℕ → ℂ}
    (hx : ∀ i, x i = if P i then s * η ^ (l * σ i) else 0) (hy : ∀ i, y i = if P i then s * η ^ (l' * σ i) else 0) :
    inner D x y = if l = l' then 1 else 0 := by
  unfold inner
  have e : ∀ i, starRingEnd ℂ (x i) * y i =
      if P i then (fun k => s * s * (starRingEnd ℂ (η ^ (l * k)) * η ^ (l' * k))) (σ i) else 0 := by
    intro i
    rw [hx, hy]
    split
    · simp only [map_mul, hs]; ring
    · simp
  rw [Finset.sum_congr rfl (fun i _ => e i), hsum fun k => s * s * (starRingEnd ℂ (η ^ (l * k)) * η ^ (l' * k)),
    ← Finset.mul_sum, sum_conj_pow hR hl hl']
  split
  · exact hsN
  · exact mul_zero _

theorem inner_const_char {D N : ℕ} {η s : ℂ} (hR : RootData N η) {P : ℕ → Prop} [DecidablePred P] {σ : ℕ → ℕ}
    (hsum : ∀ g : ℕ → ℂ, ∑ i ∈ range D, (if P i then g (σ i) else 0) = ∑ k ∈ range N, g k)
    {l : ℕ} (hl0 : 0 < l) (hl : l < N) (c : ℂ) {y : ℕ → ℂ} (hy : ∀ i, y i = if P i then s * η ^ (l * σ i) else 0) :
    inner D (fun _ => c) y = 0 := by
  unfold inner
  have e : ∀ i, starRingEnd ℂ c * y i = if P i then (fun k => starRingEnd ℂ c * s * η ^ (l * k)) (σ i) else 0 := by
    intro i
    rw [hy]
    split
    · ring
    · simp
  rw [Finset.sum_congr rfl (fun i _ => e i), hsum fun k => starRingEnd ℂ c * s * η ^ (l * k), ← Finset.mul_sum,
    hR.vanish l hl0 hl, mul_zero]

/-- value of a symbolic component in `ℂ` -/
noncomputable def ev (sc : ℕ → ℂ) (η : ℂ) (x : RootEnt) : ℂ := x.eval sc (fun e => η ^ e)

theorem ev_zero (sc : ℕ → ℂ) (η : ℂ) : ev sc η RootEnt.zero = 0 := by simp [ev, RootEnt.eval, RootEnt.zero]

theorem ev_unit {sc : ℕ → ℂ} (h1 : sc 1 = 1) (η : ℂ) (j i : ℕ) : ev sc η (unitEnt j i) = if i = j then 1 else 0 := by
  unfold unitEnt; split
  · simp [ev, RootEnt.eval, h1]
  · exact ev_zero sc η

theorem inner_unit_left {sc : ℕ → ℂ} (h1 : sc 1 = 1) (η : ℂ) {d j : ℕ} (hj : j < d) (y : ℕ → ℂ) :
    inner d (fun i => ev sc η (unitEnt j i)) y = y j := by
  unfold inner
  rw [Finset.sum_eq_single j]
  · simp [ev_unit h1]
  · intro i _ hi; simp [ev_unit h1, hi]
  · intro h; exact absurd (mem_range.2 hj) h

theorem inner_unit_right {sc : ℕ → ℂ} (h1 : sc 1 = 1) (η : ℂ) {d j : ℕ} (hj : j < d) (x : ℕ → ℂ) :
    inner d x (fun i => ev sc η (unitEnt j i)) = starRingEnd ℂ (x j) := by
  rw [inner_swap, inner_unit_left h1 η hj]

/-! ### GenTiles1 -/

section gt1
variable {sc : ℕ → ℂ} {η : ℂ} {h : ℕ}

theorem ev_gt1Tile (hR : RootData h η) (m j i : ℕ) :
    ev sc η (gt1Tile (2 * h) m j i) =
      if (i + 2 * h - j) % (2 * h) < h then sc 2 * η ^ (m * ((i + 2 * h - j) % (2 * h))) else 0 := by
  have hh : 2 * h / 2 = h := by omega
  unfold gt1Tile
  simp only [hh]
  split
  · simp [ev, RootEnt.eval, pow_mod_of hR.pow]
  · exact ev_zero sc η

/-- sum over a tile: `Σ_i F((i-j) mod d)` with `F` supported on `k < h` -/
theorem sum_tile {h : ℕ} {j : ℕ} (hj : j < 2 * h) (g : ℕ → ℂ) :
    ∑ i ∈ range (2 * h), (if (i + 2 * h - j) % (2 * h) < h then g ((i + 2 * h - j) % (2 * h)) else 0) =
      ∑ k ∈ range h, g k := by
  rw [sum_rot hj (fun k => if k < h then g k else 0), two_mul, Finset.sum_range_add]
  have h1 : ∑ x ∈ range h, (if x < h then g x else 0) = ∑ x ∈ range h, g x :=
    Finset.sum_congr rfl (fun x hx => by rw [if_pos (mem_range.1 hx)])
  have h2 : ∑ x ∈ range h, (if h + x < h then g (h + x) else 0) = 0 :=
    Finset.sum_eq_zero (fun x _ => by rw [if_neg (by omega)])
  rw [h1, h2, add_zero]

theorem inner_tile_tile (hR : RootData h η) (hS : ScaleData sc h (2 * h) (2 * h)) {m m' j : ℕ}
    (hmh : m < h) (hmh' : m' < h) (hj : j < 2 * h) :
    inner (2 * h) (fun i => ev sc η (gt1Tile (2 * h) m j i)) (fun i => ev sc η (gt1Tile (2 * h) m' j i)) =
      if m = m' then 1 else 0 :=
  inner_char_char hR (hS.real 2) hS.tile (sum_tile hj) hmh hmh' (ev_gt1Tile hR m j) (ev_gt1Tile hR m' j)

theorem inner_const_tile (hR : RootData h η) (c : ℂ) {m j : ℕ}
    (hm : 0 < m) (hmh : m < h) (hj : j < 2 * h) :
    inner (2 * h) (fun _ => c) (fun i => ev sc η (gt1Tile (2 * h) m j i)) = 0 :=
  inner_const_char hR (sum_tile hj) hm hmh c (ev_gt1Tile hR m j)

end gt1

theorem orthonormal_of_le {m D : ℕ} {w : ℕ → ℕ → ℂ}
    (H : ∀ a b, a ≤ b → b < m → inner D (w a) (w b) = if a = b then 1 else 0) : Orthonormal m D w := by
  intro a ha b hb
  rcases le_total a b with hab | hab
  · exact H a b hab hb
  · rw [inner_swap, H b a hab ha]
    by_cases e : a = b
    · simp [e]
    · rw [if_neg e, if_neg (fun h => e h.symm), map_zero]

theorem inner_const_const (D : ℕ) (c : ℂ) (hc : starRingEnd ℂ c = c) (h1 : c * c * (D : ℂ) = 1) :
    inner D (fun _ => c) (fun _ => c) = 1 := by
  unfold inner
  rw [Finset.sum_const, Finset.card_range, nsmul_eq_mul, hc, ← h1]; ring

section gt1b
variable {sc : ℕ → ℂ} {η : ℂ} {h : ℕ}

theorem tile_support_disjoint {h ja jb : ℕ} (ha : ja < 2 * h) (hb : jb < 2 * h) :
    ¬ ((ja + 2 * h - jb) % (2 * h) < h ∧ (jb + 2 * h - (ja + 1) % (2 * h)) % (2 * h) < h) := by
  have hlt : (ja + 1) % (2 * h) < 2 * h := Nat.mod_lt _ (by omega)
  rw [rot_eq ha hb, rot_eq hb hlt, succ_mod ha]
  split <;> split <;> split <;> omega

theorem gt1_cross (hR : RootData h η) (hS : ScaleData sc h (2 * h) (2 * h)) {ma mb ja jb : ℕ}
    (ha : ja < 2 * h) (hb : jb < 2 * h) :
    inner (2 * h) (fun i => ev sc η (unitEnt ja i)) (fun i => ev sc η (gt1Tile (2 * h) mb jb i)) *
      inner (2 * h) (fun i => ev sc η (gt1Tile (2 * h) ma ((ja + 1) % (2 * h)) i)) (fun i => ev sc η (unitEnt jb i)) = 0 := by
  rw [inner_unit_left hS.one η ha, inner_unit_right hS.one η hb, ev_gt1Tile hR, ev_gt1Tile hR]
  have := tile_support_disjoint ha hb
  by_cases c1 : (ja + 2 * h - jb) % (2 * h) < h
  · have c2 : ¬ (jb + 2 * h - (ja + 1) % (2 * h)) % (2 * h) < h := fun c2 => this ⟨c1, c2⟩
    rw [if_neg c2, map_zero, mul_zero]
  · rw [if_neg c1, zero_mul]

theorem gt1_cross' (hR : RootData h η) (hS : ScaleData sc h (2 * h) (2 * h)) {ma mb ja jb : ℕ}
    (ha : ja < 2 * h) (hb : jb < 2 * h) :
    inner (2 * h) (fun i => ev sc η (gt1Tile (2 * h) ma ja i)) (fun i => ev sc η (unitEnt jb i)) *
      inner (2 * h) (fun i => ev sc η (unitEnt ja i)) (fun i => ev sc η (gt1Tile (2 * h) mb ((jb + 1) % (2 * h)) i)) = 0 := by
  rw [inner_swap _ (fun i => ev sc η (gt1Tile _ ma ja i)), inner_swap _ (fun i => ev sc η (unitEnt ja i)), ← map_mul,
    gt1_cross hR hS hb ha, map_zero]

theorem inner_unit_unit (hS : ScaleData sc h (2 * h) (2 * h)) {ja jb : ℕ} (ha : ja < 2 * h) :
    inner (2 * h) (fun i => ev sc η (unitEnt ja i)) (fun i => ev sc η (unitEnt jb i)) = if ja = jb then 1 else 0 := by
  rw [inner_unit_left hS.one η ha, ev_unit hS.one]

/-- two product vectors of the same kind: unit vectors `ja`, `jb` on one party, tiles `(ma, J ja)`, `(mb, J jb)` on the other
(`J` is the identity or the shift by one) -/
theorem gt1_same (hR : RootData h η) (hS : ScaleData sc h (2 * h) (2 * h)) (J : ℕ → ℕ) {ma mb ja jb : ℕ}
    (hma : ma < h) (hmb : mb < h) (ha : ja < 2 * h) (hJ : J jb < 2 * h) :
    inner (2 * h) (fun i => ev sc η (unitEnt ja i)) (fun i => ev sc η (unitEnt jb i)) *
      inner (2 * h) (fun i => ev sc η (gt1Tile (2 * h) ma (J ja) i)) (fun i => ev sc η (gt1Tile (2 * h) mb (J jb) i)) =
      if ja = jb ∧ ma = mb then 1 else 0 := by
  rw [inner_unit_unit hS ha]
  by_cases ej : ja = jb
  · rw [ej, inner_tile_tile hR hS hma hmb hJ, if_pos rfl, one_mul]
    exact if_congr (by simp) rfl rfl
  · rw [if_neg ej, zero_mul, if_neg (fun e => ej e.1)]

/-- a tile is orthogonal to the constant vector -/
theorem inner_tile_const (hR : RootData h η) (c : ℂ) {m j : ℕ} (hm : 0 < m) (hmh : m < h) (hj : j < 2 * h) :
    inner (2 * h) (fun i => ev sc η (gt1Tile (2 * h) m j i)) (fun _ => c) = 0 := by
  rw [inner_swap, inner_const_tile hR c hm hmh hj, map_zero]

/-- decoding of the GenTiles1 index `a = ((m-1)·d + j)·2 + s` -/
theorem gt1_index {d a b : ℕ} (hs : a % 2 = b % 2) :
    (a % (2 * d) / 2 = b % (2 * d) / 2 ∧ a / (2 * d) + 1 = b / (2 * d) + 1) ↔ a = b := by
  refine ⟨fun ⟨hj, hm⟩ => ?_, fun e => by rw [e]; exact ⟨rfl, rfl⟩⟩
  have ea := Nat.mod_mod_of_dvd a (Dvd.intro d rfl : 2 ∣ 2 * d)
  have eb := Nat.mod_mod_of_dvd b (Dvd.intro d rfl : 2 ∣ 2 * d)
  have hr : a % (2 * d) = b % (2 * d) := by omega
  have hq : a / (2 * d) = b / (2 * d) := by omega
  rw [← Nat.div_add_mod a (2 * d), ← Nat.div_add_mod b (2 * d), hr, hq]

end gt1b



theorem sum_two {m a a' : ℕ} (ha : a < m) (ha' : a' < m) (hne : a ≠ a') (x y : ℂ) :
    ∑ i ∈ range m, (if i = a then x else if i = a' then y else 0) = x + y := by
  have : ∀ i, (if i = a then x else if i = a' then y else 0) = (if i = a then x else 0) + (if i = a' then y else 0) := by
    intro i; by_cases h1 : i = a
    · simp [h1, hne]
    · simp [h1]
  simp only [this, Finset.sum_add_distrib, Finset.sum_ite_eq', mem_range, ha, ha', if_true]

/-! ### GenTiles2 -/
section gt2
variable {sc : ℕ → ℂ} {ζ : ℂ} {m n : ℕ}

/-- the support of `φ_{j,·}` enumerates the exponents `0 … n-3` exactly once -/
theorem sum_phi (hm : 2 ≤ m) (hmn : m ≤ n) {j' : ℕ} (hj' : j' < m) (g : ℕ → ℂ) :
    ∑ i ∈ range n, (if (if i < m then (i + m - j') % m < m - 2 else i < n) then
        g (if i < m then (i + m - j') % m else i - 2) else 0) = ∑ a ∈ range (n - 2), g a := by
  obtain ⟨t, rfl⟩ := Nat.exists_eq_add_of_le hmn
  have e1 : ∑ i ∈ range m, (if (if i < m then (i + m - j') % m < m - 2 else i < m + t) then
      g (if i < m then (i + m - j') % m else i - 2) else 0) = ∑ a ∈ range (m - 2), g a := by
    have hsplit : ∑ k ∈ range (m - 2 + 2), (if k < m - 2 then g k else 0) = ∑ k ∈ range (m - 2), g k := by
      rw [Finset.sum_range_add, Finset.sum_congr rfl (fun x hx => if_pos (mem_range.1 hx)),
        Finset.sum_eq_zero (fun x _ => if_neg (by omega)), add_zero]
    rw [show m - 2 + 2 = m by omega] at hsplit
    rw [← hsplit, ← sum_rot hj' (fun k => if k < m - 2 then g k else 0)]
    exact Finset.sum_congr rfl fun i hi => by simp only [if_pos (mem_range.1 hi)]
  have e2 : ∑ x ∈ range t, (if (if m + x < m then (m + x + m - j') % m < m - 2 else m + x < m + t) then
      g (if m + x < m then (m + x + m - j') % m else m + x - 2) else 0) = ∑ x ∈ range t, g (m - 2 + x) := by
    refine Finset.sum_congr rfl (fun x hx => ?_)
    have hx := mem_range.1 hx
    simp only [if_neg (show ¬ m + x < m by omega), if_pos (show m + x < m + t by omega)]
    congr 1; omega
  rw [Finset.sum_range_add, e1, e2, show m + t - 2 = (m - 2) + t by omega, Finset.sum_range_add]

theorem ev_gt2Phi (hR : RootData (n - 2) ζ) (j l i : ℕ) :
    ev sc ζ (gt2Phi m n j l i) =
      if (if i < m then (i + m - (j + 1) % m) % m < m - 2 else i < n) then
        sc 2 * ζ ^ (l * (if i < m then (i + m - (j + 1) % m) % m else i - 2)) else 0 := by
  unfold gt2Phi
  simp only
  split
  · split
    · simp [ev, RootEnt.eval, pow_mod_of hR.pow, Nat.mul_comm]
    · exact ev_zero sc ζ
  · split
    · simp [ev, RootEnt.eval, pow_mod_of hR.pow, Nat.mul_comm]
    · exact ev_zero sc ζ

theorem inner_phi_phi (hR : RootData (n - 2) ζ) (hS : ScaleData sc (n - 2) m n) (hm : 2 ≤ m) (hmn : m ≤ n)
    {j l l' : ℕ} (hl : l < n - 2) (hl' : l' < n - 2) :
    inner n (fun i => ev sc ζ (gt2Phi m n j l i)) (fun i => ev sc ζ (gt2Phi m n j l' i)) = if l = l' then 1 else 0 :=
  inner_char_char hR (hS.real 2) hS.tile (sum_phi hm hmn (Nat.mod_lt _ (by omega))) hl hl' (ev_gt2Phi hR j l) (ev_gt2Phi hR j l')

theorem inner_const_phi (hR : RootData (n - 2) ζ) (hm : 2 ≤ m) (hmn : m ≤ n) (c : ℂ)
    {j l : ℕ} (hl0 : 0 < l) (hl : l < n - 2) :
    inner n (fun _ => c) (fun i => ev sc ζ (gt2Phi m n j l i)) = 0 :=
  inner_const_char hR (sum_phi hm hmn (Nat.mod_lt _ (by omega))) hl0 hl c (ev_gt2Phi hR j l)

/-- the party-A difference vector `(e_a − e_{a+1})/√2` -/
theorem ev_gt2A0 {a : ℕ} (ha : a < m) (i : ℕ) :
    ev sc ζ (gt2A m n a i) = if i = a then sc 4 else if i = (a + 1) % m then -sc 4 else 0 := by
  unfold gt2A
  rw [if_pos ha]
  split
  · simp [ev, RootEnt.eval]
  · split
    · simp [ev, RootEnt.eval]
    · exact ev_zero sc ζ

theorem succ_mod_ne {a m : ℕ} (hm : 2 ≤ m) (ha : a < m) : a ≠ (a + 1) % m := by
  rw [succ_mod ha]; split <;> omega

theorem inner_diff_self (hS : ScaleData sc (n - 2) m n) (hm : 2 ≤ m) {a : ℕ} (ha : a < m) :
    inner m (fun i => ev sc ζ (gt2A m n a i)) (fun i => ev sc ζ (gt2A m n a i)) = 1 := by
  unfold inner
  have e : ∀ i ∈ range m, starRingEnd ℂ (ev sc ζ (gt2A m n a i)) * ev sc ζ (gt2A m n a i) =
      if i = a then sc 4 * sc 4 else if i = (a + 1) % m then sc 4 * sc 4 else 0 := by
    intro i _
    rw [ev_gt2A0 ha]
    split
    · rw [hS.real]
    · split
      · rw [map_neg, hS.real]; ring
      · simp
  rw [Finset.sum_congr rfl e, sum_two ha (Nat.mod_lt _ (by omega)) (succ_mod_ne hm ha), ← hS.half]; ring

theorem inner_diff_const (hS : ScaleData sc (n - 2) m n) (hm : 2 ≤ m) {a : ℕ} (ha : a < m) (c : ℂ) :
    inner m (fun i => ev sc ζ (gt2A m n a i)) (fun _ => c) = 0 := by
  unfold inner
  have e : ∀ i ∈ range m, starRingEnd ℂ (ev sc ζ (gt2A m n a i)) * c =
      if i = a then sc 4 * c else if i = (a + 1) % m then -(sc 4 * c) else 0 := by
    intro i _
    rw [ev_gt2A0 ha]
    split
    · rw [hS.real]
    · split
      · rw [map_neg, hS.real]; ring
      · simp
  rw [Finset.sum_congr rfl e, sum_two ha (Nat.mod_lt _ (by omega)) (succ_mod_ne hm ha)]; ring

theorem phi_zero_at (hm : 2 ≤ m) {a j : ℕ} (ha : a < m) (hj : j < m) (h : j = a ∨ j = (a + 1) % m) :
    ¬ (a + m - (j + 1) % m) % m < m - 2 := by
  have hj' : (j + 1) % m < m := Nat.mod_lt _ (by omega)
  rw [rot_eq ha hj', succ_mod hj]
  rw [succ_mod ha] at h
  split <;> split <;> split at h <;> omega

theorem gt2_cross (hR : RootData (n - 2) ζ) (hS : ScaleData sc (n - 2) m n) (hm : 2 ≤ m) (hmn : m ≤ n)
    {a j l : ℕ} (ha : a < m) (hj : j < m) :
    inner m (fun i => ev sc ζ (gt2A m n a i)) (fun i => ev sc ζ (unitEnt j i)) *
      inner n (fun i => ev sc ζ (unitEnt a i)) (fun i => ev sc ζ (gt2Phi m n j l i)) = 0 := by
  rw [inner_unit_right hS.one ζ hj, inner_unit_left hS.one ζ (by omega : a < n), ev_gt2A0 ha, ev_gt2Phi hR]
  simp only [if_pos ha]
  by_cases h : j = a ∨ j = (a + 1) % m
  · rw [if_neg (phi_zero_at hm ha hj h), mul_zero]
  · rw [if_neg (fun e => h (Or.inl e)), if_neg (fun e => h (Or.inr e)), map_zero, zero_mul]

/-- two product vectors of the kind `e_j ⊗ φ_{j,l}` -/
theorem gt2_same (hR : RootData (n - 2) ζ) (hS : ScaleData sc (n - 2) m n) (hm : 2 ≤ m) (hmn : m ≤ n)
    {ja jb la lb : ℕ} (ha : ja < m) (hla : la < n - 2) (hlb : lb < n - 2) :
    inner m (fun i => ev sc ζ (unitEnt ja i)) (fun i => ev sc ζ (unitEnt jb i)) *
      inner n (fun i => ev sc ζ (gt2Phi m n ja la i)) (fun i => ev sc ζ (gt2Phi m n jb lb i)) =
      if ja = jb ∧ la = lb then 1 else 0 := by
  rw [inner_unit_left hS.one ζ ha, ev_unit hS.one]
  by_cases ej : ja = jb
  · rw [ej, inner_phi_phi hR hS hm hmn hla hlb, if_pos rfl, one_mul]
    exact if_congr (by simp) rfl rfl
  · rw [if_neg ej, zero_mul, if_neg (fun e => ej e.1)]

/-- `φ_{j,l}`, `l ≠ 0`, is orthogonal to the constant vector -/
theorem inner_phi_const (hR : RootData (n - 2) ζ) (hm : 2 ≤ m) (hmn : m ≤ n) (c : ℂ) {j l : ℕ} (hl0 : 0 < l) (hl : l < n - 2) :
    inner n (fun i => ev sc ζ (gt2Phi m n j l i)) (fun _ => c) = 0 := by
  rw [inner_swap, inner_const_phi hR hm hmn c hl0 hl, map_zero]

/-- decoding of the GenTiles2 index -/
theorem gt2_index {L a b : ℕ} : (a / L = b / L ∧ a % L + 1 = b % L + 1) ↔ a = b :=
  ⟨fun ⟨hj, hl⟩ => by rw [← Nat.div_add_mod a L, ← Nat.div_add_mod b L, hj, Nat.add_right_cancel hl],
   fun e => by rw [e]; exact ⟨rfl, rfl⟩⟩

end gt2

section


section quadres
variable {p : ℕ} [hp : Fact p.Prime] {ω : ℂ}

/-- the additive character `x ↦ ω^x` of `ℤ/p` -/
noncomputable def chi (ω : ℂ) (x : ZMod p) : ℂ := ω ^ x.val

theorem chi_natCast (hω : ω ^ p = 1) (k : ℕ) : chi ω (k : ZMod p) = ω ^ k := by
  unfold chi; rw [ZMod.val_natCast, pow_mod_of hω]

theorem chi_add (hω : ω ^ p = 1) (x y : ZMod p) : chi ω (x + y) = chi ω x * chi ω y := by
  unfold chi; rw [ZMod.val_add, pow_mod_of hω, pow_add]

theorem chi_zero : chi ω (0 : ZMod p) = 1 := by unfold chi; rw [ZMod.val_zero, pow_zero]

theorem conj_chi (hR : RootData p ω) (x : ZMod p) : starRingEnd ℂ (chi ω x) = chi ω (-x) := by
  have h1 : starRingEnd ℂ (chi ω x) * chi ω x = 1 := conj_pow_mul_pow hR.unit _
  have h2 : chi ω (-x) * chi ω x = 1 := by rw [← chi_add hR.pow, neg_add_cancel, chi_zero]
  have hne : chi ω x ≠ 0 := fun h => by rw [h, mul_zero] at h1; exact zero_ne_one h1
  exact mul_right_cancel₀ hne (h1.trans h2.symm)

theorem sum_chi_univ (hR : RootData p ω) (hp1 : 1 < p) : ∑ x : ZMod p, chi ω x = 0 := by
  have h := hR.vanish 1 Nat.one_pos hp1
  simp only [one_mul] at h
  rw [← h]
  symm
  apply Finset.sum_bij (fun (k : ℕ) _ => (k : ZMod p))
  · intro k _; exact mem_univ _
  · intro a ha b hb hab
    have := (ZMod.natCast_eq_natCast_iff' a b p).1 hab
    rwa [Nat.mod_eq_of_lt (mem_range.1 ha), Nat.mod_eq_of_lt (mem_range.1 hb)] at this
  · intro y _
    exact ⟨y.val, mem_range.2 (ZMod.val_lt y), ZMod.natCast_zmod_val y⟩
  · intro k _; rw [chi_natCast hR.pow]

/-- nonzero squares / nonsquares of `ℤ/p` -/
noncomputable def Qset (p : ℕ) [Fact p.Prime] : Finset (ZMod p) := univ.filter fun x => x ≠ 0 ∧ IsSquare x
noncomputable def Nset (p : ℕ) [Fact p.Prime] : Finset (ZMod p) := univ.filter fun x => x ≠ 0 ∧ ¬ IsSquare x

/-- the character sum over the squares, twisted by `c` -/
noncomputable def G (ω : ℂ) (c : ZMod p) : ℂ := ∑ q ∈ Qset p, chi ω (c * q)

/-- multiplication by `c ≠ 0` carries a sum over `S` to a sum over `T` when it maps `S` into `T` and its inverse `T` into `S` -/
theorem sum_mul_left_bij {c : ZMod p} (hc : c ≠ 0) (S T : Finset (ZMod p)) (hST : ∀ q ∈ S, c * q ∈ T)
    (hTS : ∀ x ∈ T, c⁻¹ * x ∈ S) (F : ZMod p → ℂ) : ∑ q ∈ S, F (c * q) = ∑ x ∈ T, F x :=
  Finset.sum_bij' (fun q _ => c * q) (fun x _ => c⁻¹ * x) hST hTS
    (fun q _ => by rw [← mul_assoc, inv_mul_cancel₀ hc, one_mul]) (fun x _ => by rw [← mul_assoc, mul_inv_cancel₀ hc, one_mul])
    (fun _ _ => rfl)

theorem mem_Qset {x : ZMod p} : x ∈ Qset p ↔ x ≠ 0 ∧ IsSquare x := by
  rw [Qset, mem_filter, and_iff_right (mem_univ x)]

theorem mem_Nset {x : ZMod p} : x ∈ Nset p ↔ x ≠ 0 ∧ ¬ IsSquare x := by
  rw [Nset, mem_filter, and_iff_right (mem_univ x)]

theorem G_of_isSquare {c : ZMod p} (hc : c ≠ 0) (hs : IsSquare c) : G ω c = G ω (1 : ZMod p) := by
  unfold G
  simp only [one_mul]
  exact sum_mul_left_bij hc _ _ (fun q hq => mem_Qset.2 ⟨mul_ne_zero hc (mem_Qset.1 hq).1, hs.mul (mem_Qset.1 hq).2⟩)
    (fun q hq => mem_Qset.2 ⟨mul_ne_zero (inv_ne_zero hc) (mem_Qset.1 hq).1, hs.inv.mul (mem_Qset.1 hq).2⟩) (chi ω)

theorem not_isSquare_mul {c t : ZMod p} (ht : t ≠ 0) (hs : IsSquare t) (hc : ¬ IsSquare c) : ¬ IsSquare (c * t) := by
  intro h
  apply hc
  have : c = c * t * t⁻¹ := by rw [mul_assoc, mul_inv_cancel₀ ht, mul_one]
  rw [this]; exact h.mul hs.inv

theorem isSquare_mul_of_not (hp2 : p ≠ 2) {c t : ZMod p} (hc : ¬ IsSquare c) (ht : ¬ IsSquare t) : IsSquare (c * t) := by
  have hchar : ringChar (ZMod p) ≠ 2 := by rw [ZMod.ringChar_zmod_n]; exact hp2
  have hc0 : c ≠ 0 := fun h => hc (h ▸ IsSquare.zero)
  have ht0 : t ≠ 0 := fun h => ht (h ▸ IsSquare.zero)
  rw [← quadraticChar_one_iff_isSquare (mul_ne_zero hc0 ht0), map_mul,
    (quadraticChar_neg_one_iff_not_isSquare).2 hc, (quadraticChar_neg_one_iff_not_isSquare).2 ht]
  norm_num

/-- multiplication by a non-square maps the non-zero squares bijectively onto the non-squares -/
theorem sum_Qset_mul_nonsq (hp2 : p ≠ 2) (F : ZMod p → ℂ) {c : ZMod p} (hs : ¬ IsSquare c) :
    ∑ q ∈ Qset p, F (c * q) = ∑ x ∈ Nset p, F x := by
  have hc : c ≠ 0 := fun h => hs (h ▸ IsSquare.zero)
  have hs' : ¬ IsSquare c⁻¹ := fun h => hs (inv_inv c ▸ h.inv)
  exact sum_mul_left_bij hc _ _
    (fun q hq => mem_Nset.2 ⟨mul_ne_zero hc (mem_Qset.1 hq).1, not_isSquare_mul (mem_Qset.1 hq).1 (mem_Qset.1 hq).2 hs⟩)
    (fun x hx => mem_Qset.2 ⟨mul_ne_zero (inv_ne_zero hc) (mem_Nset.1 hx).1, isSquare_mul_of_not hp2 hs' (mem_Nset.1 hx).2⟩) F

theorem G_of_not_isSquare (hp2 : p ≠ 2) {c : ZMod p} (hs : ¬ IsSquare c) : G ω c = ∑ x ∈ Nset p, chi ω x :=
  sum_Qset_mul_nonsq hp2 (chi ω) hs

/-- `ℤ/p = {0} ⊔ squares ⊔ non-squares` -/
theorem sum_split (F : ZMod p → ℂ) : ∑ x : ZMod p, F x = F 0 + (∑ x ∈ Qset p, F x + ∑ x ∈ Nset p, F x) := by
  rw [← Finset.sum_filter_add_sum_filter_not univ (fun x : ZMod p => x = 0)]
  have e0 : ∑ x ∈ univ.filter (fun x : ZMod p => x = 0), F x = F 0 := by
    rw [Finset.filter_eq' univ (0 : ZMod p), if_pos (mem_univ _), Finset.sum_singleton]
  rw [e0, ← Finset.sum_filter_add_sum_filter_not (univ.filter fun x : ZMod p => ¬ x = 0) (fun x : ZMod p => IsSquare x),
    Finset.filter_filter, Finset.filter_filter]
  rfl

theorem sum_Nset (hR : RootData p ω) (hp1 : 1 < p) : ∑ x ∈ Nset p, chi ω x = -1 - G ω (1 : ZMod p) := by
  have h0 := sum_chi_univ hR hp1
  rw [sum_split, chi_zero] at h0
  have eG : G ω (1 : ZMod p) = ∑ x ∈ Qset p, chi ω x := by unfold G; simp only [one_mul]
  rw [eG]
  linear_combination h0

/-- there are `(p-1)/2` non-zero squares -/
theorem card_Qset (hp2 : p ≠ 2) : 2 * (Qset p).card + 1 = p := by
  have hchar : ringChar (ZMod p) ≠ 2 := by rw [ZMod.ringChar_zmod_n]; exact hp2
  obtain ⟨a, ha⟩ := FiniteField.exists_nonsquare hchar
  have h1 := sum_split (p := p) (fun _ => (1 : ℂ))
  have h2 := sum_Qset_mul_nonsq hp2 (fun _ => (1 : ℂ)) ha
  simp only [Finset.sum_const, Finset.card_univ, ZMod.card, nsmul_eq_mul, mul_one] at h1 h2
  have : ((2 * (Qset p).card + 1 : ℕ) : ℂ) = (p : ℂ) := by
    push_cast; rw [h1, ← h2]; ring
  exact_mod_cast this

/-- the key vanishing: for `t ≠ 0` and a non-square `s`, `(N + G(t)) (N + G(s t)) = (N + σ)(N − 1 − σ)` -/
theorem G_product (hR : RootData p ω) (hp2 : p ≠ 2) {s t : ZMod p} (hs : ¬ IsSquare s) (ht : t ≠ 0) (Nc : ℂ)
    (hN : Nc = - G ω (1 : ZMod p) ∨ Nc = 1 + G ω (1 : ZMod p)) :
    (Nc + G ω t) * (Nc + G ω (s * t)) = 0 := by
  have hp1 : 1 < p := hp.out.one_lt
  by_cases hsq : IsSquare t
  · rw [G_of_isSquare ht hsq, G_of_not_isSquare hp2 (not_isSquare_mul ht hsq hs), sum_Nset hR hp1]
    rcases hN with h | h <;> rw [h] <;> ring
  · have hs0 : s ≠ 0 := fun h => hs (h ▸ IsSquare.zero)
    rw [G_of_not_isSquare hp2 hsq, G_of_isSquare (mul_ne_zero hs0 ht) (isSquare_mul_of_not hp2 hs hsq), sum_Nset hR hp1]
    rcases hN with h | h <;> rw [h] <;> ring

/-! #### the executed lists `quadResidues p`, `firstNonResidue p` -/

theorem mem_quadResidues {x : ℕ} :
    x ∈ quadResidues p ↔ x < p ∧ x ≠ 0 ∧ IsSquare (x : ZMod p) := by
  have hp1 : 1 < p := hp.out.one_lt
  simp only [quadResidues, List.mem_filter, List.mem_range, Bool.and_eq_true, decide_eq_true_eq, List.any_eq_true,
    beq_iff_eq, ne_eq]
  constructor
  · rintro ⟨hx, hx0, k, _, _, hk⟩
    refine ⟨hx, hx0, (k : ZMod p), ?_⟩
    rw [← hk, ZMod.natCast_mod, Nat.cast_mul]
  · rintro ⟨hx, hx0, y, hy⟩
    refine ⟨hx, hx0, ?_⟩
    have hy0 : y ≠ 0 := by
      rintro rfl
      rw [mul_zero] at hy
      have := (ZMod.natCast_eq_zero_iff x p).1 hy
      exact hx0 (Nat.eq_zero_of_dvd_of_lt this hx)
    have hv : y.val < p := ZMod.val_lt y
    have hv0 : y.val ≠ 0 := fun h => hy0 ((ZMod.val_eq_zero y).1 h)
    have key : ∀ k : ℕ, ((k : ZMod p) = y ∨ (k : ZMod p) = -y) → k * k % p = x := by
      intro k hk
      have : ((k * k : ℕ) : ZMod p) = (x : ZMod p) := by
        rw [Nat.cast_mul, hy]; rcases hk with h | h <;> rw [h]; ring
      have := (ZMod.natCast_eq_natCast_iff' _ _ p).1 this
      rwa [Nat.mod_eq_of_lt hx] at this
    by_cases hle : y.val ≤ p / 2
    · exact ⟨y.val, by omega, hv0, key _ (Or.inl (ZMod.natCast_zmod_val y))⟩
    · refine ⟨p - y.val, by omega, by omega, key _ (Or.inr ?_)⟩
      rw [Nat.cast_sub (le_of_lt hv), ZMod.natCast_self, ZMod.natCast_zmod_val, zero_sub]

theorem quadResidues_nodup (p : ℕ) : (quadResidues p).Nodup := List.Nodup.filter _ List.nodup_range

theorem firstNonResidue_spec (hp2 : p ≠ 2) :
    firstNonResidue p < p ∧ ¬ IsSquare ((firstNonResidue p : ℕ) : ZMod p) := by
  have hchar : ringChar (ZMod p) ≠ 2 := by rw [ZMod.ringChar_zmod_n]; exact hp2
  obtain ⟨a, ha⟩ := FiniteField.exists_nonsquare hchar
  have ha0 : a ≠ 0 := fun h => ha (h ▸ IsSquare.zero)
  have hex : ∃ x ∈ List.range p, (decide (x ≠ 0) && !(quadResidues p).contains x) = true := by
    refine ⟨a.val, List.mem_range.2 (ZMod.val_lt a), ?_⟩
    simp only [ne_eq, Bool.and_eq_true, decide_eq_true_eq, Bool.not_eq_true', List.contains_eq_mem, decide_eq_false_iff_not]
    refine ⟨fun h => ha0 ((ZMod.val_eq_zero a).1 h), fun hm => ha ?_⟩
    have := (mem_quadResidues.1 hm).2.2
    rwa [ZMod.natCast_zmod_val] at this
  unfold firstNonResidue
  cases hf : (List.range p).find? (fun x => decide (x ≠ 0) && !(quadResidues p).contains x) with
  | none =>
    rw [List.find?_eq_none] at hf
    obtain ⟨x, hx, hpx⟩ := hex
    exact absurd hpx (hf x hx)
  | some x =>
    have h1 := List.find?_some hf
    have h2 := List.mem_of_find?_eq_some hf
    simp only [ne_eq, Bool.and_eq_true, decide_eq_true_eq, Bool.not_eq_true', List.contains_eq_mem,
      decide_eq_false_iff_not] at h1
    rw [Option.getD_some]
    have hxp := List.mem_range.1 h2
    exact ⟨hxp, fun hsq => h1.2 (mem_quadResidues.2 ⟨hxp, h1.1, hsq⟩)⟩

theorem sum_getD (l : List ℕ) (F : ℕ → ℂ) : ∑ i ∈ range l.length, F (l.getD i 0) = (l.map F).sum := by
  induction l with
  | nil => simp
  | cons a l ih =>
    rw [List.length_cons, Finset.sum_range_succ', List.map_cons, List.sum_cons, add_comm]
    congr 1

/-- a sum over the executed residue list is the sum over the non-zero squares of `ℤ/p` -/
theorem sum_quadResidues (F : ZMod p → ℂ) :
    ∑ i ∈ range (quadResidues p).length, F (((quadResidues p).getD i 0 : ℕ) : ZMod p) = ∑ q ∈ Qset p, F q := by
  rw [sum_getD (quadResidues p) (fun x => F (x : ZMod p)), ← List.sum_toFinset _ (quadResidues_nodup p)]
  apply Finset.sum_bij (fun (x : ℕ) _ => (x : ZMod p))
  · intro x hx
    have := mem_quadResidues.1 (List.mem_toFinset.1 hx)
    exact mem_Qset.2 ⟨fun h => this.2.1 (Nat.eq_zero_of_dvd_of_lt ((ZMod.natCast_eq_zero_iff x p).1 h) this.1), this.2.2⟩
  · intro a ha b hb hab
    have h1 := (mem_quadResidues.1 (List.mem_toFinset.1 ha)).1
    have h2 := (mem_quadResidues.1 (List.mem_toFinset.1 hb)).1
    have := (ZMod.natCast_eq_natCast_iff' a b p).1 hab
    rwa [Nat.mod_eq_of_lt h1, Nat.mod_eq_of_lt h2] at this
  · intro y hy
    have hy := mem_Qset.1 hy
    refine ⟨y.val, List.mem_toFinset.2 (mem_quadResidues.2 ⟨ZMod.val_lt y, fun h => hy.1 ((ZMod.val_eq_zero y).1 h), ?_⟩),
      ZMod.natCast_zmod_val y⟩
    rw [ZMod.natCast_zmod_val]; exact hy.2
  · intro x _; rfl

/-- `σ = Σ_{q ∈ quadResidues p} ω^q`, the executed list sum, is the character sum `G 1` -/
theorem sigma_eq_G (hω : ω ^ p = 1) : ((quadResidues p).map (fun q => ω ^ q)).sum = G ω (1 : ZMod p) := by
  rw [← sum_getD, G, ← sum_quadResidues]
  refine Finset.sum_congr rfl (fun i _ => ?_)
  rw [one_mul, chi_natCast hω]

/-- the scale relations of the QuadRes family; `Nc` is the weight `N` of `upb.py:106` -/
structure QuadScale (sc : ℕ → ℂ) (ω : ℂ) (p : ℕ) (Nc : ℂ) : Prop where
  real6 : starRingEnd ℂ (sc 6) = sc 6
  real7 : starRingEnd ℂ (sc 7) = sc 7
  first : sc 6 * sc 6 = Nc * (sc 7 * sc 7)
  norm : sc 7 * sc 7 * (Nc + ((quadResidues p).length : ℂ)) = 1
  choice : Nc = -((quadResidues p).map (fun q => ω ^ q)).sum ∨ Nc = 1 + ((quadResidues p).map (fun q => ω ^ q)).sum

variable {sc : ℕ → ℂ}

/-- the common shape of the two local families: `(√N, ω^{c·q_i·b})_i`, normalised -/
noncomputable def qrVec (sc : ℕ → ℂ) (ω : ℂ) (c : ZMod p) (b i : ℕ) : ℂ :=
  if i = 0 then sc 6 else sc 7 * chi ω (c * (((quadResidues p).getD (i - 1) 0 : ℕ) : ZMod p) * (b : ZMod p))

theorem ev_qrA (hω : ω ^ p = 1) (b i : ℕ) : ev sc ω (qrA p b i) = qrVec sc ω (1 : ZMod p) b i := by
  unfold qrA qrVec
  split
  · simp [ev, RootEnt.eval]
  · simp only [ev, RootEnt.eval]
    rw [if_neg (by decide), if_neg (by decide), pow_mod_of hω, one_mul, ← Nat.cast_mul, chi_natCast hω]

theorem ev_qrB (hω : ω ^ p = 1) (b i : ℕ) :
    ev sc ω (qrB p b i) = qrVec sc ω ((firstNonResidue p : ℕ) : ZMod p) b i := by
  unfold qrB qrVec
  split
  · simp [ev, RootEnt.eval]
  · simp only [ev, RootEnt.eval]
    rw [if_neg (by decide), if_neg (by decide), pow_mod_of hω, ← Nat.cast_mul, ← ZMod.natCast_mod (_ * _) p,
      ← Nat.cast_mul, chi_natCast hω]

theorem inner_qrVec (hR : RootData p ω) {Nc : ℂ} (hS : QuadScale sc ω p Nc) (c : ZMod p) (a b : ℕ) :
    inner ((quadResidues p).length + 1) (qrVec sc ω c a) (qrVec sc ω c b) =
      sc 7 * sc 7 * (Nc + G ω (c * ((b : ZMod p) - (a : ZMod p)))) := by
  unfold inner
  rw [Finset.sum_range_succ']
  have e : ∀ i ∈ range (quadResidues p).length,
      starRingEnd ℂ (qrVec sc ω c a (i + 1)) * qrVec sc ω c b (i + 1) =
        sc 7 * sc 7 * (fun q => chi ω (c * ((b : ZMod p) - (a : ZMod p)) * q))
          (((quadResidues p).getD i 0 : ℕ) : ZMod p) := by
    intro i _
    simp only [qrVec, if_neg (Nat.succ_ne_zero i), Nat.add_sub_cancel, map_mul, hS.real7, conj_chi hR]
    rw [show ∀ x y z w : ℂ, x * y * (z * w) = x * z * (y * w) by intros; ring, ← chi_add hR.pow]
    congr 2; ring
  rw [Finset.sum_congr rfl e, ← Finset.mul_sum,
    sum_quadResidues (fun q => chi ω (c * ((b : ZMod p) - (a : ZMod p)) * q))]
  have z : ∀ x, qrVec sc ω c x 0 = sc 6 := fun x => by simp [qrVec]
  rw [z, z, hS.real6, hS.first, G]
  ring

end quadres

end

/-! ### the relations hold for the numbers of the library -/
section instances

/-- `exp(2πi/h)` -/
noncomputable def rootC (h : ℕ) : ℂ := Complex.exp (2 * Real.pi * Complex.I / h)

theorem rootData_rootC {h : ℕ} (hh : 0 < h) : RootData h (rootC h) := by
  have hprim : IsPrimitiveRoot (rootC h) h := Complex.isPrimitiveRoot_exp h (by omega)
  refine ⟨hprim.pow_eq_one, ?_, ?_⟩
  · have hn : ‖rootC h‖ = 1 := Complex.norm_eq_one_of_pow_eq_one hprim.pow_eq_one (by omega)
    rw [mul_comm, Complex.mul_conj, Complex.normSq_eq_norm_sq, hn]; simp
  · intro j hj hjh
    have hne : rootC h ^ j ≠ 1 := hprim.pow_ne_one_of_pos_of_lt (by omega) hjh
    simp only [pow_mul]
    rw [geom_sum_eq hne, ← pow_mul, mul_comm, pow_mul, hprim.pow_eq_one, one_pow, sub_self, zero_div]

/-- the real scales `1`, `1/√h`, `1/√dA`, `1/√2`, `1/√dB` of the classes `1 … 5` -/
noncomputable def scaleC (h dA dB : ℕ) (c : ℕ) : ℂ :=
  ((if c = 1 then 1 else if c = 2 then 1 / Real.sqrt h else if c = 3 then 1 / Real.sqrt dA
    else if c = 4 then 1 / Real.sqrt 2 else if c = 5 then 1 / Real.sqrt dB else 0 : ℝ) : ℂ)

theorem roots_inv_sqrt_mul_self {x : ℝ} (hx : 0 < x) : 1 / Real.sqrt x * (1 / Real.sqrt x) * x = 1 := by
  rw [div_mul_div_comm, one_mul, Real.mul_self_sqrt hx.le, one_div, inv_mul_cancel₀ hx.ne']

end instances


section quadInst
variable {p : ℕ} [hp : Fact p.Prime]

/-- `σ = Σ_{q ∈ Q} exp(2πi q/p)` (`upb.py:105`, before `.real`) -/
noncomputable def sigmaC (p : ℕ) : ℂ := ((quadResidues p).map (fun q => rootC p ^ q)).sum

/-- `N = max(−σ, 1+σ)` (`upb.py:106`) -/
noncomputable def weightN (p : ℕ) : ℝ := max (-(sigmaC p).re) (1 + (sigmaC p).re)

/-- classes `6`, `7`: `√N/√(N+|Q|)`, `1/√(N+|Q|)` -/
noncomputable def scaleQ (p : ℕ) (c : ℕ) : ℂ :=
  ((if c = 6 then Real.sqrt (weightN p) / Real.sqrt (weightN p + (quadResidues p).length)
    else if c = 7 then 1 / Real.sqrt (weightN p + (quadResidues p).length) else 0 : ℝ) : ℂ)

/-- for `p ≡ 1 (mod 4)`, `−1` is a square, so `σ` is real -/
theorem sigmaC_real (h4 : p % 4 = 1) : ((sigmaC p).re : ℂ) = sigmaC p := by
  have hR := rootData_rootC hp.out.pos
  rw [← Complex.conj_eq_iff_re]
  unfold sigmaC; rw [sigma_eq_G hR.pow]
  have hm1 : IsSquare (-1 : ZMod p) := ZMod.exists_sq_eq_neg_one_iff.2 (by omega)
  have hne : (-1 : ZMod p) ≠ 0 := neg_ne_zero.2 one_ne_zero
  conv_rhs => rw [← G_of_isSquare hne hm1]
  unfold G; rw [map_sum]
  refine Finset.sum_congr rfl (fun q _ => ?_)
  rw [one_mul, conj_chi hR, neg_one_mul]

theorem weightN_pos (p : ℕ) : 0 < weightN p := by
  unfold weightN
  rcases le_total (sigmaC p).re (-1 / 2) with h | h
  · exact lt_of_lt_of_le (by linarith) (le_max_left _ _)
  · exact lt_of_lt_of_le (by linarith) (le_max_right _ _)

end quadInst

end Numqi.Catalogue
