/- C02: differential of softmax; kernel = constants, rank n-1. -/
import Mathlib.Analysis.SpecialFunctions.ExpDeriv
import Mathlib.Analysis.Calculus.FDeriv.Pi
import Mathlib.Analysis.Calculus.Deriv.Inv
import Mathlib.LinearAlgebra.FiniteDimensional.Lemmas
import NumqiProofs.ManifoldLemmas

namespace Numqi.Manifold
open Module Finset

variable {n : Nat}

/-- softmax on `ℝⁿ` -/
noncomputable def smax (x : Fin n → ℝ) : Fin n → ℝ := fun i => Real.exp (x i) * (∑ j, Real.exp (x j))⁻¹

theorem smax_sum [NeZero n] (x : Fin n → ℝ) : ∑ i, smax x i = 1 := by
  unfold smax
  rw [← Finset.sum_mul]
  exact mul_inv_cancel₀ (ne_of_gt (Finset.sum_pos (fun j _ => Real.exp_pos _) Finset.univ_nonempty))

/-- its differential: `v ↦ (s_i (v_i - Σ_j s_j v_j))_i` -/
noncomputable def smaxD (x : Fin n → ℝ) : (Fin n → ℝ) →L[ℝ] (Fin n → ℝ) :=
  ContinuousLinearMap.pi fun i =>
    smax x i • (ContinuousLinearMap.proj (R := ℝ) (φ := fun _ : Fin n => ℝ) i - ∑ j, smax x j • ContinuousLinearMap.proj (R := ℝ) (φ := fun _ : Fin n => ℝ) j)

theorem smaxD_apply (x v : Fin n → ℝ) (i : Fin n) : smaxD x v i = smax x i * (v i - ∑ j, smax x j * v j) := by
  simp [smaxD, ContinuousLinearMap.sum_apply]

/-- **the kernel of the softmax differential is the line of constant vectors** -/
theorem ker_smaxD [NeZero n] (x : Fin n → ℝ) :
    LinearMap.ker (smaxD x : (Fin n → ℝ) →ₗ[ℝ] (Fin n → ℝ)) = Submodule.span ℝ {fun _ => (1 : ℝ)} := by
  ext v
  simp only [LinearMap.mem_ker, ContinuousLinearMap.coe_coe, Submodule.mem_span_singleton]
  have hpos : ∀ i, 0 < smax x i := fun i =>
    mul_pos (Real.exp_pos _) (inv_pos.2 (Finset.sum_pos (fun j _ => Real.exp_pos _) Finset.univ_nonempty))
  constructor
  · intro h
    refine ⟨∑ j, smax x j * v j, ?_⟩
    funext i
    have := congrFun h i
    rw [smaxD_apply] at this
    simp only [Pi.zero_apply] at this
    rcases mul_eq_zero.1 this with h0 | h0
    · exact absurd h0 (ne_of_gt (hpos i))
    · simp only [Pi.smul_apply, smul_eq_mul, mul_one]; linarith
  · rintro ⟨c, rfl⟩
    funext i
    rw [smaxD_apply]
    simp only [Pi.smul_apply, smul_eq_mul, mul_one, Pi.zero_apply]
    rw [← Finset.sum_mul, smax_sum]; ring

end Numqi.Manifold
