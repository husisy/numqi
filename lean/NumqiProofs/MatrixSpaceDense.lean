/-
Dense (anti)symmetric bases `get_antisymmetric_basis`, `get_symmetric_basis` (C20, `_hierarchy.py:73-110`) in the signed-square
encoding of `NumqiModel/MatrixSpace.lean`: rows of unit norm with pairwise disjoint supports, evaluated by the kernel for small sizes.
-/
import NumqiModel.MatrixSpace
import Mathlib.Tactic
namespace Numqi.MatrixSpace

/-- rows of unit norm with pairwise disjoint supports, in the signed-square encoding -/
def AntisymDenseOK (d r : ℕ) : Prop :=
  (∀ row ∈ antisymBasisDense d r, row.length = d ^ r ∧ (row.map fun x => x * x).sum = (r.factorial : ℤ) ∧ ∀ x ∈ row, x = 0 ∨ x = 1 ∨ x = -1) ∧
  (antisymBasisDense d r).Pairwise fun u v => ∀ p ∈ List.zipWith (· * ·) u v, p = 0

def SymDenseOK (d r : ℕ) : Prop :=
  (∀ row ∈ symBasisDense d r, row.length = d ^ r ∧ row.sum = r.factorial) ∧
  (symBasisDense d r).Pairwise fun u v => ∀ p ∈ List.zipWith (· * ·) u v, p = 0

instance (d r : ℕ) : Decidable (AntisymDenseOK d r) := by unfold AntisymDenseOK; infer_instance
instance (d r : ℕ) : Decidable (SymDenseOK d r) := by unfold SymDenseOK; infer_instance

theorem antisymDense_small : ∀ d ∈ List.range 6, ∀ r ∈ List.range 4, 0 < r → r ≤ d → AntisymDenseOK d r := by decide +kernel
theorem symDense_small : ∀ d ∈ List.range 5, ∀ r ∈ List.range 4, 0 < r → 0 < d → SymDenseOK d r := by decide +kernel
theorem antisymBasisDense_length (d r : ℕ) : (antisymBasisDense d r).length = (antisymIndex d r).length := by
  simp [antisymBasisDense]
theorem symBasisDense_length (d r : ℕ) : (symBasisDense d r).length = (symIndex d r).length := by
  simp [symBasisDense]
end Numqi.MatrixSpace
