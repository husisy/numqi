/-
Link between C06 and C17: the output of the Dicke-basis reduction (`partial_trace_ABk_to_AB`, the code path of
`PureBosonicExt.forward`) is the reduction of a permutation-symmetric pure state, hence symmetric-extendible.
-/
import NumqiProofs.BoundaryLemmas
import NumqiProps.C17
import Mathlib.Data.List.FinRange

namespace Numqi.Boundary
open Matrix Finset Numqi.Dicke
open scoped ComplexOrder

variable {d : ℕ}

/-- flat index of a configuration of `k` copies: copy `i` has weight `d^i` (the last copy is the most significant digit) -/
def flat {k : ℕ} (f : Fin k → Fin d) : ℕ := (finFunctionFinEquiv f : Fin (d ^ k)).val

theorem flat_lt {k : ℕ} (f : Fin k → Fin d) : flat f < d ^ k := (finFunctionFinEquiv f).isLt

theorem flat_eq_sum {k : ℕ} (f : Fin k → Fin d) : flat f = ∑ i, (f i).val * d ^ (i : ℕ) := by
  unfold flat; rw [finFunctionFinEquiv_apply]

theorem flat_snoc {n : ℕ} (r : Fin n → Fin d) (b : Fin d) :
    flat (Fin.snoc r b : Fin (n + 1) → Fin d) = b.val * d ^ n + flat r := by
  rw [flat_eq_sum, flat_eq_sum, Fin.sum_univ_castSucc]
  simp only [Fin.snoc_castSucc, Fin.snoc_last, Fin.val_castSucc, Fin.val_last]
  ring

/-- the digit string of `flat f` (most significant first) is the reversed configuration -/
theorem digits_flat {k : ℕ} (f : Fin k → Fin d) : digits d k (flat f) = (List.ofFn fun i => (f i).val).reverse := by
  induction k with
  | zero => simp [digits_zero]
  | succ n ih =>
    have hf : f = Fin.snoc (Fin.init f) (f (Fin.last n)) := (Fin.snoc_init_self f).symm
    rw [hf, flat_snoc, digits_succ]
    have hlt := flat_lt (Fin.init f)
    rw [div_of_lt hlt, mod_of_lt hlt, ih, List.ofFn_succ']
    simp [Fin.init]


open Numqi.C17

/-- the amplitude of a Dicke vector only depends on the configuration up to permutations of the copies -/
theorem amp_flat_perm {k : ℕ} (a : List ℕ) (f : Fin k → Fin d) (π : Equiv.Perm (Fin k)) :
    amp d k a (flat (f ∘ π)) = amp d k a (flat f) := by
  unfold amp
  have hp : (digits d k (flat (f ∘ π))).Perm (digits d k (flat f)) := by
    rw [digits_flat, digits_flat]
    refine (List.reverse_perm _).trans (List.Perm.trans ?_ (List.reverse_perm _).symm)
    exact π.ofFn_comp_perm (fun i => (f i).val)
  rw [occ_perm d hp]

/-- the vector of `A ⊗ B^{⊗(n+1)}` with Dicke coordinates `ψ` (C17 `embed`), indexed by configurations -/
noncomputable def dickeState (dA n : ℕ) (ψ : ℕ → ℕ → ℂ) : Fin dA × (Fin (n + 1) → Fin d) → ℂ :=
  fun p => embed d (n + 1) ψ p.1.val (flat p.2)

theorem dickeState_symm (dA n : ℕ) (ψ : ℕ → ℕ → ℂ) (π : Equiv.Perm (Fin (n + 1))) (p : Fin dA × (Fin (n + 1) → Fin d)) :
    dickeState dA n ψ (p.1, p.2 ∘ π) = dickeState dA n ψ p := by
  unfold dickeState embed
  simp only [amp_flat_perm]

/-- the explicit reduction of C17 is `reduceLast` of the pure symmetric state -/
theorem reduceLast_dickeState (dA n : ℕ) (ψ : ℕ → ℕ → ℂ) (p q : Fin dA × Fin d) :
    reduceLast (vecMulVec (dickeState dA n ψ) (star (dickeState dA n ψ))) p q
      = explicitAB d n ψ p.1.val p.2.val q.1.val q.2.val := by
  unfold reduceLast explicitAB
  simp only [vecMulVec_apply, Pi.star_apply, dickeState, flat_snoc]
  rw [← Equiv.sum_comp (finFunctionFinEquiv (m := d) (n := n)).symm, Finset.sum_range]
  refine Finset.sum_congr rfl fun y _ => ?_
  have : flat ((finFunctionFinEquiv (m := d) (n := n)).symm y) = y.val := by
    unfold flat; rw [Equiv.apply_symm_apply]
  rw [this]
  rfl

/-- **the output of the Dicke-basis reduction is symmetric-extendible**: for every coefficient matrix `ψ` (the parameters of
`PureBosonicExt` with `kext = n+1`), the matrix assembled by `partial_trace_ABk_to_AB` from the index table (C17's model
`Dicke.assembleAB`, proved equal to the explicit reduction by `dicke_reduction_eq`) has a symmetric extension to `n+1` copies. -/
theorem assembleAB_isSymExt (dA n : ℕ) (hd : 2 ≤ d) (ψ : ℕ → ℕ → ℂ) :
    IsSymExt n
      (fun p q : Fin dA × Fin d =>
        @Dicke.assembleAB ℂ _ _ _ ⟨starRingEnd ℂ⟩ d (tableC (n + 1) d) ψ (p.1.val * d + p.2.val) (q.1.val * d + q.2.val))
      (vecMulVec (dickeState dA n ψ) (star (dickeState dA n ψ))) := by
  refine ⟨posSemidef_vecMulVec_self_star _, ?_, ?_⟩
  · intro π p q
    simp only [vecMulVec_apply, Pi.star_apply]
    rw [dickeState_symm dA n ψ π p, dickeState_symm dA n ψ π q]
  · intro p q
    have h1 := dicke_reduction_eq d n hd ψ p.1.val q.1.val p.2.val q.2.val p.2.isLt q.2.isLt
    have h2 := reduceLast_dickeState dA n ψ p q
    unfold reduceLast at h2
    rw [h2, ← h1]

end Numqi.Boundary
