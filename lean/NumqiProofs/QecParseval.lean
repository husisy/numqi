/-
C19: the Pauli operators `X^x Z^z` (`x, z < 2^n`) form an orthogonal operator basis — the Parseval
identity behind the weight-enumerator sum rules.
-/
import NumqiProofs.QecPauliAct

namespace Numqi.Qec
variable {R : Type} [CommRing R]

/-- `(-1)^b` -/
def sg (b : Bool) : R := if b then -1 else 1

theorem sg_mul (a b : Bool) : (sg a : R) * sg b = sg (a ^^ b) := by
  cases a <;> cases b <;> simp [sg]

theorem sum_range_const_one (N : Nat) : (∑ _i ∈ Finset.range N, (1 : R)) = N := by simp

/-- character sum: `Σ_{z<2^n} (-1)^{z·m} = 2^n [m = 0]` -/
theorem char_sum (h2 : ∀ a b : R, 2 * a = 2 * b → a = b) (n m : Nat) (hm : m < 2 ^ n) (hn : n ≤ 32) :
    ∑ z ∈ Finset.range (2 ^ n), (sg (par (z &&& m)) : R) = if m = 0 then 2 ^ n else 0 := by
  by_cases h0 : m = 0
  · subst h0; simp [sg]
  · simp only [h0, if_false]
    -- some bit q < n of m is set
    obtain ⟨q, hq⟩ : ∃ q, m.testBit q = true := by
      by_contra hc
      simp only [not_exists, Bool.not_eq_true] at hc
      apply h0
      apply Nat.eq_of_testBit_eq
      intro i; simp [hc i]
    have hqn : q < n := by
      by_contra hc
      have : m < 2 ^ q := lt_of_lt_of_le hm (Nat.pow_le_pow_right (by norm_num) (by omega))
      rw [Nat.testBit_lt_two_pow this] at hq; exact Bool.false_ne_true hq
    have hflip := sum_xor (R := R) (bit q) (bit_lt hqn) (fun z => sg (par (z &&& m)))
    have : ∀ z, (sg (par ((z ^^^ bit q) &&& m)) : R) = - sg (par (z &&& m)) := by
      intro z
      rw [par_fl_and _ _ (by omega : q < 32), hq]
      cases par (z &&& m) <;> simp [sg]
    simp only [this, Finset.sum_neg_distrib] at hflip
    apply h2
    rw [mul_zero, two_mul]
    nth_rewrite 1 [← hflip]
    ring

variable [StarRing R]

theorem star_sg (b : Bool) : star (sg b : R) = sg b := by cases b <;> simp [sg]

/-- matrix element of `X^x Z^z` between two vectors, spelled out -/
theorem ip_pauliAct_zero {I : R} (hI : I * I = -1) (n x z : Nat) (u v : Nat → R) :
    ip n u (pauliAct I ⟨0, x, z⟩ v)
      = ∑ i ∈ Finset.range (2 ^ n), star (u i) * (sg (par (z &&& (i ^^^ x))) * v (i ^^^ x)) := by
  unfold ip
  apply Finset.sum_congr rfl
  intro i _
  simp only [pauliAct, Nat.zero_add]
  congr 2
  cases par (z &&& (i ^^^ x)) <;> simp [sg, ipow, hI]

/-- **Parseval identity for the Pauli basis**:
`Σ_{x,z<2^n} conj⟨u|X^xZ^z|v⟩ · ⟨w|X^xZ^z|y⟩ = 2^n ⟨w|u⟩ ⟨v|y⟩`. -/
theorem pauli_parseval {I : R} (hI : I * I = -1) (h2 : ∀ a b : R, 2 * a = 2 * b → a = b) (n : Nat) (hn : n ≤ 32)
    (u v w y : Nat → R) :
    ∑ x ∈ Finset.range (2 ^ n), ∑ z ∈ Finset.range (2 ^ n),
        star (ip n u (pauliAct I ⟨0, x, z⟩ v)) * ip n w (pauliAct I ⟨0, x, z⟩ y)
      = 2 ^ n * (ip n w u * ip n v y) := by
  have hterm : ∀ x ∈ Finset.range (2 ^ n),
      ∑ z ∈ Finset.range (2 ^ n), star (ip n u (pauliAct I ⟨0, x, z⟩ v)) * ip n w (pauliAct I ⟨0, x, z⟩ y)
        = 2 ^ n * ∑ i ∈ Finset.range (2 ^ n), (star (w i) * u i) * (star (v (i ^^^ x)) * y (i ^^^ x)) := by
    intro x hx
    rw [Finset.mem_range] at hx
    -- expand both matrix elements, exchange the sums, do the z-sum first
    have e1 : ∀ z, star (ip n u (pauliAct I ⟨0, x, z⟩ v)) * ip n w (pauliAct I ⟨0, x, z⟩ y)
        = ∑ i ∈ Finset.range (2 ^ n), ∑ j ∈ Finset.range (2 ^ n),
            (u i * star (v (i ^^^ x)) * (star (w j) * y (j ^^^ x))) * sg (par (z &&& (i ^^^ j))) := by
      intro z
      rw [ip_pauliAct_zero hI, ip_pauliAct_zero hI, star_sum, Finset.sum_mul_sum]
      apply Finset.sum_congr rfl; intro i _
      apply Finset.sum_congr rfl; intro j _
      simp only [star_mul, star_star, star_sg]
      have hx' : (i ^^^ x) ^^^ (j ^^^ x) = i ^^^ j := by
        apply Nat.eq_of_testBit_eq; intro k; simp only [Nat.testBit_xor]
        cases i.testBit k <;> cases j.testBit k <;> cases x.testBit k <;> rfl
      have hs : (sg (par (z &&& (i ^^^ x))) : R) * sg (par (z &&& (j ^^^ x))) = sg (par (z &&& (i ^^^ j))) := by
        rw [sg_mul, ← par_xor, ← Nat.and_xor_distrib_left, hx']
      rw [← hs]; ring
    simp only [e1]
    rw [Finset.sum_comm]
    have e2 : ∀ i ∈ Finset.range (2 ^ n),
        ∑ z ∈ Finset.range (2 ^ n), ∑ j ∈ Finset.range (2 ^ n),
            (u i * star (v (i ^^^ x)) * (star (w j) * y (j ^^^ x))) * sg (par (z &&& (i ^^^ j)))
          = 2 ^ n * ((star (w i) * u i) * (star (v (i ^^^ x)) * y (i ^^^ x))) := by
      intro i hi
      rw [Finset.mem_range] at hi
      rw [Finset.sum_comm]
      have e3 : ∀ j ∈ Finset.range (2 ^ n),
          ∑ z ∈ Finset.range (2 ^ n), (u i * star (v (i ^^^ x)) * (star (w j) * y (j ^^^ x))) * sg (par (z &&& (i ^^^ j)))
            = (u i * star (v (i ^^^ x)) * (star (w j) * y (j ^^^ x))) * (if i = j then 2 ^ n else 0) := by
        intro j hj
        rw [Finset.mem_range] at hj
        rw [← Finset.mul_sum, char_sum h2 n (i ^^^ j) (Nat.xor_lt_two_pow hi hj) hn]
        congr 1
        by_cases hij : i = j
        · rw [hij, Nat.xor_self, if_pos rfl, if_pos rfl]
        · have : i ^^^ j ≠ 0 := fun e => hij (Nat.eq_of_testBit_eq (fun k => by
            have := congrArg (fun m => m.testBit k) e
            simp only [Nat.testBit_xor, Nat.zero_testBit] at this
            revert this; cases i.testBit k <;> cases j.testBit k <;> simp))
          rw [if_neg this, if_neg hij]
      rw [Finset.sum_congr rfl e3, Finset.sum_eq_single i]
      · rw [if_pos rfl]; ring
      · intro j _ hj; rw [if_neg (Ne.symm hj), mul_zero]
      · intro hni; exact absurd (Finset.mem_range.2 hi) hni
    rw [Finset.sum_congr rfl e2, ← Finset.mul_sum]
  rw [Finset.sum_congr rfl hterm, ← Finset.mul_sum, Finset.sum_comm]
  congr 1
  -- Σ_i (star w_i u_i) Σ_x star(v_{i^x}) y_{i^x}
  have e4 : ∀ i ∈ Finset.range (2 ^ n),
      ∑ x ∈ Finset.range (2 ^ n), (star (w i) * u i) * (star (v (i ^^^ x)) * y (i ^^^ x))
        = (star (w i) * u i) * ip n v y := by
    intro i hi
    rw [Finset.mem_range] at hi
    rw [← Finset.mul_sum]
    congr 1
    have := sum_xor (R := R) i hi (fun k => star (v k) * y k)
    unfold ip
    rw [← this]
    apply Finset.sum_congr rfl; intro x _
    simp only [Nat.xor_comm]
  rw [Finset.sum_congr rfl e4, ← Finset.sum_mul]
  rfl

/-- **sum rules of the weight enumerators** for `K` pairwise orthogonal vectors of squared norm `N`
(sums over the whole Pauli basis `X^x Z^z`, `x,z < 2^n`, identity included):
`Σ_P |Σ_a ⟨c_a|P|c_a⟩|² = 2^n K N²` and `Σ_P Σ_ab |⟨c_a|P|c_b⟩|² = 2^n K² N²`
(with `A_j`, `B_j` normalised as in `quantum_weight_enumerator` and `N = 1`: `Σ_j A_j = 2^n/K`, `Σ_j B_j = 2^n K`). -/
theorem enumerator_sum_rules {I : R} (hI : I * I = -1) (h2 : ∀ a b : R, 2 * a = 2 * b → a = b) (n : Nat) (hn : n ≤ 32)
    (K : Nat) (N : R) (c : Nat → Nat → R)
    (horth : ∀ a < K, ∀ b < K, ip n (c a) (c b) = if a = b then N else 0) :
    (∑ x ∈ Finset.range (2 ^ n), ∑ z ∈ Finset.range (2 ^ n),
        star (∑ a ∈ Finset.range K, ip n (c a) (pauliAct I ⟨0, x, z⟩ (c a)))
          * (∑ a ∈ Finset.range K, ip n (c a) (pauliAct I ⟨0, x, z⟩ (c a)))) = 2 ^ n * (K * (N * N))
    ∧ (∑ x ∈ Finset.range (2 ^ n), ∑ z ∈ Finset.range (2 ^ n), ∑ a ∈ Finset.range K, ∑ b ∈ Finset.range K,
        star (ip n (c a) (pauliAct I ⟨0, x, z⟩ (c b))) * ip n (c a) (pauliAct I ⟨0, x, z⟩ (c b)))
        = 2 ^ n * (K * K * (N * N)) := by
  constructor
  · have e : ∀ x z, star (∑ a ∈ Finset.range K, ip n (c a) (pauliAct I ⟨0, x, z⟩ (c a)))
          * (∑ a ∈ Finset.range K, ip n (c a) (pauliAct I ⟨0, x, z⟩ (c a)))
        = ∑ a ∈ Finset.range K, ∑ b ∈ Finset.range K,
            star (ip n (c a) (pauliAct I ⟨0, x, z⟩ (c a))) * ip n (c b) (pauliAct I ⟨0, x, z⟩ (c b)) := by
      intro x z; rw [star_sum, Finset.sum_mul_sum]
    simp only [e]
    -- bring the sums over a, b outside
    have sw : ∀ (f : Nat → Nat → Nat → Nat → R),
        ∑ x ∈ Finset.range (2 ^ n), ∑ z ∈ Finset.range (2 ^ n), ∑ a ∈ Finset.range K, ∑ b ∈ Finset.range K, f x z a b
          = ∑ a ∈ Finset.range K, ∑ b ∈ Finset.range K, ∑ x ∈ Finset.range (2 ^ n), ∑ z ∈ Finset.range (2 ^ n), f x z a b := by
      intro f
      calc _ = ∑ x ∈ Finset.range (2 ^ n), ∑ a ∈ Finset.range K, ∑ z ∈ Finset.range (2 ^ n), ∑ b ∈ Finset.range K, f x z a b := by
            apply Finset.sum_congr rfl; intro x _; rw [Finset.sum_comm]
        _ = ∑ a ∈ Finset.range K, ∑ x ∈ Finset.range (2 ^ n), ∑ z ∈ Finset.range (2 ^ n), ∑ b ∈ Finset.range K, f x z a b := by
            rw [Finset.sum_comm]
        _ = ∑ a ∈ Finset.range K, ∑ x ∈ Finset.range (2 ^ n), ∑ b ∈ Finset.range K, ∑ z ∈ Finset.range (2 ^ n), f x z a b := by
            apply Finset.sum_congr rfl; intro a _; apply Finset.sum_congr rfl; intro x _; rw [Finset.sum_comm]
        _ = _ := by
            apply Finset.sum_congr rfl; intro a _; rw [Finset.sum_comm]
    rw [sw]
    have e5 : ∀ a ∈ Finset.range K, ∀ b ∈ Finset.range K,
        ∑ x ∈ Finset.range (2 ^ n), ∑ z ∈ Finset.range (2 ^ n),
          star (ip n (c a) (pauliAct I ⟨0, x, z⟩ (c a))) * ip n (c b) (pauliAct I ⟨0, x, z⟩ (c b))
        = 2 ^ n * (if a = b then N * N else 0) := by
      intro a ha b hb
      rw [Finset.mem_range] at ha hb
      rw [pauli_parseval hI h2 n hn, horth b hb a ha, horth a ha b hb]
      by_cases hab : a = b
      · subst hab; simp
      · have : ¬ (b = a) := fun e => hab e.symm
        simp [hab, this]
    rw [Finset.sum_congr rfl (fun a ha => Finset.sum_congr rfl (fun b hb => e5 a ha b hb))]
    simp only [← Finset.mul_sum, Finset.sum_ite_eq, Finset.mem_range]
    congr 1
    rw [Finset.sum_congr rfl (fun a ha => by rw [if_pos (Finset.mem_range.1 ha)])]
    simp
  · have sw : ∀ (f : Nat → Nat → Nat → Nat → R),
        ∑ x ∈ Finset.range (2 ^ n), ∑ z ∈ Finset.range (2 ^ n), ∑ a ∈ Finset.range K, ∑ b ∈ Finset.range K, f x z a b
          = ∑ a ∈ Finset.range K, ∑ b ∈ Finset.range K, ∑ x ∈ Finset.range (2 ^ n), ∑ z ∈ Finset.range (2 ^ n), f x z a b := by
      intro f
      calc _ = ∑ x ∈ Finset.range (2 ^ n), ∑ a ∈ Finset.range K, ∑ z ∈ Finset.range (2 ^ n), ∑ b ∈ Finset.range K, f x z a b := by
            apply Finset.sum_congr rfl; intro x _; rw [Finset.sum_comm]
        _ = ∑ a ∈ Finset.range K, ∑ x ∈ Finset.range (2 ^ n), ∑ z ∈ Finset.range (2 ^ n), ∑ b ∈ Finset.range K, f x z a b := by
            rw [Finset.sum_comm]
        _ = ∑ a ∈ Finset.range K, ∑ x ∈ Finset.range (2 ^ n), ∑ b ∈ Finset.range K, ∑ z ∈ Finset.range (2 ^ n), f x z a b := by
            apply Finset.sum_congr rfl; intro a _; apply Finset.sum_congr rfl; intro x _; rw [Finset.sum_comm]
        _ = _ := by
            apply Finset.sum_congr rfl; intro a _; rw [Finset.sum_comm]
    rw [sw]
    have e5 : ∀ a ∈ Finset.range K, ∀ b ∈ Finset.range K,
        ∑ x ∈ Finset.range (2 ^ n), ∑ z ∈ Finset.range (2 ^ n),
          star (ip n (c a) (pauliAct I ⟨0, x, z⟩ (c b))) * ip n (c a) (pauliAct I ⟨0, x, z⟩ (c b))
        = 2 ^ n * (N * N) := by
      intro a ha b hb
      rw [Finset.mem_range] at ha hb
      rw [pauli_parseval hI h2 n hn, horth a ha a ha, horth b hb b hb]
      simp
    rw [Finset.sum_congr rfl (fun a ha => Finset.sum_congr rfl (fun b hb => e5 a ha b hb))]
    simp only [Finset.sum_const, Finset.card_range, nsmul_eq_mul]
    ring

end Numqi.Qec
