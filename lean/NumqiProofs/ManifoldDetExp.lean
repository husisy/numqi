/- C01: det (exp A) = 1 for traceless skew-Hermitian A, by the spectral theorem (SU(d) exp chart). -/
import NumqiProofs.ManifoldMaps
import Mathlib.Analysis.Matrix.Spectrum
import Mathlib.Analysis.SpecialFunctions.Exponential

namespace Numqi.Manifold
open Matrix
local notation "mexp" => NormedSpace.exp

variable {n : Type} [Fintype n] [DecidableEq n]

/-- `det (exp A) = 1` for traceless skew-Hermitian `A` — by unitary diagonalisation of `H = -iA`
(`det ∘ exp = exp ∘ tr` is not in Mathlib in general, the spectral theorem gives it for normal matrices). -/
theorem det_exp_of_skew_traceless (A : Matrix n n ℂ) (hA : Aᴴ = -A) (ht : trace A = 0) : det (mexp A) = 1 := by
  set H : Matrix n n ℂ := (-Complex.I) • A with hH
  have hHh : H.IsHermitian := by
    show Hᴴ = H
    rw [hH, conjTranspose_smul, hA]; simp
  have hAH : A = Complex.I • H := by rw [hH, smul_smul]; simp
  set U : Matrix n n ℂ := (hHh.eigenvectorUnitary : Matrix n n ℂ) with hU
  set D : Matrix n n ℂ := diagonal (RCLike.ofReal ∘ hHh.eigenvalues) with hD
  have hspec : H = U * D * star U := by
    have := hHh.spectral_theorem
    rwa [Unitary.conjStarAlgAut_apply] at this
  have hUU : U * star U = 1 := Unitary.coe_mul_star_self hHh.eigenvectorUnitary
  have hUinv : U⁻¹ = star U := Matrix.inv_eq_right_inv hUU
  have hUunit : IsUnit U := (Matrix.isUnit_iff_isUnit_det _).2 ((Matrix.isUnit_det_of_right_inverse hUU))
  have hA2 : A = U * (Complex.I • D) * U⁻¹ := by
    rw [hAH, hspec, hUinv]; simp
  rw [hA2, Matrix.exp_conj _ _ hUunit, Matrix.det_conj hUunit]
  have hID : Complex.I • D = diagonal (fun k => Complex.I * ((hHh.eigenvalues k : ℝ) : ℂ)) := by
    rw [hD]; ext i j; simp [diagonal_apply]
  rw [hID, Matrix.exp_diagonal, det_diagonal]
  simp only [Pi.coe_exp, ← Complex.exp_eq_exp_ℂ]
  rw [← Complex.exp_sum, ← Finset.mul_sum]
  have htr : ∑ k, ((hHh.eigenvalues k : ℝ) : ℂ) = 0 := by
    have h1 := hHh.trace_eq_sum_eigenvalues (𝕜 := ℂ)
    have h0 : H.trace = 0 := by rw [hH, trace_smul, ht, smul_zero]
    rw [h0] at h1
    simpa using h1.symm
  rw [htr, mul_zero, Complex.exp_zero]

end Numqi.Manifold
