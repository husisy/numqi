/-
Batched transvection (`x.ndim ≥ 2`): elementwise over the leading axes, rows stay below `2^m`.
-/
import NumqiProofs.SpF2Index

namespace Numqi.SpF2

theorem tvs_lt {n m : Nat} (hs : List Nat) : ∀ {x : Nat}, x < 2 ^ m → (∀ h ∈ hs, h < 2 ^ m) → tvs n x hs < 2 ^ m := by
  induction hs with
  | nil => intro x hx _; exact hx
  | cons h hs ih =>
    intro x hx hh
    show tvs n (tv n x h) hs < 2 ^ m
    exact ih (tv_lt hx (hh h (List.mem_cons_self ..))) (fun g hg => hh g (List.mem_cons_of_mem _ hg))

theorem tvsBatch_length (n : Nat) (rows hs : List Nat) : (tvsBatch n rows hs).length = rows.length := by
  simp [tvsBatch]

theorem tvsBatch_getD (n : Nat) (rows hs : List Nat) (i : Nat) (hi : i < rows.length) :
    (tvsBatch n rows hs).getD i 0 = tvs n (rows.getD i 0) hs := by
  unfold tvsBatch
  simp [List.getD_eq_getElem?_getD, List.getElem?_map, List.getElem?_eq_getElem hi]

theorem tvsBatch_flatten (n : Nat) (Ms : List (List Nat)) (hs : List Nat) :
    tvsBatch n Ms.flatten hs = (Ms.map fun M => tvsBatch n M hs).flatten := by
  simp [tvsBatch, List.map_flatten]

end Numqi.SpF2
