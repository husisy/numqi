/-
`get_matrix_orthogonal_basis` (C20): the three claims of the property from the contracts of `svd` and `eigh`.

Every branch has the shape  coordinates `X` → `reduce_vector_space` (`V`) → `get_vector_orthogonal_basis` (`W`) → map `Φ` back to
matrices, where `Φ` is linear over the base field and multiplies inner products by a constant `κ`.
-/
import NumqiProofs.MatrixSpaceLemmas
import Mathlib.LinearAlgebra.Span.Basic
import Mathlib.Algebra.Star.Module

namespace Numqi.MatrixSpace
open Finset

section generic
variable {F : Type} [Field F] [StarRing F] {E : Type} [AddCommGroup E] [Module F E] {L : ℕ}

/-- `Σ_i conj(x_i) y_i` (`np0.conj() @ np0.T`) -/
def dotS (x y : Fin L → F) : F := ∑ i, star (x i) * y i

theorem dotS_add_right (x y z : Fin L → F) : dotS x (y + z) = dotS x y + dotS x z := by
  simp only [dotS, Pi.add_apply, mul_add, Finset.sum_add_distrib]

theorem dotS_smul_right (a : F) (x y : Fin L → F) : dotS x (a • y) = a * dotS x y := by
  simp only [dotS, Pi.smul_apply, smul_eq_mul, Finset.mul_sum]
  exact Finset.sum_congr rfl fun i _ => by ring

theorem dotS_zero_right (x : Fin L → F) : dotS x 0 = 0 := by
  simp only [dotS, Pi.zero_apply, mul_zero, Finset.sum_const_zero]

theorem dotS_star (x y : Fin L → F) : star (dotS x y) = dotS y x := by
  simp only [dotS, star_sum, star_mul', star_star]
  exact Finset.sum_congr rfl fun i _ => by ring

/-- orthogonality to a family extends to its span -/
theorem dotS_span_zero {ι : Type} (V : ι → Fin L → F) (w x : Fin L → F) (hw : ∀ j, dotS w (V j) = 0)
    (hx : x ∈ Submodule.span F (Set.range V)) : dotS w x = 0 := by
  induction hx using Submodule.span_induction with
  | mem y hy => obtain ⟨j, rfl⟩ := hy; exact hw j
  | zero => exact dotS_zero_right w
  | add y z _ _ hy hz => rw [dotS_add_right, hy, hz, add_zero]
  | smul a y _ hy => rw [dotS_smul_right, hy, mul_zero]

/-- **`eigh` contract ⇒ complement ⟂ basis**: an eigenvector of `1 - VᵀV̄` for the eigenvalue 1 (what `EVC[:, N0:]` holds when the
rows of `V` are orthonormal) is orthogonal to every row of `V`. -/
theorem complement_orth_of_eigen {k : ℕ} (V : Fin k → Fin L → F)
    (hV : ∀ i j, dotS (V i) (V j) = if i = j then 1 else 0) (w : Fin L → F)
    (heig : ∀ p, w p - ∑ j, V j p * dotS (V j) w = w p) (l : Fin k) : dotS (V l) w = 0 := by
  have h0 : ∀ p, ∑ j, V j p * dotS (V j) w = 0 := fun p => by have := heig p; linear_combination -this
  have : ∑ p, star (V l p) * ∑ j, V j p * dotS (V j) w = 0 := by
    simp only [h0, mul_zero, Finset.sum_const_zero]
  rw [← this]
  simp only [Finset.mul_sum]
  rw [Finset.sum_comm]
  have h2 : ∀ j, ∑ p, star (V l p) * (V j p * dotS (V j) w) = dotS (V l) (V j) * dotS (V j) w := by
    intro j; simp only [dotS, Finset.sum_mul]; exact Finset.sum_congr rfl fun p _ => by ring
  simp only [h2, hV, ite_mul, one_mul, zero_mul, Finset.sum_ite_eq, Finset.mem_univ, if_true]

/-- **the three claims of the property, for any branch**: `Φ` linear with `⟪Φx, Φy⟫ = κ·⟨x,y⟩`;
`svd` contract: the rows `V` are orthonormal and span the row space of the coordinate matrix `X`;
`eigh` contract: the rows `W` are orthogonal to the rows of `V`.  Then
(1) the returned basis `Φ V_i` is mutually orthogonal with the common squared norm `κ`;
(2) it spans exactly the span of the input `Φ X_i`;
(3) the returned complement `Φ W_i` is orthogonal to the basis and to the input. -/
theorem orth_basis_claims (ip : E → E → F) (Φ : (Fin L → F) →ₗ[F] E) (κ : F)
    (hiso : ∀ x y, ip (Φ x) (Φ y) = κ * dotS x y) {N0 k c : ℕ}
    (X : Fin N0 → Fin L → F) (V : Fin k → Fin L → F) (W : Fin c → Fin L → F)
    (hV : ∀ i j, dotS (V i) (V j) = if i = j then 1 else 0)
    (hspan : Submodule.span F (Set.range V) = Submodule.span F (Set.range X))
    (hWV : ∀ i j, dotS (W i) (V j) = 0) :
    (∀ i j, ip (Φ (V i)) (Φ (V j)) = if i = j then κ else 0)
    ∧ Submodule.span F (Set.range fun i => Φ (V i)) = Submodule.span F (Set.range fun i => Φ (X i))
    ∧ (∀ i j, ip (Φ (W i)) (Φ (V j)) = 0) ∧ (∀ i j, ip (Φ (W i)) (Φ (X j)) = 0) := by
  refine ⟨fun i j => ?_, ?_, fun i j => ?_, fun i j => ?_⟩
  · rw [hiso, hV]; split <;> simp
  · have h1 : (Set.range fun i => Φ (V i)) = Φ '' Set.range V := by rw [← Set.range_comp]; rfl
    have h2 : (Set.range fun i => Φ (X i)) = Φ '' Set.range X := by rw [← Set.range_comp]; rfl
    rw [h1, h2, ← Submodule.map_span, ← Submodule.map_span, hspan]
  · rw [hiso, hWV, mul_zero]
  · rw [hiso]
    have : X j ∈ Submodule.span F (Set.range V) := by rw [hspan]; exact Submodule.subset_span ⟨j, rfl⟩
    rw [dotS_span_zero V (W i) (X j) (hWV i) this, mul_zero]

end generic


/-! ### the maps back to matrices, branch by branch -/

section reshape
variable {F : Type} [Field F] [StarRing F] {m n : ℕ}

/-- Frobenius form `Σ conj(A_ij) B_ij = tr(AᴴB)` -/
def frob (A B : Fin m → Fin n → F) : F := ∑ i, ∑ j, star (A i j) * B i j

/-- branches `R` / `C`: `x.reshape(N1, N2)` (row-major) -/
def reshapeL (m n : ℕ) : (Fin (m * n) → F) →ₗ[F] (Fin m → Fin n → F) where
  toFun x := fun i j => x (finProdFinEquiv (i, j))
  map_add' x y := by funext i j; rfl
  map_smul' a x := by funext i j; rfl

theorem reshapeL_apply (x : Fin (m * n) → F) (i : Fin m) (j : Fin n) :
    ((reshapeL m n x) i j : F) = x ⟨j.val + n * i.val, by
      calc j.val + n * i.val < n + n * i.val := by omega
        _ = n * (i.val + 1) := by ring
        _ ≤ n * m := Nat.mul_le_mul_left _ i.isLt
        _ = m * n := Nat.mul_comm _ _⟩ := rfl

/-- the reshape keeps inner products (`κ = 1`) -/
theorem reshapeL_iso (x y : Fin (m * n) → F) : frob (reshapeL m n x) (reshapeL m n y) = 1 * dotS x y := by
  rw [one_mul]
  unfold frob dotS
  rw [← Equiv.sum_comp finProdFinEquiv (fun p => star (x p) * y p), Fintype.sum_prod_type]
  rfl

end reshape

section realify
variable {N1 N2 : ℕ}

/-- entry `p` of a coordinate row (`0` outside, as `List.getD`) -/
def gd {L : ℕ} (x : Fin L → ℝ) (p : ℕ) : ℝ := if h : p < L then x ⟨p, h⟩ else 0

theorem getD_ofFn {L : ℕ} (x : Fin L → ℝ) (p : ℕ) : (List.ofFn x).getD p 0 = gd x p := by
  unfold gd
  by_cases h : p < L
  · simp [List.getD_eq_getElem?_getD, h]
  · simp [List.getD_eq_getElem?_getD, h]

theorem gd_add {L : ℕ} (x y : Fin L → ℝ) (p : ℕ) : gd (x + y) p = gd x p + gd y p := by
  unfold gd; split <;> simp

theorem gd_smul {L : ℕ} (a : ℝ) (x : Fin L → ℝ) (p : ℕ) : gd (a • x) p = a * gd x p := by
  unfold gd; split <;> simp

/-- branch `R_c`: `x.reshape(N1, 2·N2)`, column split, `np.block([[r,-i],[i,r]])` — as a function of the coordinate row -/
def realifyFn (N1 N2 : ℕ) (x : Fin (N1 * (N2 + N2)) → ℝ) : ℕ → ℕ → ℝ :=
  blockRealify N1 N2 (rcUnflatten N1 N2 (List.ofFn x)).1 (rcUnflatten N1 N2 (List.ofFn x)).2

theorem realifyFn_eq (x : Fin (N1 * (N2 + N2)) → ℝ) :
    realifyFn N1 N2 x = blockRealify N1 N2 (fun a b => gd x (a * (2 * N2) + b)) (fun a b => gd x (a * (2 * N2) + N2 + b)) := by
  unfold realifyFn rcUnflatten
  simp only [getD_ofFn]

def realifyL (N1 N2 : ℕ) : (Fin (N1 * (N2 + N2)) → ℝ) →ₗ[ℝ] (Fin (N1 + N1) → Fin (N2 + N2) → ℝ) where
  toFun x := fun p q => realifyFn N1 N2 x p.val q.val
  map_add' x y := by
    funext p q
    simp only [realifyFn_eq, blockRealify, gd_add, Pi.add_apply]
    split_ifs <;> ring
  map_smul' a x := by
    funext p q
    simp only [realifyFn_eq, blockRealify, gd_smul, Pi.smul_apply, smul_eq_mul, RingHom.id_apply]
    split_ifs <;> ring

/-- the block form doubles inner products (`κ = 2`): the returned matrices are mutually orthogonal of common squared norm 2 -/
theorem realifyL_iso (x y : Fin (N1 * (N2 + N2)) → ℝ) :
    frob (realifyL N1 N2 x) (realifyL N1 N2 y) = 2 * dotS x y := by
  unfold frob dotS
  simp only [star_trivial]
  have hL : ∀ (f : ℕ → ℕ → ℝ), ∑ p : Fin (N1 + N1), ∑ q : Fin (N2 + N2), f p.val q.val
      = ∑ p ∈ range (N1 + N1), ∑ q ∈ range (N2 + N2), f p q := by
    intro f
    rw [Finset.sum_range]
    exact Finset.sum_congr rfl fun p _ => (Finset.sum_range _).symm
  have h1 := hL (fun p q => realifyFn N1 N2 x p q * realifyFn N1 N2 y p q)
  have e : ∑ p : Fin (N1 + N1), ∑ q : Fin (N2 + N2), (realifyL N1 N2 x) p q * (realifyL N1 N2 y) p q
      = ∑ p : Fin (N1 + N1), ∑ q : Fin (N2 + N2), realifyFn N1 N2 x p.val q.val * realifyFn N1 N2 y p.val q.val := rfl
  rw [e, h1, realifyFn_eq, realifyFn_eq, blockRealify_inner]
  congr 1
  -- Σ_a Σ_b (x[a·2N2+b] y[..] + x[a·2N2+N2+b] y[..]) = Σ_p x_p y_p
  have hrow : ∀ a, ∑ b ∈ range N2, (gd x (a * (2 * N2) + b) * gd y (a * (2 * N2) + b)
        + gd x (a * (2 * N2) + N2 + b) * gd y (a * (2 * N2) + N2 + b))
      = ∑ b ∈ range (N2 + N2), gd x (a * (2 * N2) + b) * gd y (a * (2 * N2) + b) := by
    intro a
    rw [Finset.sum_add_distrib, Finset.sum_range_add]
    congr 1
    exact Finset.sum_congr rfl fun b _ => by rw [Nat.add_assoc]
  simp only [hrow]
  rw [← Equiv.sum_comp finProdFinEquiv (fun p => x p * y p), Fintype.sum_prod_type, Finset.sum_range]
  refine Finset.sum_congr rfl fun a _ => ?_
  rw [Finset.sum_range]
  refine Finset.sum_congr rfl fun b _ => ?_
  have hlt : a.val * (2 * N2) + b.val < N1 * (N2 + N2) := by
    calc a.val * (2 * N2) + b.val < a.val * (2 * N2) + (N2 + N2) := by omega
      _ = (a.val + 1) * (N2 + N2) := by ring
      _ ≤ N1 * (N2 + N2) := Nat.mul_le_mul_right _ a.isLt
  have hidx : (finProdFinEquiv (a, b) : Fin (N1 * (N2 + N2))) = ⟨a.val * (2 * N2) + b.val, hlt⟩ := by
    apply Fin.ext
    simp only [finProdFinEquiv_apply_val]
    ring
  rw [hidx]
  simp [gd, hlt]

end realify

end Numqi.MatrixSpace
