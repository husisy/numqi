/-
C09: the closed-form inverse `Λ Sᵀ Λ` (`np.roll(mat.T, n, axis=(0,1))`) is a two-sided inverse of a
symplectic matrix.  `S · inverse S = 1` is the row condition `S Λ Sᵀ = Λ` read entry-wise; the other
order follows from it because a one-sided inverse of a square matrix over a field is two-sided
(Mathlib `mul_eq_one_comm` for matrices over `ZMod 2`).
-/
import NumqiProofs.SpF2Index
import Mathlib.Data.Matrix.Mul
import Mathlib.Data.ZMod.Basic
import Mathlib.Algebra.BigOperators.Fin

namespace Numqi.SpF2

/-- xor of `f 0 … f (k-1)` -/
def xorUpTo (f : Nat → Bool) : Nat → Bool
  | 0 => false
  | k + 1 => xorUpTo f k ^^ f k

theorem testBit_vecMul (a : Nat) (B : List Nat) (k j : Nat) :
    (vecMul a B k).testBit j = xorUpTo (fun t => a.testBit t && (B.getD t 0).testBit j) k := by
  induction k with
  | zero => simp [vecMul, xorUpTo]
  | succ k ih =>
    rw [vecMul, Nat.testBit_xor, ih, xorUpTo]
    cases a.testBit k <;> simp

theorem xorUpTo_xor (f g : Nat → Bool) (k : Nat) :
    xorUpTo (fun t => f t ^^ g t) k = (xorUpTo f k ^^ xorUpTo g k) := by
  induction k with
  | zero => rfl
  | succ k ih =>
    simp only [xorUpTo, ih]
    cases xorUpTo f k <;> cases xorUpTo g k <;> cases f k <;> cases g k <;> rfl

theorem xorUpTo_add (f : Nat → Bool) (a b : Nat) :
    xorUpTo f (a + b) = (xorUpTo f a ^^ xorUpTo (fun t => f (t + a)) b) := by
  induction b with
  | zero => simp [xorUpTo]
  | succ b ih =>
    rw [← Nat.add_assoc, xorUpTo, ih, xorUpTo, Nat.add_comm b a]
    cases xorUpTo f a <;> cases xorUpTo (fun t => f (t + a)) b <;> cases f (a + b) <;> rfl

theorem xorUpTo_congr {f g : Nat → Bool} {k : Nat} (h : ∀ t, t < k → f t = g t) : xorUpTo f k = xorUpTo g k := by
  induction k with
  | zero => rfl
  | succ k ih => rw [xorUpTo, xorUpTo, ih (fun t ht => h t (by omega)), h k (by omega)]

theorem xorUpTo_false (k : Nat) : xorUpTo (fun _ => false) k = false := by
  induction k with
  | zero => rfl
  | succ k ih => simp [xorUpTo, ih]

theorem ipUpTo_eq (n v w k : Nat) :
    ipUpTo n v w k = (xorUpTo (fun t => v.testBit t && w.testBit (t + n)) k ^^
      xorUpTo (fun t => v.testBit (t + n) && w.testBit t) k) := by
  rw [← xorUpTo_xor]
  induction k with
  | zero => rfl
  | succ k ih => rw [ipUpTo, xorUpTo, ih]; rfl

/-- the symplectic product as one sum over all `2n` positions -/
theorem ip_eq_xorUpTo (n v w : Nat) :
    ip n v w = xorUpTo (fun t => v.testBit t && w.testBit ((t + n) % (2 * n))) (2 * n) := by
  unfold ip
  rw [ipUpTo_eq, two_mul, xorUpTo_add]
  congr 1
  · apply xorUpTo_congr; intro t ht
    rw [Nat.mod_eq_of_lt (by omega)]
  · apply xorUpTo_congr; intro t ht
    have : (t + n + n) % (n + n) = t := by
      rw [Nat.add_assoc, Nat.add_mod_right, Nat.mod_eq_of_lt (by omega)]
    simp only [this]

theorem inverse_getD {n : Nat} (M : List Nat) {i : Nat} (hi : i < 2 * n) :
    (inverse n M).getD i 0 = ofFn (2 * n) fun j => (M.getD ((j + n) % (2 * n)) 0).testBit ((i + n) % (2 * n)) := by
  unfold inverse; rw [getD_map_range _ _ _ hi]

theorem idMat_getD {m i : Nat} (hi : i < m) : (idMat m).getD i 0 = 2 ^ i := by
  unfold idMat; rw [getD_map_range _ _ _ hi]

theorem inverse_lt {n : Nat} (M : List Nat) (t : Nat) (ht : t < 2 * n) : (inverse n M).getD t 0 < 2 ^ (2 * n) := by
  rw [inverse_getD M ht]; exact ofFn_lt _ _

theorem vecMul_lt {a m : Nat} (B : List Nat) (hB : ∀ t, t < m → B.getD t 0 < 2 ^ m) (k : Nat) (hk : k ≤ m) :
    vecMul a B k < 2 ^ m := by
  induction k with
  | zero => simp [vecMul]
  | succ k ih =>
    rw [vecMul]
    refine xor_lt (ih (by omega)) ?_
    split
    · exact hB k (by omega)
    · positivity

theorem matMul_getD {m i : Nat} (A B : List Nat) (hi : i < m) : (matMul m A B).getD i 0 = vecMul (A.getD i 0) B m := by
  unfold matMul; rw [getD_map_range _ _ _ hi]

/-- `S · inverse(S) = 1`, entry by entry, is the row condition -/
theorem matMul_inverse {n : Nat} (M : List Nat) (hsp : RowsSp n M) : matMul (2 * n) M (inverse n M) = idMat (2 * n) := by
  refine ext_getD (m := 2 * n) (by simp [matMul]) (by simp [idMat]) fun i hi => ?_
  rw [matMul_getD _ _ hi, idMat_getD hi]
  refine eq_of_testBit_lt (vecMul_lt _ (inverse_lt M) _ le_rfl) (Nat.pow_lt_pow_right (by norm_num) hi) fun j hj => ?_
  rw [testBit_vecMul, Nat.testBit_two_pow]
  have hjn : (j + n) % (2 * n) < 2 * n := Nat.mod_lt _ (by omega)
  have e : xorUpTo (fun t => (M.getD i 0).testBit t && ((inverse n M).getD t 0).testBit j) (2 * n)
      = ip n (M.getD i 0) (M.getD ((j + n) % (2 * n)) 0) := by
    rw [ip_eq_xorUpTo]
    apply xorUpTo_congr; intro t ht
    rw [inverse_getD M ht, testBit_ofFn]; simp [hj]
  rw [e, hsp i _ hi hjn, Bool.eq_iff_iff, lam_iff]
  simp only [decide_eq_true_eq]
  by_cases hjl : j < n
  · rw [Nat.mod_eq_of_lt (by omega)]; omega
  · have : (j + n) % (2 * n) = j - n := by
      have : j + n = (j - n) + 2 * n := by omega
      rw [this, Nat.add_mod_right, Nat.mod_eq_of_lt (by omega)]
    rw [this]; omega

/-! ### the other order, through Mathlib matrices over `ZMod 2` -/

def b2z (b : Bool) : ZMod 2 := if b then 1 else 0

theorem b2z_xor (a b : Bool) : b2z (a ^^ b) = b2z a + b2z b := by cases a <;> cases b <;> decide
theorem b2z_and (a b : Bool) : b2z (a && b) = b2z a * b2z b := by cases a <;> cases b <;> decide
theorem b2z_inj {a b : Bool} (h : b2z a = b2z b) : a = b := by
  revert h; cases a <;> cases b <;> decide

def toMat (m : Nat) (M : List Nat) : Matrix (Fin m) (Fin m) (ZMod 2) :=
  fun i j => b2z ((M.getD i.val 0).testBit j.val)

theorem b2z_xorUpTo (f : Nat → Bool) (k : Nat) : b2z (xorUpTo f k) = ∑ t ∈ Finset.range k, b2z (f t) := by
  induction k with
  | zero => rfl
  | succ k ih => rw [xorUpTo, b2z_xor, ih, Finset.sum_range_succ]

theorem toMat_matMul (m : Nat) (A B : List Nat) : toMat m (matMul m A B) = toMat m A * toMat m B := by
  ext i j
  rw [Matrix.mul_apply]
  simp only [toMat]
  rw [matMul_getD A B i.isLt, testBit_vecMul, b2z_xorUpTo, Finset.sum_range]
  exact Finset.sum_congr rfl (fun t _ => b2z_and _ _)

theorem toMat_idMat (m : Nat) : toMat m (idMat m) = 1 := by
  ext i j
  simp only [toMat, idMat_getD i.isLt, Nat.testBit_two_pow, Matrix.one_apply, Fin.ext_iff]
  by_cases h : i.val = j.val <;> simp [h, b2z]

/-- two well-formed matrices with the same `ZMod 2` matrix are equal -/
theorem eq_of_toMat_eq {m : Nat} {A B : List Nat} (hA : A.length = m) (hB : B.length = m)
    (hAl : ∀ t, t < m → A.getD t 0 < 2 ^ m) (hBl : ∀ t, t < m → B.getD t 0 < 2 ^ m)
    (h : toMat m A = toMat m B) : A = B := by
  refine ext_getD hA hB fun i hi => ?_
  exact eq_of_testBit_lt (hAl i hi) (hBl i hi) fun j hj => b2z_inj (congrFun (congrFun h ⟨i, hi⟩) ⟨j, hj⟩)

theorem inverse_matMul {n : Nat} (M : List Nat) (hwf : WF n M) (hsp : RowsSp n M) :
    matMul (2 * n) (inverse n M) M = idMat (2 * n) := by
  have h1 := congrArg (toMat (2 * n)) (matMul_inverse M hsp)
  rw [toMat_matMul, toMat_idMat] at h1
  have h2 := mul_eq_one_comm.mp h1
  rw [← toMat_matMul, ← toMat_idMat] at h2
  have hM : ∀ t, t < 2 * n → M.getD t 0 < 2 ^ (2 * n) := by
    intro t ht; rw [← four_pow]; exact hwf.2 t ht
  refine eq_of_toMat_eq (by simp [matMul]) (by simp [idMat]) ?_ ?_ h2
  · intro t ht; rw [matMul_getD _ _ ht]; exact vecMul_lt M hM _ le_rfl
  · intro t ht; rw [idMat_getD ht]; exact Nat.pow_lt_pow_right (by norm_num) ht

/-! ### `get_number` -/

theorem order_succ (n : Nat) : order (n + 1) = order n * (4 ^ (n + 1) - 1) * (4 ^ (n + 1) / 2) := by
  simp [order, basePairs, List.foldl_append]

theorem order_eq_prod (n : Nat) :
    order n = ∏ i ∈ Finset.range n, ((4 ^ (i + 1) - 1) * 2 ^ (2 * (i + 1) - 1)) := by
  induction n with
  | zero => rfl
  | succ n ih =>
    rw [order_succ, Finset.prod_range_succ, ← ih, Nat.mul_assoc]
    rw [four_pow_half n.succ_pos]

theorem cosetNumbers_prod (n : Nat) : (cosetNumbers n).prod = order n := by
  induction n with
  | zero => rfl
  | succ n ih =>
    rw [order_succ, ← ih]
    simp [cosetNumbers, basePairs, Nat.mul_assoc]

theorem allTuples_length (n : Nat) : (allTuples n).length = order n := by
  induction n with
  | zero => rfl
  | succ n ih =>
    rw [order_succ, ← ih, allTuples]
    simp [List.length_flatMap, Nat.mul_assoc]

end Numqi.SpF2
