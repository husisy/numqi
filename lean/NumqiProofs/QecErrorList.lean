/-
C19: the model of `make_error_list` enumerates every Pauli string of weight `1..d-1` exactly once; each entry is the operator of
its string; and, from the shape of the entries, the Knill–Laflamme check by pairwise different syndromes (last section).
-/
import Mathlib.Tactic
import NumqiProofs.ForceList

namespace Numqi.Qec

/-! ### `combs` = `itertools.combinations` -/

/-- the same sub-lists as Mathlib's `sublistsLen`, in `itertools` order -/
theorem combs_perm {α : Type} (l : List α) (k : Nat) : (combs l k).Perm (List.sublistsLen k l) := by
  induction l generalizing k with
  | nil => cases k <;> simp [combs]
  | cons a l ih =>
    cases k with
    | zero => simp [combs]
    | succ k =>
      rw [combs, List.sublistsLen_succ_cons]
      exact List.perm_append_comm.trans ((ih (k + 1)).append ((ih k).map _))

theorem mem_combs {α : Type} (l : List α) (k : Nat) (s : List α) :
    s ∈ combs l k ↔ s.Sublist l ∧ s.length = k :=
  (combs_perm l k).mem_iff.trans List.mem_sublistsLen

theorem nodup_combs {α : Type} (l : List α) (hl : l.Nodup) (k : Nat) : (combs l k).Nodup :=
  (combs_perm l k).nodup_iff.2 (List.nodup_sublistsLen k hl)

/-- a sublist of a duplicate-free list is determined by its elements -/
theorem sublist_eq_filter {α : Type} [DecidableEq α] {s l : List α} (h : s.Sublist l) (hl : l.Nodup) :
    l.filter (fun x => decide (x ∈ s)) = s := by
  induction h with
  | slnil => rfl
  | cons a h ih =>
    rename_i s l
    rw [List.nodup_cons] at hl
    have : a ∉ s := fun ha => hl.1 (h.subset ha)
    rw [List.filter_cons]
    simp only [this, decide_false, Bool.false_eq_true, if_false]
    exact ih hl.2
  | cons_cons a h ih =>
    rename_i s l
    rw [List.nodup_cons] at hl
    rw [List.filter_cons]
    simp only [List.mem_cons, true_or, decide_true, if_true]
    have hc : List.filter (fun x => decide (x = a ∨ x ∈ s)) l = List.filter (fun x => decide (x ∈ s)) l := by
      apply List.filter_congr
      intro x hx
      have : x ≠ a := fun e => hl.1 (e ▸ hx)
      simp [this]
    rw [hc, ih hl.2]

/-! ### `prods` = `itertools.product([X,Y,Z], repeat=w)` -/

theorem mem_prods (w : Nat) (g : List Nat) :
    g ∈ prods w ↔ g.length = w ∧ ∀ x ∈ g, x = 1 ∨ x = 2 ∨ x = 3 := by
  induction w generalizing g with
  | zero => simp only [prods, List.mem_singleton, List.length_eq_zero_iff]; constructor
            · intro h; subst h; simp
            · intro h; exact h.1
  | succ w ih =>
    simp only [prods, List.mem_flatMap, List.mem_map, ih]
    constructor
    · rintro ⟨o, ho, r, ⟨hl, hr⟩, rfl⟩
      refine ⟨by simp [hl], ?_⟩
      intro x hx
      rcases List.mem_cons.1 hx with rfl | hx
      · simpa using ho
      · exact hr x hx
    · rintro ⟨hl, hr⟩
      cases g with
      | nil => simp at hl
      | cons o r =>
        refine ⟨o, ?_, r, ⟨by simpa using hl, fun x hx => hr x (List.mem_cons_of_mem _ hx)⟩, rfl⟩
        have := hr o (List.mem_cons_self ..)
        simpa using this

theorem nodup_prods (w : Nat) : (prods w).Nodup := by
  induction w with
  | zero => simp [prods]
  | succ w ih =>
    simp only [prods]
    rw [List.nodup_flatMap]
    refine ⟨fun o _ => ih.map (fun x y h => by simpa using h), ?_⟩
    have : [1, 2, 3].Pairwise (fun a b : Nat => a ≠ b) := by decide
    refine this.imp ?_
    intro a b hab
    simp only [Function.onFun, List.disjoint_left, List.mem_map]
    rintro s ⟨r, _, rfl⟩ ⟨r', _, h⟩
    simp only [List.cons.injEq] at h
    exact hab h.1.symm

/-! ### canonical strings -/

/-- symbol at qubit `q` of an error given as a (qubit, symbol) list -/
def val (e : List (Nat × Nat)) (q : Nat) : Nat :=
  match e.find? (fun qs => qs.1 == q) with
  | some qs => qs.2
  | none => 0

theorem sparseToSyms_eq (n : Nat) (e : List (Nat × Nat)) : sparseToSyms n e = (List.range n).map (val e) := rfl

theorem val_nil (q : Nat) : val [] q = 0 := rfl

theorem val_cons (a g : Nat) (e : List (Nat × Nat)) (q : Nat) :
    val ((a, g) :: e) q = if a = q then g else val e q := by
  unfold val
  by_cases h : a = q
  · simp [h]
  · simp [h]

theorem val_zip_map (qs : List Nat) (f : Nat → Nat) (q : Nat) :
    val (qs.zip (qs.map f)) q = if q ∈ qs then f q else 0 := by
  induction qs with
  | nil => simp [val_nil]
  | cons a qs ih =>
    simp only [List.map_cons, List.zip_cons_cons, val_cons, ih, List.mem_cons]
    by_cases h : a = q
    · subst h; simp
    · have : ¬ (q = a) := fun e => h e.symm
      simp [h, this]

theorem val_ne_zero (qs gs : List Nat) (hlen : gs.length = qs.length) (hg : ∀ g ∈ gs, g ≠ 0) (q : Nat) :
    val (qs.zip gs) q ≠ 0 ↔ q ∈ qs := by
  induction qs generalizing gs with
  | nil => simp [val_nil]
  | cons a qs ih =>
    cases gs with
    | nil => simp at hlen
    | cons g gs =>
      simp only [List.zip_cons_cons, val_cons, List.mem_cons]
      by_cases h : a = q
      · subst h; simp [hg g (List.mem_cons_self ..)]
      · have : ¬ (q = a) := fun e => h e.symm
        simp only [h, if_false, this, false_or]
        exact ih gs (by simpa using hlen) (fun g' hg' => hg g' (List.mem_cons_of_mem _ hg'))

theorem map_val (qs gs : List Nat) (hnd : qs.Nodup) (hlen : gs.length = qs.length) :
    qs.map (val (qs.zip gs)) = gs := by
  induction qs generalizing gs with
  | nil => simp at hlen; simp [hlen]
  | cons a qs ih =>
    cases gs with
    | nil => simp at hlen
    | cons g gs =>
      rw [List.nodup_cons] at hnd
      simp only [List.zip_cons_cons, List.map_cons, val_cons, if_true, List.cons.injEq, true_and]
      have hc : qs.map (val ((a, g) :: qs.zip gs)) = qs.map (val (qs.zip gs)) := by
        apply List.map_congr_left
        intro q hq
        have : a ≠ q := fun e => hnd.1 (e ▸ hq)
        simp [val_cons, this]
      rw [hc]
      exact ih gs hnd.2 (by simpa using hlen)

theorem symWeight_map (l : List Nat) (f : Nat → Nat) :
    symWeight (l.map f) = (l.filter (fun q => f q != 0)).length := by
  unfold symWeight
  rw [List.filter_map, List.length_map]
  rfl

theorem list_eq_map_getD (s : List Nat) : s = (List.range s.length).map (fun q => s.getD q 0) := by
  apply List.ext_getElem
  · simp
  · intro i h1 h2
    simp [List.getD_eq_getElem?_getD, List.getElem?_eq_getElem h1]

theorem xyz_ne_zero {gs : List Nat} (hg : ∀ g ∈ gs, g = 1 ∨ g = 2 ∨ g = 3) : ∀ g ∈ gs, g ≠ 0 :=
  fun g hgm => by rcases hg g hgm with h | h | h <;> omega

/-- what an element of `errorList` looks like -/
theorem mem_errorList (n d : Nat) (e : List (Nat × Nat)) :
    e ∈ errorList n d ↔ ∃ qs gs : List Nat, qs.Sublist (List.range n) ∧ 1 ≤ qs.length ∧ qs.length < d ∧
      gs.length = qs.length ∧ (∀ g ∈ gs, g = 1 ∨ g = 2 ∨ g = 3) ∧ e = qs.zip gs := by
  simp only [errorList, List.mem_flatMap, List.mem_range, List.mem_map, mem_combs, mem_prods]
  constructor
  · rintro ⟨w, hw, qs, ⟨hs, hl⟩, gs, ⟨hgl, hg⟩, rfl⟩
    exact ⟨qs, gs, hs, by omega, by omega, by omega, hg, rfl⟩
  · rintro ⟨qs, gs, hs, h1, h2, hgl, hg, rfl⟩
    exact ⟨qs.length - 1, by omega, qs, ⟨hs, by omega⟩, gs, ⟨by omega, hg⟩, rfl⟩

theorem zip_map_self {α β : Type} (l : List α) (f : α → β) : l.zip (l.map f) = l.map fun q => (q, f q) := by
  induction l with
  | nil => rfl
  | cons a l ih => simp [ih]

/-- the qubits with a non-identity symbol are the listed ones -/
theorem filter_val_ne_zero (n : Nat) (qs gs : List Nat) (hs : qs.Sublist (List.range n)) (hgl : gs.length = qs.length)
    (hg0 : ∀ g ∈ gs, g ≠ 0) : (List.range n).filter (fun q => val (qs.zip gs) q != 0) = qs := by
  refine (List.filter_congr fun q _ => ?_).trans (sublist_eq_filter hs List.nodup_range)
  rw [Bool.eq_iff_iff]
  simpa using val_ne_zero qs gs hgl hg0 q

/-- the string of an element of `errorList`: length, symbols, weight -/
theorem syms_of_mem (n : Nat) (qs gs : List Nat) (hs : qs.Sublist (List.range n)) (hgl : gs.length = qs.length)
    (hg : ∀ g ∈ gs, g = 1 ∨ g = 2 ∨ g = 3) :
    (sparseToSyms n (qs.zip gs)).length = n ∧ (∀ x ∈ sparseToSyms n (qs.zip gs), x < 4) ∧
      symWeight (sparseToSyms n (qs.zip gs)) = qs.length := by
  have hg0 := xyz_ne_zero hg
  refine ⟨by simp [sparseToSyms_eq], ?_, ?_⟩
  · intro x hx
    rw [sparseToSyms_eq, List.mem_map] at hx
    obtain ⟨q, _, rfl⟩ := hx
    by_cases h : val (qs.zip gs) q = 0
    · omega
    · unfold val at h ⊢
      cases hf : (qs.zip gs).find? (fun qs => qs.1 == q) with
      | none => simp
      | some p =>
        have hm := List.mem_of_find?_eq_some hf
        have := hg p.2 (List.of_mem_zip hm).2
        simp only
        omega
  · rw [sparseToSyms_eq, symWeight_map, filter_val_ne_zero n qs gs hs hgl hg0]

/-- **soundness**: every generated error is a Pauli string on `n` qubits of weight `1..d-1` -/
theorem errorList_sound (n d : Nat) (s : List Nat) (h : s ∈ (errorList n d).map (sparseToSyms n)) :
    s.length = n ∧ (∀ x ∈ s, x < 4) ∧ 1 ≤ symWeight s ∧ symWeight s < d := by
  rw [List.mem_map] at h
  obtain ⟨e, he, rfl⟩ := h
  rw [mem_errorList] at he
  obtain ⟨qs, gs, hs, h1, h2, hgl, hg, rfl⟩ := he
  obtain ⟨a, b, c⟩ := syms_of_mem n qs gs hs hgl hg
  exact ⟨a, b, by omega, by omega⟩

/-- **completeness**: every Pauli string on `n` qubits of weight `1..d-1` is generated -/
theorem errorList_complete (n d : Nat) (s : List Nat) (hl : s.length = n) (hs : ∀ x ∈ s, x < 4)
    (h1 : 1 ≤ symWeight s) (h2 : symWeight s < d) : s ∈ (errorList n d).map (sparseToSyms n) := by
  subst hl
  set f : Nat → Nat := fun q => s.getD q 0 with hf
  set qs := (List.range s.length).filter (fun q => f q != 0) with hqs
  have hsf : s = (List.range s.length).map f := list_eq_map_getD s
  have hw : symWeight s = qs.length := by
    conv_lhs => rw [hsf]
    rw [symWeight_map]
  rw [List.mem_map]
  refine ⟨qs.zip (qs.map f), ?_, ?_⟩
  · rw [mem_errorList]
    refine ⟨qs, qs.map f, List.filter_sublist, by omega, by omega, by simp, ?_, rfl⟩
    intro g hg
    rw [List.mem_map] at hg
    obtain ⟨q, hq, rfl⟩ := hg
    rw [hqs, List.mem_filter, List.mem_range] at hq
    have hlt : f q < 4 := by
      simp only [hf, List.getD_eq_getElem?_getD, List.getElem?_eq_getElem hq.1, Option.getD_some]
      exact hs _ (List.getElem_mem hq.1)
    have hne : f q ≠ 0 := by simpa using hq.2
    omega
  · rw [sparseToSyms_eq]
    conv_rhs => rw [hsf]
    apply List.map_congr_left
    intro q hq
    rw [val_zip_map]
    by_cases h : q ∈ qs
    · simp [h]
    · simp only [h, if_false]
      rw [hqs, List.mem_filter] at h
      by_contra h0
      exact h ⟨hq, by simpa using (Ne.symm h0)⟩

theorem errorList_raw_nodup (n d : Nat) : (errorList n d).Nodup := by
  unfold errorList
  rw [List.nodup_flatMap]
  constructor
  · intro w _
    rw [List.nodup_flatMap]
    constructor
    · intro qs hqs
      rw [mem_combs] at hqs
      refine (nodup_prods (w + 1)).map_on ?_
      intro gs hgs gs' hgs' h
      rw [mem_prods] at hgs hgs'
      have e1 := List.map_snd_zip (l₁ := qs) (l₂ := gs) (by omega)
      have e2 := List.map_snd_zip (l₁ := qs) (l₂ := gs') (by omega)
      rw [← e1, ← e2, h]
    · refine (nodup_combs _ List.nodup_range (w + 1)).imp_of_mem ?_
      intro qs qs' hqs hqs' hne
      rw [mem_combs] at hqs hqs'
      simp only [Function.onFun, List.disjoint_left, List.mem_map]
      rintro e ⟨gs, hgs, rfl⟩ ⟨gs', hgs', h⟩
      rw [mem_prods] at hgs hgs'
      have e1 := List.map_fst_zip (l₁ := qs) (l₂ := gs) (by omega)
      have e2 := List.map_fst_zip (l₁ := qs') (l₂ := gs') (by omega)
      exact hne (by rw [← e1, ← e2, h])
  · refine (List.nodup_range (n := d - 1)).imp_of_mem ?_
    intro w w' _ _ hne
    simp only [Function.onFun, List.disjoint_left, List.mem_flatMap, List.mem_map, mem_combs, mem_prods]
    rintro e ⟨qs, ⟨_, hl⟩, gs, ⟨hgl, _⟩, rfl⟩ ⟨qs', ⟨_, hl'⟩, gs', ⟨hgl', _⟩, h⟩
    have := congrArg List.length h
    simp only [List.length_zip] at this
    omega

/-- **no duplicates**: no Pauli string is generated twice -/
theorem errorList_nodup (n d : Nat) : ((errorList n d).map (sparseToSyms n)).Nodup := by
  refine (errorList_raw_nodup n d).map_on ?_
  intro e he e' he' h
  rw [mem_errorList] at he he'
  obtain ⟨qs, gs, hs, _, _, hgl, hg, rfl⟩ := he
  obtain ⟨qs', gs', hs', _, _, hgl', hg', rfl⟩ := he'
  have hg0 := xyz_ne_zero hg
  have hg0' := xyz_ne_zero hg'
  rw [sparseToSyms_eq, sparseToSyms_eq] at h
  have hv : ∀ q, q < n → val (qs.zip gs) q = val (qs'.zip gs') q := by
    intro q hq
    have := List.map_inj_left.1 h q (List.mem_range.2 hq)
    exact this
  have hqq : qs = qs' := by
    rw [← sublist_eq_filter hs List.nodup_range, ← sublist_eq_filter hs' List.nodup_range]
    apply List.filter_congr
    intro q hq
    rw [List.mem_range] at hq
    have a := val_ne_zero qs gs hgl hg0 q
    have b := val_ne_zero qs' gs' hgl' hg0' q
    rw [hv q hq] at a
    have : q ∈ qs ↔ q ∈ qs' := a.symm.trans b
    simp [this]
  subst hqq
  have hnd : qs.Nodup := List.Nodup.sublist hs List.nodup_range
  have e1 := map_val qs gs hnd hgl
  have e2 := map_val qs gs' hnd hgl'
  have : qs.map (val (qs.zip gs)) = qs.map (val (qs.zip gs')) := by
    apply List.map_congr_left
    intro q hq
    exact hv q (List.mem_range.1 (hs.subset hq))
  rw [← e1, ← e2, this]

/-! ### the operator of a sparse error is the operator of its canonical string -/

theorem testBit_ite_or (c : Bool) (m q j : Nat) :
    (if c = true then m ||| bit q else m).testBit j = ((q == j && c) || m.testBit j) := by
  cases c <;> simp [Nat.testBit_or, testBit_bit, Bool.or_comm, beq_eq_decide]

theorem ofSparse_x (e : List (Nat × Nat)) (j : Nat) :
    (MP.ofSparse e).x.testBit j = e.any (fun p => p.1 == j && (p.2 == 1 || p.2 == 2)) := by
  induction e with
  | nil => simp [MP.ofSparse, MP.one]
  | cons p e ih => simp only [MP.ofSparse, List.any_cons, testBit_ite_or, ih]

theorem ofSparse_z (e : List (Nat × Nat)) (j : Nat) :
    (MP.ofSparse e).z.testBit j = e.any (fun p => p.1 == j && (p.2 == 2 || p.2 == 3)) := by
  induction e with
  | nil => simp [MP.ofSparse, MP.one]
  | cons p e ih => simp only [MP.ofSparse, List.any_cons, testBit_ite_or, ih]

theorem ofSparse_k (e : List (Nat × Nat)) : (MP.ofSparse e).k = (e.countP (fun p => p.2 == 2)) % 4 := by
  induction e with
  | nil => simp [MP.ofSparse, MP.one]
  | cons p e ih =>
    obtain ⟨q, s⟩ := p
    simp only [MP.ofSparse, List.countP_cons]
    by_cases h : (s == 2) = true
    · simp only [h, if_true, ih]; omega
    · have h' : (s == 2) = false := by simpa using h
      simp only [h', Bool.false_eq_true, if_false, ih, Nat.add_zero]

/-- with distinct qubits, an entry `(j, g)` of the list is what `val` finds -/
theorem val_of_mem (qs gs : List Nat) (hnd : qs.Nodup) (j g : Nat) (h : (j, g) ∈ qs.zip gs) :
    val (qs.zip gs) j = g := by
  induction qs generalizing gs with
  | nil => simp at h
  | cons a qs ih =>
    cases gs with
    | nil => simp at h
    | cons b gs =>
      rw [List.nodup_cons] at hnd
      simp only [List.zip_cons_cons, List.mem_cons, Prod.mk.injEq] at h
      rw [List.zip_cons_cons, val_cons]
      rcases h with ⟨rfl, rfl⟩ | h
      · simp
      · have hj : j ∈ qs := (List.of_mem_zip h).1
        have : a ≠ j := fun e => hnd.1 (e ▸ hj)
        simp only [this, if_false]
        exact ih gs hnd.2 h

theorem mem_of_val_ne_zero (e : List (Nat × Nat)) (j : Nat) (h : val e j ≠ 0) : (j, val e j) ∈ e := by
  unfold val at h ⊢
  cases hf : e.find? (fun qs => qs.1 == j) with
  | none => simp [hf] at h
  | some p =>
    have hm := List.mem_of_find?_eq_some hf
    have hp := List.find?_some hf
    simp only [beq_iff_eq] at hp
    simp only
    rw [← hp]; exact hm

/-- for a list with distinct qubits, "some entry at qubit `j` has a symbol in `P`" is a property of `val` -/
theorem any_eq_val (qs gs : List Nat) (hnd : qs.Nodup) (P : Nat → Bool) (hP : P 0 = false) (j : Nat) :
    (qs.zip gs).any (fun p => p.1 == j && P p.2) = P (val (qs.zip gs) j) := by
  rw [Bool.eq_iff_iff, List.any_eq_true]
  constructor
  · rintro ⟨⟨q, g⟩, hm, hp⟩
    simp only [Bool.and_eq_true, beq_iff_eq] at hp
    obtain ⟨rfl, hp⟩ := hp
    rw [val_of_mem qs gs hnd q g hm]; exact hp
  · intro h
    have hne : val (qs.zip gs) j ≠ 0 := fun e => by rw [e, hP] at h; exact Bool.false_ne_true h
    exact ⟨(j, val (qs.zip gs) j), mem_of_val_ne_zero _ j hne, by simp [h]⟩

theorem val_range_zip (s : List Nat) (j : Nat) : val ((List.range s.length).zip s) j = s.getD j 0 := by
  have h := val_zip_map (List.range s.length) (fun q => s.getD q 0) j
  rw [← list_eq_map_getD s] at h
  rw [h]
  by_cases hj : j < s.length
  · simp [hj]
  · simp [hj, List.getD_eq_getElem?_getD, List.getElem?_eq_none (Nat.le_of_not_lt hj)]

/-- entries with the identity symbol do not change the operator -/
theorem ofSparse_filter (e : List (Nat × Nat)) :
    MP.ofSparse (e.filter fun qs => qs.2 != 0) = MP.ofSparse e := by
  induction e with
  | nil => rfl
  | cons p e ih =>
    obtain ⟨q, s⟩ := p
    rw [List.filter_cons]
    by_cases h0 : s = 0
    · subst h0
      simp only [bne_self_eq_false, Bool.false_eq_true, if_false, ih, MP.ofSparse]
      simp
    · have : (s != 0) = true := by simpa using h0
      simp only [this, if_true, MP.ofSparse, ih]

/-- **the sparse form and the canonical string denote the same operator** (sign `+1`):
`MP.ofSparse e = MP.ofSyms (sparseToSyms n e)` for every generated error: dropping the identity symbols of the string
gives back the list. -/
theorem ofSparse_eq_ofSyms (n d : Nat) (e : List (Nat × Nat)) (he : e ∈ errorList n d) :
    MP.ofSparse e = MP.ofSyms (sparseToSyms n e) := by
  obtain ⟨qs, gs, hs, _, _, hgl, hg, rfl⟩ := (mem_errorList n d e).1 he
  rw [MP.ofSyms, ← ofSparse_filter ((List.range _).zip _), sparseToSyms_eq, List.length_map, List.length_range,
    zip_map_self, List.filter_map]
  have hf : (List.range n).filter ((fun p : Nat × Nat => p.2 != 0) ∘ fun q => (q, val (qs.zip gs) q)) = qs :=
    filter_val_ne_zero n qs gs hs hgl (xyz_ne_zero hg)
  rw [hf, ← zip_map_self, map_val qs gs (hs.nodup List.nodup_range) hgl]

/-! ### the Knill–Laflamme check from distinct syndromes

The syndrome (which generators anticommute) is additive over errors on different qubits, and an error of weight below `d`
is a product of two different errors of weight at most `d / 2`: if those have pairwise different syndromes, every error
below the distance anticommutes with a generator. -/

theorem ofSparse_append (e1 e2 : List (Nat × Nat)) (hd : ∀ a ∈ e1, ∀ b ∈ e2, a.1 ≠ b.1) :
    (MP.ofSparse (e1 ++ e2)).x = (MP.ofSparse e1).x ^^^ (MP.ofSparse e2).x
    ∧ (MP.ofSparse (e1 ++ e2)).z = (MP.ofSparse e1).z ^^^ (MP.ofSparse e2).z := by
  have key : ∀ (f : Nat × Nat → Bool) (j : Nat),
      (e1 ++ e2).any (fun p => p.1 == j && f p) = ((e1.any fun p => p.1 == j && f p) ^^ (e2.any fun p => p.1 == j && f p)) := by
    intro f j
    rw [List.any_append]
    cases h1 : e1.any fun p => p.1 == j && f p
    · simp
    · cases h2 : e2.any fun p => p.1 == j && f p
      · simp
      · exfalso
        simp only [List.any_eq_true, Bool.and_eq_true, beq_iff_eq] at h1 h2
        obtain ⟨a, ha, ha1, -⟩ := h1
        obtain ⟨b, hb, hb1, -⟩ := h2
        exact hd a ha b hb (ha1.trans hb1.symm)
  constructor <;> refine Nat.eq_of_testBit_eq fun j => ?_
  · rw [Nat.testBit_xor, ofSparse_x, ofSparse_x, ofSparse_x, key]
  · rw [Nat.testBit_xor, ofSparse_z, ofSparse_z, ofSparse_z, key]

theorem acomm_ofSparse_append (g : MP) (e1 e2 : List (Nat × Nat)) (hd : ∀ a ∈ e1, ∀ b ∈ e2, a.1 ≠ b.1) :
    MP.acomm g (MP.ofSparse (e1 ++ e2)) = (MP.acomm g (MP.ofSparse e1) ^^ MP.acomm g (MP.ofSparse e2)) := by
  obtain ⟨hx, hz⟩ := ofSparse_append e1 e2 hd
  simp only [MP.acomm, hx, hz, Nat.and_xor_distrib_left, par_xor]
  cases par (g.x &&& (MP.ofSparse e1).z) <;> cases par (g.x &&& (MP.ofSparse e2).z) <;>
    cases par (g.z &&& (MP.ofSparse e1).x) <;> cases par (g.z &&& (MP.ofSparse e2).x) <;> rfl

/-- an error of weight below `d` is the concatenation of two errors of weight at most `d / 2` on different qubits
(the second one possibly empty) -/
theorem errorList_split (n d : Nat) (e : List (Nat × Nat)) (he : e ∈ errorList n d) :
    ∃ e1 e2, e = e1 ++ e2 ∧ e1 ∈ errorList n (d / 2 + 1) ∧ e2 ∈ [] :: errorList n (d / 2 + 1) ∧ e1 ≠ e2
      ∧ ∀ a ∈ e1, ∀ b ∈ e2, a.1 ≠ b.1 := by
  obtain ⟨qs, gs, hs, h1, h2, hgl, hg, rfl⟩ := (mem_errorList n d e).1 he
  obtain ⟨h, hh⟩ : ∃ h, h = (qs.length + 1) / 2 := ⟨_, rfl⟩
  have hnd : qs.Nodup := hs.nodup List.nodup_range
  have hdisj : ∀ a ∈ (qs.take h).zip (gs.take h), ∀ b ∈ (qs.drop h).zip (gs.drop h), a.1 ≠ b.1 := by
    intro a ha b hb hab
    exact List.disjoint_take_drop hnd le_rfl (List.of_mem_zip ha).1 (hab ▸ (List.of_mem_zip hb).1)
  have hm1 : (qs.take h).zip (gs.take h) ∈ errorList n (d / 2 + 1) :=
    (mem_errorList _ _ _).2 ⟨qs.take h, gs.take h, (List.take_sublist _ _).trans hs, by simp; omega, by simp; omega,
      by simp [hgl], fun g hgm => hg g (List.mem_of_mem_take hgm), rfl⟩
  refine ⟨_, (qs.drop h).zip (gs.drop h), ?_, hm1, ?_, ?_, hdisj⟩
  · rw [← List.zip_append (by simp [hgl]), List.take_append_drop, List.take_append_drop]
  · rcases Nat.lt_or_ge h qs.length with h0 | h0
    swap
    · have : qs.drop h = [] := List.drop_eq_nil_of_le (by omega)
      simp [this]
    · have hl : (qs.drop h).length = qs.length - h := List.length_drop
      have hl2 : qs.length - h < d / 2 + 1 := by omega
      exact List.mem_cons_of_mem _ ((mem_errorList n (d / 2 + 1) _).2 ⟨qs.drop h, gs.drop h, (List.drop_sublist _ _).trans hs,
        by omega, hl ▸ hl2, by simp [hgl], fun g hgm => hg g (List.mem_of_mem_drop hgm), rfl⟩)
  · intro heq
    have hne : (qs.take h).zip (gs.take h) ≠ [] := by
      intro h0
      have := congrArg List.length h0
      rw [List.length_zip, List.length_take, List.length_take, List.length_nil] at this; omega
    obtain ⟨a, ha⟩ := List.exists_mem_of_ne_nil _ hne
    exact hdisj a ha a (heq ▸ ha) rfl


/-- bit `j` is set iff `p` anticommutes with the `j`-th generator -/
def syndrome (gs : List MP) (p : MP) : Nat := gs.foldr (fun g acc => (MP.acomm g p).toNat + 2 * acc) 0

theorem syndrome_congr (gs : List MP) (a b : MP) (h : ∀ g ∈ gs, MP.acomm g a = MP.acomm g b) :
    syndrome gs a = syndrome gs b := by
  induction gs with
  | nil => rfl
  | cons g gs ih =>
    simp only [syndrome, List.foldr_cons] at ih ⊢
    rw [h g List.mem_cons_self, ih fun g' hg' => h g' (List.mem_cons_of_mem _ hg')]

/-- the numbers are pairwise different and none of them is a set bit of `seen` -/
def distinctFrom : List Nat → Nat → Bool
  | [], _ => true
  | s :: l, seen => !seen.testBit s && distinctFrom l (seen ||| bit s)

theorem nodup_of_distinctFrom (l : List Nat) (seen : Nat) (h : distinctFrom l seen = true) :
    l.Nodup ∧ ∀ s ∈ l, seen.testBit s = false := by
  induction l generalizing seen with
  | nil => simp
  | cons s l ih =>
    simp only [distinctFrom, Bool.and_eq_true, Bool.not_eq_true'] at h
    obtain ⟨hnd, hl⟩ := ih _ h.2
    simp only [Nat.testBit_or, testBit_bit, Bool.or_eq_false_iff, decide_eq_false_iff_not] at hl
    exact ⟨List.nodup_cons.2 ⟨fun hs => (hl s hs).2 rfl, hnd⟩,
      fun t ht => (List.mem_cons.1 ht).elim (fun e => e ▸ h.1) fun ht => (hl t ht).1⟩

/-- `klCheck` for a code none of whose errors below the distance is a product of generators -/
def syndromeCheck (c : Code) : Bool :=
  shapeCheck c &&
  match gens c with
  | none => false
  | some gs => MP.forceList gs fun gs =>
      gs.all (fun g => g.x < 2 ^ c.n) &&
      forceEach forceNat (([] :: errorList c.n (c.d / 2 + 1)).map fun e => MP.force (MP.ofSparse e) (syndrome gs))
        fun l => distinctFrom l 0

theorem klCheck_of_syndromeCheck (c : Code) (h : syndromeCheck c = true) : klCheck c = true := by
  unfold syndromeCheck at h
  unfold klCheck
  cases hg : gens c with
  | none => simp [hg] at h
  | some gs =>
    simp only [hg, MP.forceList_eq, MP.force_eq, forceEach_eq forceNat_eq, Bool.and_eq_true, List.all_eq_true,
      decide_eq_true_eq] at h ⊢
    obtain ⟨hs, hx, hdist⟩ := h
    have hnd := (nodup_of_distinctFrom _ 0 hdist).1
    refine ⟨hs, hx, fun e he => ?_⟩
    obtain ⟨e1, e2, rfl, h1, h2, hne, hd⟩ := errorList_split c.n c.d e he
    simp only [klOne, MP.force_eq, Bool.or_eq_true, List.any_eq_true]
    left
    by_contra hno
    refine hne (List.inj_on_of_nodup_map hnd (List.mem_cons_of_mem _ h1) h2 (syndrome_congr _ _ _ fun g hgm => ?_))
    have hf : MP.acomm g (MP.ofSparse (e1 ++ e2)) = false := by
      simpa using fun h => hno ⟨g, hgm, h⟩
    rw [acomm_ofSparse_append g e1 e2 hd] at hf
    revert hf
    cases MP.acomm g (MP.ofSparse e1) <;> cases MP.acomm g (MP.ofSparse e2) <;> simp

end Numqi.Qec
