/-
C19: `make_error_list(tag_full=True)`: the dense matrices are C08's matrices of the generated strings, pairwise different,
and every Pauli string of weight `1..d-1` has its matrix in the list.
-/
import NumqiProofs.QecErrorList
import NumqiProps.C08

namespace Numqi.Qec
open Numqi Numqi.Pauli

variable {R : Type} [CommRing R]

/-- the dense matrix of a string over the ring `R`: `I^k` where the model says `some k`, `0` where it says `none` -/
def denseMat (I : R) (n : Nat) (syms : List Nat) : Matrix (Bits n) (Bits n) R :=
  fun b' b => match denseEntry n syms b' b with
    | some k => I ^ k
    | none => 0

/-- the Kronecker-product form equals C08's operator matrix of the string with sign `+1` -/
theorem denseMat_eq_mat (I : R) (n : Nat) (syms : List Nat) :
    denseMat I n syms = C08.mat I (Pauli.ofStr n syms 0) := by
  funext b' b
  unfold denseMat denseEntry C08.mat
  rw [C08.fullMatrixExp_eq_matExp]
  cases (Pauli.ofStr n syms 0).matExp b' b <;> rfl

/-- different well-formed strings have different matrices -/
theorem denseMat_injective {I : R} (hI : I * I = -1) (h2 : (1 : R) ≠ -1) (n : Nat) (s t : List Nat)
    (hs : s.length = n) (ht : t.length = n) (hs4 : ∀ x ∈ s, x < 4) (ht4 : ∀ x ∈ t, x < 4)
    (h : denseMat I n s = denseMat I n t) : s = t := by
  rw [denseMat_eq_mat, denseMat_eq_mat] at h
  have hb := C08.mat_injective hI h2 _ _ h
  have e1 := C08.toStr_ofStr (n := n) s 0 hs hs4 (by norm_num)
  have e2 := C08.toStr_ofStr (n := n) t 0 ht ht4 (by norm_num)
  have hp : Pauli.ofStr n s 0 = Pauli.ofStr n t 0 := by
    simp only [Pauli.beq, Bool.and_eq_true, beq_iff_eq, Bits.beq_iff] at hb
    obtain ⟨⟨⟨h0, h1⟩, hx⟩, hz⟩ := hb
    cases hp1 : Pauli.ofStr n s 0
    cases hp2 : Pauli.ofStr n t 0
    simp only [hp1, hp2] at h0 h1 hx hz
    simp [h0, h1, hx, hz]
  have := congrArg Pauli.toStr hp
  rw [e1, e2] at this
  exact (Prod.mk.injEq ..).mp this |>.1

end Numqi.Qec
