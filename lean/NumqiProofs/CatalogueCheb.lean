/-
Helper lemmas for C18: discrete orthogonality of the cosines at the Chebyshev nodes `θ_k = π(k+½)/d`.
-/
import NumqiProofs.Catalogue
import Mathlib.Analysis.SpecialFunctions.Trigonometric.Basic

set_option linter.unusedSectionVars false

namespace Numqi.Catalogue
open Finset Real

/-- the nodes -/
noncomputable def chebNode (d k : ℕ) : ℝ := Real.pi * ((k : ℝ) + 1 / 2) / d

/-- `Σ_{k<d} cos(p θ_k) = 0` for `0 < p < 2d` (telescoping after multiplication by `2 sin(pπ/2d)`) -/
theorem sum_cos_node (d p : ℕ) (hp : 0 < p) (hp2 : p < 2 * d) :
    ∑ k ∈ Finset.range d, Real.cos ((p : ℝ) * chebNode d k) = 0 := by
  have hd : 0 < d := by omega
  have hdR : (0 : ℝ) < d := by exact_mod_cast hd
  have hpR : (0 : ℝ) < p := by exact_mod_cast hp
  set h : ℝ := (p : ℝ) * Real.pi / (2 * d) with hh
  have hpos : 0 < h := by positivity
  have hlt : h < Real.pi := by
    rw [hh, div_lt_iff₀ (by positivity)]
    have : (p : ℝ) < 2 * d := by exact_mod_cast hp2
    nlinarith [Real.pi_pos]
  have hs : Real.sin h ≠ 0 := (Real.sin_pos_of_pos_of_lt_pi hpos hlt).ne'
  have key : ∀ k : ℕ, 2 * Real.sin h * Real.cos ((p : ℝ) * chebNode d k)
      = Real.sin ((p : ℝ) * ((k + 1 : ℕ) : ℝ) * Real.pi / d) - Real.sin ((p : ℝ) * (k : ℝ) * Real.pi / d) := by
    intro k
    have e1 : (p : ℝ) * ((k + 1 : ℕ) : ℝ) * Real.pi / d = (p : ℝ) * chebNode d k + h := by
      rw [hh, chebNode]; push_cast; field_simp; ring
    have e2 : (p : ℝ) * (k : ℝ) * Real.pi / d = (p : ℝ) * chebNode d k - h := by
      rw [hh, chebNode]; field_simp; ring
    rw [e1, e2, Real.sin_add, Real.sin_sub]; ring
  have tel : ∑ k ∈ Finset.range d, (2 * Real.sin h * Real.cos ((p : ℝ) * chebNode d k)) = 0 := by
    simp only [key]
    rw [Finset.sum_range_sub (fun k => Real.sin ((p : ℝ) * ((k : ℕ) : ℝ) * Real.pi / d))]
    have : (p : ℝ) * (d : ℝ) * Real.pi / d = (p : ℝ) * Real.pi := by field_simp
    simp [this, Real.sin_nat_mul_pi]
  rw [← Finset.mul_sum] at tel
  rcases mul_eq_zero.mp tel with h0 | h0
  · exact absurd h0 (mul_ne_zero two_ne_zero hs)
  · exact h0

/-- **discrete orthogonality** of `cos(m θ_k)`, `m < d`, at the `d` Chebyshev nodes -/
theorem sum_cos_cos_node (d m n : ℕ) (hm : m < d) (hn : n < d) :
    ∑ k ∈ Finset.range d, Real.cos ((m : ℝ) * chebNode d k) * Real.cos ((n : ℝ) * chebNode d k)
      = if m = n then (if m = 0 then (d : ℝ) else d / 2) else 0 := by
  have prod : ∀ x y : ℝ, Real.cos x * Real.cos y = (Real.cos (x + y) + Real.cos (x - y)) / 2 := by
    intro x y; rw [Real.cos_add, Real.cos_sub]; ring
  simp only [prod, ← Finset.sum_div, Finset.sum_add_distrib]
  by_cases hmn : m = n
  · subst hmn
    rw [if_pos rfl]
    have e2 : ∀ k, (m : ℝ) * chebNode d k - (m : ℝ) * chebNode d k = 0 := fun k => sub_self _
    simp only [e2, Real.cos_zero, Finset.sum_const, Finset.card_range, nsmul_eq_mul, mul_one]
    by_cases h0 : m = 0
    · subst h0; simp
    · rw [if_neg h0]
      have e1 : ∀ k, (m : ℝ) * chebNode d k + (m : ℝ) * chebNode d k = ((2 * m : ℕ) : ℝ) * chebNode d k := by
        intro k; push_cast; ring
      simp only [e1]
      rw [sum_cos_node d (2 * m) (by omega) (by omega)]; ring
  · rw [if_neg hmn]
    have e1 : ∀ k, (m : ℝ) * chebNode d k + (n : ℝ) * chebNode d k = ((m + n : ℕ) : ℝ) * chebNode d k := by
      intro k; push_cast; ring
    simp only [e1]
    rw [sum_cos_node d (m + n) (by omega) (by omega)]
    -- `cos` is even, so only the larger index minus the smaller one matters
    have hsub : ∀ p q : ℕ, q < p → p < d →
        ∑ k ∈ Finset.range d, Real.cos ((p : ℝ) * chebNode d k - (q : ℝ) * chebNode d k) = 0 := by
      intro p q hqp hp
      have e2 : ∀ k, Real.cos ((p : ℝ) * chebNode d k - (q : ℝ) * chebNode d k) = Real.cos (((p - q : ℕ) : ℝ) * chebNode d k) := by
        intro k; rw [Nat.cast_sub hqp.le]; congr 1; ring
      simp only [e2]
      exact sum_cos_node d (p - q) (by omega) (by omega)
    rcases Nat.lt_or_gt_of_ne hmn with hlt | hgt
    · rw [Finset.sum_congr rfl fun k _ => by rw [← Real.cos_neg, neg_sub], hsub n m hlt hn]; simp
    · rw [hsub m n hgt hm]; simp

end Numqi.Catalogue
