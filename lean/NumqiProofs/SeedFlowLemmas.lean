/-
C10 helper: non-interference of the seed-flow interpreter for closed programs.
-/
import Mathlib.Tactic
import NumqiModel.SeedFlow

namespace Numqi.SeedFlow

/-- two states that agree on what a seeded computation may depend on: the explicit generators and the
numbers drawn so far (global generators and OS entropy are arbitrary) -/
def Agree (a b : St) : Prop := a.heap = b.heap ∧ a.trace = b.trace

theorem Agree.obs {a b : St} (h : Agree a b) : a.obs = b.obs := by
  unfold St.obs; rw [h.1, h.2]

theorem agree_of_obs {a b : St} (h : a.obs = b.obs) : Agree a b := by
  unfold St.obs at h; exact ⟨(Prod.mk.inj h).1, (Prod.mk.inj h).2⟩

theorem drawRef_agree (G : GenModel) (r : Nat) {a b : St} (h : Agree a b) :
    (drawRef G r a).1 = (drawRef G r b).1 ∧ Agree (drawRef G r a).2 (drawRef G r b).2 := by
  simp [drawRef, Agree, h.1, h.2]

/-- a seed value that does not make a normaliser consult the OS entropy -/
def SeedVal.determined : SeedVal → Prop
  | .none => False
  | _ => True

theorem evalExpr_agree (G : GenModel) (seed : SeedVal) (loc : Locals) (defd : List Var) (e : SeedExpr)
    (hseed : seed.determined) (hloc : ∀ v ∈ defd, (loc v).isSome) (he : closedExpr defd e = true)
    {a b : St} (h : Agree a b) :
    (evalExpr G seed loc a e).1 = (evalExpr G seed loc b e).1 ∧
    (evalExpr G seed loc a e).1.determined ∧
    Agree (evalExpr G seed loc a e).2 (evalExpr G seed loc b e).2 := by
  cases e with
  | param => exact ⟨rfl, hseed, h⟩
  | var v =>
    simp only [closedExpr, List.contains_iff_mem] at he
    obtain ⟨r, hr⟩ := Option.isSome_iff_exists.1 (hloc v he)
    simp only [evalExpr, hr]
    exact ⟨trivial, trivial, h⟩
  | drawInt v =>
    simp only [closedExpr, List.contains_iff_mem] at he
    obtain ⟨r, hr⟩ := Option.isSome_iff_exists.1 (hloc v he)
    simp only [evalExpr, hr]
    obtain ⟨h1, h2⟩ := drawRef_agree G r h
    refine ⟨by rw [h1], trivial, h2⟩
  | none => simp [closedExpr] at he
  | const k => exact ⟨rfl, trivial, h⟩
  | unknown => simp [closedExpr] at he

theorem normalise_agree (G : GenModel) (sv : SeedVal) (hsv : sv.determined) {a b : St} (h : Agree a b) :
    (normalise G sv a).1 = (normalise G sv b).1 ∧ Agree (normalise G sv a).2 (normalise G sv b).2 := by
  cases sv with
  | none => exact absurd hsv (by simp [SeedVal.determined])
  | int k => simp [normalise, Agree, h.1, h.2]
  | ref r => exact ⟨rfl, h⟩

theorem getD_mem {progs : List Prog} {i : Nat} (hi : i < progs.length) : progs.getD i .done ∈ progs := by
  rw [List.getD_eq_getElem?_getD, List.getElem?_eq_getElem hi]
  exact List.getElem_mem _

/-- **Non-interference, general form**: a closed program, run from a determined seed value in two states that
agree on the explicit generators and the trace, ends in two states that agree again — whatever the global
generator states and the OS entropy are. -/
theorem exec_agree (G : GenModel) (progs : List Prog) (oracle : Nat → List Nat → Bool)
    (hall : ∀ p ∈ progs, seedClosed progs.length p = true) :
    ∀ (fuel : Nat) (p : Prog) (seed : SeedVal) (loc : Locals) (defd : List Var) (a b : St),
      seed.determined → (∀ v ∈ defd, (loc v).isSome) → closed progs.length defd p = true → Agree a b →
      Agree (exec G progs oracle fuel p seed loc a) (exec G progs oracle fuel p seed loc b) := by
  intro fuel
  induction fuel with
  | zero => intro p seed loc defd a b _ _ _ h; exact h
  | succ fuel ih =>
    intro p seed loc defd a b hseed hloc hcl h
    cases p with
    | done => exact h
    | mkRng dst src k =>
      simp only [closed, Bool.and_eq_true] at hcl
      obtain ⟨e1, e2, e3⟩ := evalExpr_agree G seed loc defd src hseed hloc hcl.1 h
      obtain ⟨n1, n2⟩ := normalise_agree G _ e2 e3
      simp only [exec]
      rw [← e1, ← n1]
      refine ih k seed _ (dst :: defd) _ _ hseed ?_ hcl.2 n2
      intro v hv
      simp only [Locals.set]
      by_cases hvd : v = dst
      · simp [hvd]
      · simp only [hvd, if_false]
        exact hloc v (by simpa [hvd] using hv)
    | draw v k =>
      simp only [closed, Bool.and_eq_true, List.contains_iff_mem] at hcl
      obtain ⟨r, hr⟩ := Option.isSome_iff_exists.1 (hloc v hcl.1)
      simp only [exec, hr]
      exact ih k seed loc defd _ _ hseed hloc hcl.2 (drawRef_agree G r h).2
    | drawGlobal g k => simp [closed] at hcl
    | call f s k =>
      simp only [closed, Bool.and_eq_true, decide_eq_true_eq] at hcl
      obtain ⟨⟨hf, hs⟩, hk⟩ := hcl
      obtain ⟨e1, e2, e3⟩ := evalExpr_agree G seed loc defd s hseed hloc hs h
      simp only [exec]
      rw [← e1]
      have h2 := ih (progs.getD f .done) (evalExpr G seed loc a s).1 (fun _ => none) [] _ _ e2
        (by intro v hv; simp at hv) (hall _ (getD_mem hf)) e3
      exact ih k seed loc defd _ _ hseed hloc hk h2
    | unknownCall k => simp [closed] at hcl
    | branch id t e k =>
      simp only [closed, Bool.and_eq_true] at hcl
      obtain ⟨⟨ht, he⟩, hk⟩ := hcl
      simp only [exec]
      rw [← h.2]
      exact ih k seed loc defd _ _ hseed hloc hk
        (ih (if oracle id a.trace then t else e) seed loc defd _ _ hseed hloc (by split <;> assumption) h)
    | loop id body k =>
      have hcl' := hcl
      simp only [closed, Bool.and_eq_true] at hcl
      simp only [exec]
      rw [← h.2]
      by_cases ho : oracle id a.trace
      · simp only [ho, if_true]
        have h1 := ih body seed loc defd _ _ hseed hloc hcl.1 h
        exact ih (.loop id body k) seed loc defd _ _ hseed hloc hcl' h1
      · simp only [ho]
        exact ih k seed loc defd _ _ hseed hloc hcl.2 h

end Numqi.SeedFlow
