/-
C14 helper for the dihedral table (`get_dihedral_group_cayley_table`): rows of `circulant(arange n).T` are the
rotations `k ↦ k - a`, the rows of `tmp0 @ eye(n)[::-1]` the reflections `k ↦ -1 - k - a` (mod `n`); the four
composition rules (computed in `ZMod n`) and the `2n` rows are pairwise different.
-/
import NumqiProofs.FinGroupPerm
import Mathlib.Data.ZMod.Basic

namespace Numqi.FinGroup

def rotF (n a k : Nat) : Nat := (k + (n - a)) % n
def reflF (n a k : Nat) : Nat := ((n - 1 - k) + (n - a)) % n

theorem dihRot_eq (n a : Nat) : dihRot n a = (List.range n).map (rotF n a) := rfl
theorem dihRefl_eq (n a : Nat) : dihRefl n a = (List.range n).map (reflF n a) := rfl

theorem compose_map_range {n : Nat} (f g : Nat → Nat) (hg : ∀ k, k < n → g k < n) :
    compose ((List.range n).map f) ((List.range n).map g) = (List.range n).map (fun k => f (g k)) := by
  unfold compose
  rw [List.map_map]
  apply List.map_congr_left
  intro k hk
  have := hg k (by simpa using hk)
  simp [List.getD_eq_getElem?_getD, List.getElem?_range this]

/-- residues are compared in `ZMod n` -/
theorem eq_of_cast_eq {n a b : Nat} (ha : a < n) (hb : b < n) (h : (a : ZMod n) = (b : ZMod n)) : a = b := by
  have := (ZMod.natCast_eq_natCast_iff' a b n).1 h
  rwa [Nat.mod_eq_of_lt ha, Nat.mod_eq_of_lt hb] at this

section
variable {n a b k : Nat}

theorem rotF_lt (hn : 0 < n) : rotF n a k < n := Nat.mod_lt _ hn
theorem reflF_lt (hn : 0 < n) : reflF n a k < n := Nat.mod_lt _ hn

theorem cast_rotF (ha : a ≤ n) : ((rotF n a k : Nat) : ZMod n) = (k : ZMod n) - a := by
  unfold rotF
  rw [ZMod.natCast_mod]
  push_cast [Nat.cast_sub ha, ZMod.natCast_self]
  ring

theorem cast_reflF (ha : a ≤ n) (hk : k < n) : ((reflF n a k : Nat) : ZMod n) = -1 - (k : ZMod n) - a := by
  unfold reflF
  rw [ZMod.natCast_mod, Nat.sub_sub]
  push_cast [Nat.cast_sub ha, Nat.cast_sub (show 1 + k ≤ n by omega), ZMod.natCast_self]
  ring

theorem rot_rot (hn : 0 < n) (ha : a < n) (hb : b < n) :
    rotF n a (rotF n b k) = rotF n ((a + b) % n) k := by
  refine eq_of_cast_eq (rotF_lt hn) (rotF_lt hn) ?_
  rw [cast_rotF ha.le, cast_rotF hb.le, cast_rotF (Nat.mod_lt _ hn).le, ZMod.natCast_mod]
  push_cast; ring

theorem rot_refl (hn : 0 < n) (ha : a < n) (hb : b < n) (hk : k < n) :
    rotF n a (reflF n b k) = reflF n ((a + b) % n) k := by
  refine eq_of_cast_eq (rotF_lt hn) (reflF_lt hn) ?_
  rw [cast_rotF ha.le, cast_reflF hb.le hk, cast_reflF (Nat.mod_lt _ hn).le hk, ZMod.natCast_mod]
  push_cast; ring

theorem refl_rot (hn : 0 < n) (ha : a < n) (hb : b < n) (hk : k < n) :
    reflF n a (rotF n b k) = reflF n ((a + (n - b)) % n) k := by
  refine eq_of_cast_eq (reflF_lt hn) (reflF_lt hn) ?_
  rw [cast_reflF ha.le (rotF_lt hn), cast_rotF hb.le, cast_reflF (Nat.mod_lt _ hn).le hk, ZMod.natCast_mod]
  push_cast [Nat.cast_sub hb.le, ZMod.natCast_self]; ring

theorem refl_refl (hn : 0 < n) (ha : a < n) (hb : b < n) (hk : k < n) :
    reflF n a (reflF n b k) = rotF n ((a + (n - b)) % n) k := by
  refine eq_of_cast_eq (reflF_lt hn) (rotF_lt hn) ?_
  rw [cast_reflF ha.le (reflF_lt hn), cast_reflF hb.le hk, cast_rotF (Nat.mod_lt _ hn).le, ZMod.natCast_mod]
  push_cast [Nat.cast_sub hb.le, ZMod.natCast_self]; ring
end

/-! ### the four composition rules on the rows -/

section
variable {n a b : Nat}

theorem comp_rot_rot (hn : 0 < n) (ha : a < n) (hb : b < n) :
    compose (dihRot n a) (dihRot n b) = dihRot n ((a + b) % n) := by
  rw [dihRot_eq, dihRot_eq, dihRot_eq, compose_map_range _ _ (fun _ _ => rotF_lt hn)]
  exact List.map_congr_left fun k _ => rot_rot hn ha hb

theorem comp_rot_refl (hn : 0 < n) (ha : a < n) (hb : b < n) :
    compose (dihRot n a) (dihRefl n b) = dihRefl n ((a + b) % n) := by
  rw [dihRot_eq, dihRefl_eq, dihRefl_eq, compose_map_range _ _ (fun _ _ => reflF_lt hn)]
  exact List.map_congr_left fun k hk => rot_refl hn ha hb (by simpa using hk)

theorem comp_refl_rot (hn : 0 < n) (ha : a < n) (hb : b < n) :
    compose (dihRefl n a) (dihRot n b) = dihRefl n ((a + (n - b)) % n) := by
  rw [dihRefl_eq, dihRot_eq, dihRefl_eq, compose_map_range _ _ (fun _ _ => rotF_lt hn)]
  exact List.map_congr_left fun k hk => refl_rot hn ha hb (by simpa using hk)

theorem comp_refl_refl (hn : 0 < n) (ha : a < n) (hb : b < n) :
    compose (dihRefl n a) (dihRefl n b) = dihRot n ((a + (n - b)) % n) := by
  rw [dihRefl_eq, dihRefl_eq, dihRot_eq, compose_map_range _ _ (fun _ _ => reflF_lt hn)]
  exact List.map_congr_left fun k hk => refl_refl hn ha hb (by simpa using hk)

theorem dihRot_zero (n : Nat) : dihRot n 0 = List.range n := by
  rw [dihRot_eq]
  refine (List.map_congr_left fun k hk => ?_).trans (List.map_id _)
  have hk : k < n := by simpa using hk
  simp [rotF, Nat.mod_eq_of_lt hk]

theorem mem_dihRows {x : List Nat} :
    x ∈ dihRows n ↔ ∃ a, a < n ∧ (x = dihRot n a ∨ x = dihRefl n a) := by
  simp only [dihRows, List.mem_append, List.mem_map, List.mem_range]
  constructor
  · rintro (⟨a, ha, rfl⟩ | ⟨a, ha, rfl⟩)
    · exact ⟨a, ha, Or.inl rfl⟩
    · exact ⟨a, ha, Or.inr rfl⟩
  · rintro ⟨a, ha, rfl | rfl⟩
    · exact Or.inl ⟨a, ha, rfl⟩
    · exact Or.inr ⟨a, ha, rfl⟩

theorem dihRows_length (n : Nat) : (dihRows n).length = 2 * n := by
  simp [dihRows]; omega

theorem row_length {x : List Nat} (hx : x ∈ dihRows n) : x.length = n := by
  obtain ⟨a, _, rfl | rfl⟩ := mem_dihRows.1 hx <;> simp [dihRot, dihRefl]

theorem row_lt (hn : 0 < n) {x : List Nat} (hx : x ∈ dihRows n) : ∀ v ∈ x, v < n := by
  obtain ⟨a, _, rfl | rfl⟩ := mem_dihRows.1 hx
  · intro v hv; simp only [dihRot, List.mem_map] at hv; obtain ⟨k, _, rfl⟩ := hv; exact Nat.mod_lt _ hn
  · intro v hv; simp only [dihRefl, List.mem_map] at hv; obtain ⟨k, _, rfl⟩ := hv; exact Nat.mod_lt _ hn

theorem dihRot_inj (hn : 0 < n) (ha : a < n) (hb : b < n) (h : dihRot n a = dihRot n b) : a = b := by
  rw [dihRot_eq, dihRot_eq, List.map_inj_left] at h
  have h0 := congrArg (Nat.cast (R := ZMod n)) (h 0 (by simpa using hn))
  rw [cast_rotF ha.le, cast_rotF hb.le] at h0
  exact eq_of_cast_eq ha hb (by simpa using h0)

theorem dihRefl_inj (hn : 0 < n) (ha : a < n) (hb : b < n) (h : dihRefl n a = dihRefl n b) : a = b := by
  rw [dihRefl_eq, dihRefl_eq, List.map_inj_left] at h
  have h0 := congrArg (Nat.cast (R := ZMod n)) (h 0 (by simpa using hn))
  rw [cast_reflF ha.le hn, cast_reflF hb.le hn] at h0
  exact eq_of_cast_eq ha hb (by simpa using h0)

theorem dihRot_ne_dihRefl (hn : 2 < n) (ha : a < n) (hb : b < n) : dihRot n a ≠ dihRefl n b := by
  intro h
  rw [dihRot_eq, dihRefl_eq, List.map_inj_left] at h
  have h0 := congrArg (Nat.cast (R := ZMod n)) (h 0 (by simp; omega))
  have h1 := congrArg (Nat.cast (R := ZMod n)) (h 1 (by simp; omega))
  rw [cast_rotF ha.le, cast_reflF hb.le (by omega)] at h0 h1
  have h2 : ((2 : Nat) : ZMod n) = 0 := by
    push_cast at h0 h1 ⊢
    linear_combination h1 - h0
  have := (ZMod.natCast_eq_zero_iff 2 n).1 h2
  have := Nat.le_of_dvd (by norm_num) this
  omega

theorem dihRows_nodup (n : Nat) (hn : 2 < n) : (dihRows n).Nodup := by
  have hn0 : 0 < n := by omega
  unfold dihRows
  rw [List.nodup_append]
  refine ⟨?_, ?_, ?_⟩
  · rw [List.nodup_map_iff_inj_on List.nodup_range]
    intro x hx y hy h
    exact dihRot_inj hn0 (by simpa using hx) (by simpa using hy) h
  · rw [List.nodup_map_iff_inj_on List.nodup_range]
    intro x hx y hy h
    exact dihRefl_inj hn0 (by simpa using hx) (by simpa using hy) h
  · intro x hx y hy
    simp only [List.mem_map, List.mem_range] at hx hy
    obtain ⟨a, ha, rfl⟩ := hx
    obtain ⟨b, hb, rfl⟩ := hy
    exact dihRot_ne_dihRefl hn ha hb

end

end Numqi.FinGroup
