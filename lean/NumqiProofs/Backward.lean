/-
Definitions the C04 statements rest on (`pairing`, `PGate.WF`, `PGate.IsUnitary`, `PGate.InRange`, `SylvGuard`, `specMat`) and the
lemmas about the backward-pass model.  Gate application facts come from the simulator property C03
(`applyGate_eq_embed`, `embed_mul`, `embed_conjTranspose`, `applyControlled_eq`, `ctrlEmbed_*`).
-/
import Mathlib.Tactic
import Mathlib.Algebra.Star.BigOperators
import Mathlib.LinearAlgebra.Matrix.DotProduct
import Mathlib.LinearAlgebra.Matrix.ConjTranspose
import Mathlib.LinearAlgebra.Matrix.Trace
import Mathlib.Analysis.Real.Sqrt
import Mathlib.Data.Complex.Basic
import NumqiModel.Backward
import NumqiProofs.PartialTrace
import NumqiProps.C03

namespace Numqi
namespace Backward
open Function Matrix Finset

attribute [local instance] starConj

variable {R : Type} [CommRing R] [StarRing R] {n k n' : Nat}

theorem vdot_eq (φ ψ : Vec n R) : vdot φ ψ = ∑ x, star (φ x) * ψ x := by
  simp only [vdot, sumBits_eq_sum]; rfl

theorem vdot_eq_dot (φ ψ : Vec n R) : vdot φ ψ = star φ ⬝ᵥ ψ := by
  rw [vdot_eq]; rfl

abbrev MatK (k : Nat) (R : Type) := Matrix (Bits k) (Bits k) R

theorem daggerMat_eq (U : MatK k R) : (daggerMat U : MatK k R) = Uᴴ := rfl
theorem transposeMat_eq (U : MatK k R) : (transposeMat U : MatK k R) = Uᵀ := rfl

theorem vdot_add_right (g a b : Vec n R) : vdot g (fun x => a x + b x) = vdot g a + vdot g b := by
  simp only [vdot_eq, mul_add, sum_add_distrib]

theorem vdot_zero_right (g : Vec n R) : vdot g (fun _ => (0 : R)) = 0 := by
  simp only [vdot_eq, mul_zero, sum_const_zero]

/-- a matrix moves to the other side of the inner product as its conjugate transpose -/
theorem vdot_mulVec (M : Matrix (Bits n) (Bits n) R) (g ψ : Vec n R) :
    vdot g (M.mulVec ψ) = vdot (Mᴴ.mulVec g) ψ := by
  rw [vdot_eq_dot, vdot_eq_dot, Matrix.dotProduct_mulVec, Matrix.star_mulVec, Matrix.conjTranspose_conjTranspose]

/-- state part of the gate rule: `⟪g, E(U) δψ⟫ = ⟪E(U†) g, δψ⟫` -/
theorem vdot_applyGate {t : Fin k → Fin n} (ht : Injective t) (U : MatK k R) (g ψ : Vec n R) :
    vdot g (applyGate U t ψ) = vdot (applyGate (daggerMat U) t g) ψ := by
  have h1 := C03.applyGate_eq_embed ht U ψ
  have h2 := C03.applyGate_eq_embed ht (daggerMat U) g
  have h3 := C03.embed_conjTranspose t U
  rw [h1, h2, vdot_mulVec, h3]; rfl

/-- operator part of the gate rule: `⟪g, E(δU) ψ⟫ = ⟪opGrad g conj(ψ), δU⟫` -/
theorem vdot_applyGate_op (t : Fin k → Fin n) (δU : Mat k R) (g ψ : Vec n R) :
    vdot g (applyGate δU t ψ) = ∑ a, ∑ b, star (opGrad t g (conjVec ψ) a b) * δU a b := by
  have hstar : ∀ a b, star (opGrad t g (conjVec ψ) a b)
      = ∑ x : Bits n, if x.sel t = a then star (g x) * ψ (x.upd t b) else 0 := by
    intro a b
    simp only [opGrad, conjVec, sumBits_eq_sum, Bits.beq_iff, star_sum, conj]
    refine sum_congr rfl fun x _ => ?_
    rw [apply_ite star, star_mul', star_star, star_zero]
  simp only [hstar, vdot_eq, applyGate, sumBits_eq_sum, sum_mul, mul_sum]
  symm
  calc ∑ a, ∑ b, ∑ x : Bits n, (if x.sel t = a then star (g x) * ψ (x.upd t b) else 0) * δU a b
      = ∑ a, ∑ x : Bits n, ∑ b, (if x.sel t = a then star (g x) * ψ (x.upd t b) else 0) * δU a b :=
        sum_congr rfl fun a _ => sum_comm
    _ = ∑ x : Bits n, ∑ a, ∑ b, (if x.sel t = a then star (g x) * ψ (x.upd t b) else 0) * δU a b := sum_comm
    _ = ∑ x : Bits n, ∑ b, star (g x) * (δU (x.sel t) b * ψ (x.upd t b)) := by
        refine sum_congr rfl fun x _ => ?_
        rw [sum_eq_single (x.sel t)]
        · exact sum_congr rfl fun b _ => by rw [if_pos rfl]; ring
        · intro a _ ha
          exact sum_eq_zero fun b _ => by rw [if_neg (fun h => ha h.symm), zero_mul]
        · intro h; exact absurd (mem_univ _) h

theorem conjVec_applyGate (t : Fin k → Fin n) (U : Mat k R) (ψ : Vec n R) :
    conjVec (applyGate U t ψ) = applyGate (fun a b => star (U a b)) t (conjVec ψ) := by
  funext x
  simp only [conjVec, applyGate, sumBits_eq_sum, conj, star_sum, star_mul']

theorem conjVec_conjVec (ψ : Vec n R) : conjVec (conjVec ψ) = ψ := by
  funext x; exact star_star _

theorem applyGate_transpose_conj (t : Fin k → Fin n) (U : Mat k R) (φ : Vec n R) :
    applyGate (transposeMat U) t (conjVec φ) = conjVec (applyGate (daggerMat U) t φ) := by
  rw [conjVec_applyGate]
  congr 1
  funext a b; exact (star_star _).symm

/-- un-applying a **unitary** gate on the conjugated state: `E(Uᵀ) conj(E(U) ψ) = conj ψ` -/
theorem unapply_gate {t : Fin k → Fin n} (ht : Injective t) (U : MatK k R) (hU : Uᴴ * U = 1) (ψ : Vec n R) :
    applyGate (transposeMat U) t (conjVec (applyGate U t ψ)) = conjVec ψ := by
  refine (applyGate_transpose_conj t U _).trans (congrArg conjVec ?_)
  have hE := Matrix.mem_unitaryGroup_iff'.1 (C03.embed_unitary ht (Matrix.mem_unitaryGroup_iff'.2 hU))
  rw [C03.applyGate_eq_embed ht U ψ, C03.applyGate_eq_embed ht (daggerMat U), Matrix.mulVec_mulVec, daggerMat_eq, ← C03.embed_conjTranspose,
    ← Matrix.star_eq_conjTranspose, hE, Matrix.one_mulVec]

/-! ### controlled gates -/

theorem upd_empty (x : Bits n) (t : Fin 0 → Fin n) (y : Bits 0) : x.upd t y = x := by
  funext i; simp [Bits.upd]

/-- on the control-on subspace `x` is recovered from its non-control bits -/
theorem ones_upd_sel {isCtrl : Fin n → Bool} {rest : Fin n' → Fin n} (hrest : Injective rest)
    (hfree : ∀ i, isCtrl i = false ↔ ∃ m, rest m = i) {x : Bits n} (hx : ctrlOn isCtrl x = true) :
    (Bits.ones n).upd rest (x.sel rest) = x := by
  have h := ctrl_upd_eq (k := 0) (tNew := fun j => j.elim0) hrest (fun a => a.elim0) hfree hx (fun j => j.elim0)
  rwa [upd_empty, upd_empty] at h

theorem ctrlOn_ones_upd {isCtrl : Fin n → Bool} {rest : Fin n' → Fin n}
    (hfree : ∀ i, isCtrl i = false ↔ ∃ m, rest m = i) (z : Bits n') :
    ctrlOn isCtrl ((Bits.ones n).upd rest z) = true := by
  rw [ctrlOn_iff]
  intro i hi
  have h1 : ∀ m, rest m ≠ i := fun m e => by
    have := (hfree i).2 ⟨m, e⟩; rw [hi] at this; exact absurd this (by simp)
  rw [Bits.upd_apply_off _ _ h1]; rfl

omit [StarRing R] in
/-- sums over the control-on subspace are sums over the sub-register -/
theorem sum_ctrlOn {isCtrl : Fin n → Bool} {rest : Fin n' → Fin n} (hrest : Injective rest)
    (hfree : ∀ i, isCtrl i = false ↔ ∃ m, rest m = i) (f : Bits n → R) :
    ∑ x, (if ctrlOn isCtrl x then f x else 0) = ∑ z : Bits n', f ((Bits.ones n).upd rest z) := by
  symm
  rw [← sum_filter]
  refine sum_bij (fun z _ => (Bits.ones n).upd rest z) ?_ ?_ ?_ ?_
  · intro z _; simp [ctrlOn_ones_upd hfree z]
  · intro z1 _ z2 _ h
    rw [← Bits.sel_upd hrest (Bits.ones n) z1, h, Bits.sel_upd hrest]
  · intro x hx
    refine ⟨x.sel rest, mem_univ _, ones_upd_sel hrest hfree ?_⟩
    simpa using hx
  · intro z _; rfl

theorem hdisj_of_free {isCtrl : Fin n → Bool} {rest : Fin n' → Fin n} {tNew : Fin k → Fin n'}
    (hfree : ∀ i, isCtrl i = false ↔ ∃ m, rest m = i) : ∀ j, isCtrl (rest (tNew j)) = false :=
  fun j => (hfree _).2 ⟨tNew j, rfl⟩

theorem vdot_applyControlled {isCtrl : Fin n → Bool} {rest : Fin n' → Fin n} {tNew : Fin k → Fin n'}
    (hrest : Injective rest) (htn : Injective tNew) (hfree : ∀ i, isCtrl i = false ↔ ∃ m, rest m = i)
    (U : MatK k R) (g ψ : Vec n R) :
    vdot g (applyControlled U isCtrl rest tNew ψ) = vdot (applyControlled (daggerMat U) isCtrl rest tNew g) ψ := by
  have h1 := C03.applyControlled_eq hrest htn hfree U ψ
  have h2 := C03.applyControlled_eq hrest htn hfree (daggerMat U) g
  have h3 := C03.ctrlEmbed_conjTranspose (t := fun j => rest (tNew j)) (hdisj_of_free hfree) U
  rw [h1, h2, vdot_mulVec, h3]; rfl

theorem slice_conjVec (rest : Fin n' → Fin n) (ψ : Vec n R) : slice rest (conjVec ψ) = conjVec (slice rest ψ) := rfl

theorem vdot_applyControlled_op {isCtrl : Fin n → Bool} {rest : Fin n' → Fin n} (tNew : Fin k → Fin n')
    (hrest : Injective rest) (hfree : ∀ i, isCtrl i = false ↔ ∃ m, rest m = i) (δU : Mat k R) (g ψ : Vec n R) :
    vdot g (fun x => if ctrlOn isCtrl x then applyGate δU tNew (slice rest ψ) (x.sel rest) else 0)
      = ∑ a, ∑ b, star (opGrad tNew (slice rest g) (slice rest (conjVec ψ)) a b) * δU a b := by
  rw [slice_conjVec, ← vdot_applyGate_op, vdot_eq, vdot_eq]
  simp only [mul_ite, mul_zero]
  rw [sum_ctrlOn hrest hfree (fun x => star (g x) * applyGate δU tNew (slice rest ψ) (x.sel rest))]
  refine sum_congr rfl fun z _ => ?_
  rw [Bits.sel_upd hrest]; rfl

theorem conjVec_applyControlled (isCtrl : Fin n → Bool) (rest : Fin n' → Fin n) (tNew : Fin k → Fin n')
    (U : Mat k R) (ψ : Vec n R) :
    conjVec (applyControlled U isCtrl rest tNew ψ)
      = applyControlled (fun a b => star (U a b)) isCtrl rest tNew (conjVec ψ) := by
  funext x
  simp only [conjVec, applyControlled]
  split
  · exact congrFun (conjVec_applyGate tNew U (fun z => ψ ((Bits.ones n).upd rest z))) (x.sel rest)
  · rfl

theorem applyControlled_transpose_conj (isCtrl : Fin n → Bool) (rest : Fin n' → Fin n) (tNew : Fin k → Fin n')
    (U : Mat k R) (φ : Vec n R) :
    applyControlled (transposeMat U) isCtrl rest tNew (conjVec φ)
      = conjVec (applyControlled (daggerMat U) isCtrl rest tNew φ) := by
  rw [conjVec_applyControlled]
  congr 1
  funext a b; exact (star_star _).symm

theorem unapply_controlled {isCtrl : Fin n → Bool} {rest : Fin n' → Fin n} {tNew : Fin k → Fin n'}
    (hrest : Injective rest) (htn : Injective tNew) (hfree : ∀ i, isCtrl i = false ↔ ∃ m, rest m = i)
    (U : MatK k R) (hU : Uᴴ * U = 1) (ψ : Vec n R) :
    applyControlled (transposeMat U) isCtrl rest tNew (conjVec (applyControlled U isCtrl rest tNew ψ)) = conjVec ψ := by
  refine (applyControlled_transpose_conj isCtrl rest tNew U _).trans (congrArg conjVec ?_)
  have ht : Injective (fun j => rest (tNew j)) := hrest.comp htn
  have hE := Matrix.mem_unitaryGroup_iff'.1
    (C03.ctrlEmbed_unitary ht (hdisj_of_free hfree) (Matrix.mem_unitaryGroup_iff'.2 hU))
  rw [C03.applyControlled_eq hrest htn hfree U ψ, C03.applyControlled_eq hrest htn hfree (daggerMat U), Matrix.mulVec_mulVec, daggerMat_eq,
    ← C03.ctrlEmbed_conjTranspose (hdisj_of_free hfree), ← Matrix.star_eq_conjTranspose, hE, Matrix.one_mulVec]

/-! ### the reverse sweep -/

/-- `Σ_slots ⟪G[slot], δΘ[slot]⟫` over the slots `(k, s)`, `k < K`, `s < S` -/
def pairing (K S : ℕ) (G δΘ : Params R) : R :=
  ∑ k ∈ range K, ∑ s ∈ range S, ∑ a, ∑ b, star (G k s a b) * δΘ k s a b

theorem addAt_same {α : Type} [Add α] (G : Params α) (k0 s0 : ℕ) (D : Mat k0 α) :
    addAt G k0 s0 D k0 s0 = fun a b => G k0 s0 a b + D a b := by
  simp only [addAt, dite_true, if_true]

theorem addAt_other {α : Type} [Add α] (G : Params α) (k0 s0 : ℕ) (D : Mat k0 α) (k s : ℕ) (h : ¬ (k = k0 ∧ s = s0)) :
    addAt G k0 s0 D k s = G k s := by
  unfold addAt
  by_cases hk : k = k0
  · rw [dif_pos hk, if_neg fun e => h ⟨hk, e⟩]
  · rw [dif_neg hk]

theorem pairing_addAt (K S : ℕ) (G δΘ : Params R) (k0 s0 : ℕ) (hk : k0 < K) (hs : s0 < S) (D : Mat k0 R) :
    pairing K S (addAt G k0 s0 D) δΘ = pairing K S G δΘ + ∑ a, ∑ b, star (D a b) * δΘ k0 s0 a b := by
  have hmem : (k0, s0) ∈ range K ×ˢ range S := mem_product.2 ⟨mem_range.2 hk, mem_range.2 hs⟩
  have hoff : ∀ p ∈ (range K ×ˢ range S).erase (k0, s0),
      (∑ a, ∑ b, star (addAt G k0 s0 D p.1 p.2 a b) * δΘ p.1 p.2 a b) = ∑ a, ∑ b, star (G p.1 p.2 a b) * δΘ p.1 p.2 a b :=
    fun p hp => by rw [addAt_other G k0 s0 D p.1 p.2 fun h => (mem_erase.1 hp).1 (Prod.ext h.1 h.2)]
  unfold pairing
  rw [← sum_product', ← sum_product', ← add_sum_erase _ _ hmem, ← add_sum_erase _ _ hmem, sum_congr rfl hoff,
    addAt_same]
  simp only [star_add, add_mul, sum_add_distrib]
  ring

/-- side conditions under which a gate-list entry denotes its operator (the same as `Op.WF` of `NumqiProofs/SimLemmas.lean`) -/
def PGate.WF : PGate n R → Prop
  | .unitary _ t => Injective t
  | .control _ isCtrl rest tNew => Injective rest ∧ Injective tNew ∧ ∀ i, isCtrl i = false ↔ ∃ m, rest m = i
  | .custom _ _ => True

def IsUnitaryMat (U : MatK k R) : Prop := Uᴴ * U = 1

/-- the gate's matrix is unitary (`U†U = 1`) at the parameter point `Θ` -/
def PGate.IsUnitary (Θ : Params R) : PGate n R → Prop
  | .unitary src _ => IsUnitaryMat (src.get Θ)
  | .control src _ _ _ => IsUnitaryMat (src.get Θ)
  | .custom src _ => star (scalarOf (src.get Θ)) * scalarOf (src.get Θ) = 1

/-- the slot a parametrised gate reads lies in the range the pairing sums over -/
def PGate.InRange (K S : ℕ) : PGate n R → Prop
  | .unitary (k := k) (.param s) _ => k < K ∧ s < S
  | .control (k := k) (.param s) _ _ _ => k < K ∧ s < S
  | .custom (.param s) _ => 0 < K ∧ s < S
  | _ => True

/-! #### the diagonal-phase custom gate -/

theorem sum_bits0 (f : Bits 0 → Bits 0 → R) : (∑ a, ∑ b, f a b) = f (fun i => i.elim0) (fun i => i.elim0) := by
  have hu : ∀ a : Bits 0, a = fun i => i.elim0 := fun a => funext fun i => i.elim0
  rw [Fintype.sum_eq_single (fun i : Fin 0 => i.elim0) (fun a ha => absurd (hu a) ha),
    Fintype.sum_eq_single (fun i : Fin 0 => i.elim0) (fun a ha => absurd (hu a) ha)]

/-- un-applying a unit-modulus phase: `conj(ψ·a)·a = conj ψ` -/
theorem unapply_custom (a : R) (ha : star a * a = 1) (d : Bits n → Bool) (ψ : Vec n R) :
    customApply a d (conjVec (customApply a d ψ)) = conjVec ψ := by
  funext x
  simp only [customApply, conjVec, conj]
  split
  · rw [star_mul', mul_assoc, ha, mul_one]
  · rfl

/-- the cotangent rule `q0_grad[idx,idx] *= conj(a)` is the adjoint of the forward map -/
theorem vdot_customApply (a : R) (d : Bits n → Bool) (g ψ : Vec n R) :
    vdot (customApply (conj a) d g) ψ = vdot g (customApply a d ψ) := by
  rw [vdot_eq, vdot_eq]
  refine sum_congr rfl fun x _ => ?_
  simp only [customApply, conj]
  split
  · rw [star_mul', star_star]; ring
  · rfl

/-- `op_grad = Σ_diag conj(ψ)·g` paired with `δa` is the cotangent paired with the first-order change of the output -/
theorem vdot_custom_op (d : Bits n → Bool) (δa : R) (g ψ : Vec n R) :
    star (sumBits n fun x => if d x then conjVec ψ x * g x else 0) * δa
      = vdot g (fun x => if d x then ψ x * δa else 0) := by
  rw [vdot_eq, sumBits_eq_sum, star_sum, sum_mul]
  refine sum_congr rfl fun x _ => ?_
  simp only [conjVec, conj]
  split
  · rw [star_mul', star_star]; ring
  · rw [star_zero, zero_mul, mul_zero]

/-! #### constant and parametrised sources at once -/

/-- the first-order change of a gate's matrix: the slot of `δΘ` it reads, nothing for a constant array -/
def Src.dget (δΘ : Params R) : Src k R → Mat k R
  | .fixed _ => fun _ _ => 0
  | .param s => δΘ k s

def Src.InRange (K S : ℕ) : Src k R → Prop
  | .fixed _ => True
  | .param s => k < K ∧ s < S

theorem pairing_accumulate (K S : ℕ) (G δΘ : Params R) (src : Src k R) (hr : src.InRange K S) (D : Mat k R) :
    pairing K S (src.accumulate G D) δΘ = pairing K S G δΘ + ∑ a, ∑ b, star (D a b) * src.dget δΘ a b := by
  cases src with
  | fixed U => simp only [Src.accumulate, Src.dget, mul_zero, sum_const_zero, add_zero]
  | param s => exact pairing_addAt K S G δΘ k s hr.1 hr.2 D

omit [StarRing R] in
theorem applyGate_zero (t : Fin k → Fin n) (ψ : Vec n R) (x : Bits n) :
    applyGate (fun _ _ => (0 : R)) t ψ x = 0 := by
  simp only [applyGate, sumBits_eq_sum, zero_mul, sum_const_zero]

omit [StarRing R] in
theorem dapply_unitary (δΘ : Params R) (src : Src k R) (t : Fin k → Fin n) (ψ : Vec n R) :
    (PGate.unitary src t).dapply δΘ ψ = applyGate (src.dget δΘ) t ψ := by
  cases src with
  | fixed U => exact funext fun x => (applyGate_zero t ψ x).symm
  | param s => rfl

omit [StarRing R] in
theorem dapply_control (δΘ : Params R) (src : Src k R) (c : Fin n → Bool) (r : Fin n' → Fin n) (tn : Fin k → Fin n')
    (ψ : Vec n R) :
    (PGate.control src c r tn).dapply δΘ ψ
      = fun x => if ctrlOn c x then applyGate (src.dget δΘ) tn (slice r ψ) (x.sel r) else 0 := by
  cases src with
  | fixed U => exact funext fun x => by rw [Src.dget, applyGate_zero, ite_self]; rfl
  | param s => rfl

omit [StarRing R] in
theorem dapply_custom (δΘ : Params R) (src : Src 0 R) (d : Bits n → Bool) (ψ : Vec n R) :
    (PGate.custom src d).dapply δΘ ψ = fun x => if d x then ψ x * scalarOf (src.dget δΘ) else 0 := by
  cases src with
  | fixed U => exact funext fun x => by rw [Src.dget, scalarOf, mul_zero, ite_self]; rfl
  | param s => rfl

/-- one induction step per gate kind: un-apply the gate (`unapply_*`), move the gate to the cotangent (`vdot_apply*`), and
account for the accumulated operator gradient (`pairing_accumulate` with `vdot_*_op`) -/
theorem sweep_vjp (K S : ℕ) (Θ δΘ : Params R) (gates : List (PGate n R))
    (hwf : ∀ g ∈ gates, g.WF) (hun : ∀ g ∈ gates, g.IsUnitary Θ) (hr : ∀ g ∈ gates, g.InRange K S)
    (ψ0 δψ gout : Vec n R) (G0 : Params R) :
    (backward Θ gates (conjVec (forward Θ gates ψ0), gout, G0)).1 = conjVec ψ0 ∧
    pairing K S (backward Θ gates (conjVec (forward Θ gates ψ0), gout, G0)).2.2 δΘ
        + vdot (backward Θ gates (conjVec (forward Θ gates ψ0), gout, G0)).2.1 δψ
      = pairing K S G0 δΘ + vdot gout (dforward Θ δΘ gates ψ0 δψ) := by
  induction gates generalizing ψ0 δψ with
  | nil => simp [backward, forward, dforward]
  | cons gate rest ih =>
    have hwf' : ∀ g ∈ rest, g.WF := fun g hg => hwf g (List.mem_cons_of_mem _ hg)
    have hun' : ∀ g ∈ rest, g.IsUnitary Θ := fun g hg => hun g (List.mem_cons_of_mem _ hg)
    have hr' : ∀ g ∈ rest, g.InRange K S := fun g hg => hr g (List.mem_cons_of_mem _ hg)
    have hf : forward Θ (gate :: rest) ψ0 = forward Θ rest (gate.apply Θ ψ0) := rfl
    have hb : ∀ init, backward Θ (gate :: rest) init = gate.back Θ (backward Θ rest init) := fun _ => rfl
    have hd : dforward Θ δΘ (gate :: rest) ψ0 δψ
        = dforward Θ δΘ rest (gate.apply Θ ψ0) (fun x => gate.apply Θ δψ x + gate.dapply δΘ ψ0 x) := rfl
    obtain ⟨ih1, ih2⟩ := ih hwf' hun' hr' (gate.apply Θ ψ0) (fun x => gate.apply Θ δψ x + gate.dapply δΘ ψ0 x)
    rw [hf, hb, hd]
    set r := backward Θ rest (conjVec (forward Θ rest (gate.apply Θ ψ0)), gout, G0) with hrdef
    rw [← ih2, vdot_add_right]
    have gwf := hwf gate List.mem_cons_self
    have gun := hun gate List.mem_cons_self
    have grange := hr gate List.mem_cons_self
    cases gate with
    | unitary src t =>
      have ht : Injective t := gwf
      have hsrc : src.InRange K S := by cases src <;> exact grange
      have hq : applyGate (transposeMat (src.get Θ)) t r.1 = conjVec ψ0 := by
        rw [ih1]; exact unapply_gate ht (src.get Θ) gun ψ0
      refine ⟨hq, ?_⟩
      show pairing K S (src.accumulate r.2.2 (opGrad t r.2.1 (applyGate (transposeMat (src.get Θ)) t r.1))) δΘ
        + vdot (applyGate (daggerMat (src.get Θ)) t r.2.1) δψ = _
      rw [hq, pairing_accumulate K S _ δΘ src hsrc, ← vdot_applyGate_op, ← vdot_applyGate ht (src.get Θ), dapply_unitary]
      simp only [PGate.apply]
      ring
    | control src isCtrl rest' tNew =>
      obtain ⟨hrest, htn, hfree⟩ := gwf
      have hsrc : src.InRange K S := by cases src <;> exact grange
      have hq : applyControlled (transposeMat (src.get Θ)) isCtrl rest' tNew r.1 = conjVec ψ0 := by
        rw [ih1]; exact unapply_controlled hrest htn hfree (src.get Θ) gun ψ0
      refine ⟨hq, ?_⟩
      show pairing K S (src.accumulate r.2.2 (opGrad tNew (slice rest' r.2.1)
          (slice rest' (applyControlled (transposeMat (src.get Θ)) isCtrl rest' tNew r.1)))) δΘ
        + vdot (applyControlled (daggerMat (src.get Θ)) isCtrl rest' tNew r.2.1) δψ = _
      rw [hq, pairing_accumulate K S _ δΘ src hsrc, ← vdot_applyControlled_op tNew hrest hfree,
        ← vdot_applyControlled hrest htn hfree (src.get Θ), dapply_control]
      simp only [PGate.apply]
      ring
    | custom src d =>
      have hsrc : src.InRange K S := by cases src <;> exact grange
      have hq : customApply (scalarOf (src.get Θ)) d r.1 = conjVec ψ0 := by
        rw [ih1]; exact unapply_custom _ gun d ψ0
      refine ⟨hq, ?_⟩
      show pairing K S (src.accumulate r.2.2 (fun _ _ => sumBits n fun x =>
          if d x then customApply (scalarOf (src.get Θ)) d r.1 x * r.2.1 x else 0)) δΘ
        + vdot (customApply (conj (scalarOf (src.get Θ))) d r.2.1) δψ = _
      rw [hq, pairing_accumulate K S _ δΘ src hsrc, sum_bits0, vdot_customApply, dapply_custom,
        ← vdot_custom_op d (scalarOf (src.dget δΘ)) r.2.1 ψ0]
      simp only [PGate.apply, scalarOf]
      ring

/-! ### exact second-order expansion of one gate: what `dforward` uses is its first-order part -/

omit [StarRing R] in
theorem applyGate_add_left (t : Fin k → Fin n) (U V : Mat k R) (ψ : Vec n R) :
    applyGate (fun a b => U a b + V a b) t ψ = fun x => applyGate U t ψ x + applyGate V t ψ x := by
  funext x; simp only [applyGate, sumBits_eq_sum, add_mul, sum_add_distrib]

omit [StarRing R] in
theorem applyGate_add_right (t : Fin k → Fin n) (U : Mat k R) (ψ φ : Vec n R) :
    applyGate U t (fun x => ψ x + φ x) = fun x => applyGate U t ψ x + applyGate U t φ x := by
  funext x; simp only [applyGate, sumBits_eq_sum, mul_add, sum_add_distrib]

/-! ### Knill–Laflamme inner product -/

theorem applySeq_eq (ops : List (Op n R)) (hwf : ∀ g ∈ ops, g.WF) (v : Vec n R) :
    applySeq ops v = (circuitMatrix ops).mulVec v := by
  induction ops generalizing v with
  | nil => simp [applySeq, circuitMatrix_nil]
  | cons g c ih =>
    have h1 : applySeq (g :: c) v = applySeq c (g.apply v) := rfl
    rw [h1, ih (fun g' hg' => hwf g' (List.mem_cons_of_mem _ hg')), C03.op_apply_eq g (hwf g List.mem_cons_self),
      circuitMatrix_cons, Matrix.mulVec_mulVec]

/-- no `measure` entries (the operator lists of the QEC module consist of gates) -/
def NoMeasure : Op n R → Prop
  | .measure _ _ => False
  | _ => True

def dagOp : Op n R → Op n R
  | .unitary U t => .unitary (daggerMat U) t
  | .control U c r tn => .control (daggerMat U) c r tn
  | .measure s o => .measure s o

theorem dagRev_eq (ops : List (Op n R)) : dagRev ops = (ops.map dagOp).reverse := by
  unfold dagRev; congr 1

theorem dagOp_wf (g : Op n R) (h : g.WF) : (dagOp g).WF := by cases g <;> exact h

theorem dagOp_matrix (g : Op n R) (hwf : g.WF) (hm : NoMeasure g) :
    (Matrix.of (dagOp g).matrix : Matrix (Bits n) (Bits n) R) = (Matrix.of g.matrix)ᴴ := by
  cases g with
  | unitary U t => exact (C03.embed_conjTranspose t U).symm
  | control U c r tn => exact (C03.ctrlEmbed_conjTranspose (hdisj_of_free hwf.2.2) U).symm
  | measure s o => exact absurd hm id

theorem circuitMatrix_dagRev (ops : List (Op n R)) (hwf : ∀ g ∈ ops, g.WF) (hm : ∀ g ∈ ops, NoMeasure g) :
    circuitMatrix (dagRev ops) = (circuitMatrix ops)ᴴ := by
  rw [dagRev_eq]
  induction ops with
  | nil => simp [circuitMatrix]
  | cons g c ih =>
    have ihc := ih (fun g' hg' => hwf g' (List.mem_cons_of_mem _ hg')) (fun g' hg' => hm g' (List.mem_cons_of_mem _ hg'))
    rw [circuitMatrix_cons, Matrix.conjTranspose_mul, ← ihc,
      ← dagOp_matrix g (hwf g List.mem_cons_self) (hm g List.mem_cons_self)]
    simp [circuitMatrix]

theorem dagRev_wf (ops : List (Op n R)) (hwf : ∀ g ∈ ops, g.WF) : ∀ g ∈ dagRev ops, g.WF := by
  rw [dagRev_eq]
  intro g hg
  rw [List.mem_reverse, List.mem_map] at hg
  obtain ⟨g0, h0, rfl⟩ := hg
  exact dagOp_wf g0 (hwf g0 h0)

theorem star_vdot (a b : Vec n R) : star (vdot a b) = vdot b a := by
  simp only [vdot_eq, star_sum, star_mul', star_star]
  exact sum_congr rfl fun x _ => mul_comm _ _

theorem vdot_add_left (a b w : Vec n R) : vdot (fun x => a x + b x) w = vdot a w + vdot b w := by
  simp only [vdot_eq, star_add, add_mul, sum_add_distrib]

theorem vdot_sum_left (L : ℕ) (c : ℕ → R) (v : ℕ → Vec n R) (w : Vec n R) :
    vdot (fun x => ∑ j ∈ range L, c j * v j x) w = ∑ j ∈ range L, star (c j) * vdot (v j) w := by
  simp only [vdot_eq, star_sum, star_mul', sum_mul, mul_sum]
  rw [sum_comm]
  exact sum_congr rfl fun j _ => sum_congr rfl fun x _ => by ring

/-- the adjoint identity behind the Knill–Laflamme backward pass, for an arbitrary operator `O` -/
theorem kl_adjoint (L : ℕ) (O : Matrix (Bits n) (Bits n) R) (q dq : ℕ → Vec n R) (G : ℕ → ℕ → R) :
    let grad : ℕ → Vec n R := fun i x =>
      (∑ j ∈ range L, star (G i j) * O.mulVec (q j) x) + (∑ j ∈ range L, G j i * Oᴴ.mulVec (q j) x)
    let S := ∑ i ∈ range L, ∑ j ∈ range L, star (G i j) * (vdot (dq i) (O.mulVec (q j)) + vdot (q i) (O.mulVec (dq j)))
    let T := ∑ i ∈ range L, vdot (grad i) (dq i)
    T + star T = S + star S := by
  intro grad S T
  have hT : T = star (∑ i ∈ range L, ∑ j ∈ range L, star (G i j) * vdot (dq i) (O.mulVec (q j)))
      + ∑ i ∈ range L, ∑ j ∈ range L, star (G i j) * vdot (q i) (O.mulVec (dq j)) := by
    have h1 : ∀ i, vdot (grad i) (dq i)
        = (∑ j ∈ range L, G i j * star (vdot (dq i) (O.mulVec (q j))))
          + ∑ j ∈ range L, star (G j i) * vdot (q j) (O.mulVec (dq i)) := by
      intro i
      simp only [grad]
      rw [vdot_add_left, vdot_sum_left, vdot_sum_left]
      congr 1
      · exact sum_congr rfl fun j _ => by rw [star_star, star_vdot]
      · exact sum_congr rfl fun j _ => by rw [← vdot_mulVec]
    simp only [T, h1, sum_add_distrib, star_sum, star_mul', star_star]
    congr 1
    rw [sum_comm]
  have hS : S = (∑ i ∈ range L, ∑ j ∈ range L, star (G i j) * vdot (dq i) (O.mulVec (q j)))
      + ∑ i ∈ range L, ∑ j ∈ range L, star (G i j) * vdot (q i) (O.mulVec (dq j)) := by
    simp only [S, mul_add, sum_add_distrib]
  rw [hT, hS]
  simp only [star_add, star_star]
  ring

/-! ### Sylvester rule for the PSD square root -/

section sylvester
variable {F : Type} [Field F] [StarRing F] [DecidableEq F] {m : ℕ}

/-- the `m × m` matrix of a function on natural-number indices -/
def toMat (m : ℕ) (f : ℕ → ℕ → F) : Matrix (Fin m) (Fin m) F := Matrix.of fun i j => f i.val j.val

theorem toMat_rotateIn (V G : ℕ → ℕ → F) :
    toMat m (rotateIn m V G) = (toMat m V)ᴴ * toMat m G * toMat m V := by
  ext a b
  simp only [rotateIn, sumRange_eq_sum, Matrix.mul_apply, toMat, Matrix.of_apply, Matrix.conjTranspose_apply, conj,
    sum_mul, Finset.sum_range]
  rw [sum_comm]

theorem toMat_rotateOut (V M : ℕ → ℕ → F) :
    toMat m (rotateOut m V M) = toMat m V * toMat m M * (toMat m V)ᴴ := by
  ext i j
  simp only [rotateOut, sumRange_eq_sum, Matrix.mul_apply, toMat, Matrix.of_apply, Matrix.conjTranspose_apply, conj,
    sum_mul, Finset.sum_range]
  rw [sum_comm]

/-! #### singular inputs: the `tmp1[ind_zero…] = 0` branch -/

/-- the part of `V†GV` the rule discards: the diagonal entries that belong to zero roots -/
def kernelDiag (m : ℕ) (V G : ℕ → ℕ → F) (s : ℕ → F) : Matrix (Fin m) (Fin m) F :=
  toMat m fun a b => if a = b ∧ s a = 0 then rotateIn m V G a b else 0

omit [DecidableEq F] in
/-- **a solution of the Sylvester equation is the vector–Jacobian product of the square root**:
if `S = S†`, `S X + X S = G` and `δA = δS·S + S·δS` (the differential of `A = S·S`) then `⟪G, δS⟫ = ⟪X, δA⟫`. -/
theorem sylvester_adjoint (S X G δS : Matrix (Fin m) (Fin m) F) (hS : Sᴴ = S) (hX : S * X + X * S = G) :
    Matrix.trace (Gᴴ * δS) = Matrix.trace (Xᴴ * (δS * S + S * δS)) := by
  have hG : Gᴴ = Xᴴ * S + S * Xᴴ := by
    rw [← hX, Matrix.conjTranspose_add, Matrix.conjTranspose_mul, Matrix.conjTranspose_mul, hS]
  rw [hG, Matrix.add_mul, Matrix.mul_add, Matrix.trace_add, Matrix.trace_add]
  rw [add_comm]
  congr 1
  · rw [Matrix.mul_assoc, Matrix.trace_mul_comm, Matrix.mul_assoc]
  · rw [Matrix.mul_assoc]

end sylvester

/-! ### repeated square roots -/

section sylvrepeat
variable {F : Type} [Field F] [StarRing F] [DecidableEq F] {m : ℕ}

omit [DecidableEq F] in
/-- conjugation by an isometry is multiplicative: `(V A V†)(V B V†) = V (A B) V†` -/
theorem conj_mul_conj {V : Matrix (Fin m) (Fin m) F} (hV : Vᴴ * V = 1) (A B : Matrix (Fin m) (Fin m) F) :
    V * A * Vᴴ * (V * B * Vᴴ) = V * (A * B) * Vᴴ := by
  calc V * A * Vᴴ * (V * B * Vᴴ) = V * A * (Vᴴ * V) * B * Vᴴ := by simp only [Matrix.mul_assoc]
    _ = V * (A * B) * Vᴴ := by rw [hV, Matrix.mul_one]; simp only [Matrix.mul_assoc]

/-- `V diag(s) V†` -/
def specMat (m : ℕ) (V : ℕ → ℕ → F) (s : ℕ → F) : Matrix (Fin m) (Fin m) F :=
  toMat m V * Matrix.diagonal (fun a : Fin m => s a.val) * (toMat m V)ᴴ

/-- differential of `r` successive squarings starting at `S = V diag(s) V†`: `δ ↦ δ·S + S·δ`, then the same at `S²`, … -/
def dchain (m : ℕ) (V : ℕ → ℕ → F) : ℕ → (ℕ → F) → Matrix (Fin m) (Fin m) F → Matrix (Fin m) (Fin m) F
  | 0, _, δ => δ
  | r + 1, s, δ => dchain m V r (fun a => s a * s a) (δ * specMat m V s + specMat m V s * δ)

/-- no pass divides by zero: `s_a^(2^j) + s_b^(2^j) ≠ 0` for every pass `j < r` -/
def SylvGuard (m r : ℕ) (s : ℕ → F) : Prop := ∀ j, j < r → ∀ a b, a < m → b < m → s a ^ (2 ^ j) + s b ^ (2 ^ j) ≠ 0

theorem specMat_hermitian (V : ℕ → ℕ → F) (s : ℕ → F) (hreal : ∀ a, star (s a) = s a) :
    (specMat m V s)ᴴ = specMat m V s := by
  have hd : star (fun a : Fin m => s a.val) = fun a => s a.val := funext fun a => hreal a.val
  rw [specMat, Matrix.conjTranspose_mul, Matrix.conjTranspose_mul, Matrix.conjTranspose_conjTranspose,
    Matrix.diagonal_conjTranspose, hd, Matrix.mul_assoc]

/-! ### forward map of the PSD square root and uniqueness of its differential -/

omit [DecidableEq F] in
theorem toMat_psdForward [Channel.Analytic F] (V : ℕ → ℕ → F) (r : ℕ) (evl : ℕ → F) :
    toMat m (psdSqrtmForward m V r evl) = specMat m V (storedRoots r evl) := by
  ext i j
  rw [specMat, Matrix.mul_apply]
  simp only [psdSqrtmForward, toMat, sumRange_eq_sum, Finset.sum_range, Matrix.mul_diagonal, Matrix.of_apply,
    Matrix.conjTranspose_apply, conj]

omit [DecidableEq F] in
/-- **the Sylvester operator `δ ↦ S·δ + δ·S` is injective under the guard**: the differential `δS` of the square root is the
unique solution of `δS·S + S·δS = δA` -/
theorem sylvester_unique_aux (V : ℕ → ℕ → F) (s : ℕ → F)
    (hV1 : (toMat m V)ᴴ * toMat m V = 1) (hV2 : toMat m V * (toMat m V)ᴴ = 1)
    (hs : ∀ a b, a < m → b < m → s a + s b ≠ 0) (δ : Matrix (Fin m) (Fin m) F)
    (h : δ * specMat m V s + specMat m V s * δ = 0) : δ = 0 := by
  set Vm := toMat m V with hVm
  set D : Matrix (Fin m) (Fin m) F := Matrix.diagonal (fun a : Fin m => s a.val) with hD
  set W := Vmᴴ * δ * Vm with hW
  have hWD : W * D + D * W = 0 := by
    have := congrArg (fun X => Vmᴴ * X * Vm) h
    simp only [specMat, Matrix.mul_add, Matrix.add_mul, Matrix.mul_zero, Matrix.zero_mul] at this
    calc W * D + D * W = Vmᴴ * (δ * (Vm * D * Vmᴴ)) * Vm + Vmᴴ * (Vm * D * Vmᴴ * δ) * Vm := by
          simp only [hW, Matrix.mul_assoc]
          have e1 : Vmᴴ * (Vm * (D * (Vmᴴ * (δ * Vm)))) = (Vmᴴ * Vm) * (D * (Vmᴴ * (δ * Vm))) := by simp only [Matrix.mul_assoc]
          have e2 : Vmᴴ * (δ * (Vm * (D * (Vmᴴ * Vm)))) = Vmᴴ * (δ * (Vm * D)) := by rw [hV1, Matrix.mul_one]
          rw [e1, e2, hV1, Matrix.one_mul]
      _ = 0 := this
  have hW0 : W = 0 := by
    ext a b
    have := congrFun (congrFun hWD a) b
    simp only [hD, Matrix.add_apply, Matrix.mul_diagonal, Matrix.diagonal_mul, Matrix.zero_apply] at this
    have hne := hs b.val a.val b.isLt a.isLt
    have : W a b * (s b.val + s a.val) = 0 := by rw [mul_add]; linear_combination this
    rcases mul_eq_zero.1 this with h0 | h0
    · exact h0
    · exact absurd h0 hne
  calc δ = (Vm * Vmᴴ) * δ * (Vm * Vmᴴ) := by rw [hV2]; simp
    _ = Vm * W * Vmᴴ := by simp only [hW, Matrix.mul_assoc]
    _ = 0 := by rw [hW0]; simp

end sylvrepeat

/-! ### the forward map over ℂ (real eigenvalues, complex eigenvectors) -/

section sqrtmC
open Channel

/-- over ℂ: `sqrt`, `max`, `log` act on the (real) eigenvalues -/
noncomputable instance analyticComplex : Analytic ℂ :=
  ⟨fun z => (Real.log z.re : ℂ), fun z => (Real.sqrt z.re : ℂ), fun a b => ((max a.re b.re : ℝ) : ℂ)⟩

theorem storedRoots_real (r : ℕ) (ev : ℕ → ℝ) (a : ℕ) :
    ∃ y : ℝ, 0 ≤ y ∧ storedRoots r (fun a => (ev a : ℂ)) a = (y : ℂ) := by
  induction r with
  | zero =>
    refine ⟨max 0 (ev a), le_max_left _ _, ?_⟩
    simp [storedRoots, rootIter, Analytic.max]
  | succ r ih =>
    obtain ⟨y, hy, e⟩ := ih
    refine ⟨Real.sqrt y, Real.sqrt_nonneg _, ?_⟩
    simp only [storedRoots, rootIter] at e ⊢
    rw [e]; simp [Analytic.sqrt]

/-- one more square root: the stored roots of `repeat = r+1` square to those of `repeat = r` -/
theorem storedRoots_sq (r : ℕ) (ev : ℕ → ℝ) (a : ℕ) :
    storedRoots (r + 1) (fun a => (ev a : ℂ)) a * storedRoots (r + 1) (fun a => (ev a : ℂ)) a
      = storedRoots r (fun a => (ev a : ℂ)) a := by
  obtain ⟨y, hy, e⟩ := storedRoots_real r ev a
  have e' : storedRoots (r + 1) (fun a => (ev a : ℂ)) a = (Real.sqrt y : ℂ) := by
    simp only [storedRoots, rootIter] at e ⊢
    rw [e]; simp [Analytic.sqrt]
  rw [e', e, ← Complex.ofReal_mul, Real.mul_self_sqrt hy]

theorem storedRoots_zero (ev : ℕ → ℝ) (hev : ∀ a, 0 ≤ ev a) (a : ℕ) : storedRoots 0 (fun a => (ev a : ℂ)) a = (ev a : ℂ) := by
  simp [storedRoots, rootIter, Analytic.max, max_eq_right (hev a)]

theorem storedRoots_star (r : ℕ) (ev : ℕ → ℝ) (a : ℕ) :
    star (storedRoots r (fun a => (ev a : ℂ)) a) = storedRoots r (fun a => (ev a : ℂ)) a := by
  obtain ⟨y, _, e⟩ := storedRoots_real r ev a
  rw [e]; exact Complex.conj_ofReal y

end sqrtmC

/-! ### flat-parameter bridge -/

theorem unflatten_flatMap {β : Type} (l : List (String × List β)) :
    unflatten (l.map fun p => (p.1, p.2.length)) (l.flatMap (·.2)) = l := by
  induction l with
  | nil => rfl
  | cons p l ih =>
    simp only [List.map_cons, List.flatMap_cons, unflatten, List.take_left', List.drop_left', ih]

theorem insertByName_perm {β : Type} (p : String × β) (l : List (String × β)) : (insertByName p l).Perm (p :: l) := by
  induction l with
  | nil => exact List.Perm.refl _
  | cons q l ih =>
    simp only [insertByName]
    split
    · exact List.Perm.refl _
    · exact ((List.Perm.cons q ih).trans (List.Perm.swap p q l))

theorem sortByName_perm {β : Type} (l : List (String × β)) : (sortByName l).Perm l := by
  induction l with
  | nil => exact List.Perm.refl _
  | cons p l ih => exact (insertByName_perm p _).trans (List.Perm.cons p ih)

theorem insertByName_sorted {β : Type} (p : String × β) (l : List (String × β))
    (h : l.Pairwise fun a b => ¬ b.1 < a.1) : (insertByName p l).Pairwise fun a b => ¬ b.1 < a.1 := by
  induction l with
  | nil => simp [insertByName]
  | cons q l ih =>
    rw [List.pairwise_cons] at h
    simp only [insertByName]
    split
    · rename_i hlt
      refine List.pairwise_cons.2 ⟨?_, List.pairwise_cons.2 h⟩
      intro b hb
      rcases List.mem_cons.1 hb with rfl | hb
      · exact fun h' => absurd hlt (String.lt_asymm h')
      · intro h'
        exact h.1 b hb (String.lt_trans h' hlt)
    · rename_i hnlt
      refine List.pairwise_cons.2 ⟨?_, ih h.2⟩
      intro b hb
      rcases List.mem_cons.1 ((insertByName_perm p l).mem_iff.1 hb) with rfl | hb'
      · exact hnlt
      · exact h.1 b hb'

theorem sortByName_sorted {β : Type} (l : List (String × β)) : (sortByName l).Pairwise fun a b => ¬ b.1 < a.1 := by
  induction l with
  | nil => simp [sortByName]
  | cons p l ih => exact insertByName_sorted p _ ih

/-! ### `_setup`: rows of the stacked gate tensors -/

theorem mem_foldl_firstCome (l : List GateDesc) (acc : List ℕ) (x : ℕ) :
    x ∈ l.foldl (fun acc g => if acc.contains g.objId then acc else acc ++ [g.objId]) acc
      ↔ x ∈ acc ∨ ∃ g ∈ l, g.objId = x := by
  induction l generalizing acc with
  | nil => simp
  | cons g l ih =>
    rw [List.foldl_cons, ih, List.exists_mem_cons_iff]
    split
    · rename_i h
      have hm : g.objId ∈ acc := by simpa using h
      constructor
      · rintro (h1 | h1)
        exacts [Or.inl h1, Or.inr (Or.inr h1)]
      · rintro (h1 | rfl | h1)
        exacts [Or.inl h1, Or.inl hm, Or.inr h1]
    · rw [List.mem_append, List.mem_singleton, or_assoc, eq_comm]

theorem mem_firstComeIds (gs : List GateDesc) (nm : String) (g : GateDesc) (hg : g ∈ gs)
    (ht : g.trainable = true) (hp : g.placeholder = false) (hn : g.name = nm) : g.objId ∈ firstComeIds gs nm := by
  unfold firstComeIds
  rw [mem_foldl_firstCome]
  refine Or.inr ⟨g, ?_, rfl⟩
  simp [List.mem_filter, hg, ht, hp, hn]

theorem mem_placeholderPositions (gs : List GateDesc) (nm : String) (i : ℕ) (hi : i < gs.length)
    (hp : gs[i].placeholder = true) (hn : gs[i].name = nm) : i ∈ placeholderPositions gs nm := by
  unfold placeholderPositions
  rw [List.mem_map]
  refine ⟨(gs[i], i), ?_, rfl⟩
  rw [List.mem_filter]
  refine ⟨?_, by simp [hp, hn]⟩
  rw [List.mem_zipIdx_iff_getElem?]
  simp [hi]

theorem getElem?_idxOf_self {β : Type} [DecidableEq β] (l : List β) (a : β) (h : a ∈ l) : l[l.idxOf a]? = some a := by
  have hlt : l.idxOf a < l.length := List.idxOf_lt_length_iff.2 h
  rw [List.getElem?_eq_getElem hlt, List.getElem_idxOf]

/-! ### the array-level folds of the driver are the modelled folds -/

section bridge
variable {α : Type} [Add α] [Mul α] [Zero α] [Conj α] {n : Nat}

theorem forwardA_eq (Θ : Params α) (gates : List (PGate n α)) (a : Array α) :
    lookup (n := n) (forwardA Θ gates a) = forward Θ gates (lookup a) := by
  induction gates generalizing a with
  | nil => rfl
  | cons g rest ih =>
    have h1 : forwardA Θ (g :: rest) a = forwardA Θ rest (tabulate (n := n) (g.apply Θ (lookup a))) := rfl
    have h2 : forward Θ (g :: rest) (lookup a) = forward Θ rest (g.apply Θ (lookup a)) := rfl
    rw [h1, h2, ih, lookup_tabulate]

theorem paramsOf_absent (tab : ParamTable α) (k s : ℕ) (h : ∀ e ∈ tab, ¬ (e.1 = k ∧ e.2.1 = s)) :
    paramsOf tab k s = fun _ _ => 0 := by
  unfold paramsOf
  have : (tab.find? fun e => e.1 == k && e.2.1 == s) = none := by
    rw [List.find?_eq_none]; intro e he; have := h e he; simp; tauto
  rw [this]

/-- re-tabulating every entry of the table from a family `F` gives back `F` on the keys and `0` elsewhere -/
theorem paramsOf_retab (tab : ParamTable α) (F : Params α) (k s : ℕ) :
    paramsOf (tab.map fun e => (e.1, e.2.1, tabulateMat (k := e.1) (F e.1 e.2.1))) k s
      = if ∃ e ∈ tab, e.1 = k ∧ e.2.1 = s then F k s else fun _ _ => 0 := by
  unfold paramsOf
  rw [List.find?_map]
  cases hf : tab.find? ((fun e : ℕ × ℕ × Array α => e.1 == k && e.2.1 == s) ∘
      fun e => (e.1, e.2.1, tabulateMat (k := e.1) (F e.1 e.2.1))) with
  | none =>
    have hnone : ¬ ∃ e ∈ tab, e.1 = k ∧ e.2.1 = s := by
      rintro ⟨e, he, h1, h2⟩
      have := List.find?_eq_none.1 hf e he
      simp [Function.comp, h1, h2] at this
    rw [if_neg hnone]; rfl
  | some e =>
    have hmem := List.mem_of_find?_eq_some hf
    have hp := List.find?_some hf
    simp only [Function.comp, Bool.and_eq_true, beq_iff_eq] at hp
    obtain ⟨h1, h2⟩ := hp
    rw [if_pos ⟨e, hmem, h1, h2⟩]
    subst h1; subst h2
    simp only [Option.map_some]
    exact lookupMat_tabulateMat _

theorem keys_map (tab : ParamTable α) (F : Params α) (k s : ℕ) :
    (∃ e ∈ tab.map (fun e => (e.1, e.2.1, tabulateMat (k := e.1) (F e.1 e.2.1))), e.1 = k ∧ e.2.1 = s)
      ↔ ∃ e ∈ tab, e.1 = k ∧ e.2.1 = s := by
  simp only [List.mem_map, exists_exists_and_eq_and]

/-- one gate of the driver's backward loop is one gate of the modelled loop (guard: the gate's slot is a key of the table) -/
theorem absSt_backA (Θ : Params α) (gate : PGate n α) (st : StA α) (hc : gate.Covered st.2.2) :
    absSt (n := n) (gate.backA Θ st) = gate.back Θ (absSt st) := by
  have key : ∀ (r : Vec n α × Vec n α × Params α), (∀ k s, (¬ ∃ e ∈ st.2.2, e.1 = k ∧ e.2.1 = s) → r.2.2 k s = fun _ _ => 0) →
      absSt (n := n) (tabulate r.1, tabulate r.2.1,
        st.2.2.map fun e => (e.1, e.2.1, tabulateMat (k := e.1) (r.2.2 e.1 e.2.1))) = r := by
    intro r hr
    unfold absSt
    simp only [lookup_tabulate]
    refine Prod.ext rfl (Prod.ext rfl ?_)
    funext k s
    show paramsOf _ k s = r.2.2 k s
    rw [paramsOf_retab]
    by_cases h : ∃ e ∈ st.2.2, e.1 = k ∧ e.2.1 = s
    · rw [if_pos h]
    · rw [if_neg h, hr k s h]
  have habs : ∀ k s, (¬ ∃ e ∈ st.2.2, e.1 = k ∧ e.2.1 = s) → paramsOf st.2.2 k s = fun _ _ => 0 :=
    fun k s h => paramsOf_absent _ k s (fun e he hh => h ⟨e, he, hh⟩)
  unfold PGate.backA
  apply key
  intro k s hks
  cases gate with
  | unitary src _ | control src _ _ _ | custom src _ =>
    cases src with
    | fixed U => exact habs k s hks
    | param s0 =>
      obtain ⟨e, he, h1, h2⟩ := hc
      show addAt _ _ s0 _ k s = _
      rw [addAt_other _ _ _ _ _ _ (fun hh => hks ⟨e, he, h1.trans hh.1.symm, h2.trans hh.2.symm⟩)]
      exact habs k s hks

theorem covered_backA (Θ : Params α) (g g' : PGate n α) (st : StA α) (h : g.Covered st.2.2) :
    g.Covered (g'.backA Θ st).2.2 := by
  unfold PGate.backA
  cases g with
  | unitary src _ | control src _ _ _ | custom src _ =>
    cases src with
    | fixed U => trivial
    | param s0 => exact (keys_map _ _ _ _).2 h

/-- **the driver's backward sweep is the modelled `backward`** (guard: every parametrised gate's slot is a key of the table) -/
theorem backwardA_eq (Θ : Params α) (gates : List (PGate n α)) (init : StA α) (hc : ∀ g ∈ gates, g.Covered init.2.2) :
    absSt (n := n) (backwardA Θ gates init) = backward Θ gates (absSt init) ∧
    ∀ g : PGate n α, g.Covered init.2.2 → g.Covered (backwardA Θ gates init).2.2 := by
  induction gates with
  | nil => exact ⟨rfl, fun g h => h⟩
  | cons gate rest ih =>
    obtain ⟨ih1, ih2⟩ := ih (fun g hg => hc g (List.mem_cons_of_mem _ hg))
    have h1 : backwardA Θ (gate :: rest) init = gate.backA Θ (backwardA Θ rest init) := rfl
    have h2 : backward Θ (gate :: rest) (absSt init) = gate.back Θ (backward Θ rest (absSt init)) := rfl
    rw [h1, h2, ← ih1]
    exact ⟨absSt_backA Θ gate _ (ih2 gate (hc gate List.mem_cons_self)),
      fun g hg => covered_backA Θ g gate _ (ih2 g hg)⟩

end bridge

/-! ### the tabulated Sylvester loop of the driver is `sylvBackward` -/

section sylvbridge
variable {α : Type} [Add α] [Mul α] [Div α] [Zero α] [Conj α] [DecidableEq α]

omit [Mul α] [Div α] [Conj α] [DecidableEq α] in
theorem sumRange_congr (n : ℕ) (f g : ℕ → α) (h : ∀ i, i < n → f i = g i) : sumRange n f = sumRange n g := by
  induction n with
  | zero => rfl
  | succ n ih =>
    simp only [sumRange]
    rw [ih (fun i hi => h i (Nat.lt_succ_of_lt hi)), h n (Nat.lt_succ_self n)]

omit [Add α] [Mul α] [Div α] [Conj α] [DecidableEq α] in
theorem ofTab_tabMat (m : ℕ) (X : ℕ → ℕ → α) (i j : ℕ) (hi : i < m) (hj : j < m) : ofTab m (tabMat m X) i j = X i j := by
  unfold ofTab tabMat
  have hlt : i * m + j < m * m := mul_add_lt hi hj
  rw [getD_ofFn _ _ hlt]
  simp only [div_of_lt hj, mod_of_lt hj]

theorem sylvStep_congr (m : ℕ) (V : ℕ → ℕ → α) (s : ℕ → α) (G G' : ℕ → ℕ → α)
    (h : ∀ p q, p < m → q < m → G p q = G' p q) : sylvStep m V s G = sylvStep m V s G' := by
  have hin : ∀ a b, rotateIn m V G a b = rotateIn m V G' a b := by
    intro a b
    unfold rotateIn
    refine sumRange_congr m _ _ fun p hp => sumRange_congr m _ _ fun q hq => ?_
    rw [h p q hp hq]
  funext i j
  unfold sylvStep rotateOut
  simp only [hin]

theorem sylvBackward_congr (m : ℕ) (V : ℕ → ℕ → α) (r : ℕ) (s : ℕ → α) (G G' : ℕ → ℕ → α)
    (h : ∀ p q, p < m → q < m → G p q = G' p q) (i j : ℕ) (hi : i < m) (hj : j < m) :
    sylvBackward m V r s G i j = sylvBackward m V r s G' i j := by
  cases r with
  | zero => exact h i j hi hj
  | succ r =>
    show sylvBackward m V r _ (sylvStep m V s G) i j = sylvBackward m V r _ (sylvStep m V s G') i j
    rw [sylvStep_congr m V s G G' h]

/-- **the driver's tabulated loop computes `sylvBackward`** on the `m × m` block -/
theorem sylvBackwardA_eq (m : ℕ) (V : ℕ → ℕ → α) (r : ℕ) (s : ℕ → α) (G : Array α) (i j : ℕ) (hi : i < m) (hj : j < m) :
    ofTab m (sylvBackwardA m V r s G) i j = sylvBackward m V r s (ofTab m G) i j := by
  induction r generalizing s G with
  | zero => rfl
  | succ r ih =>
    show ofTab m (sylvBackwardA m V r _ (tabMat m (sylvStep m V s (ofTab m G)))) i j
      = sylvBackward m V r _ (sylvStep m V s (ofTab m G)) i j
    rw [ih]
    exact sylvBackward_congr m V r _ _ _ (fun p q hp hq => ofTab_tabMat m _ p q hp hq) i j hi hj

end sylvbridge

/-! ### hand-off bookkeeping -/

theorem insertByName_of_lt {β : Type} (p q : String × β) (l : List (String × β)) (h : p.1 < q.1) :
    insertByName p (q :: l) = p :: q :: l := by simp [insertByName, h]

theorem sortByName_of_sorted {β : Type} (l : List (String × β)) (h : l.Pairwise fun a b => a.1 < b.1) : sortByName l = l := by
  induction l with
  | nil => rfl
  | cons p l ih =>
    rw [List.pairwise_cons] at h
    show insertByName p (sortByName l) = p :: l
    rw [ih h.2]
    cases l with
    | nil => rfl
    | cons q l => exact insertByName_of_lt p q l (h.1 q List.mem_cons_self)

theorem unflatten_names {β : Type} (sh : List (String × ℕ)) (θ : List β) : (unflatten sh θ).map (·.1) = sh.map (·.1) := by
  induction sh generalizing θ with
  | nil => rfl
  | cons p sh ih => simp [unflatten, ih]

theorem flatMap_unflatten {β : Type} (sh : List (String × ℕ)) (θ : List β) (hlen : θ.length = (sh.map (·.2)).sum) :
    (unflatten sh θ).flatMap (·.2) = θ := by
  induction sh generalizing θ with
  | nil => simp at hlen; simp [unflatten, hlen]
  | cons p sh ih =>
    simp only [List.map_cons, List.sum_cons] at hlen
    simp only [unflatten, List.flatMap_cons]
    rw [ih (θ.drop p.2) (by simp [List.length_drop]; omega), List.take_append_drop]

end Backward
end Numqi
