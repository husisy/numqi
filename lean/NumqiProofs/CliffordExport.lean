/-
The executed export `exportRawG` (ℤ[i], `NumqiModel/Clifford.lean`) is the ring-generic `exportRaw` at `R = ℤ[i]`, `I = i`, `h = 1`;
conversely to `NumqiProofs/CliffordDense.lean`, `P · E = E · Q` over ℤ[i] makes the row of the executed Boolean table `intertwines` true.
-/
import NumqiProofs.CliffordExtract
import NumqiProofs.ScalarInstances

namespace Numqi.Clifford
open Numqi Matrix

theorem gint_intCast (n : ℤ) : ((n : ℤ) : GInt) = ⟨n, 0⟩ := rfl

theorem gintTo_GInt (z : GInt) : gintTo GInt.I z = z := by
  unfold gintTo
  rw [gint_intCast, gint_intCast]
  apply GInt.ext' <;> simp [GInt.I]

theorem gateMat1_GInt (key : GateKey) : gateMat1 GInt.I key = gateMat1G key := by
  funext a b; exact gintTo_GInt _

/-- **the executed export is the ring-generic one at ℤ[i]** (`I = i`, `h = 1`, i.e. the `H` array unnormalised) -/
theorem exportRaw_GInt (g : Gate) : exportRaw GInt.I (1 : GInt) g = exportRawG g := by
  obtain ⟨key, idx⟩ := g
  rcases idx with _ | ⟨q, _ | ⟨q1, _ | ⟨q2, r⟩⟩⟩
  · rfl
  · simp only [exportRaw, exportRawG, ite_self, one_smul]
    simp only [gateMat1_GInt]
  · simp only [exportRaw, exportRawG]
    simp only [gateMat1_GInt]
  · rfl

theorem map_exportRaw_GInt (gates : List Gate) : gates.map (exportRaw GInt.I (1 : GInt)) = gates.map exportRawG :=
  List.map_congr_left (fun g _ => exportRaw_GInt g)

/-! ### the executed tables -/

theorem PM_GInt (n : Nat) (p : PauliB) (a b : Bits n) : PM n GInt.I p a b = pauliEnt n p a.toNat b.toNat := by
  rw [PM_eq_pauliEntG GInt.I_mul_I, pauliEnt_toNat]; exact gintTo_GInt _

/-- the executed Boolean `intertwines` is the entrywise form of `P · E = E · Q` over ℤ[i], for any operator `E` with the
entries `gateOnNEnt` -/
theorem intertwines_of_matrix {n : Nat} {G : Mat} {qs : List Nat} {t : Tab} {p : PauliB}
    {E : Matrix (Bits n) (Bits n) GInt} (hE : ∀ a b : Bits n, E a b = gateOnNEnt n G qs a.toNat b.toNat)
    (h : PM n GInt.I p * E = E * PM n GInt.I (applyOnPauli p t)) : intertwines n G qs t p = true := by
  simp only [intertwines, List.all_eq_true, List.mem_range, beq_iff_eq]
  intro r hr c hc
  have e := congrFun (congrFun h (Bits.ofNat n r)) (Bits.ofNat n c)
  rw [PM_mul_entry GInt.I_mul_I, mul_PM_entry GInt.I_mul_I, PM_GInt, PM_GInt, hE, hE, toNat_xor_xIndex,
    toNat_xor_xIndex, Bits.toNat_ofNat hr, Bits.toNat_ofNat hc] at e
  exact e

theorem mem_allPaulis {k : Nat} {p : PauliB} (h : p ∈ allPaulis k) : p.v < 4 ^ k := by
  simp only [allPaulis, List.mem_flatMap, List.mem_range] at h
  obtain ⟨v, hv, hp⟩ := h
  simp only [List.mem_cons, List.not_mem_nil, or_false] at hp
  rcases hp with rfl | rfl | rfl | rfl <;> exact hv

theorem mem_placements {n k : Nat} {qs : List Nat} (h : qs ∈ placements n k) (hk : k = 1 ∨ k = 2) :
    qs.length = k ∧ qs.Nodup ∧ ∀ q ∈ qs, q < n := by
  unfold placements at h
  rcases hk with rfl | rfl
  · simp only [if_true, List.mem_map, List.mem_range] at h
    obtain ⟨q, hq, rfl⟩ := h
    simp [hq]
  · simp only [show ¬ (2 = 1) by omega, if_false, List.mem_flatMap, List.mem_map, List.mem_filter, List.mem_range] at h
    obtain ⟨a, ha, b, ⟨hb, hab⟩, rfl⟩ := h
    simp at hab
    simp [ha, hb]; omega

/-- both sides of the locality statement `embed_local_table` carry the phase of `P` along unchanged, so it is enough to
have it for the phase-free Pauli with the same vector -/
theorem embed_local_of_phase_free {n : Nat} {qs : List Nat} {emb loc : Tab} (p : PauliB)
    (h : applyOnPauli ⟨false, false, p.v⟩ emb =
      liftP n qs ⟨false, false, p.v⟩ (applyOnPauli (restrictP n qs ⟨false, false, p.v⟩) loc)) :
    applyOnPauli p emb = liftP n qs p (applyOnPauli (restrictP n qs p) loc) := by
  apply PauliB.ext_ph
  · exact (congrArg PauliB.v h :)
  · have h1 := apply_ph p emb
    have h2 : ph (applyOnPauli (restrictP n qs p) loc) % 4 = (ph p + Fph loc (restrictP n qs p).v) % 4 := apply_ph _ loc
    have h3 : ph (applyOnPauli ⟨false, false, p.v⟩ emb) % 4 = (0 + Fph emb p.v) % 4 := apply_ph _ emb
    have h4 : ph (applyOnPauli (restrictP n qs ⟨false, false, p.v⟩) loc) % 4 = (0 + Fph loc (restrictP n qs p).v) % 4 :=
      apply_ph _ loc
    have h5 : ph (applyOnPauli ⟨false, false, p.v⟩ emb) = ph (applyOnPauli (restrictP n qs ⟨false, false, p.v⟩) loc) :=
      (congrArg ph h :)
    show ph (applyOnPauli p emb) % 4 = ph (applyOnPauli (restrictP n qs p) loc) % 4
    omega

end Numqi.Clifford
