/-
C14 helper (tableaux, part 1): the position enumerators of `_get_bounded_combination` / `itertools.combinations`
list exactly the strictly increasing position tuples inside the bounds, each once (`boundedComb_spec`, `combPos_spec`);
`cntLt` (the position of a value in a sorted list) and `pick` / `unpicked` / `restOf`: choosing positions in the sorted
list of remaining numbers is choosing a sorted sub-row.
-/
import Mathlib.Tactic
import Mathlib.Data.List.Forall2
import Mathlib.Data.List.Sort
import NumqiProofs.NodupFlatMap
import NumqiModel.Young

namespace Numqi.Young

/-- strictly increasing -/
abbrev SInc (l : List Nat) : Prop := l.Pairwise (· < ·)

/-- `x` lies in the half-open bound `b = (lo, hi)` -/
def InB (b : Nat × Nat) (x : Nat) : Prop := b.1 ≤ x ∧ x < b.2

theorem mem_pyRange {a b x : Nat} : x ∈ pyRange a b ↔ a ≤ x ∧ x < b := by
  simp only [pyRange, List.mem_range'_1]; omega

theorem nodup_pyRange (a b : Nat) : (pyRange a b).Nodup := List.nodup_range'

theorem forall₂_concat {α β : Type} {R : α → β → Prop} {l₁ : List α} {l₂ : List β} {a : α} {b : β} :
    List.Forall₂ R (l₁ ++ [a]) (l₂ ++ [b]) ↔ List.Forall₂ R l₁ l₂ ∧ R a b := by
  rw [← List.forall₂_reverse_iff]
  simp only [List.reverse_append, List.reverse_singleton, List.singleton_append, List.forall₂_cons,
    List.forall₂_reverse_iff]
  tauto

theorem sinc_cons {a : Nat} {l : List Nat} : SInc (a :: l) ↔ (∀ u ∈ l, a < u) ∧ SInc l := List.pairwise_cons

theorem sinc_map {f : Nat → Nat} {l : List Nat} : SInc (l.map f) ↔ l.Pairwise (fun a b => f a < f b) := List.pairwise_map

theorem sinc_concat {l : List Nat} {y : Nat} : SInc (l ++ [y]) ↔ SInc l ∧ ∀ u ∈ l, u < y := by
  simp [SInc, List.pairwise_append]

/-- for a non-empty strictly increasing list, everything is below `y` iff the last entry is -/
theorem sinc_last_lt {l : List Nat} (hl : SInc l) (hne : l ≠ []) {y : Nat} :
    (∀ u ∈ l, u < y) ↔ l.getLastD 0 < y := by
  obtain ⟨init, a, rfl⟩ : ∃ init a, l = init ++ [a] := ⟨l.dropLast, l.getLast hne, (List.dropLast_append_getLast hne).symm⟩
  rw [sinc_concat] at hl
  simp only [List.getLastD_concat, List.mem_append, List.mem_singleton]
  constructor
  · intro h; exact h a (Or.inr rfl)
  · intro h u hu
    rcases hu with hu | rfl
    · exact lt_trans (hl.2 u hu) h
    · exact h

/-- one step of the nested generators -/
def bcStep (acc : List (List Nat)) (b : Nat × Nat) : List (List Nat) :=
  acc.flatMap fun x => (pyRange (max (x.getLastD 0 + 1) b.1) b.2).map fun y => x ++ [y]

theorem boundedComb_cons (b0 : Nat × Nat) (rest : List (Nat × Nat)) :
    boundedComb (b0 :: rest) = rest.foldl bcStep ((pyRange b0.1 b0.2).map fun x => [x]) := rfl

theorem mem_bcStep {pre : List (Nat × Nat)} (hpre : pre ≠ []) {acc : List (List Nat)}
    (hacc : ∀ x, x ∈ acc ↔ List.Forall₂ InB pre x ∧ SInc x) (b : Nat × Nat) (z : List Nat) :
    z ∈ bcStep acc b ↔ List.Forall₂ InB (pre ++ [b]) z ∧ SInc z := by
  simp only [bcStep, List.mem_flatMap, List.mem_map, mem_pyRange]
  constructor
  · rintro ⟨x, hx, y, ⟨hy1, hy2⟩, rfl⟩
    obtain ⟨hf, hs⟩ := (hacc x).1 hx
    have hxne : x ≠ [] := by
      intro h; subst h; have := hf.length_eq; simp at this; exact hpre this
    refine ⟨forall₂_concat.2 ⟨hf, ⟨by omega, hy2⟩⟩, sinc_concat.2 ⟨hs, (sinc_last_lt hs hxne).2 (by omega)⟩⟩
  · rintro ⟨hf, hs⟩
    have hzne : z ≠ [] := by
      intro h; subst h; have := hf.length_eq; simp at this
    obtain ⟨x, y, rfl⟩ : ∃ x y, z = x ++ [y] := ⟨z.dropLast, z.getLast hzne, (List.dropLast_append_getLast hzne).symm⟩
    obtain ⟨hf1, hf2⟩ := forall₂_concat.1 hf
    obtain ⟨hs1, hs2⟩ := sinc_concat.1 hs
    have hxne : x ≠ [] := by
      intro h; subst h; have := hf1.length_eq; simp at this; exact hpre this
    have := (sinc_last_lt hs1 hxne).1 hs2
    exact ⟨x, (hacc x).2 ⟨hf1, hs1⟩, y, ⟨by have := hf2.1; omega, hf2.2⟩, rfl⟩

theorem nodup_bcStep {acc : List (List Nat)} (hnd : acc.Nodup) (b : Nat × Nat) : (bcStep acc b).Nodup :=
  nodup_flatMap_map hnd (fun _ _ => nodup_pyRange _ _) fun _ _ _ _ _ _ _ _ e => by simpa using e

theorem foldl_bcStep_spec : ∀ (bs pre : List (Nat × Nat)) (acc : List (List Nat)), pre ≠ [] → acc.Nodup →
    (∀ x, x ∈ acc ↔ List.Forall₂ InB pre x ∧ SInc x) →
    (bs.foldl bcStep acc).Nodup ∧ ∀ x, x ∈ bs.foldl bcStep acc ↔ List.Forall₂ InB (pre ++ bs) x ∧ SInc x := by
  intro bs
  induction bs with
  | nil => intro pre acc _ hnd hacc; simpa using ⟨hnd, hacc⟩
  | cons b bs ih =>
    intro pre acc hpre hnd hacc
    have := ih (pre ++ [b]) (bcStep acc b) (by simp) (nodup_bcStep hnd b) (mem_bcStep hpre hacc b)
    simpa [List.foldl_cons, List.append_assoc] using this

/-- **`_get_bounded_combination`**: exactly the strictly increasing tuples with `bound[i][0] ≤ xy[i] < bound[i][1]`, each once -/
theorem boundedComb_spec (b0 : Nat × Nat) (rest : List (Nat × Nat)) :
    (boundedComb (b0 :: rest)).Nodup ∧
      ∀ xy, xy ∈ boundedComb (b0 :: rest) ↔ List.Forall₂ InB (b0 :: rest) xy ∧ SInc xy := by
  rw [boundedComb_cons]
  have := foldl_bcStep_spec rest [b0] ((pyRange b0.1 b0.2).map fun x => [x]) (by simp)
    ((nodup_pyRange _ _).map (fun a c h => by simpa using h)) (by
      intro x
      simp only [List.mem_map, mem_pyRange]
      constructor
      · rintro ⟨y, hy, rfl⟩; exact ⟨List.Forall₂.cons hy List.Forall₂.nil, List.pairwise_singleton _ _⟩
      · rintro ⟨hf, _⟩
        cases hf with
        | cons h1 h2 => cases h2; exact ⟨_, h1, rfl⟩)
  simpa using this

/-- **`itertools.combinations(range(m), k)`** (positions `≥ start`): exactly the strictly increasing `k`-tuples, each once -/
theorem combPos_spec : ∀ (k start m : Nat),
    (combPos k start m).Nodup ∧
      ∀ xy, xy ∈ combPos k start m ↔ xy.length = k ∧ SInc xy ∧ ∀ x ∈ xy, start ≤ x ∧ x < m := by
  intro k
  induction k with
  | zero =>
    intro start m
    refine ⟨by simp [combPos], fun xy => ?_⟩
    simp only [combPos, List.mem_singleton]
    constructor
    · rintro rfl; simp
    · rintro ⟨h, _⟩; exact List.length_eq_zero_iff.1 h
  | succ k ih =>
    intro start m
    constructor
    · exact nodup_flatMap_map (nodup_pyRange start m) (fun i _ => (ih (i + 1) m).1)
        fun _ _ _ _ _ _ _ _ e => List.cons.inj e
    · intro xy
      simp only [combPos, List.mem_flatMap, List.mem_map, mem_pyRange]
      constructor
      · rintro ⟨i, ⟨hi1, hi2⟩, x, hx, rfl⟩
        obtain ⟨h1, h2, h3⟩ := ((ih (i + 1) m).2 x).1 hx
        refine ⟨by simp [h1], List.pairwise_cons.2 ⟨fun u hu => by have := (h3 u hu).1; omega, h2⟩, ?_⟩
        intro u hu
        rcases List.mem_cons.1 hu with rfl | hu
        · exact ⟨hi1, hi2⟩
        · have := h3 u hu; omega
      · rintro ⟨h1, h2, h3⟩
        cases xy with
        | nil => simp at h1
        | cons i x =>
          rw [sinc_cons] at h2
          refine ⟨i, h3 i List.mem_cons_self, x, ((ih (i + 1) m).2 x).2 ⟨by simpa using h1, h2.2, ?_⟩, rfl⟩
          intro u hu
          exact ⟨h2.1 u hu, (h3 u (List.mem_cons_of_mem _ hu)).2⟩

/-! ### counting below a value -/

/-- number of entries of `l` smaller than `v` (the position of `v` in a sorted `l`) -/
def cntLt (l : List Nat) (v : Nat) : Nat := l.countP (· < v)

theorem cntLt_cons (a : Nat) (l : List Nat) (v : Nat) : cntLt (a :: l) v = cntLt l v + if a < v then 1 else 0 := by
  simp [cntLt, List.countP_cons]

theorem cntLt_perm {l l' : List Nat} (h : l.Perm l') (v : Nat) : cntLt l v = cntLt l' v := h.countP_eq _

theorem cntLt_append (l l' : List Nat) (v : Nat) : cntLt (l ++ l') v = cntLt l v + cntLt l' v := by
  simp [cntLt]

theorem cntLt_le_length (l : List Nat) (v : Nat) : cntLt l v ≤ l.length := List.countP_le_length

theorem cntLt_mono (l : List Nat) {v w : Nat} (h : v ≤ w) : cntLt l v ≤ cntLt l w := by
  unfold cntLt
  exact List.countP_mono_left (fun x _ hx => by simp at hx ⊢; omega)

/-- a member `w` of the list that is below `v` is counted for `v` but not for itself -/
theorem cntLt_lt_of_mem {l : List Nat} {v w : Nat} (hw : w ∈ l) (h : w < v) : cntLt l w < cntLt l v := by
  induction l with
  | nil => simp at hw
  | cons a l ih =>
    rw [cntLt_cons, cntLt_cons]
    rcases List.mem_cons.1 hw with rfl | hw
    · have := cntLt_mono l (le_of_lt h)
      simp [h]; omega
    · have := ih hw
      by_cases h1 : a < w
      · have : a < v := by omega
        simp [*]
      · simp [h1]; omega

/-- **the comparison used for the lower bounds**: for `w` in the list and `v ≠ w`, `v < w ↔ #below v ≤ #below w` -/
theorem lt_iff_cntLt_le {l : List Nat} {v w : Nat} (hw : w ∈ l) (hne : v ≠ w) : v < w ↔ cntLt l v ≤ cntLt l w := by
  constructor
  · intro h; exact cntLt_mono l (le_of_lt h)
  · intro h
    by_contra hlt
    have : w < v := by omega
    have := cntLt_lt_of_mem hw this
    omega

/-- in a strictly increasing list the number of entries below the `j`-th is `j` -/
theorem cntLt_getElem : ∀ {l : List Nat}, SInc l → ∀ (j : Nat) (hj : j < l.length), cntLt l l[j] = j
  | [], _, j, hj => by simp at hj
  | a :: l, hl, 0, _ => by
    rw [sinc_cons] at hl
    simp only [List.getElem_cons_zero, cntLt_cons, lt_self_iff_false, if_false, add_zero]
    unfold cntLt
    rw [List.countP_eq_zero]
    intro x hx; have := hl.1 x hx; simp; omega
  | a :: l, hl, j + 1, hj => by
    rw [sinc_cons] at hl
    have hj' : j < l.length := by simpa using hj
    simp only [List.getElem_cons_succ, cntLt_cons]
    rw [cntLt_getElem hl.2 j hj']
    have := hl.1 _ (List.getElem_mem hj')
    simp [this]

theorem sinc_nodup {l : List Nat} (h : SInc l) : l.Nodup := h.imp (fun hab => Nat.ne_of_lt hab)

/-- two strictly increasing lists with the same entries are equal -/
theorem sinc_eq_of_perm {l l' : List Nat} (h : SInc l) (h' : SInc l') (hp : l.Perm l') : l = l' :=
  List.Perm.eq_of_pairwise' (r := (· < ·)) h h' hp

/-! ### `pick` / `unpicked`: choosing positions in a sorted list = choosing a sorted sub-row -/

theorem getD_eq_getElem' (l : List Nat) {i : Nat} (h : i < l.length) : l.getD i 0 = l[i] := by
  simp [List.getD_eq_getElem?_getD, List.getElem?_eq_getElem h]

theorem sinc_getElem_lt {l : List Nat} (hl : SInc l) {i j : Nat} (hij : i < j) (hj : j < l.length) :
    l[i]'(by omega) < l[j] := (List.pairwise_iff_getElem.1 hl) i j (by omega) hj hij

theorem mem_sinc_cnt {l : List Nat} (hl : SInc l) {v : Nat} (hv : v ∈ l) :
    ∃ h : cntLt l v < l.length, l[cntLt l v] = v := by
  obtain ⟨j, hj, rfl⟩ := List.getElem_of_mem hv
  have := cntLt_getElem hl j hj
  exact ⟨by omega, by simp [this]⟩

/-- the values that are not picked, in order -/
def restOf (np0 row : List Nat) : List Nat := np0.filter fun v => !row.contains v

theorem mem_restOf {np0 row : List Nat} {v : Nat} : v ∈ restOf np0 row ↔ v ∈ np0 ∧ v ∉ row := by
  simp [restOf]

theorem sinc_restOf {np0 : List Nat} (h : SInc np0) (row : List Nat) : SInc (restOf np0 row) :=
  List.Pairwise.filter _ h

theorem pick_spec {np0 xy : List Nat} (hnp : SInc np0) (hxy : SInc xy) (hlt : ∀ i ∈ xy, i < np0.length) :
    SInc (pick np0 xy) ∧ (∀ v ∈ pick np0 xy, v ∈ np0) ∧ (pick np0 xy).length = xy.length ∧
      (pick np0 xy).map (cntLt np0) = xy := by
  refine ⟨?_, ?_, by simp [pick], ?_⟩
  · unfold pick
    rw [sinc_map]
    refine (List.Pairwise.and_mem.1 hxy).imp ?_
    rintro i j ⟨hi, hj, hij⟩
    rw [getD_eq_getElem' _ (hlt i hi), getD_eq_getElem' _ (hlt j hj)]
    exact sinc_getElem_lt hnp hij (hlt j hj)
  · intro v hv
    simp only [pick, List.mem_map] at hv
    obtain ⟨i, hi, rfl⟩ := hv
    rw [getD_eq_getElem' _ (hlt i hi)]; exact List.getElem_mem _
  · unfold pick
    rw [List.map_map]
    refine (List.map_congr_left fun i hi => ?_).trans (List.map_id _)
    simp only [Function.comp_apply, id_eq]
    rw [getD_eq_getElem' _ (hlt i hi)]
    exact cntLt_getElem hnp i (hlt i hi)

theorem row_as_pick {np0 row : List Nat} (hnp : SInc np0) (hrow : SInc row) (hsub : ∀ v ∈ row, v ∈ np0) :
    SInc (row.map (cntLt np0)) ∧ (∀ i ∈ row.map (cntLt np0), i < np0.length) ∧
      pick np0 (row.map (cntLt np0)) = row := by
  refine ⟨?_, ?_, ?_⟩
  · rw [sinc_map]
    refine (List.Pairwise.and_mem.1 hrow).imp ?_
    rintro v w ⟨hv, _, hvw⟩
    exact cntLt_lt_of_mem (hsub v hv) hvw
  · intro i hi
    simp only [List.mem_map] at hi
    obtain ⟨v, hv, rfl⟩ := hi
    exact (mem_sinc_cnt hnp (hsub v hv)).1
  · unfold pick
    rw [List.map_map]
    refine (List.map_congr_left fun v hv => ?_).trans (List.map_id _)
    obtain ⟨h1, h2⟩ := mem_sinc_cnt hnp (hsub v hv)
    simp only [Function.comp_apply, id_eq]
    rw [getD_eq_getElem' _ h1, h2]

theorem filter_eq_range (l : List Nat) (q : Nat → Bool) :
    l.filter q = ((List.range l.length).filter fun i => q (l.getD i 0)).map fun i => l.getD i 0 := by
  have hl : l = (List.range l.length).map fun i => l.getD i 0 := by
    apply List.ext_getElem
    · simp
    · intro i h1 h2
      simp [List.getD_eq_getElem?_getD, List.getElem?_eq_getElem h1]
  conv_lhs => rw [hl, List.filter_map]
  rfl

theorem unpicked_eq_restOf {np0 xy : List Nat} (hnp : SInc np0) (hlt : ∀ i ∈ xy, i < np0.length) :
    unpicked np0 xy = restOf np0 (pick np0 xy) := by
  unfold unpicked restOf
  rw [filter_eq_range np0]
  congr 1
  apply List.filter_congr
  intro i hi
  have hi' : i < np0.length := by simpa using hi
  congr 1
  rw [Bool.eq_iff_iff]
  simp only [List.contains_iff_mem, pick, List.mem_map]
  constructor
  · intro h; exact ⟨i, h, rfl⟩
  · rintro ⟨j, hj, hji⟩
    have hj' := hlt j hj
    rw [getD_eq_getElem' _ hj', getD_eq_getElem' _ hi'] at hji
    have := (List.Nodup.getElem_inj_iff (sinc_nodup hnp)).1 hji
    rwa [← this]

/-- the sorted list splits into the picked row and the rest -/
theorem perm_row_restOf {np0 row : List Nat} (hnp : SInc np0) (hrow : SInc row) (hsub : ∀ v ∈ row, v ∈ np0) :
    np0.Perm (row ++ restOf np0 row) := by
  have h1 : (np0.filter fun v => row.contains v) = row := by
    apply sinc_eq_of_perm (List.Pairwise.filter _ hnp) hrow
    rw [List.perm_ext_iff_of_nodup (sinc_nodup (List.Pairwise.filter _ hnp)) (sinc_nodup hrow)]
    intro v
    simp only [List.mem_filter, List.contains_iff_mem]
    exact ⟨fun h => h.2, fun h => ⟨hsub v h, h⟩⟩
  have := List.filter_append_perm (fun v => row.contains v) np0
  rw [h1] at this
  exact this.symm

end Numqi.Young
