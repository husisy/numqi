/-
C10 helper (validity): `rand_ABk_density_matrix` — the permutation sum of `NumqiModel/RandNorm.lean` (`abkSym`).
-/
import NumqiProofs.RandNormCompose
import NumqiProofs.FinGroupPerm

namespace Numqi.RandNorm
open Matrix Numqi.FinGroup
open scoped ComplexOrder

/-! ### base-`b` digits -/

theorem undigits_append (b : Nat) (l : List Nat) (t : Nat) : undigits b (l ++ [t]) = undigits b l * b + t := by
  simp [undigits, List.foldl_append]

theorem digits_succ (b k x : Nat) : digits b (k + 1) x = digits b k (x / b) ++ [x % b] := by
  unfold digits
  rw [List.range_succ, List.map_append]
  congr 1
  · apply List.map_congr_left
    intro m hm
    have hm : m < k := by simpa using hm
    have : k + 1 - 1 - m = (k - 1 - m) + 1 := by omega
    rw [this, pow_succ, Nat.mul_comm, ← Nat.div_div_eq_div_mul]
  · simp

theorem length_digits (b k x : Nat) : (digits b k x).length = k := by simp [digits]

theorem digits_lt (b k x : Nat) (hb : 0 < b) : ∀ t ∈ digits b k x, t < b := by
  intro t ht
  simp only [digits, List.mem_map] at ht
  obtain ⟨m, _, rfl⟩ := ht
  exact Nat.mod_lt _ hb

theorem undigits_digits (b : Nat) : ∀ (k x : Nat), undigits b (digits b k x) = x % b ^ k := by
  intro k
  induction k with
  | zero => intro x; simp [digits, undigits, Nat.mod_one]
  | succ k ih =>
    intro x
    rw [digits_succ, undigits_append, ih, pow_succ', Nat.mod_mul]
    ring

theorem undigits_lt (b : Nat) : ∀ (l : List Nat), (∀ t ∈ l, t < b) → undigits b l < b ^ l.length := by
  intro l
  induction l using List.reverseRecOn with
  | nil => intro _; simp [undigits]
  | append_singleton l t ih =>
    intro h
    have h1 := ih fun s hs => h s (List.mem_append_left _ hs)
    have h2 : t < b := h t (by simp)
    rw [undigits_append, List.length_append, List.length_singleton, pow_succ]
    nlinarith

theorem digits_undigits (b : Nat) : ∀ (l : List Nat), (∀ t ∈ l, t < b) → digits b l.length (undigits b l) = l := by
  intro l
  induction l using List.reverseRecOn with
  | nil => intro _; simp [digits]
  | append_singleton l t ih =>
    intro h
    have h1 := ih fun s hs => h s (List.mem_append_left _ hs)
    have h2 : t < b := h t (by simp)
    have hb : 0 < b := Nat.lt_of_le_of_lt (Nat.zero_le _) h2
    rw [undigits_append, List.length_append, List.length_singleton, digits_succ]
    have e1 : (undigits b l * b + t) / b = undigits b l := by
      rw [Nat.add_comm, Nat.add_mul_div_right _ _ hb, Nat.div_eq_of_lt h2, Nat.zero_add]
    have e2 : (undigits b l * b + t) % b = t := by
      rw [Nat.add_comm, Nat.add_mul_mod_self_right, Nat.mod_eq_of_lt h2]
    rw [e1, e2, h1]

/-! ### permutation tuples -/

theorem scatter_eq (π bs : List Nat) : scatter π bs = compose bs (invPerm π.length π) := by
  simp [scatter, compose, invPerm, List.map_map, Function.comp_def]

theorem length_scatter (π bs : List Nat) : (scatter π bs).length = π.length := by simp [scatter]

theorem scatter_lt (b : Nat) (hb : 0 < b) (π bs : List Nat) (h : ∀ t ∈ bs, t < b) : ∀ t ∈ scatter π bs, t < b := by
  intro t ht
  simp only [scatter, List.mem_map] at ht
  obtain ⟨m, _, rfl⟩ := ht
  rw [List.getD_eq_getElem?_getD]
  cases h' : bs[π.idxOf m]? with
  | none => simpa using hb
  | some v => simpa using h v (List.mem_of_getElem? h')

theorem inv_unique {n : Nat} {p q : List Nat} (hp : p.Perm (List.range n)) (hq : q.Perm (List.range n))
    (h : compose p q = List.range n) : q = invPerm n p := by
  have hi := invPerm_perm hp
  calc q = compose (List.range n) q := (compose_range_left fun x hx => perm_lt hq hx).symm
    _ = compose (compose (invPerm n p) p) q := by rw [compose_invPerm_left hp]
    _ = compose (invPerm n p) (compose p q) := compose_assoc (perm_length hp) fun x hx => perm_lt hq hx
    _ = compose (invPerm n p) (List.range n) := by rw [h]
    _ = invPerm n p := compose_range_right (perm_length hi)

theorem invPerm_compose {n : Nat} {p q : List Nat} (hp : p.Perm (List.range n)) (hq : q.Perm (List.range n)) :
    invPerm n (compose p q) = compose (invPerm n q) (invPerm n p) := by
  have hip := invPerm_perm hp
  have hiq := invPerm_perm hq
  have hc := compose_perm hiq hip
  refine (inv_unique (compose_perm hp hq) hc ?_).symm
  calc compose (compose p q) (compose (invPerm n q) (invPerm n p))
      = compose p (compose q (compose (invPerm n q) (invPerm n p))) :=
        compose_assoc (perm_length hq) fun x hx => perm_lt hc hx
    _ = compose p (compose (compose q (invPerm n q)) (invPerm n p)) := by
        rw [compose_assoc (perm_length hiq) fun x hx => perm_lt hip hx]
    _ = compose p (compose (List.range n) (invPerm n p)) := by rw [compose_invPerm_right hq]
    _ = compose p (invPerm n p) := by rw [compose_range_left fun x hx => perm_lt hip hx]
    _ = List.range n := compose_invPerm_right hp

theorem length_compose (p q : List Nat) : (compose p q).length = q.length := by simp [compose]

theorem scatter_scatter {k : Nat} {π σ : List Nat} (hπ : π.Perm (List.range k)) (hσ : σ.Perm (List.range k)) (bs : List Nat) :
    scatter π (scatter σ bs) = scatter (compose π σ) bs := by
  have hip := invPerm_perm hπ
  have his := invPerm_perm hσ
  rw [scatter_eq π, scatter_eq σ, scatter_eq (compose π σ), length_compose, perm_length hπ, perm_length hσ,
    compose_assoc (perm_length his) fun x hx => perm_lt hip hx, invPerm_compose hπ hσ]

theorem scatter_range (k : Nat) (bs : List Nat) (h : bs.length = k) : scatter (List.range k) bs = bs := by
  rw [scatter_eq, List.length_range,
    ← inv_unique (List.Perm.refl _) (List.Perm.refl _) (compose_range_right (List.length_range (n := k))), compose_range_right h]

theorem perm_map_compose_right {k : Nat} {σ : List Nat} (hσ : σ.Perm (List.range k)) :
    ((perms k).map fun π => compose π σ).Perm (perms k) := by
  have his := invPerm_perm hσ
  have hinj : ∀ π ∈ perms k, ∀ π' ∈ perms k, compose π σ = compose π' σ → π = π' := by
    intro π hπ π' hπ' h
    have e : ∀ ρ : List Nat, ρ.Perm (List.range k) → compose (compose ρ σ) (invPerm k σ) = ρ := by
      intro ρ hρ
      rw [compose_assoc (perm_length hσ) fun x hx => perm_lt his hx, compose_invPerm_right hσ, compose_range_right (perm_length hρ)]
    rw [← e π (mem_perms.1 hπ), ← e π' (mem_perms.1 hπ'), h]
  refine (List.perm_ext_iff_of_nodup ((List.nodup_map_iff_inj_on (nodup_perms k)).2 hinj) (nodup_perms k)).2 fun a => ?_
  simp only [List.mem_map]
  constructor
  · rintro ⟨π, hπ, rfl⟩; exact mem_perms.2 (compose_perm (mem_perms.1 hπ) hσ)
  · intro ha
    have ha' := mem_perms.1 ha
    refine ⟨compose a (invPerm k σ), mem_perms.2 (compose_perm ha' his), ?_⟩
    rw [compose_assoc (perm_length his) fun x hx => perm_lt hσ hx, compose_invPerm_left hσ, compose_range_right (perm_length ha')]

theorem sum_perms_compose {k : Nat} {σ : List Nat} (hσ : σ.Perm (List.range k)) (F : List Nat → ℂ) :
    ((perms k).map fun π => F (compose π σ)).sum = ((perms k).map F).sum := by
  have := (perm_map_compose_right hσ).map F
  rw [List.map_map] at this
  exact this.sum_eq

theorem fact_eq (k : Nat) : fact k = k.factorial := by
  induction k with
  | zero => rfl
  | succ k ih => simp [fact, ih, Nat.factorial_succ]

theorem length_perms (k : Nat) : (perms k).length = fact k := by
  have h : (perms k).Perm (List.range k).permutations := by
    refine (List.perm_ext_iff_of_nodup (nodup_perms k) (List.nodup_permutations _ List.nodup_range)).2 fun a => ?_
    rw [List.mem_permutations]; exact mem_perms
  rw [h.length_eq, List.length_permutations, List.length_range, fact_eq]

/-! ### the index map of one term -/

theorem digits_undigits_scatter (dB k : Nat) (hdB : 0 < dB) {σ : List Nat} (hσ : σ.Perm (List.range k)) (y : Nat) :
    digits dB k (undigits dB (scatter σ (digits dB k y))) = scatter σ (digits dB k y) := by
  have := digits_undigits dB (scatter σ (digits dB k y)) (scatter_lt dB hdB _ _ (digits_lt dB k _ hdB))
  rwa [length_scatter, perm_length hσ] at this

theorem permIdx_parts (dB k : Nat) (hdB : 0 < dB) {π : List Nat} (hπ : π.Perm (List.range k)) (x : Nat) :
    permIdx dB k π x / dB ^ k = x / dB ^ k ∧
      permIdx dB k π x % dB ^ k = undigits dB (scatter π (digits dB k (x % dB ^ k))) := by
  have hB : 0 < dB ^ k := Nat.pow_pos hdB
  have hu : undigits dB (scatter π (digits dB k (x % dB ^ k))) < dB ^ k := by
    have := undigits_lt dB (scatter π (digits dB k (x % dB ^ k))) (scatter_lt dB hdB _ _ (digits_lt dB k _ hdB))
    rwa [length_scatter, perm_length hπ] at this
  unfold permIdx
  constructor
  · rw [Nat.add_comm, Nat.add_mul_div_right _ _ hB, Nat.div_eq_of_lt hu, Nat.zero_add]
  · rw [Nat.add_comm, Nat.add_mul_mod_self_right, Nat.mod_eq_of_lt hu]

theorem permIdx_lt (dA dB k : Nat) (hdB : 0 < dB) {π : List Nat} (hπ : π.Perm (List.range k)) {x : Nat} (hx : x < dA * dB ^ k) :
    permIdx dB k π x < dA * dB ^ k := by
  have hB : 0 < dB ^ k := Nat.pow_pos hdB
  obtain ⟨h1, h2⟩ := permIdx_parts dB k hdB hπ x
  have ha : x / dB ^ k < dA := (Nat.div_lt_iff_lt_mul hB).2 hx
  rw [← Nat.div_add_mod (permIdx dB k π x) (dB ^ k), h1]
  have : permIdx dB k π x % dB ^ k < dB ^ k := Nat.mod_lt _ hB
  nlinarith

theorem permIdx_permIdx (dB k : Nat) (hdB : 0 < dB) {π σ : List Nat} (hπ : π.Perm (List.range k)) (hσ : σ.Perm (List.range k)) (x : Nat) :
    permIdx dB k π (permIdx dB k σ x) = permIdx dB k (compose π σ) x := by
  obtain ⟨h1, h2⟩ := permIdx_parts dB k hdB hσ x
  have e : ∀ y, permIdx dB k π y = y / dB ^ k * dB ^ k + undigits dB (scatter π (digits dB k (y % dB ^ k))) := fun _ => rfl
  rw [e (permIdx dB k σ x), h1, h2, digits_undigits_scatter dB k hdB hσ, scatter_scatter hπ hσ]
  rfl

theorem permIdx_range (dB k x : Nat) : permIdx dB k (List.range k) x = x := by
  unfold permIdx
  rw [scatter_range k _ (length_digits dB k _), undigits_digits, Nat.mod_mod, Nat.div_add_mod']

/-! ### the permutation sum -/

theorem abkSym_invariant (dA dB k : Nat) (hdB : 0 < dB) (G : Nat → Nat → ℂ) {σ : List Nat} (hσ : σ ∈ perms k) (x y : Nat) :
    abkSym dA dB k G (permIdx dB k σ x) (permIdx dB k σ y) = abkSym dA dB k G x y := by
  have hσ' := mem_perms.1 hσ
  simp only [abkSym]
  rw [← sum_perms_compose hσ' fun π =>
    gram (dA * dB ^ k) G (permIdx dB k π x) (permIdx dB k π y) / (traceN (dA * dB ^ k) (gram (dA * dB ^ k) G) * ((fact k : Nat) : ℂ))]
  congr 1
  apply List.map_congr_left
  intro π hπ
  rw [permIdx_permIdx dB k hdB (mem_perms.1 hπ) hσ', permIdx_permIdx dB k hdB (mem_perms.1 hπ) hσ']

theorem toMat_list_sum {α : Type} (N : Nat) (l : List α) (g : α → Nat → Nat → ℂ) :
    toMat N N (fun x y => (l.map fun a => g a x y).sum) = (l.map fun a => toMat N N (g a)).sum := by
  induction l with
  | nil => ext i j; simp [toMat]
  | cons a l ih =>
    simp only [List.map_cons, List.sum_cons]
    rw [← ih]
    ext i j; simp [toMat]

/-- the index map of the term `π` on `Fin N` -/
def permFin (dA dB k : Nat) (hdB : 0 < dB) (π : List Nat) (hπ : π.Perm (List.range k)) (x : Fin (dA * dB ^ k)) : Fin (dA * dB ^ k) :=
  ⟨permIdx dB k π x.val, permIdx_lt dA dB k hdB hπ x.isLt⟩

theorem permFin_bijective (dA dB k : Nat) (hdB : 0 < dB) (π : List Nat) (hπ : π.Perm (List.range k)) :
    Function.Bijective (permFin dA dB k hdB π hπ) := by
  rw [← Finite.injective_iff_bijective]
  intro x y h
  have h' : permIdx dB k π x.val = permIdx dB k π y.val := congrArg Fin.val h
  have e : ∀ z, permIdx dB k (invPerm k π) (permIdx dB k π z) = z := by
    intro z
    rw [permIdx_permIdx dB k hdB (invPerm_perm hπ) hπ, compose_invPerm_left hπ, permIdx_range]
  exact Fin.ext (by rw [← e x.val, ← e y.val, h'])

theorem toMat_abk_term (dA dB k : Nat) (hdB : 0 < dB) (M : Nat → Nat → ℂ) (c : ℂ) (π : List Nat) (hπ : π.Perm (List.range k)) :
    toMat (dA * dB ^ k) (dA * dB ^ k) (fun x y => M (permIdx dB k π x) (permIdx dB k π y) / c) =
      c⁻¹ • (toMat (dA * dB ^ k) (dA * dB ^ k) M).submatrix (permFin dA dB k hdB π hπ) (permFin dA dB k hdB π hπ) := by
  ext x y
  simp [toMat, permFin, div_eq_inv_mul]

theorem toMat_abkSym (dA dB k : Nat) (G : Nat → Nat → ℂ) :
    toMat (dA * dB ^ k) (dA * dB ^ k) (abkSym dA dB k G) =
      ((perms k).map fun π => toMat (dA * dB ^ k) (dA * dB ^ k) fun x y =>
        gram (dA * dB ^ k) G (permIdx dB k π x) (permIdx dB k π y) /
          (traceN (dA * dB ^ k) (gram (dA * dB ^ k) G) * ((fact k : Nat) : ℂ))).sum := by
  rw [← toMat_list_sum]
  rfl

theorem list_sum_posSemidef {n : Type} [Fintype n] (l : List (Matrix n n ℂ)) (h : ∀ A ∈ l, A.PosSemidef) : l.sum.PosSemidef := by
  induction l with
  | nil => simpa using Matrix.PosSemidef.zero
  | cons A l ih =>
    rw [List.sum_cons]
    exact (h A (List.mem_cons_self ..)).add (ih fun B hB => h B (List.mem_cons_of_mem _ hB))

theorem abkSym_posSemidef (dA dB k : Nat) (hdB : 0 < dB) (G : Nat → Nat → ℂ) :
    (toMat (dA * dB ^ k) (dA * dB ^ k) (abkSym dA dB k G)).PosSemidef := by
  rw [toMat_abkSym]
  refine list_sum_posSemidef _ fun A hA => ?_
  simp only [List.mem_map] at hA
  obtain ⟨π, hπ, rfl⟩ := hA
  rw [toMat_abk_term dA dB k hdB _ _ π (mem_perms.1 hπ), toMat_gram]
  have hM := Matrix.posSemidef_self_mul_conjTranspose (toMat (dA * dB ^ k) (dA * dB ^ k) G)
  refine (hM.submatrix _).smul ?_
  rw [traceN_eq, toMat_gram]
  exact inv_nonneg.2 (mul_nonneg hM.trace_nonneg (by exact_mod_cast Nat.zero_le _))

theorem abkSym_trace (dA dB k : Nat) (hdB : 0 < dB) (G : Nat → Nat → ℂ) (htr : traceN (dA * dB ^ k) (gram (dA * dB ^ k) G) ≠ 0) :
    (toMat (dA * dB ^ k) (dA * dB ^ k) (abkSym dA dB k G)).trace = 1 := by
  rw [toMat_abkSym, Matrix.trace_list_sum, List.map_map]
  set tr := traceN (dA * dB ^ k) (gram (dA * dB ^ k) G) with htrd
  have hterm : ∀ π ∈ perms k, (Matrix.trace ∘ fun π => toMat (dA * dB ^ k) (dA * dB ^ k) fun x y =>
      gram (dA * dB ^ k) G (permIdx dB k π x) (permIdx dB k π y) / (tr * ((fact k : Nat) : ℂ))) π
        = (tr * ((fact k : Nat) : ℂ))⁻¹ * tr := by
    intro π hπ
    have hπ' := mem_perms.1 hπ
    simp only [Function.comp]
    rw [toMat_abk_term dA dB k hdB _ _ π hπ', Matrix.trace_smul, smul_eq_mul]
    congr 1
    have := trace_submatrix_equiv (Equiv.ofBijective _ (permFin_bijective dA dB k hdB π hπ')) (toMat (dA * dB ^ k) (dA * dB ^ k) (gram (dA * dB ^ k) G))
    rw [htrd, traceN_eq]
    exact this
  rw [List.map_congr_left hterm, List.map_const', List.sum_replicate, length_perms, nsmul_eq_mul]
  have hk : ((fact k : Nat) : ℂ) ≠ 0 := by
    rw [fact_eq]; exact_mod_cast (Nat.factorial_pos k).ne'
  field_simp

end Numqi.RandNorm
