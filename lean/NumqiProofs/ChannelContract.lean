/-
C12: trace distance / Rényi entropy at the eigenvalue level, and the classical data-processing inequalities
(monotonicity under column-stochastic maps) for trace distance, fidelity and relative entropy of commuting states; a classical channel as the measure-and-prepare Kraus set
`classicalKraus` of the Kraus model.
-/
import NumqiProofs.ChannelSpectral
import NumqiProofs.Channel
import Mathlib.Analysis.MeanInequalitiesPow
import Mathlib.Analysis.Convex.SpecificFunctions.Pow

namespace Numqi
namespace Channel
open Finset Real

/-- over ℝ: `|x|`, real power, division -/
noncomputable instance : SpecOps ℝ := ⟨fun x => |x|, fun x a => x ^ a, fun a b => a / b⟩

/-- a classical channel: a column-stochastic matrix acting on probability vectors (the action of a channel that maps the common
eigenbasis of two commuting states to a common eigenbasis) -/
def ColStochastic {d e : ℕ} (M : Fin e → Fin d → ℝ) : Prop := (∀ i j, 0 ≤ M i j) ∧ ∀ j, ∑ i, M i j = 1

def pushforward {d e : ℕ} (M : Fin e → Fin d → ℝ) (p : Fin d → ℝ) : Fin e → ℝ := fun i => ∑ j, M i j * p j

theorem pushforward_nonneg {d e : ℕ} {M : Fin e → Fin d → ℝ} (hM : ColStochastic M) {p : Fin d → ℝ} (hp : ∀ j, 0 ≤ p j) (i : Fin e) :
    0 ≤ pushforward M p i := sum_nonneg fun j _ => mul_nonneg (hM.1 i j) (hp j)

/-- the columns sum to one: weighting by `M` and summing over the output symbol changes nothing -/
theorem ColStochastic.sum_weighted {d e : ℕ} {M : Fin e → Fin d → ℝ} (hM : ColStochastic M) (f : Fin d → ℝ) :
    ∑ i, ∑ j, M i j * f j = ∑ j, f j := by
  rw [sum_comm]
  exact sum_congr rfl fun j _ => by rw [← sum_mul, hM.2 j, one_mul]

theorem pushforward_sum {d e : ℕ} {M : Fin e → Fin d → ℝ} (hM : ColStochastic M) (p : Fin d → ℝ) :
    ∑ i, pushforward M p i = ∑ j, p j := hM.sum_weighted p

/-! ### trace distance -/

theorem traceDistComm_eq {d : ℕ} (p q : Fin d → ℝ) :
    traceDistComm (List.ofFn p) (List.ofFn q) = (∑ i, |p i - q i|) / 2 := by
  unfold traceDistComm traceDistSpec
  rw [List.map_map, listSum_zip_ofFn p q]
  show (∑ i, |p i + -q i|) / (1 + 1) = _
  norm_num [sub_eq_add_neg]

theorem td_nonneg {d : ℕ} (p q : Fin d → ℝ) : 0 ≤ (∑ i, |p i - q i|) / 2 :=
  div_nonneg (sum_nonneg fun _ _ => abs_nonneg _) (by norm_num)

theorem td_le_one {d : ℕ} (p q : Fin d → ℝ) (hp : ∀ i, 0 ≤ p i) (hq : ∀ i, 0 ≤ q i)
    (hsp : ∑ i, p i = 1) (hsq : ∑ i, q i = 1) : (∑ i, |p i - q i|) / 2 ≤ 1 := by
  have h : ∑ i, |p i - q i| ≤ ∑ i, (p i + q i) := sum_le_sum fun i _ => by
    rw [abs_le]; constructor <;> linarith [hp i, hq i]
  rw [sum_add_distrib, hsp, hsq] at h
  linarith

theorem td_mono {d e : ℕ} (M : Fin e → Fin d → ℝ) (hM : ColStochastic M) (p q : Fin d → ℝ) :
    ∑ i, |pushforward M p i - pushforward M q i| ≤ ∑ j, |p j - q j| := by
  have h1 : ∀ i, |pushforward M p i - pushforward M q i| ≤ ∑ j, M i j * |p j - q j| := by
    intro i
    have : pushforward M p i - pushforward M q i = ∑ j, M i j * (p j - q j) := by
      unfold pushforward; rw [← sum_sub_distrib]; exact sum_congr rfl fun j _ => by ring
    rw [this]
    refine (abs_sum_le_sum_abs _ _).trans (le_of_eq ?_)
    exact sum_congr rfl fun j _ => by rw [abs_mul, abs_of_nonneg (hM.1 i j)]
  calc ∑ i, |pushforward M p i - pushforward M q i| ≤ ∑ i, ∑ j, M i j * |p j - q j| := sum_le_sum fun i _ => h1 i
    _ = ∑ j, |p j - q j| := hM.sum_weighted _

/-! ### fidelity (Bhattacharyya coefficient) -/

theorem bc_mono {d e : ℕ} (M : Fin e → Fin d → ℝ) (hM : ColStochastic M) (p q : Fin d → ℝ)
    (hp : ∀ j, 0 ≤ p j) (hq : ∀ j, 0 ≤ q j) :
    ∑ j, √(p j) * √(q j) ≤ ∑ i, √(pushforward M p i) * √(pushforward M q i) := by
  have hrow : ∀ i, ∑ j, M i j * (√(p j) * √(q j)) ≤ √(pushforward M p i) * √(pushforward M q i) := by
    intro i
    have := Real.sum_sqrt_mul_sqrt_le (univ : Finset (Fin d)) (f := fun j => M i j * p j) (g := fun j => M i j * q j)
      (fun j => mul_nonneg (hM.1 i j) (hp j)) (fun j => mul_nonneg (hM.1 i j) (hq j))
    refine le_trans (le_of_eq ?_) this
    refine sum_congr rfl fun j _ => ?_
    rw [Real.sqrt_mul (hM.1 i j), Real.sqrt_mul (hM.1 i j), mul_mul_mul_comm, Real.mul_self_sqrt (hM.1 i j)]
  calc ∑ j, √(p j) * √(q j) = ∑ i, ∑ j, M i j * (√(p j) * √(q j)) := (hM.sum_weighted _).symm
    _ ≤ _ := sum_le_sum fun i _ => hrow i

/-! ### relative entropy (log-sum inequality through Gibbs' inequality) -/

/-- one term of the relative entropy -/
noncomputable def klTerm (a b : ℝ) : ℝ := a * Real.log a - a * Real.log b

theorem relEntropySpec_eq {d : ℕ} (p q : Fin d → ℝ) (hp : ∀ i, 0 ≤ p i) (hq : ∀ i, 0 ≤ q i) :
    relEntropySpec 0 (List.ofFn p) (List.ofFn q) = ∑ i, klTerm (p i) (q i) := by
  unfold relEntropySpec
  rw [listSum_zip_ofFn p q (fun pq => pq.1 * Analytic.log (Analytic.max 0 pq.2)),
    listSum_ofFn p (fun x => Analytic.max 0 x * Analytic.log (Analytic.max 0 x)), ← sum_neg_distrib, ← sum_add_distrib]
  refine sum_congr rfl fun i _ => ?_
  show -(p i * Real.log (max 0 (q i))) + max 0 (p i) * Real.log (max 0 (p i)) = _
  rw [max_eq_right (hq i), max_eq_right (hp i), klTerm]; ring

theorem klTerm_scale (m a b : ℝ) (hm : 0 ≤ m) (ha : 0 ≤ a) (hb : 0 < b) : klTerm (m * a) (m * b) = m * klTerm a b := by
  unfold klTerm
  rcases hm.eq_or_lt with rfl | hm
  · simp
  rcases ha.eq_or_lt with rfl | ha
  · simp
  rw [Real.log_mul hm.ne' ha.ne', Real.log_mul hm.ne' hb.ne']; ring

/-- **log-sum inequality** for one output symbol: `A log(A/B) ≤ Σ_j a_j log(a_j/b_j)`, `A = Σ a_j`, `B = Σ b_j`, where `a_j = 0`
whenever `b_j = 0` -/
theorem log_sum_ineq {d : ℕ} (a b : Fin d → ℝ) (ha : ∀ j, 0 ≤ a j) (hb : ∀ j, 0 ≤ b j) (hab : ∀ j, b j = 0 → a j = 0) :
    klTerm (∑ j, a j) (∑ j, b j) ≤ ∑ j, klTerm (a j) (b j) := by
  set A := ∑ j, a j with hA
  set B := ∑ j, b j with hB
  have hA0 : 0 ≤ A := sum_nonneg fun j _ => ha j
  have hB0 : 0 ≤ B := sum_nonneg fun j _ => hb j
  rcases hA0.eq_or_lt with hA' | hApos
  · -- all a_j vanish
    have hz : ∀ j, a j = 0 := fun j => (sum_eq_zero_iff_of_nonneg fun j _ => ha j).1 hA'.symm j (mem_univ j)
    rw [← hA']
    simp [klTerm, hz]
  have hBpos : 0 < B := by
    rcases hB0.eq_or_lt with hB' | h
    · exfalso
      have hz : ∀ j, b j = 0 := fun j => (sum_eq_zero_iff_of_nonneg fun j _ => hb j).1 hB'.symm j (mem_univ j)
      have : A = 0 := sum_eq_zero fun j _ => hab j (hz j)
      linarith
    · exact h
  -- Gibbs term by term with y_j = b_j * A / B
  have hterm : ∀ j, a j - b j * (A / B) ≤ klTerm (a j) (b j) - a j * Real.log (A / B) := by
    intro j
    rcases (hb j).eq_or_lt with hbj | hbj
    · have := hab j hbj.symm
      simp [klTerm, this, ← hbj]
    · have hy : 0 < b j * (A / B) := mul_pos hbj (div_pos hApos hBpos)
      have g := gibbs_term (a j) (b j * (A / B)) (ha j) hy
      rw [Real.log_mul hbj.ne' (div_pos hApos hBpos).ne'] at g
      unfold klTerm; linarith
  have hsum := sum_le_sum fun j (_ : j ∈ (univ : Finset (Fin d))) => hterm j
  rw [sum_sub_distrib, sum_sub_distrib, ← sum_mul, ← sum_mul, ← hA, ← hB] at hsum
  have e1 : B * (A / B) = A := by field_simp
  rw [e1, sub_self] at hsum
  have e2 : klTerm A B = A * Real.log (A / B) := by
    unfold klTerm; rw [Real.log_div hApos.ne' hBpos.ne']; ring
  rw [e2]; linarith

theorem kl_mono {d e : ℕ} (M : Fin e → Fin d → ℝ) (hM : ColStochastic M) (p q : Fin d → ℝ)
    (hp : ∀ j, 0 ≤ p j) (hq : ∀ j, 0 < q j) :
    ∑ i, klTerm (pushforward M p i) (pushforward M q i) ≤ ∑ j, klTerm (p j) (q j) := by
  have hrow : ∀ i, klTerm (pushforward M p i) (pushforward M q i) ≤ ∑ j, M i j * klTerm (p j) (q j) := by
    intro i
    have h := log_sum_ineq (fun j => M i j * p j) (fun j => M i j * q j)
      (fun j => mul_nonneg (hM.1 i j) (hp j)) (fun j => mul_nonneg (hM.1 i j) (hq j).le)
      (fun j hj => by
        have : M i j = 0 := by
          rcases mul_eq_zero.1 hj with h | h
          · exact h
          · exact absurd h (hq j).ne'
        simp [this])
    refine h.trans (le_of_eq ?_)
    exact sum_congr rfl fun j _ => klTerm_scale _ _ _ (hM.1 i j) (hp j) (hq j)
  calc ∑ i, klTerm (pushforward M p i) (pushforward M q i) ≤ ∑ i, ∑ j, M i j * klTerm (p j) (q j) := sum_le_sum fun i _ => hrow i
    _ = ∑ j, klTerm (p j) (q j) := hM.sum_weighted _

/-! ### Rényi entropy -/

theorem renyiSpec_eq {d : ℕ} (α : ℝ) (p : Fin d → ℝ) (hp : ∀ i, 0 ≤ p i) :
    renyiSpec α (List.ofFn p) = Real.log (∑ i, p i ^ α) / (1 - α) := by
  unfold renyiSpec
  rw [listSum_ofFn p (fun x => SpecOps.pow (Analytic.max x 0) α)]
  show Real.log (∑ i, (max (p i) 0) ^ α) / (1 + -α) = _
  rw [← sub_eq_add_neg]
  congr 2
  exact sum_congr rfl fun i _ => by rw [max_eq_left (hp i)]

theorem card_mul_inv_rpow {d : ℕ} (hd : 0 < d) (α : ℝ) : (d : ℝ) * ((1 : ℝ) / d) ^ α = (d : ℝ) ^ (1 - α) := by
  have hd' : (0 : ℝ) < d := by exact_mod_cast hd
  rw [one_div, Real.inv_rpow hd'.le, Real.rpow_sub hd', Real.rpow_one, div_eq_mul_inv]

/-- `Σ p^α` between `1` and `d^(1-α)` for `α < 1`, between `d^(1-α)` and `1` for `α > 1` -/
theorem sum_rpow_bounds_lt {d : ℕ} (hd : 0 < d) (α : ℝ) (h0 : 0 < α) (h1 : α < 1) (p : Fin d → ℝ) (hp : ∀ i, 0 ≤ p i)
    (hsum : ∑ i, p i = 1) : 1 ≤ ∑ i, p i ^ α ∧ ∑ i, p i ^ α ≤ (d : ℝ) ^ (1 - α) := by
  have hle1 : ∀ i, p i ≤ 1 := fun i => by rw [← hsum]; exact single_le_sum (fun j _ => hp j) (mem_univ i)
  constructor
  · rw [← hsum]; exact sum_le_sum fun i _ => Real.self_le_rpow_of_le_one (hp i) (hle1 i) h1.le
  · rw [← card_mul_inv_rpow hd]
    exact sum_le_card_mul_of_concaveOn hd (Real.concaveOn_rpow h0.le h1.le) p hp hsum

theorem sum_rpow_bounds_gt {d : ℕ} (hd : 0 < d) (α : ℝ) (h1 : 1 < α) (p : Fin d → ℝ) (hp : ∀ i, 0 ≤ p i)
    (hsum : ∑ i, p i = 1) : (d : ℝ) ^ (1 - α) ≤ ∑ i, p i ^ α ∧ ∑ i, p i ^ α ≤ 1 := by
  have hle1 : ∀ i, p i ≤ 1 := fun i => by rw [← hsum]; exact single_le_sum (fun j _ => hp j) (mem_univ i)
  constructor
  · have := sum_le_card_mul_of_concaveOn hd (convexOn_rpow h1.le).neg p hp hsum
    simp only [Pi.neg_apply, sum_neg_distrib, mul_neg, neg_le_neg_iff, card_mul_inv_rpow hd] at this
    exact this
  · rw [← hsum]; exact sum_le_sum fun i _ => Real.rpow_le_self_of_le_one (hp i) (hle1 i) h1.le

theorem renyi_range' {d : ℕ} (hd : 0 < d) (α : ℝ) (h0 : 0 < α) (hne : α ≠ 1) (p : Fin d → ℝ) (hp : ∀ i, 0 ≤ p i)
    (hsum : ∑ i, p i = 1) :
    0 ≤ Real.log (∑ i, p i ^ α) / (1 - α) ∧ Real.log (∑ i, p i ^ α) / (1 - α) ≤ Real.log d := by
  have hd' : (0 : ℝ) < d := by exact_mod_cast hd
  rcases lt_or_gt_of_ne hne with h1 | h1
  · obtain ⟨a, b⟩ := sum_rpow_bounds_lt hd α h0 h1 p hp hsum
    have hpos : 0 < 1 - α := by linarith
    have hS : 0 < ∑ i, p i ^ α := by linarith
    refine ⟨div_nonneg (Real.log_nonneg a) hpos.le, ?_⟩
    rw [div_le_iff₀ hpos]
    have := Real.log_le_log hS b
    rwa [Real.log_rpow hd', mul_comm] at this
  · obtain ⟨a, b⟩ := sum_rpow_bounds_gt hd α h1 p hp hsum
    have hneg : 1 - α < 0 := by linarith
    have hS : 0 < ∑ i, p i ^ α := lt_of_lt_of_le (Real.rpow_pos_of_pos hd' _) a
    refine ⟨div_nonneg_of_nonpos (Real.log_nonpos hS.le b) hneg.le, ?_⟩
    rw [div_le_iff_of_neg hneg]
    have := Real.log_le_log (Real.rpow_pos_of_pos hd' _) a
    rwa [Real.log_rpow hd', mul_comm] at this

/-! ### the bridge to the Kraus model: a classical channel is the measure-and-prepare Kraus set `K_(i,j) = √M_ij |i⟩⟨j|` -/

/-- `K_s = √M_ij |i⟩⟨j|` for `s = i·d + j` (`i < e` output symbol, `j < d` input symbol) -/
noncomputable def classicalKraus (d : ℕ) (M : ℕ → ℕ → ℝ) (s a b : ℕ) : ℝ :=
  if a = s / d ∧ b = s % d then Real.sqrt (M (s / d) (s % d)) else 0

theorem classicalKraus_apply (d : ℕ) (M : ℕ → ℕ → ℝ) (i' : ℕ) {j' : ℕ} (hj : j' < d) (a i : ℕ) :
    classicalKraus d M (i' * d + j') a i = if a = i' ∧ i = j' then √(M i' j') else 0 := by
  simp only [classicalKraus, div_of_lt hj, mod_of_lt hj]

/-- **`apply_kraus_op` with the measure-and-prepare Kraus set acts on a diagonal state as `pushforward M` on its spectrum** (and the
output is diagonal again): `Σ_s K_s diag(p) K_s† = diag(M p)` -/
theorem applyKraus_classical (d e : ℕ) (M : ℕ → ℕ → ℝ) (hM : ∀ i j, 0 ≤ M i j) (p : ℕ → ℝ) (a b : ℕ) (hb : b < e) :
    applyKraus (e * d) d (classicalKraus d M) (fun i j => if i = j then p i else 0) a b
      = if a = b then ∑ j ∈ range d, M a j * p j else 0 := by
  simp only [applyKraus, sumRange_eq_sum, conj_eq_star, star_trivial]
  rw [sum_range_mul]
  have h : ∀ i' ∈ range e, ∀ j' ∈ range d, (∑ i ∈ range d, ∑ j ∈ range d,
      classicalKraus d M (i' * d + j') a i * (if i = j then p i else 0) * classicalKraus d M (i' * d + j') b j)
        = if b = i' then (if a = i' then M i' j' * p j' else 0) else 0 := fun i' _ j' hj' => by
    simp only [classicalKraus_apply d M _ (mem_range.1 hj'), ite_and, mul_ite, mul_zero, ite_mul, zero_mul, sum_ite_irrel,
      sum_const_zero, sum_ite_eq', hj', if_true]
    rw [mul_right_comm, Real.mul_self_sqrt (hM _ _)]
  rw [sum_congr rfl fun i' hi' => sum_congr rfl (h i' hi')]
  simp only [sum_ite_irrel, sum_const_zero, sum_ite_eq, mem_range, hb, if_true]
  split_ifs with hab
  · rw [hab]
  · rfl

/-- the measure-and-prepare Kraus set is trace preserving exactly when the columns of `M` sum to one: `Σ_s K_s† K_s = diag(Σ_i M_ij)` -/
theorem krausGram_classical (d e : ℕ) (M : ℕ → ℕ → ℝ) (hM : ∀ i j, 0 ≤ M i j) (i j : ℕ) (hj : j < d) :
    krausGram (e * d) e (classicalKraus d M) i j = if i = j then ∑ a ∈ range e, M a i else 0 := by
  simp only [krausGram, sumRange_eq_sum, conj_eq_star, star_trivial]
  rw [sum_range_mul]
  have h : ∀ i' ∈ range e, ∀ j' ∈ range d,
      (∑ a ∈ range e, classicalKraus d M (i' * d + j') a i * classicalKraus d M (i' * d + j') a j)
        = if j = j' then (if i = j' then M i' j' else 0) else 0 := fun i' hi' j' hj' => by
    simp only [classicalKraus_apply d M _ (mem_range.1 hj'), ite_and, mul_ite, mul_zero, ite_mul, zero_mul, sum_ite_eq', hi',
      if_true, Real.mul_self_sqrt (hM _ _)]
  rw [sum_congr rfl fun i' hi' => sum_congr rfl (h i' hi')]
  simp only [sum_ite_eq, mem_range, hj, if_true]
  split_ifs with hij
  · rw [hij]
  · exact sum_const_zero

end Channel
end Numqi
