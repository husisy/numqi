/-
C06, second part: separable states are symmetric-extendible; side conditions of the boundary-length chains; links between the
spec-level objects of the theorems (`rayPoint`, pair-indexed matrices) and the executed model constants (`interp`, flat lists).
-/
import NumqiProofs.BoundaryLemmas
import NumqiProofs.PartialTrace

namespace Numqi.Boundary
open Matrix Finset
open scoped ComplexOrder

/-! ### `rayPoint` is `hf_interpolate_dm` -/

/-- the ray point of the threshold theorems is the executed `interpBeta` (`hf_interpolate_dm(ρ, beta=β, dm_norm=d)`) -/
theorem rayPoint_eq_interpBeta {n : ℕ} (N d : ℝ) (ρ : Matrix (Fin n) (Fin n) ℂ) (β : ℝ) :
    rayPoint N d ρ β = Matrix.of (interpBeta (((1 / N : ℝ) : ℂ)) (β : ℂ) (d : ℂ) ρ) := by
  ext r c
  simp only [rayPoint, interpBeta, interp, Matrix.add_apply, Matrix.smul_apply, Matrix.sub_apply, Matrix.one_apply,
    smul_eq_mul, Matrix.of_apply]
  by_cases h : r = c
  · simp only [h, if_true]; push_cast; ring
  · simp only [h, if_false]; push_cast; ring

/-! ### the numpy flattening of pair indices -/

section flat
variable {dA dB : ℕ}

theorem flatOfPair_lt (p : Fin dA × Fin dB) : flatOfPair p < dA * dB :=
  mul_add_lt p.1.isLt p.2.isLt

/-- `pairOfFlat` inverts the row-major position `a·dB + b` -/
theorem pairOfFlat_flatOfPair (p : Fin dA × Fin dB) : pairOfFlat dA dB (flatOfPair p) = some p := by
  have hb : 0 < dB := Nat.pos_of_ne_zero (by intro h; have := p.2.isLt; omega)
  have h1 : (p.1.val * dB + p.2.val) / dB = p.1.val := div_of_lt p.2.isLt
  have h2 : (p.1.val * dB + p.2.val) % dB = p.2.val := mod_of_lt p.2.isLt
  unfold pairOfFlat flatOfPair
  rw [dif_pos ⟨hb, by rw [h1]; exact p.1.isLt⟩]
  simp only [Option.some.injEq]
  exact Prod.ext (Fin.ext h1) (Fin.ext h2)

theorem flatOfPair_pairAt (i : Fin (dA * dB)) : flatOfPair (pairAt dA dB i) = i.val := by
  unfold flatOfPair pairAt
  exact Nat.div_add_mod' i.val dB

theorem pairAt_flatOfPair (p : Fin dA × Fin dB) : pairAt dA dB ⟨flatOfPair p, flatOfPair_lt p⟩ = p :=
  Prod.ext (Fin.ext (div_of_lt p.2.isLt)) (Fin.ext (mod_of_lt p.2.isLt))

/-- **the flat list is the row-major `reshape`**: position `flat(p)·N + flat(q)` of `toFlat M` holds `M p q` -/
theorem toFlat_getD {α : Type} [Zero α] (M : Fin dA × Fin dB → Fin dA × Fin dB → α) (p q : Fin dA × Fin dB) :
    (toFlat dA dB M).getD (flatOfPair p * (dA * dB) + flatOfPair q) 0 = M p q := by
  have hp := flatOfPair_lt p
  have hq := flatOfPair_lt q
  have hlt : flatOfPair p * (dA * dB) + flatOfPair q < (dA * dB) * (dA * dB) := mul_add_lt hp hq
  have h1 : (flatOfPair p * (dA * dB) + flatOfPair q) / (dA * dB) = flatOfPair p := div_of_lt hq
  have h2 : (flatOfPair p * (dA * dB) + flatOfPair q) % (dA * dB) = flatOfPair q := mod_of_lt hq
  unfold toFlat
  rw [List.getD_eq_getElem?_getD, List.getElem?_ofFn]
  simp only [hlt, dite_true, Option.getD_some]
  have e1 : pairAt dA dB ⟨(flatOfPair p * (dA * dB) + flatOfPair q) / (dA * dB), by rw [h1]; exact hp⟩ = p :=
    (congrArg (pairAt dA dB) (Fin.ext h1)).trans (pairAt_flatOfPair p)
  have e2 : pairAt dA dB ⟨(flatOfPair p * (dA * dB) + flatOfPair q) % (dA * dB), by rw [h2]; exact hq⟩ = q :=
    (congrArg (pairAt dA dB) (Fin.ext h2)).trans (pairAt_flatOfPair q)
  rw [e1, e2]

/-- **the executed partial transpose is numpy's `reshape(dA,dB,dA,dB).transpose(0,3,2,1).reshape(N,N)`**: entry
`[(a,b),(a',b')]` of the output list is entry `[(a,b'),(a',b)]` of the input list -/
theorem toFlat_ptB_ofFlat {α : Type} [Zero α] (l : List α) (p q : Fin dA × Fin dB) :
    (toFlat dA dB (ptB (ofFlat dA dB l))).getD (flatOfPair p * (dA * dB) + flatOfPair q) 0
      = l.getD (flatOfPair (p.1, q.2) * (dA * dB) + flatOfPair (q.1, p.2)) 0 := by
  rw [toFlat_getD]
  simp [ptB, ofFlat, List.getD_eq_getElem?_getD, Array.getD_eq_getD_getElem?]

end flat


/-! ### separable states are symmetric-extendible -/

section sepext
variable {dA dB : ℕ}

/-- the product vector `a ⊗ b^{⊗(k+1)}` -/
def prodVec (k : ℕ) (a : Fin dA → ℂ) (b : Fin dB → ℂ) : Fin dA × (Fin (k + 1) → Fin dB) → ℂ :=
  fun p => a p.1 * ∏ m, b (p.2 m)

/-- `Σ_i λ_i |a_i⟩⟨a_i| ⊗ (|b_i⟩⟨b_i|)^{⊗(k+1)}` -/
def sepExt (k : ℕ) {K : ℕ} (lam : Fin K → ℂ) (a : Fin K → Fin dA → ℂ) (b : Fin K → Fin dB → ℂ) :
    Matrix (Fin dA × (Fin (k + 1) → Fin dB)) (Fin dA × (Fin (k + 1) → Fin dB)) ℂ :=
  ∑ i, lam i • vecMulVec (prodVec k (a i) (b i)) (star (prodVec k (a i) (b i)))

theorem prodVec_symm (k : ℕ) (a : Fin dA → ℂ) (b : Fin dB → ℂ) (π : Equiv.Perm (Fin (k + 1)))
    (p : Fin dA × (Fin (k + 1) → Fin dB)) : prodVec k a b (p.1, p.2 ∘ π) = prodVec k a b p := by
  unfold prodVec
  simp only [Function.comp]
  rw [Equiv.prod_comp π (fun m => b (p.2 m))]

theorem prodVec_snoc (k : ℕ) (a : Fin dA → ℂ) (b : Fin dB → ℂ) (α : Fin dA) (r : Fin k → Fin dB) (x : Fin dB) :
    prodVec k a b (α, Fin.snoc r x) = a α * ((∏ m, b (r m)) * b x) := by
  unfold prodVec
  rw [Fin.prod_univ_castSucc]
  simp

/-- **a mixture of product projectors with unit `B`-kets has a symmetric extension to any number of copies** -/
theorem isSymExt_sepExt (k : ℕ) {K : ℕ} (lam : Fin K → ℂ) (hlam : ∀ i, 0 ≤ lam i) (a : Fin K → Fin dA → ℂ)
    (b : Fin K → Fin dB → ℂ) (hb : ∀ i, ∑ x, b i x * star (b i x) = 1) :
    IsSymExt k (Matrix.of (mixture lam a b)) (sepExt k lam a b) := by
  refine ⟨?_, ?_, ?_⟩
  · exact posSemidef_sum _ fun i _ => (posSemidef_vecMulVec_self_star _).smul (hlam i)
  · intro π p q
    simp only [sepExt, Matrix.sum_apply, Matrix.smul_apply, vecMulVec_apply, Pi.star_apply]
    refine Finset.sum_congr rfl fun i _ => ?_
    rw [prodVec_symm k (a i) (b i) π p, prodVec_symm k (a i) (b i) π q]
  · intro p q
    simp only [sepExt, Matrix.sum_apply, Matrix.smul_apply, vecMulVec_apply, Pi.star_apply, Matrix.of_apply, mixture,
      sumFin_eq, prodProj, conj_eq_star, smul_eq_mul, prodVec_snoc, star_mul']
    rw [Finset.sum_comm]
    refine Finset.sum_congr rfl fun i _ => ?_
    have hk : ∑ r : Fin k → Fin dB, (∏ m, b i (r m)) * (∏ m, star (b i (r m))) = 1 := by
      have := Fintype.sum_pow (fun x => b i x * star (b i x)) k
      rw [hb i, one_pow] at this
      rw [this]
      exact Finset.sum_congr rfl fun r _ => by rw [Finset.prod_mul_distrib]
    calc lam i * (a i p.1 * star (a i q.1) * (b i p.2 * star (b i q.2)))
        = lam i * (a i p.1 * star (a i q.1) * (b i p.2 * star (b i q.2)))
            * ∑ r : Fin k → Fin dB, (∏ m, b i (r m)) * (∏ m, star (b i (r m))) := by rw [hk, mul_one]
      _ = _ := by
          rw [Finset.mul_sum]
          refine Finset.sum_congr rfl fun r _ => ?_
          simp only [star_prod]
          ring

end sepext

/-- **the maximally mixed state is a mixture of product projectors with unit kets**:
`1/N = Σ_{(a,b)} (1/N) |e_a e_b⟩⟨e_a e_b|` -/
theorem center_eq_mixture (dA dB : ℕ) :
    (((1 / ((dA * dB : ℕ) : ℝ) : ℝ) : ℂ) • (1 : Matrix (Fin dA × Fin dB) (Fin dA × Fin dB) ℂ))
      = Matrix.of (mixture (K := dA * dB) (fun _ => ((1 / ((dA * dB : ℕ) : ℝ) : ℝ) : ℂ))
          (fun i => Pi.single (finProdFinEquiv.symm i).1 1) (fun i => Pi.single (finProdFinEquiv.symm i).2 1)) := by
  ext p q
  simp only [Matrix.smul_apply, Matrix.one_apply, smul_eq_mul, Matrix.of_apply, mixture, sumFin_eq, prodProj, conj_eq_star]
  rw [← Equiv.sum_comp finProdFinEquiv]
  simp only [Equiv.symm_apply_apply]
  rw [← Finset.mul_sum, Fintype.sum_eq_single p]
  · by_cases h : p = q
    · subst h; simp [Pi.single_apply]
    · have : ¬ (q.1 = p.1 ∧ q.2 = p.2) := fun ⟨h1, h2⟩ => h (Prod.ext h1.symm h2.symm)
      simp only [h, if_false, mul_zero, Pi.single_apply, if_true, star_one]
      by_cases h1 : q.1 = p.1
      · have h2 : ¬ q.2 = p.2 := fun h2 => this ⟨h1, h2⟩
        simp [h1, h2]
      · simp [h1]
  · intro x hx
    simp only [Pi.single_apply]
    by_cases h1 : p.1 = x.1
    · have h2 : ¬ p.2 = x.2 := fun h2 => hx (Prod.ext h1 h2).symm
      simp [h2]
    · simp [h1]

/-! ### side conditions of the boundary-length chains -/

section side
variable {n : Type} [Fintype n] [DecidableEq n]

/-- along a direction `v` with a negative Rayleigh value the positive-semidefinite `β` are bounded:
`β ≤ c·x†x / (-x†vx)` -/
theorem bddAbove_feasible_psd (c : ℝ) (v : Matrix n n ℂ) (x : n → ℂ) (s r : ℝ) (hs : star x ⬝ᵥ x = (s : ℂ))
    (hr : star x ⬝ᵥ (v *ᵥ x) = (r : ℂ)) (hneg : r < 0) :
    BddAbove (feasible {M : Matrix n n ℂ | M.PosSemidef} ((c : ℂ) • (1 : Matrix n n ℂ)) v) := by
  refine ⟨c * s / (-r), fun β hβ => ?_⟩
  have e : ((c : ℂ) • (1 : Matrix n n ℂ) + β • v) = (c : ℂ) • (1 : Matrix n n ℂ) + (β : ℂ) • v := by
    ext i j; simp
  have h' := affine_rayleigh_nonneg c β s r v x hs hr (e ▸ hβ.2)
  rw [le_div_iff₀ (by linarith)]
  linarith

end side

end Numqi.Boundary
