/-
C19: the bound `int(np.ceil((distance-nxy)/weight_z))` computed in binary64 (model `fceilDiv`) is the exact
ceiling or one less (used for `make_asymmetric_error_set` with a non-dyadic `weight_z` in `NumqiProps/C19ErrorSets.lean`).
-/
import NumqiProofs.QecAsym
import Mathlib.Data.Rat.Floor
import Mathlib.Algebra.Order.Floor.Ring

namespace Numqi.Qec

theorem rat_floor_eq (r : ℚ) : r.floor = ⌊r⌋ := rfl

theorem ratCeil_eq (r : ℚ) : ratCeil r = ⌈r⌉ := by
  unfold ratCeil; rw [rat_floor_eq, Int.floor_neg, neg_neg]

/-- rounding to the nearest integer stays between any two integers that enclose the argument -/
theorem roundHalfEven_between (r : ℚ) (A B : ℤ) (hA : (A : ℚ) ≤ r) (hB : r ≤ (B : ℚ)) :
    A ≤ roundHalfEven r ∧ roundHalfEven r ≤ B := by
  have hf : A ≤ ⌊r⌋ := Int.le_floor.2 hA
  have hfl : (⌊r⌋ : ℚ) ≤ r := Int.floor_le r
  have hcases : roundHalfEven r = r.floor ∨ (roundHalfEven r = r.floor + 1 ∧ r - (r.floor : ℚ) ≠ 0) := by
    unfold roundHalfEven
    simp only
    by_cases h1 : r - (r.floor : ℚ) < 1 / 2
    · left; rw [if_pos h1]
    · rw [if_neg h1]
      have hne : r - (r.floor : ℚ) ≠ 0 := fun e => by rw [e] at h1; norm_num at h1
      by_cases h2 : 1 / 2 < r - (r.floor : ℚ)
      · right; rw [if_pos h2]; exact ⟨rfl, hne⟩
      · rw [if_neg h2]
        by_cases h3 : r.floor % 2 = 0
        · left; rw [if_pos h3]
        · right; rw [if_neg h3]; exact ⟨rfl, hne⟩
  rw [rat_floor_eq] at hcases
  have hup : r - ⌊r⌋ ≠ 0 → ⌊r⌋ + 1 ≤ B := by
    intro hne
    have : (⌊r⌋ : ℚ) < r := lt_of_le_of_ne hfl (fun e => hne (by rw [e]; ring))
    have : (⌊r⌋ : ℚ) < B := lt_of_lt_of_le this hB
    have : ⌊r⌋ < B := by exact_mod_cast this
    omega
  have hlo : ⌊r⌋ ≤ B := by
    have : (⌊r⌋ : ℚ) ≤ B := le_trans hfl hB
    exact_mod_cast this
  rcases hcases with h | ⟨h, hne⟩
  · rw [h]; exact ⟨hf, hlo⟩
  · rw [h]; exact ⟨by omega, hup hne⟩

theorem ratTwoPow_nonneg (k : Nat) : ratTwoPow (Int.ofNat k) = ((2 ^ k : ℕ) : ℚ) := by
  simp [ratTwoPow]

/-- **the binary64 quotient lies between the floor and the ceiling of the exact quotient**
(quotients below `2^53`, i.e. non-negative shift): consequently `ceil` of it is `⌈q⌉` or `⌈q⌉ - 1`. -/
theorem f64Round_between (q : ℚ) (hq : 0 < q) (ht : 0 ≤ f64Shift q) :
    (⌊q⌋ : ℚ) ≤ f64Round q ∧ f64Round q ≤ (⌈q⌉ : ℚ) := by
  unfold f64Round
  rw [if_neg (not_le.2 hq)]
  simp only
  obtain ⟨k, hk⟩ := Int.eq_ofNat_of_zero_le ht
  rw [hk]
  have hS : ratTwoPow (Int.ofNat k) = ((2 ^ k : ℕ) : ℚ) := ratTwoPow_nonneg k
  rw [show ratTwoPow ((k : ℕ) : ℤ) = ((2 ^ k : ℕ) : ℚ) from hS]
  have hSpos : (0 : ℚ) < ((2 ^ k : ℕ) : ℚ) := by positivity
  have hb := roundHalfEven_between (q * ((2 ^ k : ℕ) : ℚ)) (⌊q⌋ * (2 ^ k : ℕ)) (⌈q⌉ * (2 ^ k : ℕ))
    (by push_cast; exact mul_le_mul_of_nonneg_right (Int.floor_le q) (by positivity))
    (by push_cast; exact mul_le_mul_of_nonneg_right (Int.le_ceil q) (by positivity))
  constructor
  · rw [le_div_iff₀ hSpos]
    have : ((⌊q⌋ * ((2 ^ k : ℕ) : ℤ) : ℤ) : ℚ) ≤ (roundHalfEven (q * ((2 ^ k : ℕ) : ℚ)) : ℚ) := by exact_mod_cast hb.1
    push_cast at this ⊢
    exact this
  · rw [div_le_iff₀ hSpos]
    have : (roundHalfEven (q * ((2 ^ k : ℕ) : ℚ)) : ℚ) ≤ ((⌈q⌉ * ((2 ^ k : ℕ) : ℤ) : ℤ) : ℚ) := by exact_mod_cast hb.2
    push_cast at this ⊢
    exact this

/-- `int(np.ceil(a / w))` in binary64 is the exact `⌈a / w⌉` or one less (never more) -/
theorem fceilDiv_bounds (a wBits : Nat) (hw : 0 < ratOfFloatBits wBits) (ha : 0 < a)
    (ht : 0 ≤ f64Shift (((a : ℤ) : ℚ) / ratOfFloatBits wBits)) :
    (fceilDiv a wBits : ℤ) ≤ ⌈((a : ℤ) : ℚ) / ratOfFloatBits wBits⌉
    ∧ ⌈((a : ℤ) : ℚ) / ratOfFloatBits wBits⌉ - 1 ≤ (fceilDiv a wBits : ℤ) := by
  set q : ℚ := ((a : ℤ) : ℚ) / ratOfFloatBits wBits with hqd
  have hq : 0 < q := by
    apply div_pos _ hw
    exact_mod_cast ha
  obtain ⟨h1, h2⟩ := f64Round_between q hq ht
  unfold fceilDiv
  rw [ratCeil_eq, ← hqd]
  have hc1 : ⌈f64Round q⌉ ≤ ⌈q⌉ := Int.ceil_le.2 h2
  have hc2 : ⌊q⌋ ≤ ⌈f64Round q⌉ := by
    have : (⌊q⌋ : ℚ) ≤ (⌈f64Round q⌉ : ℚ) := le_trans h1 (Int.le_ceil _)
    exact_mod_cast this
  have hc3 : ⌈q⌉ ≤ ⌊q⌋ + 1 := Int.ceil_le_floor_add_one q
  have hpos : 0 ≤ ⌈f64Round q⌉ := le_trans (Int.floor_nonneg.2 hq.le) hc2
  rw [Int.toNat_of_nonneg hpos]
  exact ⟨hc1, by omega⟩

end Numqi.Qec
