/-
C07: per-gate conjugation on an n-qubit register and the end-to-end theorem
(tableau answer = conjugation by the unitary of the exported circuit), for every n.
-/
import NumqiProofs.CliffordDense
import NumqiProofs.ScalarInstances
namespace Numqi.Clifford
open Numqi Matrix
variable {R : Type} [CommRing R]

/-- the tableaux of the adjoint gates, as literals -/
def dagTable : GateKey → Tab
  | .X => ⟨1, 2, [1, 2]⟩ | .Y => ⟨1, 3, [1, 2]⟩ | .Z => ⟨1, 1, [1, 2]⟩ | .H => ⟨1, 0, [2, 1]⟩ | .S => ⟨1, 1, [3, 2]⟩
  | .CX => ⟨2, 0, [3, 2, 4, 12]⟩ | .CY => ⟨2, 0, [11, 6, 4, 12]⟩ | .CZ => ⟨2, 0, [9, 6, 4, 8]⟩

/-- a one-qubit gate matrix of the model (`GateKey.mat`, the integer form `√scale · G`) over `R` -/
def gateMat1 (I : R) (key : GateKey) : Matrix (Bits 1) (Bits 1) R :=
  fun a b => gintTo I (key.mat.get a.toNat b.toNat)

theorem gateMat1_eq (I : R) (key : GateKey) (a b : Bits 1) : gateMat1 I key a b = gintTo I (gateMat1G key a b) := rfl

/-- the controlled gate as a two-qubit matrix (control = first qubit) -/
def ctrl2 (U : Matrix (Bits 1) (Bits 1) R) : Matrix (Bits 2) (Bits 2) R :=
  fun a b => if a 0 then (if b 0 then U (fun _ => a 1) (fun _ => b 1) else 0)
    else (if b 0 then 0 else if a 1 = b 1 then 1 else 0)

theorem ctrl2_gintTo (I : R) (M : Numqi.Mat 1 GInt) (a b : Bits 2) :
    ctrl2 (fun x y => gintTo I (M x y)) a b = gintTo I (ctrl2 M a b) := by
  unfold ctrl2
  split_ifs <;> simp only [gintTo_zero, gintTo_one]

/-! ### the 22 local generator identities: a finite table over ℤ[i], carried to `R` -/

/-- the gate matrices `gateMat1`, `ctrl2` (over ℤ[i]) have the entries of the table's `gateOnN` … -/
private theorem gateOn_lit :
    ((([.X, .Y, .Z, .H, .S] : List GateKey).all fun key => (List.range 2).all fun r => (List.range 2).all fun c =>
      gateMat1G key (bitsOfIndex 1 r) (bitsOfIndex 1 c) == gateOnNEnt 1 key.mat [0] r c) &&
    (([.CX, .CY, .CZ] : List GateKey).all fun key => (List.range 4).all fun r => (List.range 4).all fun c =>
      ctrl2 (gateMat1G key.base) (bitsOfIndex 2 r) (bitsOfIndex 2 c) == gateOnNEnt 2 key.mat [0, 1] r c)) = true := by
  decide +kernel

/-- … and the table holds on the generators -/
private theorem local_lit :
    ((([.X, .Y, .Z, .H, .S] : List GateKey).all fun key => (List.range 2).all fun b =>
      intertwines 1 key.mat [0] (dagTable key) (gen b)) &&
    (([.CX, .CY, .CZ] : List GateKey).all fun key => (List.range 4).all fun b =>
      intertwines 2 key.mat [0, 1] (dagTable key) (gen b))) = true := by
  decide +kernel

theorem local1 {I : R} (hI : I * I = -1) (key : GateKey) (hk : key.arity = 1) (b : Nat) (hb : b < 2) :
    PM 1 I (gen b) * gateMat1 I key = gateMat1 I key * PM 1 I (applyOnPauli (gen b) (dagTable key)) := by
  have hk' : key ∈ ([.X, .Y, .Z, .H, .S] : List GateKey) := by cases key <;> simp [GateKey.arity] at hk ⊢
  have h := local_lit
  have e := gateOn_lit
  simp only [Bool.and_eq_true, List.all_eq_true, List.mem_range, beq_iff_eq] at h e
  refine inter_of_table hI (h.1 key hk' b hb) (fun x y => ?_)
  rw [← e.1 key hk' _ x.toNat_lt _ y.toNat_lt, gateMat1_eq]
  exact congrArg (gintTo I) (congrArg₂ _ (Bits.ofNat_toNat x).symm (Bits.ofNat_toNat y).symm)

theorem local2 {I : R} (hI : I * I = -1) (key : GateKey) (hk : key.arity = 2) (b : Nat) (hb : b < 4) :
    PM 2 I (gen b) * ctrl2 (gateMat1 I key.base) =
      ctrl2 (gateMat1 I key.base) * PM 2 I (applyOnPauli (gen b) (dagTable key)) := by
  have hk' : key ∈ ([.CX, .CY, .CZ] : List GateKey) := by cases key <;> simp [GateKey.arity] at hk ⊢
  have h := local_lit
  have e := gateOn_lit
  simp only [Bool.and_eq_true, List.all_eq_true, List.mem_range, beq_iff_eq] at h e
  refine inter_of_table hI (h.2 key hk' b hb) (fun x y => ?_)
  rw [← e.2 key hk' _ x.toNat_lt _ y.toNat_lt]
  exact (ctrl2_gintTo I (gateMat1G key.base) x y).trans
    (congrArg (gintTo I) (congrArg₂ _ (Bits.ofNat_toNat x).symm (Bits.ofNat_toNat y).symm))

/-! ### one placed gate: the embedded adjoint tableau is conjugation by the embedded gate -/

theorem place_pow {n : Nat} {qs : List Nat} {b : Nat} (hb : b < 2 * qs.length) :
    place n qs (2 ^ b) = 2 ^ idx n qs b := by
  unfold place
  rw [matVec_pow, index_length, if_pos hb, unit_getD n qs b hb]

/-- `inter_of_gens` and its mirrored form for a tableau whose size is `n` through an equation `T.n = n` (an embedded or
extracted tableau), so that the matrices are indexed by `Bits n` and not by `Bits T.n` -/
theorem inter_of_gens_n {n : Nat} {I : R} (hI : I * I = -1) (T : Tab) (hTn : T.n = n) (hT : T.colSp = true)
    (E : Matrix (Bits n) (Bits n) R)
    (hgen : ∀ k, k < 2 * n → PM n I (gen k) * E = E * PM n I (applyOnPauli (gen k) T)) :
    ∀ p : PauliB, p.v < 4 ^ n → PM n I p * E = E * PM n I (applyOnPauli p T) := by
  subst hTn; exact inter_of_gens hI T hT E hgen

theorem inter_of_gens_n' {n : Nat} {I : R} (hI : I * I = -1) (T : Tab) (hTn : T.n = n) (hT : T.colSp = true)
    (E : Matrix (Bits n) (Bits n) R)
    (hgen : ∀ k, k < 2 * n → E * PM n I (gen k) = PM n I (applyOnPauli (gen k) T) * E) :
    ∀ p : PauliB, p.v < 4 ^ n → E * PM n I p = PM n I (applyOnPauli p T) * E := by
  subst hTn; exact inter_of_gens' hI T hT E hgen

section gate
variable {n : Nat} {qs : List Nat} (hv : ValidQs n qs)
  (t : Fin qs.length → Fin n) (ht : ∀ b, (t b).val = qs.getD b.val 0)
include hv ht

/-- **Placed gate.**  If the local operator `G` intertwines the `2k` local generators with their images under the local
tableau `loc`, then `G` on the qubits `qs` of an `n`-qubit register intertwines *every* `n`-qubit phased Pauli `P` with
`applyOnPauli P (embed n loc qs)`:  `P · embed(G) = embed(G) · apply(P)`. -/
theorem placed_gate_inter {I : R} (hI : I * I = -1) (loc : Tab) (hk : loc.n = qs.length) (hloc : loc.colSp = true)
    (G : Matrix (Bits qs.length) (Bits qs.length) R)
    (hlocal : ∀ b, b < 2 * qs.length →
      PM qs.length I (gen b) * G = G * PM qs.length I (applyOnPauli (gen b) loc))
    (p : PauliB) (hp : p.v < 4 ^ n) :
    PM n I p * Matrix.of (Numqi.embed G t) =
      Matrix.of (Numqi.embed G t) * PM n I (applyOnPauli p (Clifford.embed n loc qs)) := by
  have hinj := t_inj hv t ht
  have hT : (Clifford.embed n loc qs).colSp = true := embed_colSp hv loc hk hloc
  have hTn : (Clifford.embed n loc qs).n = n := rfl
  refine inter_of_gens_n (n := n) hI (Clifford.embed n loc qs) hTn hT (Matrix.of (Numqi.embed G t)) ?_ p hp
  intro kg hkg
  have hkg' : kg < 2 * n := hkg
  rw [apply_gen _ kg (by rw [hTn]; exact hkg)]
  have hr : (Clifford.embed n loc qs).r = place n qs loc.r := rfl
  cases hpos : pos n qs kg with
  | some b =>
    obtain ⟨hb, hidx⟩ := pos_some hpos
    have hcol : (Clifford.embed n loc qs).cols.getD kg 0 = place n qs (loc.cols.getD b 0) := by
      rw [embed_getD n loc qs hkg', hpos]
    have hd : (Clifford.embed n loc qs).d kg = loc.d b := by
      simp only [Tab.d, hcol, hk]
      exact cnt_place hv t ht _
    have hrb : (Clifford.embed n loc qs).r.testBit kg = loc.r.testBit b := by
      rw [hr, ← hidx]; exact testBit_place_idx hv loc.r hb
    have himg : genImage (Clifford.embed n loc qs) kg =
        ⟨(genImage loc b).s0, (genImage loc b).s1, place n qs (genImage loc b).v⟩ := by
      simp only [genImage, hd, hrb, hcol]
    have hgen : gen kg = ⟨(gen b).s0, (gen b).s1, place n qs (gen b).v⟩ := by
      simp only [gen]; rw [place_pow hb, hidx]
    rw [himg, hgen]
    rw [PM_place hv t ht hI (gen b), PM_place hv t ht hI (genImage loc b), ← C03.embed_mul hinj,
      ← C03.embed_mul hinj, ← apply_gen loc b (by rw [hk]; exact hb), hlocal b hb]
  | none =>
    have hnone := pos_none hpos
    have hcol : (Clifford.embed n loc qs).cols.getD kg 0 = 2 ^ kg := by
      rw [embed_getD n loc qs hkg', hpos]
    have hd : (Clifford.embed n loc qs).d kg = 0 := by
      simp only [Tab.d, hcol]; exact cnt_pow_self n kg
    have hrb : (Clifford.embed n loc qs).r.testBit kg = false := by
      rw [hr]; exact testBit_place_out hv loc.r hnone
    have himg : genImage (Clifford.embed n loc qs) kg = gen kg := by
      simp only [genImage, hd, hrb, hcol, gen]; rfl
    rw [himg]
    apply PM_comm_embed t hI
    · intro b
      simp only [toPauli, gen, Nat.testBit_two_pow]
      have := hnone b.val (by have := b.isLt; omega)
      rw [t_idx_low hv t ht b] at this
      simpa using Ne.symm this
    · intro b
      simp only [toPauli, gen, Nat.testBit_two_pow]
      have := hnone (b.val + qs.length) (by have := b.isLt; omega)
      rw [t_idx_high hv t ht b] at this
      simpa using Ne.symm this

end gate

/-- a controlled one-qubit gate (one control) is the two-qubit matrix `ctrl2 U` embedded on `(control, target)` -/
theorem ctrlEmbed_eq_embed {n : Nat} (U : Matrix (Bits 1) (Bits 1) R) (c tg : Fin n) (hct : c ≠ tg)
    (isCtrl : Fin n → Bool) (hc : ∀ i, isCtrl i = true ↔ i = c) (tt : Fin 1 → Fin n) (htt : tt 0 = tg)
    (t : Fin 2 → Fin n) (ht0 : t 0 = c) (ht1 : t 1 = tg) :
    (Matrix.of (ctrlEmbed U isCtrl tt) : Matrix (Bits n) (Bits n) R) = Matrix.of (Numqi.embed (ctrl2 U) t) := by
  ext x x'
  have hon : ctrlOn isCtrl x = x c := by
    rw [Bool.eq_iff_iff, ctrlOn_iff]
    exact ⟨fun h => h c ((hc c).2 rfl), fun h i hi => (hc i).1 hi ▸ h⟩
  -- agreement off the target = agreement off control and target, and at the control
  have hag : Bits.agreeOff x x' tt = (Bits.agreeOff x x' t && (x c == x' c)) := by
    rw [Bool.eq_iff_iff, Bool.and_eq_true, beq_iff_eq, Bits.agreeOff_iff, Bits.agreeOff_iff]
    constructor
    · intro h
      refine ⟨fun i hi => h i (fun j => ?_), h c (fun j => ?_)⟩
      · rw [Fin.fin_one_eq_zero j, htt, ← ht1]; exact hi 1
      · rw [Fin.fin_one_eq_zero j, htt]; exact hct.symm
    · rintro ⟨h, hcc⟩ i hi
      by_cases hic : i = c
      · rw [hic]; exact hcc
      · refine h i (fun j => ?_)
        fin_cases j
        · simpa [ht0] using Ne.symm hic
        · simpa [ht1, ← htt] using hi 0
  have hbeq : Bits.beq x x' = (Bits.agreeOff x x' tt && (x tg == x' tg)) := by
    rw [Bool.eq_iff_iff, Bool.and_eq_true, beq_iff_eq, Bits.beq_iff, Bits.agreeOff_iff]
    constructor
    · rintro rfl; exact ⟨fun _ _ => rfl, rfl⟩
    · rintro ⟨h, htg⟩
      funext i
      by_cases hi : i = tg
      · rw [hi]; exact htg
      · exact h i (fun j => by rw [Fin.fin_one_eq_zero j, htt]; exact Ne.symm hi)
  have hsel : ∀ y : Bits n, y.sel tt = fun _ => y tg := fun y => funext fun j => by
    simp only [Bits.sel]; rw [Fin.fin_one_eq_zero j, htt]
  simp only [Matrix.of_apply, ctrlEmbed, Numqi.embed, ctrl2, Bits.sel, ht0, ht1, hon, hbeq, hag, hsel]
  cases Bits.agreeOff x x' t <;> cases x c <;> cases x' c <;> simp

/-! ### the gates of a recorded circuit -/

theorem matVec_lt {cols : List Nat} {m N : Nat} (h : ∀ j, j < m → cols.getD j 0 < 2 ^ N) (v : Nat) :
    matVec cols v m < 2 ^ N := by
  induction m with
  | zero => simp [matVec]
  | succ m ih =>
    rw [matVec]
    refine SpF2.xor_lt (ih (fun j hj => h j (by omega))) ?_
    split
    · exact h m (by omega)
    · positivity

theorem place_lt {n : Nat} {qs : List Nat} (hv : ValidQs n qs) (w : Nat) : place n qs w < 2 ^ (2 * n) := by
  unfold place
  apply matVec_lt
  intro j hj
  rw [index_length] at hj
  rw [unit_getD n qs j hj]
  apply Nat.pow_lt_pow_right (by norm_num)
  by_cases h : j < qs.length
  · have := (idx_low hv h).2; omega
  · have := idx_high hv (a := j) (by omega) hj; omega

theorem embed_apply_lt {n : Nat} {qs : List Nat} (hv : ValidQs n qs) (loc : Tab) (p : PauliB) :
    (applyOnPauli p (Clifford.embed n loc qs)).v < 4 ^ n := by
  rw [apply_v, SpF2.four_pow]
  apply matVec_lt
  intro j hj
  have hj' : j < 2 * n := hj
  rw [embed_getD n loc qs hj']
  cases pos n qs j with
  | some b => exact place_lt hv _
  | none => exact Nat.pow_lt_pow_right (by norm_num) hj'

theorem dagTable_n (key : GateKey) : (dagTable key).n = key.arity := by cases key <;> rfl
theorem dagTable_colSp (key : GateKey) : (dagTable key).colSp = true := by cases key <;> decide

/-- `clifford_array_to_F2` run on the adjoint gate matrix returns the literal tableau -/
theorem basicDaggerF2_dagTable (key : GateKey) : basicDaggerF2 key = some (dagTable key) := by
  cases key <;> decide +kernel

/-- the operator of a recorded gate on `n` qubits as `to_universal_circuit` exports it: `X, Y, Z, S` and `h·(√2·H)` as
one-qubit gates (`h` = the normalisation of `H`, `1/√2` over `ℂ`), `CX, CY, CZ` as `X, Y, Z` controlled by the first index -/
def gateMatrixN (I h : R) (n : Nat) (g : Gate) : Matrix (Bits n) (Bits n) R :=
  match g.idx with
  | [q] =>
    if hq : q < n then
      Matrix.of (Numqi.embed ((if g.key = .H then h else 1) • gateMat1 I g.key) (fun _ : Fin 1 => ⟨q, hq⟩))
    else 1
  | [q0, q1] =>
    if hq : q0 < n ∧ q1 < n then
      Matrix.of (ctrlEmbed (gateMat1 I g.key.base) (fun i : Fin n => decide (i.val = q0)) (fun _ : Fin 1 => ⟨q1, hq.2⟩))
    else 1
  | _ => 1

/-- **the executed operator `gateOpG` (driver op `opmat`, tied to `Circuit.to_unitary`) is, entry by entry under
`ℤ[i] → R`, the operator `gateMatrixN` of `gate_conjugation_placed` / `circuit_conjugation`** (with `H` unnormalised) -/
theorem gateMatrixN_eq_gateOpG (I : R) (n : Nat) (g : Gate) :
    gateMatrixN I 1 n g = Matrix.of (fun x y => gintTo I (gateOpG n g x y)) := by
  have hid : (1 : Matrix (Bits n) (Bits n) R) =
      Matrix.of (fun x y => gintTo I (if Bits.beq x y then (1 : GInt) else 0)) := by
    ext x y
    simp only [Matrix.one_apply, Matrix.of_apply, Bits.beq_iff]
    split <;> simp [gintTo_one, gintTo_zero]
  obtain ⟨key, idx⟩ := g
  rcases idx with _ | ⟨q0, _ | ⟨q1, _ | ⟨q2, rest⟩⟩⟩
  · simp only [gateMatrixN, gateOpG]; exact hid
  · simp only [gateMatrixN, gateOpG]
    split
    · ext x y
      simp only [Matrix.of_apply, Numqi.embed, ite_self, one_smul]
      split
      · rfl
      · exact (gintTo_zero I).symm
    · exact hid
  · simp only [gateMatrixN, gateOpG]
    split
    · ext x y
      simp only [Matrix.of_apply, Numqi.ctrlEmbed, Numqi.embed]
      split
      · split
        · rfl
        · exact (gintTo_zero I).symm
      · split
        · exact (gintTo_one I).symm
        · exact (gintTo_zero I).symm
    · exact hid
  · simp only [gateMatrixN, gateOpG]; exact hid

/-- **One placed gate**: for every gate of a well-formed record on `n` qubits and every phased Pauli `P`,
`P · G = G · Q` with `Q` the answer of the gate's embedded adjoint tableau (`gateAct`), phase included. -/
theorem gate_conjugation {I : R} (hI : I * I = -1) (h : R) (n : Nat) (g : Gate)
    (hlen : g.idx.length = g.key.arity) (hnd : g.idx.Nodup) (hlt : ∀ q ∈ g.idx, q < n)
    (p : PauliB) (hp : p.v < 4 ^ n) :
    PM n I p * gateMatrixN I h n g = gateMatrixN I h n g * PM n I (gateAct n p g) ∧ (gateAct n p g).v < 4 ^ n := by
  have hv : ValidQs n g.idx := ⟨hnd, hlt⟩
  simp only [gateAct, basicDaggerF2_dagTable]
  refine ⟨?_, embed_apply_lt hv _ p⟩
  obtain ⟨key, idx⟩ := g
  simp only at hlen hnd hlt hv ⊢
  rcases idx_cases hlen with ⟨q0, rfl, hk⟩ | ⟨q0, q1, rfl, hk⟩
  · have hq : q0 < n := hlt q0 (by simp)
    simp only [gateMatrixN, dif_pos hq]
    let t : Fin [q0].length → Fin n := fun _ => ⟨q0, hq⟩
    have ht : ∀ b : Fin [q0].length, (t b).val = [q0].getD b.val 0 := by
      intro b
      have : b.val = 0 := by have := b.isLt; simp at this; omega
      simp [t]
    exact placed_gate_inter hv t ht hI (dagTable key) (by rw [dagTable_n, hk]; rfl) (dagTable_colSp key)
      ((if key = .H then h else 1) • gateMat1 I key)
      (fun b hb => by
        have := local1 hI key hk b (by simpa using hb)
        show PM 1 I (gen b) * _ = _ * PM 1 I _
        rw [Matrix.mul_smul, Matrix.smul_mul, this]) p hp
  · have hq0 : q0 < n := hlt q0 (by simp)
    have hq1 : q1 < n := hlt q1 (by simp)
    have hne : q0 ≠ q1 := by
      intro e; subst e; simp at hnd
    simp only [gateMatrixN, dif_pos (And.intro hq0 hq1)]
    let t : Fin [q0, q1].length → Fin n := fun b => if b.val = 0 then ⟨q0, hq0⟩ else ⟨q1, hq1⟩
    have ht : ∀ b : Fin [q0, q1].length, (t b).val = [q0, q1].getD b.val 0 := by
      intro b
      have hb : b.val = 0 ∨ b.val = 1 := by have := b.isLt; simp at this; omega
      rcases hb with hb | hb
      · simp only [t, hb, if_true]; rfl
      · simp only [t, hb]; rfl
    rw [ctrlEmbed_eq_embed (gateMat1 I key.base) ⟨q0, hq0⟩ ⟨q1, hq1⟩ (fun e => hne (by simpa using congrArg Fin.val e))
      (fun i : Fin n => decide (i.val = q0)) (fun i => by simp [Fin.ext_iff]) (fun _ => ⟨q1, hq1⟩) rfl t rfl rfl]
    exact placed_gate_inter hv t ht hI (dagTable key) (by rw [dagTable_n, hk]; rfl) (dagTable_colSp key)
      (ctrl2 (gateMat1 I key.base)) (fun b hb => local2 hI key hk b (by simpa using hb)) p hp

/-! ### whole circuits -/

/-- the unitary of the exported universal circuit: product of the gate operators, last gate leftmost
(`C03.circuitMatrix` of the exported gate list, see `circuitUnitary_eq_circuitMatrix`) -/
def circuitUnitary (I h : R) (n : Nat) (gates : List Gate) : Matrix (Bits n) (Bits n) R :=
  ((gates.map (gateMatrixN I h n)).reverse).prod

theorem circuitUnitary_cons (I h : R) (n : Nat) (g : Gate) (gates : List Gate) :
    circuitUnitary I h n (g :: gates) = circuitUnitary I h n gates * gateMatrixN I h n g := by
  simp [circuitUnitary]

/-- sequential gate action is conjugation by the circuit unitary -/
theorem seq_conjugation {I : R} (hI : I * I = -1) (h : R) (n : Nat) (gates : List Gate)
    (hwf : GatesWF gates) (hlt : ∀ g ∈ gates, ∀ q ∈ g.idx, q < n) (p : PauliB) (hp : p.v < 4 ^ n) :
    PM n I p * circuitUnitary I h n gates =
        circuitUnitary I h n gates * PM n I (gates.reverse.foldl (gateAct n) p) ∧
      (gates.reverse.foldl (gateAct n) p).v < 4 ^ n := by
  induction gates with
  | nil => simp [circuitUnitary, hp]
  | cons g gates ih =>
    obtain ⟨ih1, ih2⟩ := ih (fun g' hg' => hwf g' (List.mem_cons_of_mem _ hg'))
      (fun g' hg' => hlt g' (List.mem_cons_of_mem _ hg'))
    obtain ⟨w1, w2⟩ := hwf g List.mem_cons_self
    obtain ⟨hg1, hg2⟩ := gate_conjugation hI h n g w1 w2 (hlt g List.mem_cons_self) _ ih2
    rw [List.reverse_cons, List.foldl_append, List.foldl_cons, List.foldl_nil, circuitUnitary_cons]
    refine ⟨?_, hg2⟩
    rw [← Matrix.mul_assoc, ih1, Matrix.mul_assoc, hg1, Matrix.mul_assoc]

/-- **End to end**: for every well-formed recorded gate list and every phased Pauli `P` on its `n` qubits, the answer of the
tableau simulator (`to_symplectic_form` + `apply_clifford_on_pauli`) satisfies `P · U = U · answer`, with `U` the unitary of the
exported universal circuit — i.e. `answer = U⁻¹ P U`, phase included. -/
theorem circuit_conjugation_all {I : R} (hI : I * I = -1) (h : R) (gates : List Gate) (hwf : GatesWF gates)
    (t : Tab) (ht : symplecticOf gates = .ok t) :
    ∃ n, numQubit gates = .ok n ∧ t.n = n ∧ ∀ p : PauliB, p.v < 4 ^ n →
      PM n I p * circuitUnitary I h n gates = circuitUnitary I h n gates * PM n I (applyOnPauli p t) := by
  obtain ⟨n, h1, h2, h3⟩ := symplecticOf_sequential gates hwf
    (fun k => ⟨dagTable k, basicDaggerF2_dagTable k, dagTable_n k, dagTable_colSp k⟩) t ht
  refine ⟨n, h1, h2, fun p hp => ?_⟩
  rw [h3 p, apply_id n p hp]
  exact (seq_conjugation hI h n gates hwf (fun g hg q hq => numQubit_spec h1 g hg q hq) p hp).1

end Numqi.Clifford
