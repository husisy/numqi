/- Model-specific lemmas for C01: the ensemble PSD map. -/
import NumqiProofs.ManifoldPsd

namespace Numqi.Manifold
open Matrix Finset
open scoped ComplexOrder

variable {dim rank : Nat}

/-! ### `to_trace1_psd_ensemble` -/

/-- weights and unit vectors of the ensemble as functions -/
noncomputable def ensP (rank : Nat) (θ : Nat → ℝ) (k : Fin rank) : ℝ := softmaxVec rank θ k.val
noncomputable def ensPsi (dim rank : Nat) (isReal : Bool) (θ : Nat → ℝ) (k : Fin rank) (i : Fin dim) : ℂ :=
  (ensemblePsi (K := ℂ) dim rank isReal θ).get k.val i.val

theorem toM_psdEnsemble (isReal : Bool) (θ : Nat → ℝ) :
    toM dim dim (psdEnsemble (K := ℂ) dim rank isReal θ)
      = ∑ k : Fin rank, ((ensP rank θ k : ℝ) : ℂ) • vecMulVec (ensPsi dim rank isReal θ k) (star (ensPsi dim rank isReal θ k)) := by
  ext i j
  simp only [toM, psdEnsemble, Matrix.of_apply, NMat.get_ofFn_fin, sumK_eq, Matrix.sum_apply, Matrix.smul_apply,
    vecMulVec_apply, smul_eq_mul, Pi.star_apply]
  refine Finset.sum_congr rfl (fun k _ => ?_)
  rw [NMat.get_ofFn _ _ _ Nat.zero_lt_one k.isLt]
  simp only [ensP, ensPsi, CxOps.ofReal, CxOps.conj, mul_assoc]
  rfl

/-- the unit vectors have norm one when their parameter block is non-zero -/
theorem ensPsi_normSq (isReal : Bool) (θ : Nat → ℝ) (k : Fin rank)
    (hθ : normSq (if isReal then dim else 2 * dim) (fun q => θ (rank + k.val * (if isReal then dim else 2 * dim) + q)) ≠ 0) :
    ∑ i : Fin dim, Complex.normSq (ensPsi dim rank isReal θ k i) = 1 := by
  cases isReal with
  | true =>
    simp only [if_true] at hθ
    have := sphereQuotient_normSq dim _ hθ
    rw [normSq_eq, Finset.sum_range] at this
    rw [← this]
    refine Finset.sum_congr rfl (fun i _ => ?_)
    simp only [ensPsi, ensemblePsi, NMat.get_ofFn_fin, if_true, CxOps.ofReal, Complex.normSq_ofReal]
  | false =>
    simp only [Bool.false_eq_true, if_false] at hθ
    have := sphereQuotient_normSq (2 * dim) _ hθ
    rw [two_mul, ← pairCx_normSq, Finset.sum_range] at this
    rw [← this]
    refine Finset.sum_congr rfl (fun i _ => ?_)
    simp only [ensPsi, ensemblePsi, NMat.get_ofFn_fin, Bool.false_eq_true, if_false, two_mul]

end Numqi.Manifold
