/-
C09: analysis of one level of `from_int_tuple` / `to_int_tuple` (the coset construction by
transvections) — membership in Sp, well-formedness, and the round trip.
-/
import NumqiProofs.SpF2Lemmas

namespace Numqi.SpF2

/-! ### conjugating a transvection by transvections -/

theorem tv_tv_conj (n x y c : Nat) : tv n (tv n y c) (tv n x c) = tv n (tv n y x) c := by
  have h : tv n (tv n y c) (tv n x c) = tv n y c ^^^ (if ip n y x then tv n x c else 0) := by
    conv_lhs => rw [tv]
    rw [ip_tv_tv]
  rw [h]
  conv_rhs => rw [tv.eq_1 n y x]
  rw [tv_xor]
  by_cases hyx : ip n y x = true
  · simp [hyx]
  · simp [hyx, tv_zero_left]

/-- the composite of the two transvections of `find_transvection(u, v)`, `ret[1]` first (the order of `from_int_tuple` and
`to_int_tuple`): it maps `u` to `v` -/
def cm (n u v x : Nat) : Nat := tv n (tv n x (findTv n u v).2) (findTv n u v).1

/-- the remaining transvections `h0`, (`f1`) pulled back through `cm`: by `e'`, then (if `b[0] = 0`) by `e1` -/
def dmap (n b x : Nat) : Nat :=
  if b.testBit 0 then tv n x (ePrime n b) else tv n (tv n x (ePrime n b)) 1

theorem ip_dmap (n b x y : Nat) : ip n (dmap n b x) (dmap n b y) = ip n x y := by
  unfold dmap; split
  · rw [ip_tv_tv]
  · rw [ip_tv_tv, ip_tv_tv]

theorem cm_conj (n u v x y : Nat) : tv n (cm n u v y) (cm n u v x) = cm n u v (tv n y x) := by
  unfold cm; rw [tv_tv_conj, tv_tv_conj]

theorem ip_cm (n u v x y : Nat) : ip n (cm n u v x) (cm n u v y) = ip n x y := by
  unfold cm; rw [ip_tv_tv, ip_tv_tv]

/-- `find_transvection(v, u)` undoes `find_transvection(u, v)` -/
theorem cm_cm (n u v x : Nat) : cm n v u (cm n u v x) = x := findTv_undo n u v x

section
variable {n u v : Nat} (h0 : u ≠ 0) (h1 : v ≠ 0) (hu : u < 4 ^ n) (hv : v < 4 ^ n)
include h0 h1 hu hv

theorem cm_self : cm n u v u = v := findTv_spec_rev n u v h0 h1 hu hv

theorem cm_lt {x : Nat} (hx : x < 4 ^ n) : cm n u v x < 4 ^ n := by
  have := findTv_lt n u v h0 h1 hu hv
  rw [four_pow] at *
  exact tv_lt (tv_lt hx this.2) this.1

end

theorem one_lt_four_pow {n : Nat} (hn : 0 < n) : 1 < 4 ^ n :=
  Nat.one_lt_pow (by omega) (by norm_num)

theorem tvs_nil (n x : Nat) : tvs n x [] = x := rfl
theorem tvs_cons (n x h : Nat) (hs : List Nat) : tvs n x (h :: hs) = tvs n (tv n x h) hs := rfl

theorem ip_tvs (n x y : Nat) (hs : List Nat) : ip n (tvs n x hs) (tvs n y hs) = ip n x y := by
  induction hs generalizing x y with
  | nil => rfl
  | cons h hs ih => rw [tvs_cons, tvs_cons, ih, ip_tv_tv]

/-- all transvections of one level, in terms of `cm` and `dmap` -/
theorem tvs_stepHs {n a b : Nat} (hn : 0 < n) (ha : a + 1 < 4 ^ n) (x : Nat) :
    tvs n x (stepHs n a b) = cm n 1 (a + 1) (dmap n b x) := by
  have h1 : cm n 1 (a + 1) 1 = a + 1 := cm_self one_ne_zero a.succ_ne_zero (one_lt_four_pow hn) ha
  simp only [stepHs, dmap]
  by_cases hb : b.testBit 0 = true
  · simp only [hb, if_true, tvs_cons, tvs_nil]
    exact cm_conj n 1 (a + 1) (ePrime n b) x
  · have hb' : b.testBit 0 = false := by simpa using hb
    simp only [hb', Bool.false_eq_true, if_false, tvs_cons, tvs_nil]
    change tv n (tv n (cm n 1 (a + 1) x) (cm n 1 (a + 1) (ePrime n b))) (a + 1) = _
    rw [cm_conj, ← cm_conj n 1 (a + 1) 1, h1]

/-! ### the vector `e'` and friends -/

theorem one_eq : (1 : Nat) = 2 ^ 0 := rfl

theorem testBit_one (j : Nat) : (1 : Nat).testBit j = decide (j = 0) := by
  rw [Bool.eq_iff_iff, decide_eq_true_iff]; exact Nat.testBit_one_eq_true_iff_self_eq_zero

theorem ip_one_right {n : Nat} (hn : 0 < n) (v : Nat) : ip n v 1 = v.testBit n := by
  have := ip_bit_lo n v 0 hn
  simpa using this

theorem ip_one_left {n : Nat} (hn : 0 < n) (v : Nat) : ip n 1 v = v.testBit n := by
  rw [ip_comm, ip_one_right hn]

theorem ip_pown_right {n : Nat} (hn : 0 < n) (v : Nat) : ip n v (2 ^ n) = v.testBit 0 := by
  have := ip_bit_hi n v 0 hn
  simpa using this

theorem ePrime_zero {n : Nat} (hn : 0 < n) (b : Nat) : (ePrime n b).testBit 0 = true := by
  rw [ePrime, testBit_ofFn]; simp [hn]

theorem ePrime_n {n : Nat} (hn : 0 < n) (b : Nat) : (ePrime n b).testBit n = false := by
  have h : n ≠ 0 := by omega
  simp [ePrime, testBit_ofFn, h]

theorem ePrime_lt (n b : Nat) : ePrime n b < 4 ^ n := by
  rw [four_pow]; exact ofFn_lt _ _

theorem testBit_tv (n x h j : Nat) : (tv n x h).testBit j = (x.testBit j ^^ (ip n x h && h.testBit j)) := by
  unfold tv; cases ip n x h <;> simp [Nat.testBit_xor]

/-- on vectors whose entry `n` is `0`, `dmap` is the single transvection by `e'` … -/
theorem dmap_of_n {n b x : Nat} (hn : 0 < n) (hx : x.testBit n = false) : dmap n b x = tv n x (ePrime n b) := by
  unfold dmap
  split
  · rfl
  · have : ip n (tv n x (ePrime n b)) 1 = false := by
      rw [ip_one_right hn, testBit_tv, hx, ePrime_n hn]; simp
    conv_lhs => rw [tv, this]
    simp

theorem testBit_n_dmap {n b x : Nat} (hn : 0 < n) (hx : x.testBit n = false) : (dmap n b x).testBit n = false := by
  rw [dmap_of_n hn hx, testBit_tv, hx, ePrime_n hn, Bool.and_false, Bool.xor_false]

/-- … and an involution there. -/
theorem dmap_dmap {n b x : Nat} (hn : 0 < n) (hx : x.testBit n = false) : dmap n b (dmap n b x) = x := by
  rw [dmap_of_n hn (testBit_n_dmap hn hx), dmap_of_n hn hx, tv_involutive]

theorem dmap_one {n : Nat} (hn : 0 < n) (b : Nat) : dmap n b 1 = 1 := by
  have hn0 : n ≠ 0 := by omega
  rw [dmap_of_n hn (by rw [testBit_one, decide_eq_false hn0]), tv, ip_one_left hn, ePrime_n hn,
    if_neg Bool.false_ne_true, Nat.xor_zero]

/-- the vector `[b[0], b[1:n], 1, b[n:]]` -/
def wOf (n b : Nat) : Nat :=
  ofFn (2 * n) fun j => if j < n then b.testBit j else if j = n then true else b.testBit (j - 1)

/-- `w` is `e_n + e'`, plus `e_0` when `b[0] = 0` -/
theorem wOf_eq {n : Nat} (hn : 0 < n) (b : Nat) :
    wOf n b = 2 ^ n ^^^ ePrime n b ^^^ (if b.testBit 0 then 0 else 1) := by
  have hn0 : n ≠ 0 := by omega
  have h1 : ∀ j, (if b.testBit 0 then 0 else 1 : Nat).testBit j = (decide (j = 0) && !b.testBit 0) := by
    intro j
    cases b.testBit 0 <;> simp [testBit_one]
  apply Nat.eq_of_testBit_eq; intro j
  simp only [wOf, ePrime, Nat.testBit_xor, testBit_ofFn, Nat.testBit_two_pow, h1]
  by_cases hj0 : j = 0
  · subst hj0; simp [hn, hn0]
  by_cases hjn : j = n
  · subst hjn; simp [hj0]; omega
  have hnj : n ≠ j := fun h => hjn h.symm
  by_cases hjl : j < n
  · have : j < 2 * n := by omega
    simp [hj0, hjl, this, hnj]
  · simp [hj0, hjn, hjl, hnj]

theorem dmap_pown {n : Nat} (hn : 0 < n) (b : Nat) : dmap n b (2 ^ n) = wOf n b := by
  have h1 : tv n (2 ^ n) (ePrime n b) = 2 ^ n ^^^ ePrime n b := by
    unfold tv; rw [ip_comm, ip_pown_right hn, ePrime_zero hn, if_pos rfl]
  have h2 : ip n (2 ^ n ^^^ ePrime n b) 1 = true := by
    rw [ip_one_right hn, Nat.testBit_xor, ePrime_n hn, Nat.testBit_two_pow_self]; rfl
  rw [wOf_eq hn]
  unfold dmap
  split
  · rw [h1, Nat.xor_zero]
  · rw [h1, tv, h2, if_pos rfl]

/-- entry `0` of `dmap x` is the product of `x` with the vector `w` of the pair -/
theorem testBit_zero_dmap {n b x : Nat} (hn : 0 < n) (hx : x.testBit n = false) :
    (dmap n b x).testBit 0 = ip n x (wOf n b) := by
  rw [← ip_pown_right hn, ← ip_dmap n b (dmap n b x), dmap_dmap hn hx, dmap_pown hn]

/-! ### rows of the matrices -/

theorem getD_map_range (m k : Nat) (f : Nat → Nat) (hk : k < m) : ((List.range m).map f).getD k 0 = f k := by
  simp [List.getD_eq_getElem?_getD, hk]

theorem getD_map (l : List Nat) (f : Nat → Nat) (k : Nat) (hk : k < l.length) :
    (l.map f).getD k 0 = f (l.getD k 0) := by
  simp [List.getD_eq_getElem?_getD, hk]

theorem getD_eq_getElem' (l : List Nat) (k : Nat) (h : k < l.length) : l.getD k 0 = l[k] := by
  simp [List.getD_eq_getElem?_getD, h]

/-- lists of the same length with the same rows are equal -/
theorem ext_getD {A B : List Nat} {m : Nat} (hA : A.length = m) (hB : B.length = m)
    (h : ∀ k, k < m → A.getD k 0 = B.getD k 0) : A = B := by
  apply List.ext_getElem (by rw [hA, hB])
  intro k h1 h2
  rw [← getD_eq_getElem' A k h1, ← getD_eq_getElem' B k h2]
  exact h k (hA ▸ h1)

/-- well-formed `2n × 2n` bit matrix -/
def WF (n : Nat) (M : List Nat) : Prop := M.length = 2 * n ∧ ∀ k, k < 2 * n → M.getD k 0 < 4 ^ n

/-- the rows are a symplectic basis: `S Λ Sᵀ = Λ` -/
def RowsSp (n : Nat) (M : List Nat) : Prop :=
  ∀ i j, i < 2 * n → j < 2 * n → ip n (M.getD i 0) (M.getD j 0) = lam n i j

theorem isSp_iff (n : Nat) (M : List Nat) : isSp n M = true ↔ WF n M ∧ RowsSp n M := by
  unfold isSp WF RowsSp
  simp only [Bool.and_eq_true, beq_iff_eq, List.all_eq_true, decide_eq_true_eq, List.mem_range]
  constructor
  · rintro ⟨⟨h1, h2⟩, h3⟩
    refine ⟨⟨h1, ?_⟩, fun i j hi hj => h3 i hi j hj⟩
    intro k hk
    have : M.getD k 0 = M[k]'(by omega) := by simp [List.getD_eq_getElem?_getD, h1, hk]
    rw [this]; exact h2 _ (List.getElem_mem _)
  · rintro ⟨⟨h1, h2⟩, h3⟩
    refine ⟨⟨h1, ?_⟩, fun i hi j hj => h3 i j hi hj⟩
    intro r hr
    obtain ⟨k, hk, rfl⟩ := List.getElem_of_mem hr
    have := h2 k (by omega)
    simpa [List.getD_eq_getElem?_getD, hk] using this

theorem testBit_embedRow (n r j : Nat) :
    (embedRow n r).testBit j = (decide (j < 2 * n) &&
      (if j = 0 then false else if j < n then r.testBit (j - 1) else if j = n then false else r.testBit (j - 2))) := by
  rw [embedRow, testBit_ofFn]

theorem embedRow_lt (n r : Nat) : embedRow n r < 4 ^ n := by
  rw [four_pow]; exact ofFn_lt _ _

theorem embedRow_zero (n r : Nat) : (embedRow n r).testBit 0 = false := by
  rw [testBit_embedRow]; simp

theorem embedRow_n (n r : Nat) : (embedRow n r).testBit n = false := by
  rw [testBit_embedRow]; simp

theorem cutRow_embedRow {n r : Nat} (hn : 0 < n) (hr : r < 4 ^ (n - 1)) : cutRow n (embedRow n r) = r := by
  rw [four_pow] at hr
  refine eq_of_testBit_lt (ofFn_lt _ _) hr fun j hj => ?_
  rw [cutRow, testBit_ofFn]
  by_cases hj2 : j < n - 1
  · have h1 : j + 1 < 2 * n := by omega
    have h2 : j + 1 < n := by omega
    simp [hj, hj2, testBit_embedRow, h1, h2]
  · have h1 : j + 2 < 2 * n := by omega
    have h2 : ¬ j + 2 < n := by omega
    have h3 : j + 2 ≠ n := by omega
    simp [hj, hj2, testBit_embedRow, h1, h2, h3]

theorem ipUpTo_embedRow (n r s k : Nat) (hk : k + 1 ≤ n) :
    ipUpTo n (embedRow n r) (embedRow n s) (k + 1) = ipUpTo (n - 1) r s k := by
  induction k with
  | zero =>
    simp [ipUpTo, ipTerm, embedRow_n]
  | succ k ih =>
    rw [ipUpTo, ih (by omega), ipUpTo]
    congr 1
    simp only [ipTerm, testBit_embedRow]
    have h1 : k + 1 < 2 * n := by omega
    have h2 : k + 1 < n := by omega
    have h3 : k + 1 + n < 2 * n := by omega
    have h4 : ¬ k + 1 + n < n := by omega
    have h6 : k + 1 + n - 2 = k + (n - 1) := by omega
    simp [h1, h2, h3, h4, h6]

theorem ip_embedRow {n : Nat} (hn : 0 < n) (r s : Nat) :
    ip n (embedRow n r) (embedRow n s) = ip (n - 1) r s := by
  unfold ip
  obtain ⟨m, rfl⟩ : ∃ m, n = m + 1 := ⟨n - 1, by omega⟩
  exact ipUpTo_embedRow (m + 1) r s m le_rfl

/-- row `k` of the matrix `g` -/
def gRow (n : Nat) (sub : List Nat) (k : Nat) : Nat :=
  if k = 0 then 1 else if k < n then embedRow n (sub.getD (k - 1) 0)
  else if k = n then 2 ^ n else embedRow n (sub.getD (k - 2) 0)

theorem embedMat_getD {n k : Nat} (sub : List Nat) (hk : k < 2 * n) : (embedMat n sub).getD k 0 = gRow n sub k := by
  unfold embedMat; rw [getD_map_range _ _ _ hk]; rfl

theorem embedMat_length (n : Nat) (sub : List Nat) : (embedMat n sub).length = 2 * n := by
  simp [embedMat]

theorem gRow_lt {n : Nat} (hn : 0 < n) (sub : List Nat) (k : Nat) : gRow n sub k < 4 ^ n := by
  unfold gRow
  split
  · exact one_lt_four_pow hn
  split
  · exact embedRow_lt _ _
  split
  · rw [four_pow]; exact Nat.pow_lt_pow_right (by norm_num) (by omega)
  · exact embedRow_lt _ _

theorem stepFrom_getD {n a b k : Nat} (hn : 0 < n) (ha : a + 1 < 4 ^ n) (sub : List Nat) (hk : k < 2 * n) :
    (stepFrom n a b sub).getD k 0 = cm n 1 (a + 1) (dmap n b (gRow n sub k)) := by
  unfold stepFrom
  rw [getD_map _ _ _ (by rw [embedMat_length]; exact hk), embedMat_getD sub hk, tvs_stepHs hn ha]

theorem stepFrom_length (n a b : Nat) (sub : List Nat) : (stepFrom n a b sub).length = 2 * n := by
  simp [stepFrom, embedMat_length]

theorem dmap_lt {n b x : Nat} (hn : 0 < n) (hx : x < 4 ^ n) : dmap n b x < 4 ^ n := by
  have he := ePrime_lt n b
  have h1 := one_lt_four_pow hn
  rw [four_pow] at *
  unfold dmap; split
  · exact tv_lt hx he
  · exact tv_lt (tv_lt hx he) h1

theorem stepFrom_WF {n a b : Nat} (hn : 0 < n) (ha : a + 1 < 4 ^ n) (sub : List Nat) : WF n (stepFrom n a b sub) := by
  refine ⟨stepFrom_length _ _ _ _, fun k hk => ?_⟩
  rw [stepFrom_getD hn ha sub hk]
  exact cm_lt one_ne_zero a.succ_ne_zero (one_lt_four_pow hn) ha (dmap_lt hn (gRow_lt hn sub k))

theorem lam_iff (n i j : Nat) : lam n i j = true ↔ (j = i + n ∨ i = j + n) := by simp [lam]

theorem lam_false {n i j : Nat} (h : ¬ (j = i + n ∨ i = j + n)) : lam n i j = false := by
  rw [← Bool.not_eq_true, lam_iff]; exact h

theorem lam_true {n i j : Nat} (h : j = i + n ∨ i = j + n) : lam n i j = true := (lam_iff n i j).2 h

theorem lam_congr {n i j n' i' j' : Nat} (h : (j' = i' + n' ↔ j = i + n) ∧ (i' = j' + n' ↔ i = j + n)) :
    lam n' i' j' = lam n i j := by
  rw [Bool.eq_iff_iff, lam_iff, lam_iff, h.1, h.2]

theorem gRow_zero (n : Nat) (sub : List Nat) : gRow n sub 0 = 1 := by simp [gRow]

theorem gRow_n {n : Nat} (hn : 0 < n) (sub : List Nat) : gRow n sub n = 2 ^ n := by
  have : n ≠ 0 := by omega
  simp [gRow, this]

/-- position in the smaller matrix of row `k ≠ 0, n` of `g` -/
def subIdx (n k : Nat) : Nat := if k < n then k - 1 else k - 2

theorem gRow_of_ne {n k : Nat} (sub : List Nat) (h0 : k ≠ 0) (hn : k ≠ n) :
    gRow n sub k = embedRow n (sub.getD (subIdx n k) 0) := by
  unfold gRow subIdx
  rw [if_neg h0]
  by_cases hk : k < n
  · rw [if_pos hk, if_pos hk]
  · rw [if_neg hk, if_neg hn, if_neg hk]

theorem subIdx_spec {n k : Nat} (hpos : 0 < n) (h0 : k ≠ 0) (hn : k ≠ n) :
    k < n ∧ k = subIdx n k + 1 ∨ n < k ∧ k = subIdx n k + 2 := by
  unfold subIdx
  by_cases hk : k < n
  · rw [if_pos hk]
    omega
  · rw [if_neg hk]
    omega

theorem gRow_testBit_n {n : Nat} (hn : 0 < n) (sub : List Nat) (k : Nat) :
    (gRow n sub k).testBit n = decide (k = n) := by
  have hn0 : n ≠ 0 := by omega
  by_cases hk0 : k = 0
  · rw [hk0, gRow_zero, testBit_one, decide_eq_false hn0, decide_eq_false hn0.symm]
  by_cases hkn : k = n
  · rw [hkn, gRow_n hn, Nat.testBit_two_pow_self, decide_eq_true rfl]
  · rw [gRow_of_ne sub hk0 hkn, embedRow_n, decide_eq_false hkn]

theorem gRow_testBit_zero {n : Nat} (hn : 0 < n) (sub : List Nat) (k : Nat) :
    (gRow n sub k).testBit 0 = decide (k = 0) := by
  have hn0 : n ≠ 0 := by omega
  by_cases hk0 : k = 0
  · rw [hk0, gRow_zero, Nat.testBit_one_zero, decide_eq_true rfl]
  by_cases hkn : k = n
  · rw [hkn, gRow_n hn, Nat.testBit_two_pow, decide_eq_false hn0]
  · rw [gRow_of_ne sub hk0 hkn, embedRow_zero, decide_eq_false hk0]

/-- the matrix `g` is symplectic when the embedded smaller matrix is: rows `0` and `n` are the hyperbolic pair `e_0, e_n`,
orthogonal to every embedded row, and embedding preserves the form -/
theorem gRow_sp {n : Nat} (hn : 0 < n) (sub : List Nat) (hs : RowsSp (n - 1) sub) (i j : Nat)
    (hi : i < 2 * n) (hj : j < 2 * n) : ip n (gRow n sub i) (gRow n sub j) = lam n i j := by
  by_cases hi0 : i = 0
  · rw [hi0, gRow_zero, ip_one_left hn, gRow_testBit_n hn, Bool.eq_iff_iff, decide_eq_true_iff, lam_iff]
    omega
  by_cases hj0 : j = 0
  · rw [hj0, gRow_zero, ip_one_right hn, gRow_testBit_n hn, Bool.eq_iff_iff, decide_eq_true_iff, lam_iff]
    omega
  by_cases hin : i = n
  · rw [hin, gRow_n hn, ip_comm, ip_pown_right hn, gRow_testBit_zero hn, Bool.eq_iff_iff, decide_eq_true_iff, lam_iff]
    omega
  by_cases hjn : j = n
  · rw [hjn, gRow_n hn, ip_pown_right hn, gRow_testBit_zero hn, Bool.eq_iff_iff, decide_eq_true_iff, lam_iff]
    omega
  have hsi := subIdx_spec hn hi0 hin
  have hsj := subIdx_spec hn hj0 hjn
  rw [gRow_of_ne sub hi0 hin, gRow_of_ne sub hj0 hjn, ip_embedRow hn, hs _ _ (by omega) (by omega)]
  apply lam_congr
  omega

theorem stepFrom_sp {n a b : Nat} (hn : 0 < n) (ha : a + 1 < 4 ^ n) (sub : List Nat) (hs : RowsSp (n - 1) sub) :
    RowsSp n (stepFrom n a b sub) := by
  intro i j hi hj
  rw [stepFrom_getD hn ha sub hi, stepFrom_getD hn ha sub hj, ip_cm, ip_dmap]
  exact gRow_sp hn sub hs i j hi hj

/-! ### one level of `to_int_tuple` on an arbitrary matrix -/

theorem testBit_wOf (n b j : Nat) :
    (wOf n b).testBit j = (decide (j < 2 * n) &&
      (if j < n then b.testBit j else if j = n then true else b.testBit (j - 1))) := by
  rw [wOf, testBit_ofFn]

/-- the integer `b` read off `tw` (`spf2.py:255`): entry `n` dropped -/
def bOf (n tw : Nat) : Nat := ofFn (2 * n - 1) fun j => if j < n then tw.testBit j else tw.testBit (j + 1)

theorem stepToPair_eq (n : Nat) (M : List Nat) : stepToPair n M = (M.getD 0 0 - 1, bOf n (twOf n M)) := rfl

theorem testBit_bOf (n tw j : Nat) :
    (bOf n tw).testBit j = (decide (j < 2 * n - 1) && (if j < n then tw.testBit j else tw.testBit (j + 1))) := by
  rw [bOf, testBit_ofFn]

theorem bOf_lt (n tw : Nat) : bOf n tw < 2 ^ (2 * n - 1) := ofFn_lt _ _

theorem bOf_wOf {n b : Nat} (hb : b < 2 ^ (2 * n - 1)) : bOf n (wOf n b) = b := by
  refine eq_of_testBit_lt (bOf_lt _ _) hb fun j hj => ?_
  simp only [testBit_bOf, testBit_wOf]
  by_cases hjn : j < n
  · have : j < 2 * n := by omega
    simp [hj, hjn, this]
  · have h1 : j + 1 < 2 * n := by omega
    have h2 : ¬ j + 1 < n := by omega
    have h3 : j + 1 ≠ n := by omega
    simp [hj, hjn, h1, h2, h3]

theorem wOf_bOf {n tw : Nat} (htw : tw < 4 ^ n) (htwn : tw.testBit n = true) : wOf n (bOf n tw) = tw := by
  rw [four_pow] at htw
  refine eq_of_testBit_lt (ofFn_lt _ _) htw fun j hj => ?_
  rw [testBit_wOf]
  by_cases hjl : j < n
  · have : j < 2 * n - 1 := by omega
    simp [hj, hjl, testBit_bOf, this]
  by_cases hjn : j = n
  · subst hjn; simp [hj, htwn]
  · have h1 : j - 1 < 2 * n - 1 := by omega
    have h2 : ¬ j - 1 < n := by omega
    have h3 : j - 1 + 1 = j := by omega
    simp [hj, hjl, hjn, testBit_bOf, h1, h2, h3]

/-- the vector `h0` of `to_int_tuple` (`spf2.py:253`) is `e'` -/
theorem h0_wOf {n : Nat} (hn : 0 < n) (b : Nat) :
    (ofFn (2 * n) fun j => if j = 0 then true else if j = n then false else (wOf n b).testBit j) = ePrime n b := by
  have hn0 : n ≠ 0 := by omega
  refine eq_of_testBit_lt (ofFn_lt _ _) (ofFn_lt _ _) fun j hj => ?_
  simp only [ePrime, testBit_ofFn, testBit_wOf]
  by_cases hj0 : j = 0
  · simp [hj0]
  by_cases hjn : j = n
  · simp [hjn, hn0]
  by_cases hjl : j < n <;> simp [hj, hj0, hjn, hjl]

/-- all transvections of one level of `to_int_tuple`, in terms of `cm` and `dmap` -/
theorem tvs_stepToHs {n : Nat} (hn : 0 < n) (M : List Nat) {b : Nat} (hw : twOf n M = wOf n b) (r : Nat) :
    tvs n r (stepToHs n M) = dmap n b (cm n (M.getD 0 0) 1 r) := by
  have h0 : (wOf n b).testBit 0 = b.testBit 0 := by
    rw [testBit_wOf]; simp [hn]
  unfold stepToHs
  simp only [hw, h0_wOf hn, h0]
  unfold dmap cm
  by_cases hb0 : b.testBit 0 = true
  · simp only [hb0, if_true, tvs_cons, tvs_nil]
  · have hb' : b.testBit 0 = false := by simpa using hb0
    simp only [hb', Bool.false_eq_true, if_false, tvs_cons, tvs_nil]

theorem stepToSub_getD {n k : Nat} (hn : 0 < n) (M : List Nat) (hk : k < 2 * n) (hk0 : k ≠ 0) (hkn : k ≠ n) :
    (stepToSub n M).getD (subIdx n k) 0 = cutRow n (tvs n (M.getD k 0) (stepToHs n M)) := by
  unfold stepToSub
  rcases subIdx_spec hn hk0 hkn with ⟨h1, h2⟩ | ⟨h1, h2⟩
  · rw [getD_map_range _ _ _ (by omega), if_pos (by omega), ← h2]
  · rw [getD_map_range _ _ _ (by omega), if_neg (by omega), ← h2]

theorem exists_subIdx {n i : Nat} (hi : i < 2 * (n - 1)) : ∃ k, k < 2 * n ∧ k ≠ 0 ∧ k ≠ n ∧ subIdx n k = i := by
  unfold subIdx
  by_cases h : i < n - 1
  · exact ⟨i + 1, by omega, by omega, by omega, by rw [if_pos (by omega)]; rfl⟩
  · exact ⟨i + 2, by omega, by omega, by omega, by rw [if_neg (by omega)]; rfl⟩

/-! ### `to_int_tuple` on the image of one level -/

section level
variable {n a b : Nat} (hn : 0 < n) (ha : a + 1 < 4 ^ n) (hb : b < 2 ^ (2 * n - 1)) (sub : List Nat)
include hn ha

theorem stepFrom_row0 : (stepFrom n a b sub).getD 0 0 = a + 1 := by
  rw [stepFrom_getD hn ha sub (by omega), gRow_zero, dmap_one hn]
  exact cm_self one_ne_zero a.succ_ne_zero (one_lt_four_pow hn) ha

theorem twOf_stepFrom : twOf n (stepFrom n a b sub) = wOf n b := by
  unfold twOf
  simp only [stepFrom_row0 hn ha]
  rw [stepFrom_getD hn ha sub (by omega), gRow_n hn, dmap_pown hn]
  exact cm_cm n 1 (a + 1) _

include hb in
theorem stepToPair_stepFrom : stepToPair n (stepFrom n a b sub) = (a, b) := by
  rw [stepToPair_eq, stepFrom_row0 hn ha, twOf_stepFrom hn ha, bOf_wOf hb, Nat.add_sub_cancel]

theorem stepToSub_stepFrom (hsub : WF (n - 1) sub) : stepToSub n (stepFrom n a b sub) = sub := by
  refine ext_getD (by simp [stepToSub]) hsub.1 fun i hi => ?_
  obtain ⟨k, hk, hk0, hkn, rfl⟩ := exists_subIdx hi
  rw [stepToSub_getD hn _ hk hk0 hkn, tvs_stepToHs hn _ (twOf_stepFrom hn ha sub), stepFrom_row0 hn ha,
    stepFrom_getD hn ha sub hk, cm_cm, dmap_dmap hn (by rw [gRow_testBit_n hn, decide_eq_false hkn]),
    gRow_of_ne sub hk0 hkn, cutRow_embedRow hn (hsub.2 _ hi)]

end level

/-! ### the whole recursion -/

theorem four_pow_half {n : Nat} (hn : 0 < n) : 4 ^ n / 2 = 2 ^ (2 * n - 1) := by
  have : 2 * n = (2 * n - 1) + 1 := by omega
  rw [four_pow]
  conv_lhs => rw [this, pow_succ]
  omega

theorem inRangeRev_cons {a b : Nat} {rest : List (Nat × Nat)} :
    inRangeRev ((a, b) :: rest) = true ↔
      a + 1 < 4 ^ (rest.length + 1) ∧ b < 2 ^ (2 * (rest.length + 1) - 1) ∧ inRangeRev rest = true := by
  simp only [inRangeRev, Bool.and_eq_true, decide_eq_true_eq, four_pow_half rest.length.succ_pos, and_assoc,
    Nat.lt_sub_iff_add_lt]

/-- everything about `from_int_tuple` on the reversed tuple, by induction on the number of levels -/
theorem fromRev_all (l : List (Nat × Nat)) (h : inRangeRev l = true) :
    WF l.length (fromRev l) ∧ RowsSp l.length (fromRev l) ∧ toIntTuple l.length (fromRev l) = some l.reverse := by
  induction l with
  | nil =>
    refine ⟨⟨rfl, fun k hk => by simp at hk⟩, fun i j hi hj => by simp at hi, rfl⟩
  | cons p rest ih =>
    obtain ⟨a, b⟩ := p
    obtain ⟨ha, hb, hr⟩ := inRangeRev_cons.1 h
    obtain ⟨ihwf, ihsp, ihto⟩ := ih hr
    have hn : 0 < rest.length + 1 := by omega
    have hsub : WF (rest.length + 1 - 1) (fromRev rest) := by simpa using ihwf
    refine ⟨stepFrom_WF hn ha _, stepFrom_sp hn ha _ (by simpa using ihsp), ?_⟩
    show toIntTuple (rest.length + 1) (stepFrom (rest.length + 1) a b (fromRev rest)) = _
    rw [toIntTuple]
    rw [stepFrom_row0 hn ha, if_neg (by omega), stepToSub_stepFrom hn ha _ hsub, ihto,
      stepToPair_stepFrom hn ha hb]
    simp

/-! ### the other composite: `from_int_tuple (to_int_tuple S) = S` for symplectic `S` -/

theorem embedRow_cutRow {n y : Nat} (hn : 0 < n) (hy : y < 4 ^ n) (h0 : y.testBit 0 = false)
    (hyn : y.testBit n = false) : embedRow n (cutRow n y) = y := by
  rw [four_pow] at hy
  refine eq_of_testBit_lt (ofFn_lt _ _) hy fun j hj => ?_
  rw [testBit_embedRow]
  by_cases hj0 : j = 0
  · subst hj0; simp [h0]
  by_cases hjl : j < n
  · have h1 : j - 1 < 2 * (n - 1) := by omega
    have h2 : j - 1 < n - 1 := by omega
    have h3 : j - 1 + 1 = j := by omega
    simp [hj, hj0, hjl, cutRow, testBit_ofFn, h1, h2, h3]
  by_cases hjn : j = n
  · subst hjn; simp [hyn]
  · have h1 : j - 2 < 2 * (n - 1) := by omega
    have h2 : ¬ j - 2 < n - 1 := by omega
    have h3 : j - 2 + 2 = j := by omega
    simp [hj, hj0, hjl, hjn, cutRow, testBit_ofFn, h1, h2, h3]

theorem cutRow_lt (n y : Nat) : cutRow n y < 4 ^ (n - 1) := by
  rw [four_pow]; exact ofFn_lt _ _

theorem ne_zero_of_ip {n v w : Nat} (h : ip n v w = true) : v ≠ 0 := by
  rintro rfl; rw [ip_zero_left] at h; exact absurd h (by simp)

/-- one level of `to_int_tuple` on a symplectic matrix: the pair is in range, the smaller matrix is
symplectic, and `from_int_tuple`'s level rebuilds `M` from them -/
theorem stepTo_all {n : Nat} (hn : 0 < n) (M : List Nat) (hwf : WF n M) (hsp : RowsSp n M) :
    ∃ a b, stepToPair n M = (a, b) ∧ a + 1 < 4 ^ n ∧ b < 2 ^ (2 * n - 1) ∧ M.getD 0 0 ≠ 0 ∧
      WF (n - 1) (stepToSub n M) ∧ RowsSp (n - 1) (stepToSub n M) ∧ stepFrom n a b (stepToSub n M) = M := by
  have hm0n : ip n (M.getD 0 0) (M.getD n 0) = true := by
    rw [hsp 0 n (by omega) (by omega)]; exact lam_true (by omega)
  obtain ⟨a, ha1⟩ : ∃ a, M.getD 0 0 = a + 1 := ⟨M.getD 0 0 - 1, by have := ne_zero_of_ip hm0n; omega⟩
  have ha : a + 1 < 4 ^ n := ha1 ▸ hwf.2 0 (by omega)
  have h1lt := one_lt_four_pow hn
  -- `c = cm n (a + 1) 1` is the composite applied by `to_int_tuple`; it maps row `0` to `e_0`, so `(c x)[n] = <x, row 0>`
  have hclt : ∀ {x}, x < 4 ^ n → cm n (a + 1) 1 x < 4 ^ n := cm_lt a.succ_ne_zero one_ne_zero ha h1lt
  have hcn : ∀ x, (cm n (a + 1) 1 x).testBit n = ip n x (M.getD 0 0) := fun x => by
    have h := ip_cm n (a + 1) 1 x (a + 1)
    rw [cm_self a.succ_ne_zero one_ne_zero ha h1lt, ip_one_right hn] at h
    rw [h, ha1]
  have htw : twOf n M = cm n (a + 1) 1 (M.getD n 0) := by rw [← ha1]; rfl
  have htwn : (twOf n M).testBit n = true := by rw [htw, hcn, ip_comm]; exact hm0n
  obtain ⟨b, hb⟩ : ∃ b, b = bOf n (twOf n M) := ⟨_, rfl⟩
  have hw : twOf n M = wOf n b := by
    rw [hb, wOf_bOf (htw ▸ hclt (hwf.2 n (by omega))) htwn]
  have hHs : ∀ r, tvs n r (stepToHs n M) = dmap n b (cm n (a + 1) 1 r) := fun r => by
    rw [tvs_stepToHs hn M hw, ha1]
  -- a row `k ≠ 0, n`: `z = c (M k)` has `z[n] = 0`, and `y = dmap z` has `y[0] = <z, tw> = 0`, so `y` is an embedded row
  have hrow : ∀ k, k < 2 * n → k ≠ 0 → k ≠ n →
      (cm n (a + 1) 1 (M.getD k 0)).testBit n = false ∧
      embedRow n ((stepToSub n M).getD (subIdx n k) 0) = dmap n b (cm n (a + 1) 1 (M.getD k 0)) := by
    intro k hk hk0 hkn
    have hz : (cm n (a + 1) 1 (M.getD k 0)).testBit n = false := by
      rw [hcn, hsp k 0 hk (by omega)]; exact lam_false (by omega)
    refine ⟨hz, ?_⟩
    rw [stepToSub_getD hn M hk hk0 hkn, hHs]
    apply embedRow_cutRow hn (dmap_lt hn (hclt (hwf.2 k hk))) ?_ (testBit_n_dmap hn hz)
    rw [testBit_zero_dmap hn hz, ← hw, htw, ip_cm, hsp k n hk (by omega)]
    exact lam_false (by omega)
  refine ⟨a, b, ?_, ha, hb ▸ bOf_lt _ _, by rw [ha1]; exact a.succ_ne_zero, ⟨by simp [stepToSub], ?_⟩, ?_, ?_⟩
  · rw [stepToPair_eq, ← hb, ha1, Nat.add_sub_cancel]
  · intro i hi
    obtain ⟨k, hk, hk0, hkn, rfl⟩ := exists_subIdx hi
    rw [stepToSub_getD hn M hk hk0 hkn]
    exact cutRow_lt _ _
  · intro i j hi hj
    obtain ⟨k, hk, hk0, hkn, rfl⟩ := exists_subIdx hi
    obtain ⟨l, hl, hl0, hln, rfl⟩ := exists_subIdx hj
    rw [← ip_embedRow hn, (hrow k hk hk0 hkn).2, (hrow l hl hl0 hln).2, ip_dmap, ip_cm, hsp k l hk hl]
    have := subIdx_spec hn hk0 hkn
    have := subIdx_spec hn hl0 hln
    exact lam_congr (by omega)
  · refine ext_getD (stepFrom_length _ _ _ _) hwf.1 fun k hk => ?_
    rw [stepFrom_getD hn ha _ hk]
    by_cases hk0 : k = 0
    · rw [hk0, gRow_zero, dmap_one hn, ha1]
      exact cm_self one_ne_zero a.succ_ne_zero h1lt ha
    by_cases hkn : k = n
    · rw [hkn, gRow_n hn, dmap_pown hn, ← hw, htw, cm_cm]
    · obtain ⟨hz, he⟩ := hrow k hk hk0 hkn
      rw [gRow_of_ne _ hk0 hkn, he, dmap_dmap hn hz, cm_cm]

/-- everything about `to_int_tuple` on a symplectic matrix, by induction on `n` -/
theorem toIntTuple_all (n : Nat) (M : List Nat) (hwf : WF n M) (hsp : RowsSp n M) :
    ∃ t, toIntTuple n M = some t ∧ t.length = n ∧ inRangeRev t.reverse = true ∧ fromRev t.reverse = M := by
  induction n generalizing M with
  | zero =>
    refine ⟨[], rfl, rfl, rfl, ?_⟩
    have : M.length = 0 := by simpa using hwf.1
    simp [fromRev, List.length_eq_zero_iff.mp this]
  | succ n ih =>
    obtain ⟨a, b, hp, h1, h2, h3, h4, h5, h6⟩ := stepTo_all n.succ_pos M hwf hsp
    obtain ⟨t, ht1, ht2, ht3, ht4⟩ := ih (stepToSub (n + 1) M) (by simpa using h4) (by simpa using h5)
    have hlen : t.reverse.length = n := by rw [List.length_reverse, ht2]
    refine ⟨t ++ [(a, b)], ?_, by simp [ht2], ?_, ?_⟩
    · rw [toIntTuple, if_neg h3, ht1, hp]
    · rw [List.reverse_append, List.reverse_singleton, List.singleton_append, inRangeRev_cons, hlen]
      exact ⟨h1, h2, ht3⟩
    · rw [List.reverse_append, List.reverse_singleton, List.singleton_append, fromRev, hlen, ht4]
      exact h6

end Numqi.SpF2
