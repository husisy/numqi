/- Helper lemmas for the manifold model (C01/C02): real-analysis facts about the vector maps, data matrices as Mathlib matrices. -/
import Mathlib.Tactic
import Mathlib.Analysis.SpecialFunctions.Log.Basic
import Mathlib.Analysis.SpecialFunctions.Trigonometric.Basic
import Mathlib.Analysis.SpecialFunctions.Sqrt
import Mathlib.Data.Complex.Basic
import Mathlib.Algebra.BigOperators.Fin
import NumqiModel.Manifold

namespace Numqi.Manifold
open Finset

noncomputable instance : Transc ℝ := ⟨Real.sqrt, Real.exp, Real.log, Real.sin, Real.cos, fun x => Real.log (1 + x)⟩
noncomputable instance : CxOps ℝ ℂ := ⟨Complex.ofReal, starRingEnd ℂ, Complex.I, Complex.re, Complex.im⟩

@[simp] theorem sqrt_eq (x : ℝ) : sqrt x = Real.sqrt x := rfl
@[simp] theorem exp_eq (x : ℝ) : exp x = Real.exp x := rfl
@[simp] theorem log_eq (x : ℝ) : log x = Real.log x := rfl
@[simp] theorem sin_eq (x : ℝ) : sin x = Real.sin x := rfl
@[simp] theorem cos_eq (x : ℝ) : cos x = Real.cos x := rfl
@[simp] theorem log1p_eq (x : ℝ) : log1p x = Real.log (1 + x) := rfl

theorem sumRange_eq {M : Type} [AddCommMonoid M] (n : Nat) (f : Nat → M) : sumRange n f = ∑ i ∈ range n, f i := rfl

theorem prodRange_eq {M : Type} [CommMonoid M] (n : Nat) (f : Nat → M) : prodRange n f = ∏ i ∈ range n, f i := by
  unfold prodRange
  induction n with
  | zero => simp
  | succ k ih => rw [List.range_succ, List.foldl_append, ih, Finset.prod_range_succ]; simp

theorem softplus_eq_log (x : ℝ) : softplus x = Real.log (1 + Real.exp x) := by
  unfold softplus
  split_ifs with h
  · have h1 : (1 + Real.exp (-x)) * Real.exp x = 1 + Real.exp x := by
      rw [add_mul, one_mul, ← Real.exp_add, neg_add_cancel, Real.exp_zero, add_comm]
    rw [← h1, Real.log_mul (by positivity) (Real.exp_pos x).ne', Real.log_exp]
    rfl
  · rfl

theorem softplus_pos' (x : ℝ) : 0 < softplus x := by
  rw [softplus_eq_log]
  exact Real.log_pos (by linarith [Real.exp_pos x])

theorem softplus_strictMono : StrictMono (softplus : ℝ → ℝ) := fun a b hab => by
  rw [softplus_eq_log, softplus_eq_log]
  exact Real.log_lt_log (by positivity) (by linarith [Real.exp_lt_exp.2 hab])

theorem sigmoid_mem (x : ℝ) : 0 < sigmoid x ∧ sigmoid x < 1 := by
  unfold sigmoid
  have h := Real.exp_pos (-x)
  simp only [exp_eq]
  constructor
  · positivity
  · rw [div_lt_one (by linarith)]; linarith

theorem normSq_eq (n : Nat) (θ : Nat → ℝ) : normSq n θ = ∑ i ∈ range n, θ i * θ i := sumRange_eq _ _

theorem normSq_nonneg (n : Nat) (θ : Nat → ℝ) : 0 ≤ normSq n θ := by
  rw [normSq_eq]; exact Finset.sum_nonneg (fun i _ => mul_self_nonneg _)

theorem normSq_div (n : Nat) (θ : Nat → ℝ) (c : ℝ) : normSq n (fun i => θ i / c) = normSq n θ / (c * c) := by
  simp only [normSq_eq, Finset.sum_div]
  exact Finset.sum_congr rfl (fun i _ => by rw [div_mul_div_comm])

theorem ball_normSq (n : Nat) (θ : Nat → ℝ) : normSq n (ballVec n θ) < 1 := by
  unfold ballVec
  rw [normSq_div]
  have h0 := normSq_nonneg n θ
  have hs : norm n θ * norm n θ = normSq n θ := by unfold norm; exact Real.mul_self_sqrt h0
  have hn : 0 ≤ norm n θ := by unfold norm; exact Real.sqrt_nonneg _
  rw [div_lt_one (by positivity)]
  nlinarith

theorem sphereQuotient_normSq (n : Nat) (θ : Nat → ℝ) (h : normSq n θ ≠ 0) : normSq n (sphereQuotientVec n θ) = 1 := by
  unfold sphereQuotientVec
  rw [normSq_div]
  have h0 := normSq_nonneg n θ
  have hs : norm n θ * norm n θ = normSq n θ := by unfold norm; exact Real.mul_self_sqrt h0
  rw [hs]; exact div_self h

theorem sphereCoord_normSq (n : Nat) (θ : Nat → ℝ) : normSq (n + 1) (sphereCoordVec n θ) = 1 := by
  rw [normSq_eq]
  -- Σ_{i<k} x_i² + (Π_{j<k} s_j)² = 1 for every k ≤ n, by induction
  have key : ∀ k, k ≤ n → ∑ i ∈ range k, sphereCoordVec n θ i * sphereCoordVec n θ i
      + (∏ j ∈ range k, Real.sin (θ j)) * (∏ j ∈ range k, Real.sin (θ j)) = 1 := by
    intro k
    induction k with
    | zero => intro _; simp
    | succ k ih =>
      intro hk
      have hk' : k < n := hk
      have := ih (le_of_lt hk')
      rw [Finset.sum_range_succ, Finset.prod_range_succ]
      have hx : sphereCoordVec n θ k = Real.cos (θ k) * ∏ j ∈ range k, Real.sin (θ j) := by
        unfold sphereCoordVec; rw [if_pos hk', prodRange_eq]; rfl
      rw [hx]
      have hcs := Real.cos_sq_add_sin_sq (θ k)
      nlinarith
  have hlast : sphereCoordVec n θ n = ∏ j ∈ range n, Real.sin (θ j) := by
    unfold sphereCoordVec; rw [if_neg (lt_irrefl n), prodRange_eq, one_mul]; rfl
  rw [Finset.sum_range_succ, hlast]
  exact key n le_rfl

theorem softmax_sum' (n : Nat) (θ : Nat → ℝ) (hn : 0 < n) : ∑ i ∈ range n, softmaxVec n θ i = 1 := by
  unfold softmaxVec
  simp only [exp_eq, sumRange_eq]
  rw [← Finset.sum_div]
  apply div_self
  exact ne_of_gt (Finset.sum_pos (fun j _ => Real.exp_pos _) ⟨0, Finset.mem_range.2 hn⟩)

theorem normSq_ofReal_add_I_mul (a b : ℝ) : Complex.normSq ((a : ℂ) + Complex.I * (b : ℂ)) = a * a + b * b := by
  rw [mul_comm, Complex.normSq_add_mul_I, sq, sq]

/-- `|a + i b|² = a² + b²` summed over the pairs: the complex vector has the norm of the real one -/
theorem pairCx_normSq (h : Nat) (x : Nat → ℝ) :
    ∑ j ∈ range h, Complex.normSq (pairCx (K := ℂ) h x j) = normSq (h + h) x := by
  rw [normSq_eq, Finset.sum_range_add]
  rw [← Finset.sum_add_distrib]
  refine Finset.sum_congr rfl (fun j _ => ?_)
  exact normSq_ofReal_add_I_mul _ _

/-! ### matrices as data -/

theorem NMat.get_ofFn {K : Type} [Zero K] (m n : Nat) (f : Nat → Nat → K) {i j : Nat} (hi : i < m) (hj : j < n) :
    NMat.get (NMat.ofFn m n f) i j = f i j := by
  simp [NMat.get, NMat.ofFn, hi, hj]

theorem NMat.get_ofFn_fin {K : Type} [Zero K] (m n : Nat) (f : Nat → Nat → K) (i : Fin m) (j : Fin n) :
    NMat.get (NMat.ofFn m n f) i.val j.val = f i.val j.val := NMat.get_ofFn m n f i.isLt j.isLt

/-- an `m × n` data matrix as a Mathlib matrix -/
def toM {K : Type} [Zero K] (m n : Nat) (A : NMat K) : Matrix (Fin m) (Fin n) K := Matrix.of fun i j => A.get i.val j.val

theorem toM_ofFn {K : Type} [Zero K] (m n : Nat) (f : Nat → Nat → K) :
    toM m n (NMat.ofFn m n f) = Matrix.of fun i j => f i.val j.val := by
  ext i j; simp [toM, NMat.get_ofFn_fin]

/-- entry of the Gram matrix of the columns -/
theorem gram_toM_apply (m n : Nat) (A : NMat ℂ) (c1 c2 : Fin n) :
    ((toM m n A).conjTranspose * toM m n A) c1 c2 = ∑ r ∈ range m, star (A.get r c1) * A.get r c2 := by
  rw [Finset.sum_range]; rfl

theorem sumK_eq (n : Nat) (f : Nat → ℂ) : sumK n f = ∑ k : Fin n, f k.val := by
  unfold sumK
  rw [← Finset.sum_range (f := f)]
  exact sumRange_eq n f

theorem toM_matMul (l m n : Nat) (A B : NMat ℂ) : toM l n (matMul l m n A B) = toM l m A * toM m n B := by
  ext i j
  simp [toM, matMul, NMat.get_ofFn_fin, Matrix.mul_apply, sumK_eq]

theorem toM_conjT (m n : Nat) (A : NMat ℂ) : toM n m (conjT m n A) = (toM m n A).conjTranspose := by
  ext i j
  simp [toM, conjT, NMat.get_ofFn_fin, Matrix.conjTranspose_apply, CxOps.conj]

/-- weighted simplex: `Σ w_i (p_i / w_i) = Σ p_i` for non-zero weights -/
theorem weightedProb_sum (n : Nat) (p w : Nat → ℝ) (hw : ∀ i, i < n → w i ≠ 0) :
    ∑ i ∈ range n, w i * weightedProb p w i = ∑ i ∈ range n, p i := by
  refine Finset.sum_congr rfl (fun i hi => ?_)
  unfold weightedProb
  have := hw i (Finset.mem_range.1 hi)
  field_simp

end Numqi.Manifold
