/-
Helper lemmas for the Sp(2n,F2) model (C09): bit-level facts, bilinearity of the symplectic
product, transvections, the transvection lemma (`find_transvection`).
-/
import Mathlib.Tactic
import NumqiModel.SpF2

namespace Numqi.SpF2

/-! ### bit arrays -/

theorem testBit_ofFn (m : Nat) (f : Nat → Bool) (j : Nat) :
    (ofFn m f).testBit j = (decide (j < m) && f j) := by
  induction m with
  | zero => simp [ofFn]
  | succ m ih =>
    rw [ofFn, Nat.testBit_or, ih]
    by_cases hj : m = j
    · subst hj; cases f m <;> simp
    · have : (j < m + 1) = (j < m) := by apply propext; omega
      cases f m <;> simp [hj, this, Nat.testBit_two_pow]

theorem testBit_bit (i : Nat) (b : Bool) (j : Nat) : (bit i b).testBit j = (b && decide (i = j)) := by
  unfold bit; cases b <;> simp [Nat.testBit_two_pow]

theorem ofFn_lt (m : Nat) (f : Nat → Bool) : ofFn m f < 2 ^ m := by
  apply Nat.lt_pow_two_of_testBit
  intro i hi
  rw [testBit_ofFn]; simp; omega

theorem testBit_eq_false_of_lt {v m j : Nat} (hv : v < 2 ^ m) (hj : m ≤ j) : v.testBit j = false :=
  Nat.testBit_lt_two_pow (lt_of_lt_of_le hv (Nat.pow_le_pow_right (by norm_num) hj))

/-- numbers below `2^m` are determined by their first `m` bits -/
theorem eq_of_testBit_lt {a b m : Nat} (ha : a < 2 ^ m) (hb : b < 2 ^ m) (h : ∀ j, j < m → a.testBit j = b.testBit j) :
    a = b := by
  apply Nat.eq_of_testBit_eq; intro j
  by_cases hj : j < m
  · exact h j hj
  · rw [testBit_eq_false_of_lt ha (by omega), testBit_eq_false_of_lt hb (by omega)]

theorem ofFn_testBit {v m : Nat} (hv : v < 2 ^ m) : ofFn m (fun j => v.testBit j) = v :=
  eq_of_testBit_lt (ofFn_lt _ _) hv fun j hj => by rw [testBit_ofFn, decide_eq_true hj, Bool.true_and]

theorem xor_lt {a b m : Nat} (ha : a < 2 ^ m) (hb : b < 2 ^ m) : a ^^^ b < 2 ^ m :=
  Nat.xor_lt_two_pow ha hb

theorem bit_lt {i m : Nat} (b : Bool) (h : i < m) : bit i b < 2 ^ m := by
  unfold bit; cases b
  · simp
  · simpa using Nat.pow_lt_pow_right (by norm_num : 1 < 2) h

theorem four_pow (n : Nat) : 4 ^ n = 2 ^ (2 * n) := by
  rw [pow_mul]; norm_num

/-! ### the symplectic product -/

theorem ipUpTo_xor_left (n a b w k : Nat) :
    ipUpTo n (a ^^^ b) w k = (ipUpTo n a w k ^^ ipUpTo n b w k) := by
  induction k with
  | zero => rfl
  | succ k ih =>
    simp only [ipUpTo, ih, ipTerm, Nat.testBit_xor, Bool.and_xor_distrib_right, Bool.xor_assoc, Bool.xor_left_comm]

theorem ipUpTo_comm (n v w k : Nat) : ipUpTo n v w k = ipUpTo n w v k := by
  induction k with
  | zero => rfl
  | succ k ih =>
    simp only [ipUpTo, ih, ipTerm]
    cases v.testBit k <;> cases v.testBit (k + n) <;> cases w.testBit k <;> cases w.testBit (k + n) <;> simp

theorem ipUpTo_self (n v k : Nat) : ipUpTo n v v k = false := by
  induction k with
  | zero => rfl
  | succ k ih =>
    simp only [ipUpTo, ih, ipTerm]
    cases v.testBit k <;> cases v.testBit (k + n) <;> rfl

theorem ipUpTo_zero_left (n w k : Nat) : ipUpTo n 0 w k = false := by
  induction k with
  | zero => rfl
  | succ k ih => simp [ipUpTo, ih, ipTerm]

theorem ip_comm (n v w : Nat) : ip n v w = ip n w v := ipUpTo_comm n v w n
theorem ip_self (n v : Nat) : ip n v v = false := ipUpTo_self n v n
theorem ip_xor_left (n a b w : Nat) : ip n (a ^^^ b) w = (ip n a w ^^ ip n b w) := ipUpTo_xor_left n a b w n
theorem ip_xor_right (n v a b : Nat) : ip n v (a ^^^ b) = (ip n v a ^^ ip n v b) := by
  rw [ip_comm, ip_xor_left, ip_comm n a, ip_comm n b]
theorem ip_zero_left (n w : Nat) : ip n 0 w = false := ipUpTo_zero_left n w n
theorem ip_zero_right (n v : Nat) : ip n v 0 = false := by rw [ip_comm, ip_zero_left]

/-- product with a unit vector in the first half: `<v, e_i> = v[i+n]` -/
theorem ipUpTo_bit_lo (n v i k : Nat) (hi : i < n) :
    ipUpTo n v (2 ^ i) k = (decide (i < k) && v.testBit (i + n)) := by
  induction k with
  | zero => simp [ipUpTo]
  | succ k ih =>
    simp only [ipUpTo, ih, ipTerm, Nat.testBit_two_pow]
    have h1 : i ≠ k + n := by omega
    by_cases hk : i = k
    · subst hk
      have hn : n ≠ 0 := by omega
      simp [hn]
    · have h2 : (i < k + 1) = (i < k) := by apply propext; omega
      simp [h1, hk, h2]

theorem ipUpTo_bit_hi (n v i k : Nat) (hk : k ≤ n) :
    ipUpTo n v (2 ^ (i + n)) k = (decide (i < k) && v.testBit i) := by
  induction k with
  | zero => simp [ipUpTo]
  | succ k ih =>
    simp only [ipUpTo, ih (by omega), ipTerm, Nat.testBit_two_pow]
    have h4 : i + n ≠ k := by omega
    by_cases hik : i = k
    · subst hik
      have hn : n ≠ 0 := by omega
      simp [hn]
    · have h2 : (i < k + 1) = (i < k) := by apply propext; omega
      simp [h2, h4, hik]

theorem ip_bit_lo (n v i : Nat) (hi : i < n) : ip n v (2 ^ i) = v.testBit (i + n) := by
  unfold ip; rw [ipUpTo_bit_lo n v i n hi]; simp [hi]

theorem ip_bit_hi (n v i : Nat) (hi : i < n) : ip n v (2 ^ (i + n)) = v.testBit i := by
  unfold ip; rw [ipUpTo_bit_hi n v i n le_rfl]; simp [hi]

/-- product with a vector supported on the pair `(i, i+n)` -/
theorem ip_pair (n v i : Nat) (a b : Bool) (hi : i < n) :
    ip n v (bit i a ^^^ bit (i + n) b) = ((v.testBit i && b) ^^ (v.testBit (i + n) && a)) := by
  rw [ip_xor_right]
  unfold bit
  cases a <;> cases b <;> simp [ip_zero_right, ip_bit_lo n v i hi, ip_bit_hi n v i hi, Bool.xor_comm]

/-! ### transvections -/

theorem tv_zero (n x : Nat) : tv n x 0 = x := by simp [tv]

theorem tv_involutive (n x h : Nat) : tv n (tv n x h) h = x := by
  unfold tv
  by_cases hx : ip n x h
  · simp only [hx, if_true, ip_xor_left, ip_self, Bool.xor_false]
    rw [Nat.xor_assoc, Nat.xor_self, Nat.xor_zero]
  · simp [hx]

theorem ip_tv_left (n x h y : Nat) : ip n (tv n x h) y = (ip n x y ^^ (ip n x h && ip n h y)) := by
  unfold tv
  by_cases hx : ip n x h <;> simp [hx, ip_xor_left, ip_zero_left]

theorem ip_tv_tv (n x y h : Nat) : ip n (tv n x h) (tv n y h) = ip n x y := by
  rw [ip_tv_left, ip_comm n x (tv n y h), ip_comm n h (tv n y h), ip_tv_left, ip_tv_left, ip_self,
    ip_comm n y x, ip_comm n y h, ip_comm n h x]
  cases ip n x y <;> cases ip n x h <;> cases ip n h y <;> rfl

theorem tv_xor (n x y h : Nat) : tv n (x ^^^ y) h = tv n x h ^^^ tv n y h := by
  unfold tv
  rw [ip_xor_left]
  apply Nat.eq_of_testBit_eq; intro j
  cases ip n x h <;> cases ip n y h <;> simp [Nat.testBit_xor]
  all_goals cases x.testBit j <;> cases y.testBit j <;> cases h.testBit j <;> rfl

theorem tv_zero_left (n h : Nat) : tv n 0 h = 0 := by simp [tv, ip_zero_left]

theorem tv_lt {n x h m : Nat} (hx : x < 2 ^ m) (hh : h < 2 ^ m) : tv n x h < 2 ^ m := by
  unfold tv; split
  · exact xor_lt hx hh
  · simpa using hx

/-- two-step form used by the last three branches of `find_transvection` -/
theorem tv_two_step {n v0 v1 v2 : Nat} (h01 : ip n v0 v1 = false) (h02 : ip n v0 v2 = true)
    (h12 : ip n v1 v2 = true) : tv n (tv n v0 (v1 ^^^ v2)) (v0 ^^^ v2) = v1 := by
  have h10 : ip n v1 v0 = false := by rw [ip_comm]; exact h01
  have h20 : ip n v2 v0 = true := by rw [ip_comm]; exact h02
  have e1 : tv n v0 (v1 ^^^ v2) = v0 ^^^ (v1 ^^^ v2) := by simp [tv, ip_xor_right, h01, h02]
  rw [e1]
  have e2 : ip n (v0 ^^^ (v1 ^^^ v2)) (v0 ^^^ v2) = true := by
    simp [ip_xor_left, ip_xor_right, ip_self, h01, h02, h12, h10, h20]
  simp only [tv, e2, if_true]
  apply Nat.eq_of_testBit_eq; intro j
  simp only [Nat.testBit_xor]
  cases v0.testBit j <;> cases v1.testBit j <;> cases v2.testBit j <;> rfl

/-- the same two transvections in the other order (the order used by `from_int_tuple`) -/
theorem tv_two_step_rev {n v0 v1 v2 : Nat} (h02 : ip n v0 v2 = true)
    (h12 : ip n v1 v2 = true) : tv n (tv n v0 (v0 ^^^ v2)) (v1 ^^^ v2) = v1 := by
  have h21 : ip n v2 v1 = true := by rw [ip_comm]; exact h12
  have e1 : tv n v0 (v0 ^^^ v2) = v2 := by
    simp only [tv, ip_xor_right, ip_self, h02, Bool.false_xor, if_true]
    rw [← Nat.xor_assoc, Nat.xor_self, Nat.zero_xor]
  rw [e1]
  simp only [tv, ip_xor_right, ip_self, h21, Bool.xor_false, if_true]
  rw [Nat.xor_comm v1 v2, ← Nat.xor_assoc, Nat.xor_self, Nat.zero_xor]

/-! ### `find_transvection` -/

/-- the search returns the first hit, or there is none -/
theorem findIdx_spec (p : Nat → Bool) (k : Nat) :
    (∃ i, findIdx p k = some i ∧ i < k ∧ p i = true) ∨ (findIdx p k = none ∧ ∀ j, j < k → p j = false) := by
  induction k with
  | zero => right; exact ⟨rfl, fun j hj => absurd hj (Nat.not_lt_zero j)⟩
  | succ k ih =>
    rw [findIdx]
    rcases ih with ⟨i, hf, hi, hp⟩ | ⟨hf, hn⟩
    · left; exact ⟨i, by rw [hf], by omega, hp⟩
    · rw [hf]
      by_cases hp : p k = true
      · left; exact ⟨k, if_pos hp, by omega, hp⟩
      · right
        refine ⟨if_neg hp, fun j hj => ?_⟩
        rcases Nat.lt_succ_iff_lt_or_eq.mp hj with h | rfl
        · exact hn j h
        · simpa using hp

theorem findIdx_of_exists {p : Nat → Bool} {k j : Nat} (hj : j < k) (hp : p j = true) :
    ∃ i, findIdx p k = some i ∧ i < k ∧ p i = true := by
  rcases findIdx_spec p k with h | ⟨_, hn⟩
  · exact h
  · rw [hn j hj] at hp; cases hp

theorem findIdx_congr {p q : Nat → Bool} (h : ∀ i, p i = q i) (k : Nat) : findIdx p k = findIdx q k := by
  have : p = q := funext h
  rw [this]

/-- a non-zero vector below `4^n` has a non-zero pair -/
theorem exists_pairNZ {n v : Nat} (h0 : v ≠ 0) (hv : v < 4 ^ n) : ∃ i, i < n ∧ pairNZ n v i = true := by
  obtain ⟨k, hk⟩ := Nat.exists_testBit_of_ne_zero h0
  have hk2 : k < 2 * n := by
    by_contra hc
    rw [four_pow] at hv
    rw [testBit_eq_false_of_lt hv (by omega)] at hk
    exact absurd hk (by simp)
  by_cases hkn : k < n
  · exact ⟨k, hkn, by simp [pairNZ, hk]⟩
  · refine ⟨k - n, by omega, ?_⟩
    have : k - n + n = k := by omega
    simp [pairNZ, this, hk]

theorem oneSided_lt {n u : Nat} {idx : Option Nat} (h : ∀ i, idx = some i → i < n) : oneSided n u idx < 4 ^ n := by
  rw [four_pow]
  cases idx with
  | none => simp [oneSided]
  | some i =>
    have hi := h i rfl
    simp only [oneSided]
    split
    · exact bit_lt _ (by omega)
    · exact xor_lt (bit_lt _ (by omega)) (bit_lt _ (by omega))

/-- the vector written for the first index where `u` has a non-zero pair pairs to `1` with `u` … -/
theorem ip_oneSided_self {n u i : Nat} (hi : i < n) (hu : pairNZ n u i = true) :
    ip n u (oneSided n u (some i)) = true := by
  simp only [oneSided, pairNZ] at *
  by_cases he : u.testBit i = u.testBit (i + n)
  · have : bit (i + n) true = bit i false ^^^ bit (i + n) true := by simp [bit]
    rw [if_pos (by simp [he]), this, ip_pair n u i _ _ hi]
    rw [he] at hu ⊢; simpa using hu
  · rw [if_neg (by simpa using he), ip_pair n u i _ _ hi]
    revert he hu
    cases u.testBit i <;> cases u.testBit (i + n) <;> simp

/-- … and to `0` with a vector whose pair at that index is `00`. -/
theorem ip_oneSided_other {n u w i : Nat} (hi : i < n) (hw : pairNZ n w i = false) :
    ip n w (oneSided n u (some i)) = false := by
  simp only [oneSided, pairNZ, Bool.or_eq_false_iff] at *
  have e : bit (i + n) true = bit i false ^^^ bit (i + n) true := by simp [bit]
  split
  · rw [e, ip_pair n w i _ _ hi]; simp [hw.1, hw.2]
  · rw [ip_pair n w i _ _ hi]; simp [hw.1, hw.2]

/-- the three facts about `v2` on which the last three branches rest -/
structure Good (n v0 v1 v2 : Nat) : Prop where
  h02 : ip n v0 v2 = true
  h12 : ip n v1 v2 = true
  lt : v2 < 4 ^ n

/-- the third branch of Lemma 2 on the bits `(p, q)` of `v0` and `(r, s)` of `v1` at a common non-zero pair: the pair written
into `v2` has product `1` with both (a truth table) -/
theorem pair_choice : ∀ p q r s : Bool, (p || q) = true → (r || s) = true →
    ((p && (if (!(p ^^ r) && !(q ^^ s)) = true then true else (q ^^ s))) ^^
      (q && (if (!(p ^^ r) && !(q ^^ s)) = true then (p ^^ q) else (p ^^ r)))) = true ∧
    ((r && (if (!(p ^^ r) && !(q ^^ s)) = true then true else (q ^^ s))) ^^
      (s && (if (!(p ^^ r) && !(q ^^ s)) = true then (p ^^ q) else (p ^^ r)))) = true := by
  decide

/-- description of the value of `findTv`: one transvection `h` does it (first two branches), or the pair is built from a `v2` -/
theorem findTv_cases (n v0 v1 : Nat) (h0 : v0 ≠ 0) (h1 : v1 ≠ 0) (hv0 : v0 < 4 ^ n) (hv1 : v1 < 4 ^ n) :
    (∃ h, findTv n v0 v1 = (h, 0) ∧ tv n v0 h = v1 ∧ h < 4 ^ n) ∨
    (ip n v0 v1 = false ∧ ∃ v2, Good n v0 v1 v2 ∧ findTv n v0 v1 = (v1 ^^^ v2, v0 ^^^ v2)) := by
  by_cases he : v0 = v1
  · left; exact ⟨0, by simp [findTv, he], by rw [tv_zero, he], by positivity⟩
  by_cases hip : ip n v0 v1 = true
  · left
    refine ⟨v0 ^^^ v1, by simp [findTv, he, hip], ?_, ?_⟩
    · simp only [tv, ip_xor_right, ip_self, hip, Bool.false_xor, if_true]
      rw [← Nat.xor_assoc, Nat.xor_self, Nat.zero_xor]
    · rw [four_pow] at *; exact xor_lt hv0 hv1
  right
  refine ⟨by simpa using hip, ?_⟩
  have hip' : ip n v0 v1 = false := by simpa using hip
  unfold findTv
  rw [if_neg he, if_neg (by simp [hip'])]
  rcases findIdx_spec (fun i => pairNZ n v0 i && pairNZ n v1 i) n with ⟨i, hf, hi, hp⟩ | ⟨hf, hnone⟩
  · rw [hf]
    simp only [Bool.and_eq_true, pairNZ] at hp
    obtain ⟨h02, h12⟩ := pair_choice _ _ _ _ hp.1 hp.2
    have hv2 : ∀ (c x a b : Bool), (if c = true then bit i x ^^^ bit (i + n) true else bit i a ^^^ bit (i + n) b)
        = bit i (if c = true then x else a) ^^^ bit (i + n) (if c = true then true else b) := by
      intro c x a b; cases c <;> rfl
    refine ⟨_, ⟨?_, ?_, ?_⟩, rfl⟩
    · rw [hv2, ip_pair n v0 i _ _ hi]; exact h02
    · rw [hv2, ip_pair n v1 i _ _ hi]; exact h12
    · rw [four_pow]
      split <;> exact xor_lt (bit_lt _ (by omega)) (bit_lt _ (by omega))
  · obtain ⟨i0, hi0, hp0⟩ := exists_pairNZ h0 hv0
    obtain ⟨i1, hi1, hp1⟩ := exists_pairNZ h1 hv1
    have hq0 : pairNZ n v1 i0 = false := by
      have := hnone i0 hi0; simpa [hp0] using this
    have hq1 : pairNZ n v0 i1 = false := by
      have := hnone i1 hi1; simpa [hp1] using this
    -- so both one-sided searches succeed
    obtain ⟨ia, hfa, hia, hpa⟩ := findIdx_of_exists (p := fun i => pairNZ n v0 i && !pairNZ n v1 i) hi0 (by simp [hp0, hq0])
    obtain ⟨ib, hfb, hib, hpb⟩ := findIdx_of_exists (p := fun i => !pairNZ n v0 i && pairNZ n v1 i) hi1 (by simp [hp1, hq1])
    rw [hf, hfa, hfb]
    simp only [Bool.and_eq_true, Bool.not_eq_true'] at hpa hpb
    refine ⟨_, ⟨?_, ?_, ?_⟩, rfl⟩
    · rw [ip_xor_right, ip_oneSided_self hia hpa.1, ip_oneSided_other hib hpb.1]; rfl
    · rw [ip_xor_right, ip_oneSided_other hia hpa.2, ip_oneSided_self hib hpb.2]; rfl
    · rw [four_pow]
      refine xor_lt ?_ ?_
      · rw [← four_pow]; exact oneSided_lt (by intro i h; cases h; exact hia)
      · rw [← four_pow]; exact oneSided_lt (by intro i h; cases h; exact hib)

/-- **Lemma 2**: the two transvections returned map `v0` to `v1` (in the order `ret[0]`, then `ret[1]`). -/
theorem findTv_spec (n v0 v1 : Nat) (h0 : v0 ≠ 0) (h1 : v1 ≠ 0) (hv0 : v0 < 4 ^ n) (hv1 : v1 < 4 ^ n) :
    tv n (tv n v0 (findTv n v0 v1).1) (findTv n v0 v1).2 = v1 := by
  rcases findTv_cases n v0 v1 h0 h1 hv0 hv1 with ⟨h, hf, hh, _⟩ | ⟨hip, v2, hg, hf⟩
  · rw [hf, tv_zero]; exact hh
  · rw [hf]; exact tv_two_step hip hg.h02 hg.h12

/-- the same two transvections applied in the other order (`ret[1]` first) also map `v0` to `v1`;
this is the order in which `from_int_tuple` / `to_int_tuple` use them -/
theorem findTv_spec_rev (n v0 v1 : Nat) (h0 : v0 ≠ 0) (h1 : v1 ≠ 0) (hv0 : v0 < 4 ^ n) (hv1 : v1 < 4 ^ n) :
    tv n (tv n v0 (findTv n v0 v1).2) (findTv n v0 v1).1 = v1 := by
  rcases findTv_cases n v0 v1 h0 h1 hv0 hv1 with ⟨h, hf, hh, _⟩ | ⟨hip, v2, hg, hf⟩
  · rw [hf, tv_zero]; exact hh
  · rw [hf]; exact tv_two_step_rev hg.h02 hg.h12

theorem findTv_lt (n v0 v1 : Nat) (h0 : v0 ≠ 0) (h1 : v1 ≠ 0) (hv0 : v0 < 4 ^ n) (hv1 : v1 < 4 ^ n) :
    (findTv n v0 v1).1 < 4 ^ n ∧ (findTv n v0 v1).2 < 4 ^ n := by
  rcases findTv_cases n v0 v1 h0 h1 hv0 hv1 with ⟨h, hf, _, hh⟩ | ⟨_, v2, hg, hf⟩
  · rw [hf]; exact ⟨hh, by positivity⟩
  · have := hg.lt
    rw [hf]; rw [four_pow] at *
    exact ⟨xor_lt hv1 this, xor_lt hv0 this⟩

/-- `find_transvection(v1, v0)` returns the same pair as `find_transvection(v0, v1)`, swapped in the
last three branches -/
theorem findTv_swap (n v0 v1 : Nat) :
    findTv n v1 v0 = if v0 = v1 ∨ ip n v0 v1 = true then findTv n v0 v1
      else ((findTv n v0 v1).2, (findTv n v0 v1).1) := by
  by_cases he : v0 = v1
  · subst he; simp
  have he' : ¬ v1 = v0 := fun h => he h.symm
  by_cases hip : ip n v0 v1 = true
  · have hip' : ip n v1 v0 = true := by rw [ip_comm]; exact hip
    simp [findTv, he, he', hip, hip', Nat.xor_comm]
  · have hip' : ¬ ip n v1 v0 = true := by rw [ip_comm]; exact hip
    rw [if_neg (by simp [he, hip])]
    unfold findTv
    rw [if_neg he, if_neg he', if_neg hip, if_neg hip']
    have e1 : (fun i => pairNZ n v1 i && pairNZ n v0 i) = (fun i => pairNZ n v0 i && pairNZ n v1 i) :=
      funext fun i => Bool.and_comm _ _
    have e2 : (fun i => pairNZ n v1 i && !pairNZ n v0 i) = (fun i => !pairNZ n v0 i && pairNZ n v1 i) :=
      funext fun i => Bool.and_comm _ _
    have e3 : (fun i => !pairNZ n v1 i && pairNZ n v0 i) = (fun i => pairNZ n v0 i && !pairNZ n v1 i) :=
      funext fun i => Bool.and_comm _ _
    rw [e1, e2, e3]
    cases findIdx (fun i => pairNZ n v0 i && pairNZ n v1 i) n with
    | some i =>
      simp only
      -- the vector written at a common non-zero pair does not depend on the order of the two vectors
      have : ∀ p q r s : Bool,
          (if (!(r ^^ p) && !(s ^^ q)) = true then bit i (r ^^ s) ^^^ bit (i + n) true
            else bit i (r ^^ p) ^^^ bit (i + n) (s ^^ q))
          = (if (!(p ^^ r) && !(q ^^ s)) = true then bit i (p ^^ q) ^^^ bit (i + n) true
            else bit i (p ^^ r) ^^^ bit (i + n) (q ^^ s)) := by
        intro p q r s
        cases p <;> cases q <;> cases r <;> cases s <;> rfl
      rw [this]
    | none =>
      simp only
      rw [Nat.xor_comm (oneSided n v1 _) (oneSided n v0 _)]

/-- hence the composite used by `to_int_tuple` undoes the composite used by `from_int_tuple` -/
theorem findTv_undo (n v0 v1 x : Nat) :
    tv n (tv n (tv n (tv n x (findTv n v0 v1).2) (findTv n v0 v1).1) (findTv n v1 v0).2) (findTv n v1 v0).1 = x := by
  rw [findTv_swap n v0 v1]
  by_cases hc : v0 = v1 ∨ ip n v0 v1 = true
  · rw [if_pos hc]
    have h2 : (findTv n v0 v1).2 = 0 := by
      unfold findTv
      split
      · rfl
      · rename_i he
        rw [if_pos (hc.resolve_left he)]
    rw [h2]; simp only [tv_zero, tv_involutive]
  · rw [if_neg hc]; simp only [tv_involutive]

end Numqi.SpF2
