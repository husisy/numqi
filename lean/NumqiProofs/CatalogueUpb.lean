/-
Helper lemmas for C18: the complement projector of an orthonormal set of (product) vectors — idempotent, Hermitian,
trace `D - m`, positive semidefinite; its partial transpose is the complement projector of the vectors `u ⊗ conj v`.
-/
import NumqiProofs.Catalogue
import NumqiProofs.PartialTrace
import Mathlib.Data.Complex.Basic
import Mathlib.Data.Complex.BigOperators
import Mathlib.Data.List.GetD

set_option linter.unusedSectionVars false

namespace Numqi.Catalogue
open Finset

/-- complex conjugation for the model's `Conj` class -/
noncomputable instance instConjComplex : Numqi.Conj ℂ := ⟨starRingEnd ℂ⟩

theorem conj_def (z : ℂ) : Numqi.conj z = starRingEnd ℂ z := rfl

theorem sumRange_eq {M : Type} [AddCommMonoid M] (m : ℕ) (f : ℕ → M) : sumRange m f = ∑ a ∈ Finset.range m, f a := by
  unfold sumRange
  induction m with
  | zero => simp
  | succ m ih => rw [List.range_succ, List.foldl_append, ih, Finset.sum_range_succ]; rfl

/-- Hermitian inner product on `range D` -/
noncomputable def inner (D : ℕ) (x y : ℕ → ℂ) : ℂ := ∑ t ∈ Finset.range D, starRingEnd ℂ (x t) * y t

/-- orthonormality of the `m` vectors `w a` in dimension `D` -/
def Orthonormal (m D : ℕ) (w : ℕ → ℕ → ℂ) : Prop :=
  ∀ a < m, ∀ b < m, inner D (w a) (w b) = if a = b then 1 else 0

theorem upbProj_eq (m : ℕ) (w : ℕ → ℕ → ℂ) (r c : ℕ) :
    upbProj m w r c = ∑ a ∈ Finset.range m, w a r * starRingEnd ℂ (w a c) := by
  unfold upbProj; rw [sumRange_eq]; rfl

theorem upbProj_conj (m : ℕ) (w : ℕ → ℕ → ℂ) (r c : ℕ) :
    starRingEnd ℂ (upbProj m w r c) = upbProj m w c r := by
  rw [upbProj_eq, upbProj_eq, map_sum]
  refine Finset.sum_congr rfl fun a _ => ?_
  rw [map_mul, Complex.conj_conj]; ring

/-- `P² = P` -/
theorem upbProj_idem (m D : ℕ) (w : ℕ → ℕ → ℂ) (h : Orthonormal m D w) (r c : ℕ) :
    ∑ y ∈ Finset.range D, upbProj m w r y * upbProj m w y c = upbProj m w r c := by
  simp only [upbProj_eq]
  have : ∀ y, (∑ a ∈ Finset.range m, w a r * starRingEnd ℂ (w a y)) * (∑ b ∈ Finset.range m, w b y * starRingEnd ℂ (w b c))
      = ∑ a ∈ Finset.range m, ∑ b ∈ Finset.range m, w a r * starRingEnd ℂ (w b c) * (starRingEnd ℂ (w a y) * w b y) := by
    intro y
    rw [Finset.sum_mul_sum]
    refine Finset.sum_congr rfl fun a _ => Finset.sum_congr rfl fun b _ => by ring
  simp only [this]
  rw [Finset.sum_comm]
  refine Finset.sum_congr rfl fun a ha => ?_
  rw [Finset.sum_comm]
  have hb : ∀ b ∈ Finset.range m, ∑ y ∈ Finset.range D, w a r * starRingEnd ℂ (w b c) * (starRingEnd ℂ (w a y) * w b y)
      = w a r * starRingEnd ℂ (w b c) * (if a = b then 1 else 0) := by
    intro b hb
    rw [← Finset.mul_sum]
    congr 1
    exact h a (Finset.mem_range.mp ha) b (Finset.mem_range.mp hb)
  rw [Finset.sum_congr rfl hb]
  simp [Finset.mem_range.mp ha]

/-- `C² = C` for `C = 1 - P` (indices below `D`) -/
theorem upbCompl_idem (m D : ℕ) (w : ℕ → ℕ → ℂ) (h : Orthonormal m D w) (r c : ℕ) (hr : r < D) (hc : c < D) :
    ∑ y ∈ Finset.range D, upbCompl m w r y * upbCompl m w y c = upbCompl m w r c := by
  unfold upbCompl
  have e : ∀ y, ((if r = y then (1 : ℂ) else 0) - upbProj m w r y) * ((if y = c then (1 : ℂ) else 0) - upbProj m w y c)
      = (if r = y then (if y = c then (1 : ℂ) else 0) else 0) - (if r = y then upbProj m w y c else 0)
        - (if y = c then upbProj m w r y else 0) + upbProj m w r y * upbProj m w y c := by
    intro y; split_ifs <;> ring
  simp only [e, Finset.sum_add_distrib, Finset.sum_sub_distrib, upbProj_idem m D w h]
  simp [hr, hc]

theorem upbCompl_conj (m : ℕ) (w : ℕ → ℕ → ℂ) (r c : ℕ) :
    starRingEnd ℂ (upbCompl m w r c) = upbCompl m w c r := by
  unfold upbCompl
  rw [map_sub, upbProj_conj]
  congr 1
  split_ifs with h1 h2 h2 <;> simp_all

/-- trace of the complement projector: `D - m` -/
theorem upbCompl_trace (m D : ℕ) (w : ℕ → ℕ → ℂ) (h : Orthonormal m D w) :
    ∑ r ∈ Finset.range D, upbCompl m w r r = (D : ℂ) - (m : ℂ) := by
  unfold upbCompl
  simp only [if_true, Finset.sum_sub_distrib, Finset.sum_const, Finset.card_range, upbProj_eq]
  rw [Finset.sum_comm]
  have : ∀ a ∈ Finset.range m, ∑ r ∈ Finset.range D, w a r * starRingEnd ℂ (w a r) = 1 := by
    intro a ha
    have := h a (Finset.mem_range.mp ha) a (Finset.mem_range.mp ha)
    rw [if_pos rfl] at this
    rw [← this]; unfold inner
    refine Finset.sum_congr rfl fun r _ => by ring
  rw [Finset.sum_congr rfl this]
  simp

/-- quadratic (Hermitian) form on `range D` -/
noncomputable def hform (D : ℕ) (M : ℕ → ℕ → ℂ) (x : ℕ → ℂ) : ℂ :=
  ∑ r ∈ Finset.range D, ∑ c ∈ Finset.range D, starRingEnd ℂ (x r) * M r c * x c

/-- a Hermitian idempotent is positive semidefinite: `x† C x = Σ_y |Σ_c C_yc x_c|²` -/
theorem hform_of_idem (D : ℕ) (C : ℕ → ℕ → ℂ)
    (hid : ∀ r < D, ∀ c < D, ∑ y ∈ Finset.range D, C r y * C y c = C r c)
    (hherm : ∀ r c, starRingEnd ℂ (C r c) = C c r) (x : ℕ → ℂ) :
    hform D C x = ∑ y ∈ Finset.range D, ((Complex.normSq (∑ c ∈ Finset.range D, C y c * x c) : ℝ) : ℂ) := by
  unfold hform
  have e1 : ∀ y, ((Complex.normSq (∑ c ∈ Finset.range D, C y c * x c) : ℝ) : ℂ)
      = ∑ r ∈ Finset.range D, ∑ c ∈ Finset.range D, starRingEnd ℂ (x r) * (C r y * C y c) * x c := by
    intro y
    rw [Complex.normSq_eq_conj_mul_self, map_sum, Finset.sum_mul_sum]
    refine Finset.sum_congr rfl fun r _ => Finset.sum_congr rfl fun c _ => ?_
    rw [map_mul, hherm]; ring
  symm
  simp only [e1]
  rw [Finset.sum_comm]
  refine Finset.sum_congr rfl fun r hr => ?_
  rw [Finset.sum_comm]
  refine Finset.sum_congr rfl fun c hc => ?_
  rw [← hid r (Finset.mem_range.mp hr) c (Finset.mem_range.mp hc), Finset.mul_sum, Finset.sum_mul]

theorem hform_nonneg_of_idem (D : ℕ) (C : ℕ → ℕ → ℂ)
    (hid : ∀ r < D, ∀ c < D, ∑ y ∈ Finset.range D, C r y * C y c = C r c)
    (hherm : ∀ r c, starRingEnd ℂ (C r c) = C c r) (x : ℕ → ℂ) :
    0 ≤ (hform D C x).re ∧ (hform D C x).im = 0 := by
  rw [hform_of_idem D C hid hherm x]
  constructor
  · rw [Complex.re_sum]
    exact Finset.sum_nonneg fun y _ => by rw [Complex.ofReal_re]; exact Complex.normSq_nonneg _
  · rw [Complex.im_sum]
    exact Finset.sum_eq_zero fun y _ => Complex.ofReal_im _

/-! ### product vectors and the partial transpose -/

/-- the inner product of product vectors factorises -/
theorem inner_prodVec (dA dB : ℕ) (hB : 0 < dB) (u v : ℕ → ℕ → ℂ) (a b : ℕ) :
    inner (dA * dB) (prodVec dB u v a) (prodVec dB u v b) = inner dA (u a) (u b) * inner dB (v a) (v b) := by
  unfold inner
  rw [sum_range_mul, Finset.sum_mul_sum]
  refine Finset.sum_congr rfl fun i _ => Finset.sum_congr rfl fun j hj => ?_
  simp only [prodVec, div_of_lt (Finset.mem_range.mp hj), mod_of_lt (Finset.mem_range.mp hj), map_mul]; ring

theorem inner_conj (D : ℕ) (x y : ℕ → ℂ) :
    inner D (fun t => starRingEnd ℂ (x t)) (fun t => starRingEnd ℂ (y t)) = starRingEnd ℂ (inner D x y) := by
  unfold inner; rw [map_sum]
  refine Finset.sum_congr rfl fun t _ => by rw [map_mul]

theorem inner_swap (D : ℕ) (x y : ℕ → ℂ) : inner D x y = starRingEnd ℂ (inner D y x) := by
  unfold inner; rw [map_sum]
  refine Finset.sum_congr rfl fun t _ => by rw [map_mul, Complex.conj_conj, mul_comm]

/-- orthonormal product vectors stay orthonormal when the second factors are conjugated -/
theorem orthonormal_conj_right (m dA dB : ℕ) (hB : 0 < dB) (u v : ℕ → ℕ → ℂ)
    (h : Orthonormal m (dA * dB) (prodVec dB u v)) :
    Orthonormal m (dA * dB) (prodVec dB u (fun a t => starRingEnd ℂ (v a t))) := by
  intro a ha b hb
  have hab := h a ha b hb
  rw [inner_prodVec dA dB hB] at hab
  rw [inner_prodVec dA dB hB, inner_conj]
  by_cases e : a = b
  · subst e
    rw [← inner_swap]; exact hab
  · rw [if_neg e] at hab ⊢
    rcases mul_eq_zero.mp hab with h0 | h0
    · rw [h0, zero_mul]
    · rw [h0, map_zero, mul_zero]

/-- **the partial transpose of the complement projector is the complement projector of `u ⊗ conj v`** -/
theorem ptB_upbCompl (m dB : ℕ) (hB : 0 < dB) (u v : ℕ → ℕ → ℂ) (r c : ℕ) :
    ptB dB (upbCompl m (prodVec dB u v)) r c = upbCompl m (prodVec dB u (fun a t => starRingEnd ℂ (v a t))) r c := by
  have hr1 := div_of_lt (q := r / dB) (Nat.mod_lt c hB)
  have hr2 := mod_of_lt (q := r / dB) (Nat.mod_lt c hB)
  have hc1 := div_of_lt (q := c / dB) (Nat.mod_lt r hB)
  have hc2 := mod_of_lt (q := c / dB) (Nat.mod_lt r hB)
  unfold ptB upbCompl
  congr 1
  · refine if_congr ⟨fun e => ?_, fun e => by rw [e]⟩ rfl rfl
    have e1 := congrArg (· / dB) e
    have e2 := congrArg (· % dB) e
    simp only [hr1, hc1, hr2, hc2] at e1 e2
    rw [← Nat.div_add_mod r dB, ← Nat.div_add_mod c dB, e1, e2]
  · rw [upbProj_eq, upbProj_eq]
    refine Finset.sum_congr rfl fun a _ => ?_
    simp only [prodVec, hr1, hr2, hc1, hc2, map_mul, Complex.conj_conj]
    ring

/-! ### `get_upb_product` (`upbProductRow`, what the driver runs) is `prodVec` -/

theorem flatMap_map_getD {M : Type} [Mul M] [Zero M] (l v : List M) (hn : 0 < v.length) (i : ℕ)
    (hi : i < l.length * v.length) :
    (l.flatMap fun x => v.map fun y => x * y).getD i 0 = l.getD (i / v.length) 0 * v.getD (i % v.length) 0 := by
  induction l generalizing i with
  | nil => simp at hi
  | cons x l ih =>
    rw [List.flatMap_cons]
    by_cases h : i < v.length
    · rw [List.getD_append _ _ _ _ (by simpa using h), Nat.div_eq_of_lt h, Nat.mod_eq_of_lt h]
      simp [List.getD_eq_getElem?_getD, h]
    · have h' : v.length ≤ i := not_lt.mp h
      rw [List.getD_append_right _ _ _ _ (by simpa using h')]
      simp only [List.length_map]
      have hi' : i - v.length < l.length * v.length := by
        rw [List.length_cons, Nat.succ_mul] at hi; omega
      rw [ih (i - v.length) hi']
      have e1 : i / v.length = (i - v.length) / v.length + 1 := by
        rw [← Nat.sub_add_cancel h', Nat.add_div_right _ hn]; simp
      have e2 : i % v.length = (i - v.length) % v.length := by
        conv_lhs => rw [← Nat.sub_add_cancel h', Nat.add_mod_right]
      rw [e1, e2, List.getD_cons_succ]

/-- appending a party multiplies in a new last (fastest) index -/
theorem upbProductRow_append {M : Type} [Mul M] [One M] (rows : List (List M)) (v : List M) :
    upbProductRow (rows ++ [v]) = (upbProductRow rows).flatMap fun x => v.map fun y => x * y := by
  unfold upbProductRow; rw [List.foldl_append]; rfl

theorem upbProductRow_length {M : Type} [Mul M] [One M] (rows : List (List M)) :
    (upbProductRow rows).length = (rows.map List.length).foldl (· * ·) 1 := by
  induction rows using List.reverseRecOn with
  | nil => rfl
  | append_singleton rows v ih =>
    rw [upbProductRow_append, List.length_flatMap]
    simp only [List.length_map, List.map_const', List.sum_replicate, smul_eq_mul, List.map_append, List.map_cons, List.map_nil,
      List.foldl_append, List.foldl_cons, List.foldl_nil, ih]

end Numqi.Catalogue
