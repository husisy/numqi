/-
C19 ↔ C08: the Pauli action `pauliAct` on position-indexed vectors is multiplication by C08's matrix
`mat I p` (`NumqiProps/C08.lean`), under the identification basis state `b : Bits n` ↦ position `Σ b_i 2^i`.
-/
import NumqiProofs.QecPauliAct
import NumqiProps.C08

namespace Numqi.Qec
open Numqi Numqi.Pauli

variable {R : Type} [CommRing R]

/-- position of a basis state: qubit `i` = bit `i` -/
def posOf : {n : Nat} → Bits n → Nat
  | 0, _ => 0
  | n + 1, b => posOf (fun i : Fin n => b i.castSucc) + (b (Fin.last n)).toNat * 2 ^ n

theorem posOf_lt : ∀ {n : Nat} (b : Bits n), posOf b < 2 ^ n
  | 0, _ => by simp [posOf]
  | n + 1, b => by
    have := posOf_lt (fun i : Fin n => b i.castSucc)
    rw [posOf, pow_succ]
    cases b (Fin.last n) <;> simp <;> omega

theorem testBit_posOf : ∀ {n : Nat} (b : Bits n) (j : Nat), (posOf b).testBit j = if h : j < n then b ⟨j, h⟩ else false
  | 0, _, j => by simp [posOf]
  | n + 1, b, j => by
    have hlt := posOf_lt (fun i : Fin n => b i.castSucc)
    have e : posOf b = 2 ^ n * (b (Fin.last n)).toNat + posOf (fun i : Fin n => b i.castSucc) := by
      rw [posOf]; ring
    rw [e, Nat.testBit_two_pow_mul_add _ hlt]
    by_cases hj : j < n
    · have hj' : j < n + 1 := by omega
      simp only [hj, hj', if_true, dite_true]
      rw [testBit_posOf (fun i : Fin n => b i.castSucc) j]
      simp [hj]
    · simp only [hj, if_false]
      by_cases hj2 : j = n
      · subst hj2
        have : (⟨j, by omega⟩ : Fin (j + 1)) = Fin.last j := rfl
        simp only [Nat.sub_self, Nat.lt_succ_self, dite_true, this]
        cases b (Fin.last j) <;> simp
      · have hj3 : ¬ j < n + 1 := by omega
        simp only [hj3, dite_false]
        have : 1 ≤ j - n := by omega
        cases b (Fin.last n) <;> simp
        · have : (1 : Nat) < 2 ^ (j - n) := Nat.one_lt_two_pow (by omega)
          exact Nat.testBit_lt_two_pow this

/-- the mask operator as an element of C08's `Pauli n` (`i^(2 s0 + s1) X^x Z^z`) -/
def toPauli (n : Nat) (p : MP) : Pauli n :=
  ⟨p.k % 4 / 2 == 1, p.k % 2 == 1, fun i => p.x.testBit i, fun i => p.z.testBit i⟩

theorem toPauli_phase (n : Nat) (p : MP) : (toPauli n p).phaseExp = p.k % 4 := by
  simp only [toPauli, Pauli.phaseExp]
  have h4 : p.k % 4 < 4 := Nat.mod_lt _ (by norm_num)
  have e2 : p.k % 2 = p.k % 4 % 2 := by omega
  rw [e2]
  generalize p.k % 4 = r at *
  interval_cases r <;> rfl

theorem posOf_xor {n : Nat} (b : Bits n) (x : Nat) (hx : x < 2 ^ n) :
    posOf (Bits.xor b (fun i => x.testBit i)) = posOf b ^^^ x := by
  apply Nat.eq_of_testBit_eq
  intro j
  rw [testBit_posOf, Nat.testBit_xor, testBit_posOf]
  by_cases hj : j < n
  · simp [hj, Bits.xor]
  · have : x.testBit j = false :=
      Nat.testBit_lt_two_pow (lt_of_lt_of_le hx (Nat.pow_le_pow_right (by norm_num) (by omega)))
    simp [hj, this]

/-- xor of the low `n` bits = parity of their sum -/
theorem xorBits_eq_sum (n m : Nat) : (xorBits n m).toNat = (∑ i : Fin n, (m.testBit i).toNat) % 2 := by
  induction n with
  | zero => simp [xorBits_zero]
  | succ n ih =>
    rw [xorBits_succ, Fin.sum_univ_castSucc, toNat_xor, ih]
    simp only [Fin.val_castSucc, Fin.val_last]
    omega

theorem xorBits_of_lt {n m : Nat} (hm : m < 2 ^ n) (N : Nat) (hN : n ≤ N) : xorBits N m = xorBits n m := by
  obtain ⟨t, rfl⟩ := Nat.exists_eq_add_of_le hN
  rw [xorBits_add]
  have : m >>> n = 0 := by rw [Nat.shiftRight_eq_div_pow]; exact Nat.div_eq_of_lt hm
  rw [this]
  have : ∀ t, xorBits t 0 = false := by
    intro t; induction t with
    | zero => rfl
    | succ t ih => rw [xorBits_succ, ih]; simp
  rw [this]; simp

/-- `z · b (mod 2)` on bit vectors = parity of the masked position -/
theorem dotN_parity {n : Nat} (hn : n ≤ 32) (z : Nat) (b : Bits n) :
    Bits.dotN (fun i : Fin n => z.testBit i) b % 2 = (par (z &&& posOf b)).toNat := by
  have hlt : z &&& posOf b < 2 ^ n := lt_of_le_of_lt Nat.and_le_right (posOf_lt b)
  rw [par_eq, xorBits_of_lt hlt 32 hn, xorBits_eq_sum, Bits.dotN_eq_sum]
  congr 1
  apply Finset.sum_congr rfl
  intro i _
  rw [Nat.testBit_and, testBit_posOf]
  simp [i.isLt]

/-- **`pauliAct` is multiplication by C08's matrix.**  For masks below `2^n` (`n ≤ 32`), every vector `v` and
every basis state `b'`: `(pauliAct I p v)(pos b') = Σ_b mat I (toPauli p) b' b · v(pos b)`, where
`C08.mat I P` is the matrix of `i^k X^x Z^z` proved faithful (product, inverse, commutation) in C08. -/
theorem pauliAct_eq_mat {I : R} (hI : I * I = -1) {n : Nat} (hn : n ≤ 32) (p : MP) (hx : p.x < 2 ^ n)
    (v : Nat → R) (b' : Bits n) :
    pauliAct I p v (posOf b') = (Matrix.mulVec (C08.mat I (toPauli n p)) (fun b => v (posOf b))) b' := by
  rw [Matrix.mulVec, dotProduct]
  rw [Finset.sum_eq_single (Bits.xor b' (toPauli n p).x)]
  · rw [C08.mat_apply hI]
    have hxx : b' = Bits.xor (Bits.xor b' (toPauli n p).x) (toPauli n p).x := by
      funext i; simp [Bits.xor]
    rw [if_pos hxx]
    have hpos : posOf (Bits.xor b' (toPauli n p).x) = posOf b' ^^^ p.x := posOf_xor b' p.x hx
    simp only [pauliAct]
    rw [hpos, ipow_eq]
    congr 1
    apply Numqi.ipow_congr hI
    rw [toPauli_phase]
    have hd := dotN_parity hn p.z (Bits.xor b' (toPauli n p).x)
    rw [hpos] at hd
    have : (toPauli n p).z = fun i : Fin n => p.z.testBit i := rfl
    rw [this]
    omega
  · intro b _ hb
    rw [C08.mat_apply hI]
    have : ¬ (b' = Bits.xor b (toPauli n p).x) := by
      intro e; apply hb
      rw [e]; funext i; simp [Bits.xor]
    rw [if_neg this, zero_mul]
  · intro h; exact absurd (Finset.mem_univ _) h

end Numqi.Qec
