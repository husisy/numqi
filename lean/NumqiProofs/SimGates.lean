/-
Helper lemmas for the gate vocabulary (C03): flat arrays as matrices over `Fin d`, transfer of unitarity to the
bit-vector indexed operators of the simulator model, and what products and unitarity of a flat 2×2 array or a diagonal
4×4 array say about its entries (the gate arrays of `NumqiModel/Gates.lean` are instances).
-/
import NumqiProofs.SimLemmas
import NumqiModel.Gates

namespace Numqi
open Function Matrix
variable {R : Type}

/-- the flat row-major array as a `d × d` matrix -/
def flatMat [Zero R] (d : Nat) (a : Array R) : Matrix (Fin d) (Fin d) R := fun i j => a.getD (i.val * d + j.val) 0

/-- `p` is the cosine/sine pair of a real angle: both entries self-adjoint, `c² + s² = 1` -/
structure CS.Valid [Mul R] [Add R] [One R] [Star R] (p : CS R) : Prop where
  real_c : star p.c = p.c
  real_s : star p.s = p.s
  norm : p.c * p.c + p.s * p.s = 1

theorem of_lookupMat_eq [Zero R] (k : Nat) (a : Array R) :
    Matrix.of (lookupMat (k := k) a)
      = (flatMat (2 ^ k) a).submatrix (Bits.equivFin k).symm (Bits.equivFin k).symm := by
  ext x y
  simp [lookupMat, flatMat, Bits.equivFin]

/-- a flat array that is unitary as a `2^k × 2^k` matrix is a unitary operator on `k` qubits -/
theorem lookupMat_unitary [CommRing R] [StarRing R] {d k : Nat} (hd : d = 2 ^ k) (a : Array R)
    (h : flatMat d a ∈ Matrix.unitaryGroup (Fin d) R) :
    Matrix.of (lookupMat (k := k) a) ∈ Matrix.unitaryGroup (Bits k) R := by
  subst hd
  rw [Matrix.mem_unitaryGroup_iff] at h ⊢
  rw [of_lookupMat_eq, Matrix.star_eq_conjTranspose, Matrix.conjTranspose_submatrix, Matrix.submatrix_mul_equiv,
    ← Matrix.star_eq_conjTranspose, h, Matrix.submatrix_one_equiv]

/-! ### flat 2×2 arrays and diagonal 4×4 arrays, entries as variables -/

section entries
variable [CommRing R]

theorem flatMat_two (a b c d : R) : flatMat 2 #[a, b, c, d] = !![a, b; c, d] := by
  ext i j
  fin_cases i <;> fin_cases j <;> rfl

theorem flatMat_two_congr {a b c d a' b' c' d' : R} (ha : a = a') (hb : b = b') (hc : c = c') (hd : d = d') :
    flatMat 2 #[a, b, c, d] = flatMat 2 #[a', b', c', d'] := by
  rw [ha, hb, hc, hd]

theorem flatMat_two_mul (a b c d a' b' c' d' : R) :
    flatMat 2 #[a, b, c, d] * flatMat 2 #[a', b', c', d']
      = flatMat 2 #[a * a' + b * c', a * b' + b * d', c * a' + d * c', c * b' + d * d'] := by
  simp only [flatMat_two, Matrix.mul_fin_two]

theorem flatMat_two_smul (r a b c d : R) :
    r • flatMat 2 #[a, b, c, d] = flatMat 2 #[r * a, r * b, r * c, r * d] := by
  simp only [flatMat_two, Matrix.smul_of, Matrix.smul_cons, Matrix.smul_empty, smul_eq_mul]

theorem flatMat_four_diag (a b c d : R) :
    flatMat 4 #[a,0,0,0, 0,b,0,0, 0,0,c,0, 0,0,0,d] = diagonal ![a, b, c, d] := by
  ext i j
  fin_cases i <;> fin_cases j <;> rfl

theorem flatMat_four_diag_mul (a b c d a' b' c' d' : R) :
    flatMat 4 #[a,0,0,0, 0,b,0,0, 0,0,c,0, 0,0,0,d] * flatMat 4 #[a',0,0,0, 0,b',0,0, 0,0,c',0, 0,0,0,d']
      = flatMat 4 #[a * a',0,0,0, 0,b * b',0,0, 0,0,c * c',0, 0,0,0,d * d'] := by
  simp only [flatMat_four_diag, diagonal_mul_diagonal]
  congr 1
  funext i
  fin_cases i <;> rfl

theorem flatMat_four_diag_smul (r a b c d : R) :
    r • flatMat 4 #[a,0,0,0, 0,b,0,0, 0,0,c,0, 0,0,0,d]
      = flatMat 4 #[r * a,0,0,0, 0,r * b,0,0, 0,0,r * c,0, 0,0,0,r * d] := by
  simp only [flatMat_four_diag, ← diagonal_smul]
  congr 1
  funext i
  fin_cases i <;> rfl

variable [StarRing R]

/-- the rows of a flat 2×2 array are orthonormal (the fourth equation is the `star` of `h3`) -/
theorem flatMat_two_unitary {a b c d : R} (h1 : a * star a + b * star b = 1) (h2 : c * star c + d * star d = 1)
    (h3 : a * star c + b * star d = 0) : flatMat 2 #[a, b, c, d] ∈ unitaryGroup (Fin 2) R := by
  have h4 : c * star a + d * star b = 0 := by
    simpa only [star_add, star_mul', star_star, star_zero, mul_comm] using congrArg star h3
  have hs : star (flatMat 2 #[a, b, c, d]) = flatMat 2 #[star a, star c, star b, star d] := by
    ext i j
    fin_cases i <;> fin_cases j <;> rfl
  rw [mem_unitaryGroup_iff, hs, flatMat_two_mul, flatMat_two, one_fin_two, h1, h2, h3, h4]

theorem flatMat_two_diag_unitary {a d : R} (ha : a * star a = 1) (hd : d * star d = 1) :
    flatMat 2 #[a, 0, 0, d] ∈ unitaryGroup (Fin 2) R :=
  flatMat_two_unitary (by rw [star_zero, mul_zero, add_zero, ha]) (by rw [star_zero, mul_zero, zero_add, hd])
    (by rw [star_zero, zero_mul, mul_zero, add_zero])

theorem diagonal_unitary {n : Type} [DecidableEq n] [Fintype n] {v : n → R} (h : ∀ i, v i * star (v i) = 1) :
    diagonal v ∈ unitaryGroup n R := by
  rw [mem_unitaryGroup_iff, star_eq_conjTranspose, diagonal_conjTranspose, diagonal_mul_diagonal, ← diagonal_one]
  exact congrArg diagonal (funext h)

theorem flatMat_four_diag_unitary {a b c d : R} (ha : a * star a = 1) (hb : b * star b = 1) (hc : c * star c = 1)
    (hd : d * star d = 1) : flatMat 4 #[a,0,0,0, 0,b,0,0, 0,0,c,0, 0,0,0,d] ∈ unitaryGroup (Fin 4) R := by
  rw [flatMat_four_diag]
  refine diagonal_unitary fun i => ?_
  fin_cases i
  exacts [ha, hb, hc, hd]

end entries

/-! ### arrays with integer entries: unitarity is decided over `ℤ` and carried along `ℤ → R` -/

theorem flatMat_map {S : Type} [Zero R] [Zero S] (f : R → S) (h0 : f 0 = 0) (d : ℕ) (a : Array R) :
    flatMat d (a.map f) = (flatMat d a).map f := by
  ext i j
  simp only [flatMat, Array.getD_eq_getD_getElem?, Array.getElem?_map, Matrix.map_apply]
  cases a[i.val * d + j.val]? <;> simp [h0]

/-- a ring homomorphism that commutes with `star` maps unitary matrices to unitary matrices -/
theorem unitary_map {S n : Type} [CommRing R] [StarRing R] [CommRing S] [StarRing S] [DecidableEq n] [Fintype n]
    (f : R →+* S) (hf : ∀ x, f (star x) = star (f x)) {A : Matrix n n R} (h : A ∈ unitaryGroup n R) :
    A.map f ∈ unitaryGroup n S := by
  rw [mem_unitaryGroup_iff] at h ⊢
  rw [star_eq_conjTranspose, ← conjTranspose_map f hf, ← Matrix.map_mul, ← star_eq_conjTranspose, h,
    Matrix.map_one f f.map_zero f.map_one]

theorem flatMat_intCast_unitary [CommRing R] [StarRing R] {d : ℕ} {a : Array ℤ}
    (h : flatMat d a ∈ unitaryGroup (Fin d) ℤ) : flatMat d (a.map (Int.cast : ℤ → R)) ∈ unitaryGroup (Fin d) R := by
  rw [flatMat_map _ Int.cast_zero]
  exact unitary_map (Int.castRingHom R) (fun x => by simp) h

end Numqi
