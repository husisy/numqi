/-
Bridge from the model's op-only `Conj` class to `star` in a star ring (the scoped instance `starConj`), and `star` of a `sumRange`.
-/
import NumqiProofs.EntangleIndex
import Mathlib.Algebra.Star.BigOperators
import Mathlib.Data.Matrix.Mul
import Mathlib.LinearAlgebra.Matrix.ConjTranspose

namespace Numqi.Ent

/-- in a star ring the model's `conj` is `star` -/
scoped instance starConj {R : Type} [Star R] : Conj R := ⟨star⟩

theorem conj_eq_star {R : Type} [Star R] (x : R) : conj x = star x := rfl

theorem star_sumRange {R : Type} [NonUnitalNonAssocSemiring R] [StarRing R] (n : Nat) (f : Nat → R) :
    star (sumRange n f) = sumRange n fun i => star (f i) := by
  simp [sumRange_eq_sum, star_sum]

end Numqi.Ent
