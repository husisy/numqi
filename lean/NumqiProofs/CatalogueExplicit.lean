/-
Helper lemmas for C18: the quadratic forms of the explicit 8×8 / 9×9 catalogue matrices and of their partial transposes,
evaluated entry by entry.
-/
import NumqiProofs.Catalogue

set_option linter.unusedSectionVars false

namespace Numqi.Catalogue
open Finset

variable {K : Type} [Field K] [LinearOrder K] [IsStrictOrderedRing K]

/-- the catalogue matrices on `Fin 8` / `Fin 9` with the constants of the source -/
def h24M (b rt : K) (r c : Fin 8) : K := horodecki2x4 7 14 2 b rt r c
def h33M (a rt : K) (r c : Fin 9) : K := horodecki3x3 8 16 2 a rt r c
def antoineM (q : K) (r c : Fin 9) : K := antoine (5/2) 21 2 q r c
/-- partial transposes (second factor) -/
def h24PT (b rt : K) (r c : Fin 8) : K := ptB 4 (horodecki2x4 7 14 2 b rt) r c
def h33PT (a rt : K) (r c : Fin 9) : K := ptB 3 (horodecki3x3 8 16 2 a rt) r c
def antoinePT (q : K) (r c : Fin 9) : K := ptB 3 (antoine (5/2) 21 2 q) r c

theorem horodecki3x3_comm (k8 k16 k2 a rt : K) (r c : ℕ) :
    horodecki3x3 k8 k16 k2 a rt r c = horodecki3x3 k8 k16 k2 a rt c r := by
  simp only [horodecki3x3]
  exact if_congr (by omega) rfl (if_congr (by omega) rfl (if_congr (by omega) rfl (if_congr (by omega) rfl rfl)))

theorem horodecki2x4_comm (k7 k14 k2 b rt : K) (r c : ℕ) :
    horodecki2x4 k7 k14 k2 b rt r c = horodecki2x4 k7 k14 k2 b rt c r := by
  simp only [horodecki2x4]
  exact if_congr (by omega) rfl (if_congr (by omega) rfl (if_congr (by omega) rfl (if_congr (by omega) rfl rfl)))

theorem antoine_comm (c25 c21 c2 q : K) (r c : ℕ) : antoine c25 c21 c2 q r c = antoine c25 c21 c2 q c r := by
  simp only [antoine]
  by_cases h : r = c
  · rw [h]
  · rw [if_neg h, if_neg (Ne.symm h)]
    exact if_congr (by omega) rfl rfl

/-! The quadratic forms are expanded in three steps: the double sum into its terms with numeral indices, the indices of the
(partially transposed) entries into numerals, and only then the entries themselves — unfolding the entry function before its
arguments are numerals repeats the index arithmetic in every condition and is several times dearer. -/

theorem h33_qform (a rt : K) (ha : 0 ≤ a) (x : Fin 9 → K) : qform (h33M a rt) x =
    (2 * a * (x 1 * x 1 + x 2 * x 2 + x 3 * x 3 + x 5 * x 5 + x 7 * x 7) + 2 * a * ((x 0 + x 4 + x 8) * (x 0 + x 4 + x 8))
    + ((1 + a) * (x 6 * x 6) + (1 - a) * (x 8 * x 8) + 2 * rt * (x 6 * x 8))) / (16 * a + 2) := by
  have h1 : (8 * a + 1) ≠ 0 := by positivity
  have h2 : (16 * a + 2) ≠ 0 := by positivity
  have hx : a / (8 * a + 1) = 2 * a / (16 * a + 2) := by rw [div_eq_div_iff h1 h2]; ring
  simp only [qform, Fin.sum_univ_succ, Fin.sum_univ_zero, Fin.succ_zero_eq_one, Fin.succ_one_eq_two, Fin.reduceSucc, Fin.isValue]
  simp only [h33M, Fin.coe_ofNat_eq_mod, Nat.reduceMod, Nat.reduceDiv, Nat.reduceMul, Nat.reduceAdd]
  simp [horodecki3x3]
  rw [hx]
  ring

theorem h33PT_qform (a rt : K) (ha : 0 ≤ a) (x : Fin 9 → K) : qform (h33PT a rt) x =
    (2 * a * (x 0 * x 0 + x 4 * x 4) + 2 * a * ((x 1 + x 3) * (x 1 + x 3)) + 2 * a * ((x 5 + x 7) * (x 5 + x 7))
      + 2 * a * ((x 2 + x 6) * (x 2 + x 6))
      + ((1 + a) * (x 8 * x 8) + (1 - a) * (x 6 * x 6) + 2 * rt * (x 8 * x 6))) / (16 * a + 2) := by
  have h1 : (8 * a + 1) ≠ 0 := by positivity
  have h2 : (16 * a + 2) ≠ 0 := by positivity
  have hx : a / (8 * a + 1) = 2 * a / (16 * a + 2) := by rw [div_eq_div_iff h1 h2]; ring
  simp only [qform, Fin.sum_univ_succ, Fin.sum_univ_zero, Fin.succ_zero_eq_one, Fin.succ_one_eq_two, Fin.reduceSucc, Fin.isValue]
  simp only [h33PT, ptB, Fin.coe_ofNat_eq_mod, Nat.reduceMod, Nat.reduceDiv, Nat.reduceMul, Nat.reduceAdd]
  simp [horodecki3x3]
  rw [hx]
  ring

theorem h24_qform (b rt : K) (hb : 0 ≤ b) (x : Fin 8 → K) : qform (h24M b rt) x =
    (2 * b * ((x 0 + x 5) * (x 0 + x 5)) + 2 * b * ((x 1 + x 6) * (x 1 + x 6)) + 2 * b * (x 3 * x 3)
      + 2 * b * ((x 2 + x 7) * (x 2 + x 7))
      + ((1 + b) * (x 4 * x 4) + (1 - b) * (x 7 * x 7) + 2 * rt * (x 4 * x 7))) / (14 * b + 2) := by
  have h1 : (7 * b + 1) ≠ 0 := by positivity
  have h2 : (14 * b + 2) ≠ 0 := by positivity
  have hx : b / (7 * b + 1) = 2 * b / (14 * b + 2) := by rw [div_eq_div_iff h1 h2]; ring
  simp only [qform, Fin.sum_univ_succ, Fin.sum_univ_zero, Fin.succ_zero_eq_one, Fin.succ_one_eq_two, Fin.reduceSucc, Fin.isValue]
  simp only [h24M, Fin.coe_ofNat_eq_mod, Nat.reduceMod, Nat.reduceDiv, Nat.reduceMul, Nat.reduceAdd]
  simp [horodecki2x4]
  rw [hx]
  ring

theorem h24PT_qform (b rt : K) (hb : 0 ≤ b) (x : Fin 8 → K) : qform (h24PT b rt) x =
    (2 * b * (x 0 * x 0) + 2 * b * ((x 2 + x 5) * (x 2 + x 5)) + 2 * b * ((x 3 + x 6) * (x 3 + x 6))
      + 2 * b * ((x 1 + x 4) * (x 1 + x 4))
      + ((1 + b) * (x 7 * x 7) + (1 - b) * (x 4 * x 4) + 2 * rt * (x 7 * x 4))) / (14 * b + 2) := by
  have h1 : (7 * b + 1) ≠ 0 := by positivity
  have h2 : (14 * b + 2) ≠ 0 := by positivity
  have hx : b / (7 * b + 1) = 2 * b / (14 * b + 2) := by rw [div_eq_div_iff h1 h2]; ring
  simp only [qform, Fin.sum_univ_succ, Fin.sum_univ_zero, Fin.succ_zero_eq_one, Fin.succ_one_eq_two, Fin.reduceSucc, Fin.isValue]
  simp only [h24PT, ptB, Fin.coe_ofNat_eq_mod, Nat.reduceMod, Nat.reduceDiv, Nat.reduceMul, Nat.reduceAdd]
  simp [horodecki2x4]
  rw [hx]
  ring

theorem antoine_qform (q : K) (x : Fin 9 → K) : qform (antoineM q) x =
    (2 * ((x 0 + x 4 + x 8) * (x 0 + x 4 + x 8)) + (5/2 - q) * (x 1 * x 1 + x 5 * x 5 + x 6 * x 6)
      + (5/2 + q) * (x 2 * x 2 + x 3 * x 3 + x 7 * x 7)) / 21 := by
  simp only [qform, Fin.sum_univ_succ, Fin.sum_univ_zero, Fin.succ_zero_eq_one, Fin.succ_one_eq_two, Fin.reduceSucc, Fin.isValue]
  simp only [antoineM, Fin.coe_ofNat_eq_mod, Nat.reduceMod, Nat.reduceDiv, Nat.reduceMul, Nat.reduceAdd]
  simp [antoine]
  ring

theorem antoinePT_qform (q : K) (x : Fin 9 → K) : qform (antoinePT q) x =
    (2 * (x 0 * x 0 + x 4 * x 4 + x 8 * x 8)
      + ((5/2 - q) * (x 1 * x 1) + (5/2 + q) * (x 3 * x 3) + 4 * (x 1 * x 3))
      + ((5/2 + q) * (x 2 * x 2) + (5/2 - q) * (x 6 * x 6) + 4 * (x 2 * x 6))
      + ((5/2 - q) * (x 5 * x 5) + (5/2 + q) * (x 7 * x 7) + 4 * (x 5 * x 7))) / 21 := by
  simp only [qform, Fin.sum_univ_succ, Fin.sum_univ_zero, Fin.succ_zero_eq_one, Fin.succ_one_eq_two, Fin.reduceSucc, Fin.isValue]
  simp only [antoinePT, ptB, Fin.coe_ofNat_eq_mod, Nat.reduceMod, Nat.reduceDiv, Nat.reduceMul, Nat.reduceAdd]
  simp [antoine]
  ring

/-- a `2 × 2` block `[[p, r], [r, m]]` with `p > 0`, `r² ≤ p m` is positive semidefinite:
`p (p u² + m v² + 2 r u v) = (p u + r v)² + (p m - r²) v²` -/
theorem quad2_nonneg {p m r : K} (hp : 0 < p) (h : r * r ≤ p * m) (u v : K) :
    0 ≤ p * (u * u) + m * (v * v) + 2 * r * (u * v) := by
  have key : p * (p * (u * u) + m * (v * v) + 2 * r * (u * v))
      = (p * u + r * v) * (p * u + r * v) + (p * m - r * r) * (v * v) := by ring
  refine nonneg_of_mul_nonneg_right ?_ hp
  rw [key]
  exact add_nonneg (mul_self_nonneg _) (mul_nonneg (sub_nonneg.2 h) (mul_self_nonneg _))

/-- `(1+c) u² + (1-c) v² + 2 r u v ≥ 0` when `r² = 1 - c²`, `0 ≤ c` -/
theorem block2_nonneg {c r : K} (hc : 0 ≤ c) (hr : r * r = 1 - c * c) (u v : K) :
    0 ≤ (1 + c) * (u * u) + (1 - c) * (v * v) + 2 * r * (u * v) :=
  quad2_nonneg (by positivity) (by rw [hr]; exact le_of_eq (by ring)) u v

/-- `p u² + m v² + 4 u v ≥ 0` when `p > 0` and `p m ≥ 4` -/
theorem block2_nonneg' {p m : K} (hp : 0 < p) (hpm : 4 ≤ p * m) (u v : K) :
    0 ≤ p * (u * u) + m * (v * v) + 4 * (u * v) := by
  have := quad2_nonneg hp (r := 2) (by norm_num; exact hpm) u v
  rwa [show (2 : K) * 2 = 4 by norm_num] at this

end Numqi.Catalogue
