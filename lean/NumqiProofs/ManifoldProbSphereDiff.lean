/- C02: differential of `to_discrete_probability_sphere` = (entrywise square) ∘ (quotient sphere map); kernel and rank. -/
import NumqiProofs.ManifoldVecDiff
import Mathlib.Analysis.Calculus.FDeriv.Pi
import Mathlib.Analysis.Calculus.FDeriv.Pow

namespace Numqi.Manifold
open Module

variable {n : Nat}

/-- entrywise square `ℝⁿ → ℝⁿ` -/
def sqMap (y : EuclideanSpace ℝ (Fin n)) : Fin n → ℝ := fun i => y i ^ 2

/-- its differential `v ↦ (2 y_i v_i)_i` -/
noncomputable def sqD (y : EuclideanSpace ℝ (Fin n)) : EuclideanSpace ℝ (Fin n) →L[ℝ] (Fin n → ℝ) :=
  ContinuousLinearMap.pi fun i => (2 * y i) • (EuclideanSpace.proj i : EuclideanSpace ℝ (Fin n) →L[ℝ] ℝ)

theorem sqD_apply (y v : EuclideanSpace ℝ (Fin n)) (i : Fin n) : sqD y v i = 2 * y i * v i := by
  simp [sqD]

theorem hasFDerivAt_sqMap (y : EuclideanSpace ℝ (Fin n)) : HasFDerivAt (sqMap : EuclideanSpace ℝ (Fin n) → Fin n → ℝ) (sqD y) y := by
  rw [hasFDerivAt_pi']
  intro i
  have hp : HasFDerivAt (fun z : EuclideanSpace ℝ (Fin n) => z i) (EuclideanSpace.proj i : EuclideanSpace ℝ (Fin n) →L[ℝ] ℝ) y :=
    (EuclideanSpace.proj i : EuclideanSpace ℝ (Fin n) →L[ℝ] ℝ).hasFDerivAt
  have h2 := hp.pow 2
  refine h2.congr_fderiv ?_
  ext v
  simp [sqD]

theorem sqD_injective {y : EuclideanSpace ℝ (Fin n)} (hy : ∀ i, y i ≠ 0) : Function.Injective (sqD y) := by
  intro v w h
  ext i
  have := congrFun h i
  rw [sqD_apply, sqD_apply] at this
  exact mul_left_cancel₀ (mul_ne_zero two_ne_zero (hy i)) this

/-- the probability-sphere map -/
noncomputable def probSphereMap (x : EuclideanSpace ℝ (Fin n)) : Fin n → ℝ := sqMap (quotMap x)

/-- its differential at `x ≠ 0` -/
noncomputable def probSphereD (x : EuclideanSpace ℝ (Fin n)) : EuclideanSpace ℝ (Fin n) →L[ℝ] (Fin n → ℝ) :=
  (sqD (quotMap x)).comp (quotD x)

theorem hasFDerivAt_probSphereMap {x : EuclideanSpace ℝ (Fin n)} (hx : x ≠ 0) :
    HasFDerivAt (probSphereMap : EuclideanSpace ℝ (Fin n) → Fin n → ℝ) (probSphereD x) x :=
  (hasFDerivAt_sqMap (quotMap x)).comp x (hasFDerivAt_quotMap hx)

theorem quotMap_coord_ne {x : EuclideanSpace ℝ (Fin n)} (hx : ∀ i, x i ≠ 0) (i : Fin n) : (quotMap x) i ≠ 0 := by
  have hx0 : x ≠ 0 := fun h => hx i (by rw [h]; rfl)
  simp only [quotMap, PiLp.smul_apply, smul_eq_mul]
  exact mul_ne_zero (inv_ne_zero (norm_ne_zero_iff.2 hx0)) (hx i)

/-- **kernel = radial line at every interior point** (all coordinates non-zero) -/
theorem ker_probSphereD {x : EuclideanSpace ℝ (Fin n)} (hx : ∀ i, x i ≠ 0) (hn : 0 < n) :
    LinearMap.ker (probSphereD x : EuclideanSpace ℝ (Fin n) →ₗ[ℝ] (Fin n → ℝ)) = Submodule.span ℝ {x} := by
  have hx0 : x ≠ 0 := fun h => hx ⟨0, hn⟩ (by rw [h]; rfl)
  rw [← ker_quotD hx0]
  ext v
  simp only [LinearMap.mem_ker, ContinuousLinearMap.coe_coe, probSphereD, ContinuousLinearMap.comp_apply]
  constructor
  · intro h
    exact sqD_injective (quotMap_coord_ne hx) (by rw [h, map_zero])
  · intro h; rw [h, map_zero]

/-- **rank `n − 1` = dimension of the simplex, at every interior point** -/
theorem finrank_range_probSphereD {x : EuclideanSpace ℝ (Fin n)} (hx : ∀ i, x i ≠ 0) (hn : 0 < n) :
    finrank ℝ (LinearMap.range (probSphereD x : EuclideanSpace ℝ (Fin n) →ₗ[ℝ] (Fin n → ℝ))) + 1 = n := by
  have hx0 : x ≠ 0 := fun h => hx ⟨0, hn⟩ (by rw [h]; rfl)
  have h := LinearMap.finrank_range_add_finrank_ker (probSphereD x : EuclideanSpace ℝ (Fin n) →ₗ[ℝ] (Fin n → ℝ))
  rw [ker_probSphereD hx hn, finrank_span_singleton hx0, finrank_euclideanSpace, Fintype.card_fin] at h
  exact h

end Numqi.Manifold
