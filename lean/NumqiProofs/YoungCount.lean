/-
C14 helper (tableaux, part 5): the corner-removal recurrence `sytCount` counts the standard tableaux
(`sytCount_eq_length`, `allTableaux_length_eq_sytCount`).
The largest entry of a standard tableau ends a row that is a removable corner (`isTab_corner`); taking it away is a
bijection onto the standard tableaux of the shape without that corner (`isTab_set_snoc`, `addCell`), and `sytList`
lists the tableaux in the order in which `sytCount` adds them up.
-/
import Mathlib.Data.List.GetD
import NumqiProofs.YoungTabFinal
import NumqiProofs.YoungPartition

namespace Numqi.Young

/-! ### rows by index -/

theorem getD_set_self {α : Type} {l : List α} {r : Nat} (hr : r < l.length) (y d : α) : (l.set r y).getD r d = y := by
  simp [List.getD_eq_getElem?_getD, hr]

theorem getD_set_ne {α : Type} (l : List α) {r i : Nat} (h : r ≠ i) (y d : α) : (l.set r y).getD i d = l.getD i d := by
  simp [List.getD_eq_getElem?_getD, List.getElem?_set_ne h]

theorem getD_row_mem {t : List (List Nat)} {i : Nat} {u : Nat} (h : u ∈ t.getD i []) : u ∈ t.flatten := by
  rcases Nat.lt_or_ge i t.length with hi | hi
  · rw [List.getD_eq_getElem _ _ hi] at h
    exact List.mem_flatten.2 ⟨_, List.getElem_mem hi, h⟩
  · rw [List.getD_eq_default _ _ hi] at h
    simp at h

theorem length_getD_row (t : List (List Nat)) (i : Nat) : (t.getD i []).length = (t.map List.length).getD i 0 := by
  rcases Nat.lt_or_ge i t.length with hi | hi
  · rw [List.getD_eq_getElem _ _ hi, List.getD_eq_getElem _ _ (by simpa using hi), List.getElem_map]
  · rw [List.getD_eq_default _ _ hi, List.getD_eq_default _ _ (by simpa using hi)]
    rfl

theorem colChain_iff : ∀ t : List (List Nat), ColChain t ↔ ∀ i, colLt (t.getD i []) (t.getD (i + 1) [])
  | [] => by simp [ColChain, colLt]
  | [a] => by simp [ColChain, colLt]
  | a :: b :: rest => by
    rw [ColChain, colChain_iff (b :: rest)]
    constructor
    · rintro ⟨h0, h⟩ (_ | i)
      · exact h0
      · exact h i
    · intro h
      exact ⟨h 0, fun i => h (i + 1)⟩

/-- an entry `v` above everything in the row below can end a row only where the row below has ended -/
theorem colLt_snoc_left {x b : List Nat} {v : Nat} (hb : ∀ u ∈ b, u < v) :
    colLt (x ++ [v]) b ↔ colLt x b ∧ b.length ≤ x.length := by
  constructor
  · intro h
    refine ⟨fun j h1 h2 => ?_, ?_⟩
    · have := h j (by simp; omega) h2
      rwa [List.getD_append _ _ _ _ h1] at this
    · by_contra hlt
      have := h x.length (by simp) (by omega)
      rw [List.getD_append_right _ _ _ _ (le_refl _), Nat.sub_self, List.getD_cons_zero] at this
      have := hb _ (getD_mem (by omega : x.length < b.length))
      omega
  · rintro ⟨h, hle⟩ j h1 h2
    rw [List.getD_append _ _ _ _ (by omega)]
    exact h j (by omega) h2

/-- … and is no condition on the row above -/
theorem colLt_snoc_right {a x : List Nat} {v : Nat} (ha : ∀ u ∈ a, u < v) : colLt a (x ++ [v]) ↔ colLt a x := by
  constructor
  · intro h j h1 h2
    have := h j h1 (by simp; omega)
    rwa [List.getD_append _ _ _ _ h2] at this
  · intro h j h1 h2
    rcases Nat.lt_or_ge j x.length with hj | hj
    · rw [List.getD_append _ _ _ _ hj]
      exact h j h1 hj
    · obtain rfl : j = x.length := by simp at h2; omega
      rw [List.getD_append_right _ _ _ _ (le_refl _), Nat.sub_self, List.getD_cons_zero]
      exact ha _ (getD_mem h1)

theorem rowInc_iff (t : List (List Nat)) : (∀ row ∈ t, SInc row) ↔ ∀ i, SInc (t.getD i []) := by
  constructor
  · intro h i
    rcases Nat.lt_or_ge i t.length with hi | hi
    · rw [List.getD_eq_getElem _ _ hi]
      exact h _ (List.getElem_mem hi)
    · rw [List.getD_eq_default _ _ hi]
      exact List.Pairwise.nil
  · intro h row hrow
    obtain ⟨i, hi, rfl⟩ := List.getElem_of_mem hrow
    rw [← List.getD_eq_getElem _ [] hi]
    exact h i

/-! ### the cell of the largest entry -/

theorem flatten_set_snoc : ∀ {t : List (List Nat)} {r : Nat} (hr : r < t.length) (v : Nat),
    (t.set r (t[r] ++ [v])).flatten.Perm (t.flatten ++ [v])
  | x :: t, 0, _, v => by
    simp only [List.set_cons_zero, List.getElem_cons_zero, List.flatten_cons, List.append_assoc]
    exact List.perm_append_comm.append_left x
  | x :: t, r + 1, hr, v => by
    simp only [List.set_cons_succ, List.flatten_cons, List.getElem_cons_succ, List.append_assoc]
    exact (flatten_set_snoc (by simpa using hr) v).append_left x

theorem set_succ_eq_iff {l s : List Nat} {r : Nat} (hr : r < l.length) :
    l.set r (l[r] + 1) = s ↔ l = s.set r (s.getD r 0 - 1) ∧ s.getD r 0 = l[r] + 1 := by
  constructor
  · rintro rfl
    rw [getD_set_self hr, List.set_set, Nat.add_sub_cancel, List.set_getElem_self]
    exact ⟨rfl, rfl⟩
  · rintro ⟨h1, h2⟩
    have hrs : r < s.length := by
      have := congrArg List.length h1
      rw [List.length_set] at this
      omega
    rw [← h2]
    subst h1
    rw [List.set_set, List.getD_eq_getElem _ _ hrs, List.set_getElem_self]

/-- a filling stays a filling when an entry above all others is put at the end of row `r`,
exactly if the cell is a removable corner of the new shape -/
theorem isTab_set_snoc {t : List (List Nat)} {s idx : List Nat} {r v : Nat} (hr : r < t.length)
    (hv : ∀ u ∈ idx, u < v) :
    IsTab s (idx ++ [v]) (t.set r (t[r] ++ [v])) ↔
      IsTab (s.set r (s.getD r 0 - 1)) idx t ∧ s.getD (r + 1) 0 < s.getD r 0 := by
  have hperm : (t.set r (t[r] ++ [v])).flatten.Perm (idx ++ [v]) ↔ t.flatten.Perm idx := by
    rw [(flatten_set_snoc hr v).congr_left, List.perm_append_right_iff]
  -- with the entries given, the three other conditions correspond one by one
  have core : t.flatten.Perm idx →
      (((t.set r (t[r] ++ [v])).map List.length = s ∧ (∀ row ∈ t.set r (t[r] ++ [v]), SInc row) ∧
          ColChain (t.set r (t[r] ++ [v]))) ↔
        (t.map List.length = s.set r (s.getD r 0 - 1) ∧ (∀ row ∈ t, SInc row) ∧ ColChain t) ∧
          s.getD (r + 1) 0 < s.getD r 0) := by
    intro hp
    have hlt : ∀ i, ∀ u ∈ t.getD i [], u < v := fun i u hu => hv u (hp.mem_iff.1 (getD_row_mem hu))
    have hrow : ∀ i, SInc ((t.set r (t[r] ++ [v])).getD i []) ↔ SInc (t.getD i []) := by
      intro i
      by_cases hi : i = r
      · rw [hi, getD_set_self hr, List.getD_eq_getElem _ _ hr, sinc_concat]
        exact and_iff_left fun u hu => hlt r u (by rwa [List.getD_eq_getElem _ _ hr])
      · rw [getD_set_ne _ (Ne.symm hi)]
    have hcol : ∀ i, colLt ((t.set r (t[r] ++ [v])).getD i []) ((t.set r (t[r] ++ [v])).getD (i + 1) []) ↔
        colLt (t.getD i []) (t.getD (i + 1) []) ∧ (i = r → (t.getD (r + 1) []).length ≤ t[r].length) := by
      intro i
      by_cases hi : i = r
      · rw [hi, getD_set_self hr, getD_set_ne _ (by omega), List.getD_eq_getElem _ _ hr, colLt_snoc_left (hlt _)]
        simp
      · rw [getD_set_ne _ (Ne.symm hi), and_iff_left fun h => absurd h hi]
        by_cases hi' : i + 1 = r
        · rw [hi', getD_set_self hr, colLt_snoc_right (hlt i), List.getD_eq_getElem _ _ hr]
        · rw [getD_set_ne _ (Ne.symm hi')]
    have hr' : r < (t.map List.length).length := by simpa using hr
    rw [rowInc_iff, rowInc_iff t, colChain_iff, colChain_iff t, List.map_set, List.length_append, List.length_singleton]
    simp only [hrow, hcol, forall_and, forall_eq]
    have hset := set_succ_eq_iff (s := s) hr'
    rw [List.getElem_map] at hset
    rw [hset]
    constructor
    · rintro ⟨⟨h1, h2⟩, h3, h4, h5⟩
      refine ⟨⟨h1, h3, h4⟩, ?_⟩
      have := length_getD_row t (r + 1)
      rw [h1, getD_set_ne _ (by omega)] at this
      omega
    · rintro ⟨⟨h1, h3, h4⟩, hc⟩
      have h5 := length_getD_row t (r + 1)
      have h6 := length_getD_row t r
      have hrs : r < s.length := by
        have := congrArg List.length h1
        rw [List.length_map, List.length_set] at this
        omega
      rw [h1, getD_set_ne _ (by omega)] at h5
      rw [h1, getD_set_self hrs, List.getD_eq_getElem _ _ hr] at h6
      exact ⟨⟨h1, by omega⟩, h3, h4, by omega⟩
  constructor
  · intro h
    have hp := hperm.1 h.perm
    obtain ⟨⟨h1, h2, h3⟩, hc⟩ := (core hp).1 ⟨h.rows, h.rowInc, h.colInc⟩
    exact ⟨⟨h1, hp, h2, h3⟩, hc⟩
  · rintro ⟨h, hc⟩
    obtain ⟨h1, h2, h3⟩ := (core h.perm).2 ⟨⟨h.rows, h.rowInc, h.colInc⟩, hc⟩
    exact ⟨h1, hperm.2 h.perm, h2, h3⟩

/-! ### a row that becomes empty -/

theorem isTab_append_nil {q idx : List Nat} {t : List (List Nat)} :
    IsTab (q ++ [0]) idx (t ++ [[]]) ↔ IsTab q idx t := by
  have hg : ∀ i, (t ++ [[]]).getD i [] = t.getD i [] := by
    intro i
    rcases Nat.lt_or_ge i t.length with hi | hi
    · exact List.getD_append _ _ _ _ hi
    · rw [List.getD_append_right _ _ _ _ hi, List.getD_eq_default _ _ hi]
      cases i - t.length <;> rfl
  have hflat : (t ++ [[]]).flatten = t.flatten := by simp
  have hrows : (t ++ [[]]).map List.length = q ++ [0] ↔ t.map List.length = q := by simp
  have hrow : (∀ row ∈ t ++ [[]], SInc row) ↔ ∀ row ∈ t, SInc row := by
    simp only [rowInc_iff, hg]
  have hcol : ColChain (t ++ [[]]) ↔ ColChain t := by
    simp only [colChain_iff, hg]
  constructor
  · intro h
    exact ⟨hrows.1 h.rows, hflat ▸ h.perm, hrow.1 h.rowInc, hcol.1 h.colInc⟩
  · intro h
    exact ⟨hrows.2 h.rows, hflat.symm ▸ h.perm, hrow.2 h.rowInc, hcol.2 h.colInc⟩

theorem isTab_append_zero {q idx : List Nat} {t : List (List Nat)} :
    IsTab (q ++ [0]) idx t ↔ ∃ t', IsTab q idx t' ∧ t' ++ [[]] = t := by
  constructor
  · intro h
    rcases List.eq_nil_or_concat' t with rfl | ⟨L, b, rfl⟩
    · have := h.rows
      simp at this
    · have := h.rows
      rw [List.map_append, List.map_singleton] at this
      obtain ⟨_, hb⟩ := List.append_inj' this rfl
      have : b = [] := List.length_eq_zero_iff.1 (by simpa using hb)
      subst this
      exact ⟨L, isTab_append_nil.1 h, rfl⟩
  · rintro ⟨t', h, rfl⟩
    exact isTab_append_nil.2 h

/-- a tableau with an empty row `r` opened below it, if it has none -/
def padRow (r : Nat) (t : List (List Nat)) : List (List Nat) := if r < t.length then t else t ++ [[]]

/-- removing the zero that a corner of a one-cell row leaves in the shape removes the empty row of the filling -/
theorem isTab_padRow {s idx : List Nat} {t : List (List Nat)} {r : Nat} (hpos : ∀ a ∈ s, 0 < a) (hr : r < s.length)
    (hc : s.getD (r + 1) 0 < s.getD r 0) :
    IsTab (s.set r (s.getD r 0 - 1)) idx t ↔
      ∃ t', IsTab ((s.set r (s.getD r 0 - 1)).filter (0 < ·)) idx t' ∧ padRow r t' = t := by
  by_cases ha : s.getD r 0 = 1
  · have hlast : s.length = r + 1 := by
      by_contra hne
      have h1 : r + 1 < s.length := by omega
      have := hpos _ (List.getElem_mem h1)
      rw [List.getD_eq_getElem _ _ h1] at hc
      omega
    have hq : s.set r (s.getD r 0 - 1) = s.take r ++ [0] := by
      rw [List.set_eq_take_append_cons_drop, if_pos hr, ha, List.drop_of_length_le (by omega)]
    have hf : (s.take r ++ [0]).filter (0 < ·) = s.take r := by
      rw [List.filter_append, List.filter_eq_self.2 fun a h => by simpa using hpos a (List.mem_of_mem_take h)]
      simp
    rw [hq, hf, isTab_append_zero]
    refine exists_congr fun t' => and_congr_right fun h => ?_
    have : t'.length = r := by
      have := h.length_eq
      rw [List.length_take] at this
      omega
    rw [padRow, if_neg (by omega)]
  · have hf : (s.set r (s.getD r 0 - 1)).filter (0 < ·) = s.set r (s.getD r 0 - 1) := by
      refine List.filter_eq_self.2 fun a h => ?_
      rcases List.mem_or_eq_of_mem_set h with h | h
      · simpa using hpos a h
      · simp only [decide_eq_true_eq]; omega
    rw [hf]
    constructor
    · intro h
      have := h.length_eq
      rw [List.length_set] at this
      exact ⟨t, h, by rw [padRow, if_pos (by omega)]⟩
    · rintro ⟨t', h, rfl⟩
      have := h.length_eq
      rw [List.length_set] at this
      rwa [padRow, if_pos (by omega)]

/-! ### adding the largest entry at a corner -/

/-- `v` put at the end of row `r` (a new row if `r` is the number of rows) -/
def addCell (r v : Nat) (t : List (List Nat)) : List (List Nat) :=
  (padRow r t).set r ((padRow r t).getD r [] ++ [v])

theorem addCell_inj {r v : Nat} {t1 t2 : List (List Nat)} (hl : t1.length = t2.length)
    (h1 : r < (padRow r t1).length) (h2 : r < (padRow r t2).length) (h : addCell r v t1 = addCell r v t2) :
    t1 = t2 := by
  have hrow := congrArg (·.getD r []) h
  simp only [addCell, getD_set_self h1, getD_set_self h2, List.getD_eq_getElem _ _ h1,
    List.getD_eq_getElem _ _ h2] at hrow
  have hpad : padRow r t1 = padRow r t2 := by
    have := congrArg (·.set r (padRow r t1)[r]) h
    simp only [addCell, List.set_set] at this
    rwa [List.set_getElem_self, List.append_cancel_right hrow, List.set_getElem_self] at this
  simp only [padRow, ← hl] at hpad
  split at hpad
  · exact hpad
  · exact List.append_cancel_right hpad

theorem eq_snoc_of_max {l : List Nat} {v : Nat} (hl : SInc l) (hm : v ∈ l) (hle : ∀ u ∈ l, u ≤ v) :
    ∃ x, l = x ++ [v] := by
  rcases List.eq_nil_or_concat' l with rfl | ⟨x, b, rfl⟩
  · simp at hm
  · rcases List.mem_append.1 hm with hx | hb
    · have := (sinc_concat.1 hl).2 v hx
      have := hle b (by simp)
      omega
    · exact ⟨x, by rw [List.mem_singleton.1 hb]⟩

/-- **the largest entry sits at a removable corner**, and the fillings with it at the end of row `r` are
the fillings of the shape without that corner with it added -/
theorem isTab_corner {s idx : List Nat} {t : List (List Nat)} {r v : Nat} (hpos : ∀ a ∈ s, 0 < a)
    (hv : ∀ u ∈ idx, u < v) (hr : r < s.length) :
    IsTab s (idx ++ [v]) t ∧ v ∈ t.getD r [] ↔
      s.getD (r + 1) 0 < s.getD r 0 ∧
        ∃ t', IsTab ((s.set r (s.getD r 0 - 1)).filter (0 < ·)) idx t' ∧ addCell r v t' = t := by
  constructor
  · rintro ⟨h, hm⟩
    have hrt : r < t.length := h.length_eq ▸ hr
    rw [List.getD_eq_getElem _ _ hrt] at hm
    obtain ⟨x, hx⟩ := eq_snoc_of_max (h.rowInc _ (List.getElem_mem hrt)) hm fun u hu => by
      have := h.perm.mem_iff.1 (List.mem_flatten.2 ⟨_, List.getElem_mem hrt, hu⟩)
      rcases List.mem_append.1 this with hu | hu
      · exact le_of_lt (hv u hu)
      · exact le_of_eq (List.mem_singleton.1 hu)
    have ht : t = (t.set r x).set r ((t.set r x)[r]'(by simpa using hrt) ++ [v]) := by
      rw [List.getElem_set_self, List.set_set, ← hx, List.set_getElem_self]
    rw [ht, isTab_set_snoc (by simpa using hrt) hv] at h
    obtain ⟨t', h', hp⟩ := (isTab_padRow hpos hr h.2).1 h.1
    refine ⟨h.2, t', h', ?_⟩
    rw [addCell, hp, getD_set_self hrt, List.set_set, ← hx, List.set_getElem_self]
  · rintro ⟨hc, t', h', rfl⟩
    have h0 := (isTab_padRow hpos hr hc).2 ⟨t', h', rfl⟩
    have hrt : r < (padRow r t').length := by
      have := h0.length_eq
      rw [List.length_set] at this
      omega
    rw [addCell, List.getD_eq_getElem _ _ hrt]
    exact ⟨(isTab_set_snoc hrt hv).2 ⟨h0, hc⟩, by simp [List.getD_eq_getElem?_getD, hrt]⟩

theorem row_unique : ∀ {t : List (List Nat)} {i j u : Nat}, t.flatten.Nodup → u ∈ t.getD i [] → u ∈ t.getD j [] → i = j
  | [], _, _, _, _, hi, _ => by simp at hi
  | x :: t, i, j, u, hn, hi, hj => by
    rw [List.flatten_cons, List.nodup_append] at hn
    obtain ⟨_, hn, hd⟩ := hn
    cases i with
    | zero =>
      cases j with
      | zero => rfl
      | succ j => exact absurd rfl (hd u hi u (getD_row_mem hj))
    | succ i =>
      cases j with
      | zero => exact absurd rfl (hd u hj u (getD_row_mem hi))
      | succ j => rw [row_unique hn hi hj]

/-! ### the recurrence -/

theorem sum_set_add : ∀ {s : List Nat} {r : Nat} (hr : r < s.length) (b : Nat), (s.set r b).sum + s[r] = s.sum + b
  | a :: s, 0, _, b => by simp; omega
  | a :: s, r + 1, hr, b => by
    have := sum_set_add (s := s) (r := r) (by simpa using hr) b
    simp only [List.set_cons_succ, List.sum_cons, List.getElem_cons_succ]
    omega

theorem isSYT_nil {t : List (List Nat)} : IsSYT [] t ↔ t = [] := by
  constructor
  · intro h
    exact List.map_eq_nil_iff.1 h.rows
  · rintro rfl
    exact ⟨rfl, by simp, by simp, trivial⟩

/-- the standard tableaux of a shape, listed by the row that holds the largest entry, as `sytCount` counts them -/
def sytList : Nat → List Nat → List (List (List Nat))
  | 0, _ => [[]]
  | fuel + 1, shape =>
    if shape.sum = 0 then [[]]
    else
      (List.range shape.length).flatMap fun r =>
        if shape.getD r 0 > 0 && shape.getD r 0 > shape.getD (r + 1) 0 then
          (sytList fuel ((shape.set r (shape.getD r 0 - 1)).filter (0 < ·))).map (addCell r (shape.sum - 1))
        else []

theorem length_sytList : ∀ (fuel : Nat) (shape : List Nat), (sytList fuel shape).length = sytCount fuel shape
  | 0, _ => rfl
  | fuel + 1, shape => by
    rw [sytList, sytCount]
    split
    · rfl
    · rw [List.length_flatMap]
      congr 1
      apply List.map_congr_left
      intro r _
      dsimp only
      split
      · rw [List.length_map, length_sytList]
      · rfl

theorem sytList_spec : ∀ (fuel : Nat) (s : List Nat), (∀ a ∈ s, 0 < a) → s.sum ≤ fuel →
    (sytList fuel s).Nodup ∧ ∀ t, t ∈ sytList fuel s ↔ IsSYT s t := by
  have base : ∀ s : List Nat, (∀ a ∈ s, 0 < a) → s.sum = 0 →
      ([[]] : List (List (List Nat))).Nodup ∧ ∀ t, t ∈ [[]] ↔ IsSYT s t := by
    intro s hpos h0
    cases s with
    | nil => exact ⟨List.nodup_singleton _, fun t => by rw [isSYT_nil, List.mem_singleton]⟩
    | cons a s =>
      have := hpos a List.mem_cons_self
      rw [List.sum_cons] at h0
      omega
  intro fuel
  induction fuel with
  | zero =>
    intro s hpos hs
    exact base s hpos (by omega)
  | succ fuel ih =>
    intro s hpos hs
    rw [sytList]
    split
    · next h0 => exact base s hpos h0
    · next h0 =>
      obtain ⟨n, hn⟩ : ∃ n, s.sum = n + 1 := ⟨s.sum - 1, by omega⟩
      have hv : ∀ u ∈ List.range n, u < n := fun u hu => List.mem_range.1 hu
      have hcond : ∀ r, (s.getD r 0 > 0 && s.getD r 0 > s.getD (r + 1) 0) = true ↔ s.getD (r + 1) 0 < s.getD r 0 := by
        intro r
        simp only [Bool.and_eq_true, decide_eq_true_eq]
        omega
      have sub : ∀ r, r < s.length → s.getD (r + 1) 0 < s.getD r 0 →
          (sytList fuel ((s.set r (s.getD r 0 - 1)).filter (0 < ·))).Nodup ∧
            ∀ t, t ∈ sytList fuel ((s.set r (s.getD r 0 - 1)).filter (0 < ·)) ↔
              IsTab ((s.set r (s.getD r 0 - 1)).filter (0 < ·)) (List.range n) t := by
        intro r hr hc
        have hsum : ((s.set r (s.getD r 0 - 1)).filter (0 < ·)).sum = n := by
          have := sum_set_add hr (s.getD r 0 - 1)
          rw [List.getD_eq_getElem _ _ hr] at this hc
          rw [sum_filter_pos, List.getD_eq_getElem _ _ hr]
          omega
        have := ih ((s.set r (s.getD r 0 - 1)).filter (0 < ·))
          (fun a ha => of_decide_eq_true (List.mem_filter.1 ha).2) (by omega)
        simp only [IsSYT, hsum] at this
        exact this
      -- the tableaux with `n` in row `r`
      have piece : ∀ r, r < s.length → ∀ t,
          (t ∈ (if s.getD r 0 > 0 && s.getD r 0 > s.getD (r + 1) 0 then
              (sytList fuel ((s.set r (s.getD r 0 - 1)).filter (0 < ·))).map (addCell r (s.sum - 1))
            else [])) ↔ IsSYT s t ∧ n ∈ t.getD r [] := by
        intro r hr t
        rw [IsSYT, hn, List.range_succ, isTab_corner hpos hv hr, Nat.add_sub_cancel]
        by_cases hc : s.getD (r + 1) 0 < s.getD r 0
        · rw [if_pos ((hcond r).2 hc), List.mem_map]
          simp only [(sub r hr hc).2, hc, true_and]
        · rw [if_neg (mt (hcond r).1 hc)]
          simp only [hc, false_and, List.not_mem_nil]
      constructor
      · rw [List.nodup_flatMap]
        constructor
        · intro r hr
          have hr' := List.mem_range.1 hr
          split
          · next hc =>
            obtain ⟨hnd, hm⟩ := sub r hr' ((hcond r).1 hc)
            refine List.Nodup.map_on (fun t1 h1 t2 h2 he => ?_) hnd
            have len : ∀ t', t' ∈ sytList fuel ((s.set r (s.getD r 0 - 1)).filter (0 < ·)) →
                t'.length = ((s.set r (s.getD r 0 - 1)).filter (0 < ·)).length ∧ r < (padRow r t').length := by
              intro t' ht'
              have h' := (hm t').1 ht'
              have h0 := (isTab_padRow hpos hr' ((hcond r).1 hc)).2 ⟨t', h', rfl⟩
              have l0 := h0.length_eq
              rw [List.length_set] at l0
              exact ⟨h'.length_eq, by omega⟩
            exact addCell_inj ((len t1 h1).1.trans (len t2 h2).1.symm) (len t1 h1).2 (len t2 h2).2 he
          · exact List.nodup_nil
        · refine List.nodup_range.pairwise_of_forall_ne fun r1 h1 r2 h2 hne => ?_
          intro t ht1 ht2
          have a1 := (piece r1 (List.mem_range.1 h1) t).1 ht1
          have a2 := (piece r2 (List.mem_range.1 h2) t).1 ht2
          have hnd : t.flatten.Nodup := a1.1.perm.nodup_iff.2 List.nodup_range
          exact hne (row_unique hnd a1.2 a2.2)
      · intro t
        rw [List.mem_flatMap]
        constructor
        · rintro ⟨r, hr, ht⟩
          exact ((piece r (List.mem_range.1 hr) t).1 ht).1
        · intro h
          have hmem : n ∈ t.flatten := h.perm.mem_iff.2 (by rw [hn]; simp)
          obtain ⟨row, hrow, hnr⟩ := List.mem_flatten.1 hmem
          obtain ⟨r, hr, rfl⟩ := List.getElem_of_mem hrow
          have hrs : r < s.length := h.length_eq ▸ hr
          exact ⟨r, List.mem_range.2 hrs, (piece r hrs t).2 ⟨h, by rwa [List.getD_eq_getElem _ _ hr]⟩⟩

/-- **the corner-removal recurrence counts the standard tableaux of every shape** -/
theorem sytCount_eq_length {shape : List Nat} (hv : ValidShape shape) {fuel : Nat} (hf : shape.sum ≤ fuel) :
    sytCount fuel shape = (coreTableaux shape).length := by
  obtain ⟨hnd, hm⟩ := sytList_spec fuel shape hv.2.1 hf
  obtain ⟨hnd', hm'⟩ := coreTableaux_spec hv
  rw [← length_sytList]
  exact ((List.perm_ext_iff_of_nodup hnd hnd').2 fun t => (hm t).trans (hm' t).symm).length_eq

/-- `get_all_young_tableaux(λ)` returns as many arrays as the recurrence counts -/
theorem allTableaux_length_eq_sytCount {shape : List Nat} (hv : ValidShape shape) :
    (allTableaux shape).length = sytCount shape.sum shape := by
  rw [allTableaux_eq_pad hv, List.length_map, sytCount_eq_length hv (le_refl _)]

end Numqi.Young
