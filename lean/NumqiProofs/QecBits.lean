/-
Bit-level helper lemmas for the C19 model (`NumqiModel/Qec.lean`): parity of masks, single-bit flips.
-/
import Mathlib.Tactic
import NumqiModel.Qec
import NumqiProofs.PauliPhase

namespace Numqi.Qec

/-! ### parity by folding = xor of the low bits -/

/-- xor of the bits `0..k-1` -/
def xorBits (k m : Nat) : Bool := (List.range k).foldr (fun j acc => m.testBit j ^^ acc) false

theorem xorBits_zero (m : Nat) : xorBits 0 m = false := rfl

theorem xorBits_succ (k m : Nat) : xorBits (k + 1) m = (xorBits k m ^^ m.testBit k) := by
  unfold xorBits
  rw [List.range_succ, List.foldr_append]
  simp only [List.foldr_cons, List.foldr_nil, Bool.xor_false]
  generalize m.testBit k = b
  induction (List.range k) generalizing b with
  | nil => simp
  | cons a l ih => simp only [List.foldr_cons]; rw [ih]; simp

theorem xorBits_xor (k a b : Nat) : xorBits k (a ^^^ b) = (xorBits k a ^^ xorBits k b) := by
  induction k with
  | zero => rfl
  | succ k ih =>
    simp only [xorBits_succ, ih, Nat.testBit_xor]
    cases xorBits k a <;> cases xorBits k b <;> cases a.testBit k <;> cases b.testBit k <;> rfl

theorem xorBits_add (s t m : Nat) : xorBits (s + t) m = (xorBits s m ^^ xorBits t (m >>> s)) := by
  induction t with
  | zero => simp [xorBits_zero]
  | succ t ih =>
    rw [← Nat.add_assoc, xorBits_succ, ih, xorBits_succ, Nat.testBit_shiftRight]
    simp

theorem parityFold_eq (l m : Nat) : parityFold l m = xorBits (2 ^ l) m := by
  induction l generalizing m with
  | zero =>
    have : xorBits 1 m = (xorBits 0 m ^^ m.testBit 0) := xorBits_succ 0 m
    rw [parityFold, pow_zero, this, xorBits_zero]; simp
  | succ l ih =>
    rw [parityFold, ih, xorBits_xor, pow_succ, Nat.mul_two, xorBits_add]

theorem par_eq (m : Nat) : par m = xorBits 32 m := by
  rw [par, parityFold_eq]; norm_num

@[simp] theorem par_zero : par 0 = false := by decide

theorem par_xor (a b : Nat) : par (a ^^^ b) = (par a ^^ par b) := by
  simp only [par_eq, xorBits_xor]

theorem testBit_bit (q j : Nat) : (bit q).testBit j = decide (q = j) := by
  simp [bit, Nat.one_shiftLeft, Nat.testBit_two_pow]

theorem xorBits_bit (k q : Nat) : xorBits k (bit q) = decide (q < k) := by
  induction k with
  | zero => rfl
  | succ k ih =>
    rw [xorBits_succ, ih, testBit_bit]
    by_cases h1 : q < k <;> by_cases h2 : q = k <;> simp [h1, h2] <;> omega

theorem par_bit {q : Nat} (h : q < 32) : par (bit q) = true := by
  rw [par_eq, xorBits_bit]; exact decide_eq_true h

theorem and_bit (m q : Nat) : m &&& bit q = if m.testBit q then bit q else 0 := by
  apply Nat.eq_of_testBit_eq; intro j
  by_cases hj : q = j
  · subst hj; cases h : m.testBit q <;> simp [h, testBit_bit]
  · cases m.testBit q <;> simp [hj, testBit_bit]

theorem bit_and (m q : Nat) : bit q &&& m = if m.testBit q then bit q else 0 := by
  rw [Nat.and_comm, and_bit]

/-- `z · e_q = z_q` -/
theorem par_and_bit (m : Nat) {q : Nat} (h : q < 32) : par (m &&& bit q) = m.testBit q := by
  rw [and_bit]; split <;> simp_all [par_bit h]

theorem par_bit_and (m : Nat) {q : Nat} (h : q < 32) : par (bit q &&& m) = m.testBit q := by
  rw [Nat.and_comm, par_and_bit m h]

/-- flipping bit `q` of the right factor changes `z·a` by `z_q` -/
theorem par_and_fl (z a : Nat) {q : Nat} (h : q < 32) :
    par (z &&& (a ^^^ bit q)) = (par (z &&& a) ^^ z.testBit q) := by
  rw [Nat.and_xor_distrib_left, par_xor, par_and_bit z h]

theorem par_fl_and (z a : Nat) {q : Nat} (h : q < 32) :
    par ((z ^^^ bit q) &&& a) = (par (z &&& a) ^^ a.testBit q) := by
  rw [Nat.and_xor_distrib_right, par_xor, par_bit_and a h]

theorem testBit_fl (i q j : Nat) : (i ^^^ bit q).testBit j = (i.testBit j ^^ decide (q = j)) := by
  rw [Nat.testBit_xor, testBit_bit]

theorem xor_bit_cancel (a q : Nat) : (a ^^^ bit q) ^^^ bit q = a := by
  rw [Nat.xor_assoc, Nat.xor_self, Nat.xor_zero]

@[simp] theorem forceNat_eq {α : Type} (v : Nat) (f : Nat → α) : forceNat v f = f v := by
  cases v <;> rfl

@[simp] theorem MP.force_eq {α : Type} (p : MP) (f : MP → α) : MP.force p f = f p := by
  simp [MP.force]

@[simp] theorem MP.forceList_eq {α : Type} (l : List MP) (f : List MP → α) : MP.forceList l f = f l := by
  induction l generalizing f with
  | nil => rfl
  | cons g gs ih => simp [MP.forceList, ih]

end Numqi.Qec
