/- Arithmetic behind the counts of C02: the products in the parameter-count formulas, the length of `triuPairs`. -/
import Mathlib.Tactic
import NumqiProofs.GellmannLemmas
import NumqiModel.Manifold

namespace Numqi.Manifold.Count

theorem two_tri (r : Nat) : 2 * tri r = r * (r + 1) :=
  Nat.two_mul_div_two_of_even (Nat.even_mul_succ_self r)

/-- For `rank ≤ dim` every product in the counting formulas is linear in `rank * rank` and `dim * rank`.  With the two
inequalities and the parity of `rank * rank + rank`, `omega` (which takes the products as atoms) decides the counts.
Callers take the conjuncts they need, in this order, as `⟨hsucc, hpred, hN0, hassoc, hle, hsq, hpar⟩`. -/
theorem products (dim rank : Nat) (h : rank ≤ dim) :
    rank * (rank + 1) = rank * rank + rank ∧ rank * (rank - 1) = rank * rank - rank ∧
    rank * (2 * dim - rank + 1) = 2 * (dim * rank) - rank * rank + rank ∧ 2 * dim * rank = 2 * (dim * rank) ∧
    rank ≤ rank * rank ∧ rank * rank ≤ dim * rank ∧ 2 * (rank * (rank + 1) / 2) = rank * (rank + 1) := by
  refine ⟨Nat.mul_add_one .., Nat.mul_sub_one .., ?_, Nat.mul_assoc .., Nat.le_mul_self _, Nat.mul_le_mul_right _ h, two_tri rank⟩
  rw [Nat.mul_add_one, Nat.mul_sub, Nat.mul_left_comm, Nat.mul_comm rank dim]

/-- `(dim - rank)² ≥ dim - rank`, without subtraction: what the `SO`/`SU` charts need on top of `products` -/
theorem sq_sub_ge (dim rank : Nat) (h : rank ≤ dim) : dim + 2 * (dim * rank) ≤ dim * dim + rank * rank + rank := by
  obtain ⟨e, rfl⟩ := Nat.exists_eq_add_of_le h
  linarith [Nat.le_mul_self e]

theorem length_triuPairs (dim : Nat) : 2 * (triuPairs dim).length = dim * (dim + 1) := by
  have h1 : (triuPairs dim).length = ∑ r ∈ Finset.range dim, (dim - r) := by
    unfold triuPairs
    rw [List.length_flatMap]
    simp only [List.length_map, List.length_range']
    rw [← List.sum_toFinset _ List.nodup_range, List.toFinset_range]
  have h2 : ∑ r ∈ Finset.range dim, (dim - r) + ∑ r ∈ Finset.range dim, r = dim * dim := by
    rw [← Finset.sum_add_distrib, Finset.sum_congr rfl fun r hr => Nat.sub_add_cancel (Finset.mem_range.1 hr).le,
      Finset.sum_const, Finset.card_range, smul_eq_mul]
  have h3 := Finset.sum_range_id_mul_two dim
  have := products dim dim le_rfl
  omega

end Numqi.Manifold.Count

namespace Numqi.Manifold
variable {dim : Nat}

theorem mem_triuPairs {x : Nat × Nat} : x ∈ triuPairs dim ↔ x.1 ≤ x.2 ∧ x.2 < dim := by
  simp only [triuPairs, List.mem_flatMap, List.mem_range, List.mem_map, List.mem_range'_1]
  constructor
  · rintro ⟨r, hr, c, ⟨h1, h2⟩, rfl⟩; exact ⟨h1, by omega⟩
  · intro ⟨h1, h2⟩; exact ⟨x.1, by omega, x.2, ⟨h1, by omega⟩, rfl⟩

theorem nodup_triuPairs : (triuPairs dim).Nodup := by
  unfold triuPairs
  rw [List.nodup_flatMap]
  refine ⟨fun r _ => ?_, ?_⟩
  · exact (List.nodup_range' (s := r) (n := dim - r)).map (fun a b h => by simpa using h)
  · refine List.Pairwise.imp ?_ (List.nodup_range (n := dim))
    intro a b hab
    simp only [Function.onFun, List.disjoint_left, List.mem_map]
    rintro x ⟨j, _, rfl⟩ ⟨j', _, h⟩
    exact hab (by simpa using (congrArg Prod.fst h).symm)

end Numqi.Manifold
