/-
C07/C09/C10 link: a row-symplectic matrix (C09: `S Λ Sᵀ = Λ`, what `from_int_tuple` produces) has symplectic
columns (`Sᵀ Λ S = Λ`, the hypothesis `Tab.colSp` of `apply_hom`); hence `rand_Clifford_group` always returns a
phase-exact automorphism.
-/
import NumqiProofs.SpF2Inverse
import NumqiProofs.CliffordAlgebra

namespace Numqi.Clifford
open Numqi.SpF2

theorem cnt_parity_xorUpTo (m a b : Nat) :
    cnt m a b % 2 = (xorUpTo (fun t => a.testBit t && b.testBit t) m).toNat := by
  induction m with
  | zero => rfl
  | succ m ih =>
    rw [cnt, xorUpTo]
    have := ih
    revert this
    generalize cnt m a b = C
    cases xorUpTo (fun t => a.testBit t && b.testBit t) m <;> cases a.testBit m <;> cases b.testBit m <;>
      simp <;> omega

theorem colsOfRows_getD {m : Nat} (rows : List Nat) {j : Nat} (hj : j < m) :
    (colsOfRows m rows).getD j 0 = ofFn m fun a => (rows.getD a 0).testBit j := by
  unfold colsOfRows; rw [SpF2.getD_map_range _ _ _ hj]

/-- **rows symplectic ⇒ columns symplectic** -/
theorem colSp_of_rowsSp (n r : Nat) (M : List Nat) (hwf : WF n M) (hsp : RowsSp n M) :
    (Tab.mk n r (colsOfRows (2 * n) M)).colSp = true := by
  rw [colSp_iff]
  intro a b hab hb
  have hb' : b < 2 * n := hb
  have ha' : a < 2 * n := by omega
  -- the (i, b) entry of `inverse(M) · M = 1` with `(i + n) % 2n = a`
  obtain ⟨i, hi2, hia, hib⟩ : ∃ i, i < 2 * n ∧ (i + n) % (2 * n) = a ∧ (i = b ↔ b = a + n) := by
    by_cases h : a < n
    · refine ⟨a + n, by omega, ?_, by omega⟩
      have e : a + n + n = a + 2 * n := by omega
      rw [e, Nat.add_mod_right, Nat.mod_eq_of_lt ha']
    · refine ⟨a - n, by omega, ?_, by omega⟩
      have e : a - n + n = a := by omega
      rw [e, Nat.mod_eq_of_lt ha']
  have hinv := inverse_matMul M hwf hsp
  have hent : ((matMul (2 * n) (inverse n M) M).getD i 0).testBit b = ((idMat (2 * n)).getD i 0).testBit b := by
    rw [hinv]
  rw [matMul_getD _ _ hi2, testBit_vecMul, idMat_getD hi2, Nat.testBit_two_pow] at hent
  -- rewrite the sum over t < 2n as the two halves
  have hsum : xorUpTo (fun t => ((inverse n M).getD i 0).testBit t && (M.getD t 0).testBit b) (2 * n) =
      (xorUpTo (fun s => (M.getD (s + n) 0).testBit a && (M.getD s 0).testBit b) n ^^
        xorUpTo (fun s => (M.getD s 0).testBit a && (M.getD (s + n) 0).testBit b) n) := by
    rw [two_mul, xorUpTo_add]
    congr 1
    · apply xorUpTo_congr; intro s hs
      rw [inverse_getD M hi2, testBit_ofFn, hia, Nat.mod_eq_of_lt (by omega : s + n < 2 * n)]
      simp [show s < 2 * n by omega]
    · apply xorUpTo_congr; intro s hs
      rw [inverse_getD M hi2, testBit_ofFn, hia]
      have : (s + n + n) % (2 * n) = s := by
        have e : s + n + n = s + 2 * n := by omega
        rw [e, Nat.add_mod_right, Nat.mod_eq_of_lt (by omega)]
      rw [this]
      simp [show s + n < 2 * n by omega]
  -- the two halves are the parities of `zx a b`, `zx b a`
  have hz1 : (Tab.mk n r (colsOfRows (2 * n) M)).zx a b % 2 =
      (xorUpTo (fun s => (M.getD (s + n) 0).testBit a && (M.getD s 0).testBit b) n).toNat := by
    simp only [Tab.zx]
    rw [colsOfRows_getD M ha', colsOfRows_getD M hb', cnt_parity_xorUpTo]
    congr 1
    apply xorUpTo_congr; intro s hs
    rw [Nat.testBit_shiftRight, testBit_ofFn, testBit_ofFn, Nat.add_comm n s]
    simp [show s + n < 2 * n by omega, show s < 2 * n by omega]
  have hz2 : (Tab.mk n r (colsOfRows (2 * n) M)).zx b a % 2 =
      (xorUpTo (fun s => (M.getD s 0).testBit a && (M.getD (s + n) 0).testBit b) n).toNat := by
    simp only [Tab.zx]
    rw [colsOfRows_getD M ha', colsOfRows_getD M hb', cnt_parity_xorUpTo]
    congr 1
    apply xorUpTo_congr; intro s hs
    rw [Nat.testBit_shiftRight, testBit_ofFn, testBit_ofFn, Nat.add_comm n s]
    simp [show s + n < 2 * n by omega, show s < 2 * n by omega, Bool.and_comm]
  rw [hsum] at hent
  have hdec : decide (i = b) = decide (b = a + n) := by
    rw [decide_eq_decide]; exact hib
  rw [hdec] at hent
  show ((Tab.mk n r (colsOfRows (2 * n) M)).zx a b + (Tab.mk n r (colsOfRows (2 * n) M)).zx b a) % 2 = _
  revert hent hz1 hz2
  generalize (Tab.mk n r (colsOfRows (2 * n) M)).zx a b = Z1
  generalize (Tab.mk n r (colsOfRows (2 * n) M)).zx b a = Z2
  generalize xorUpTo (fun s => (M.getD (s + n) 0).testBit a && (M.getD s 0).testBit b) n = X1
  generalize xorUpTo (fun s => (M.getD s 0).testBit a && (M.getD (s + n) 0).testBit b) n = X2
  intro hent hz1 hz2
  by_cases hc : b = a + n
  · rw [if_pos hc]
    simp only [hc, decide_true] at hent
    revert hent hz1 hz2
    cases X1 <;> cases X2 <;> simp <;> omega
  · rw [if_neg hc]
    simp only [hc, decide_false] at hent
    revert hent hz1 hz2
    cases X1 <;> cases X2 <;> simp <;> omega

/-- **`rand_Clifford_group` returns a symplectic tableau for every raw draw** (tuple entries below their bases) -/
theorem randCliffordGroup_colSp (n rawBits : Nat) (rawTuple : List (Nat × Nat)) (hlen : rawTuple.length = n)
    (hr : inRange rawTuple = true) : (randCliffordGroup n rawBits rawTuple).colSp = true := by
  have h := fromRev_all rawTuple.reverse hr
  rw [List.length_reverse, hlen] at h
  exact colSp_of_rowsSp n _ _ h.1 h.2.1

end Numqi.Clifford
