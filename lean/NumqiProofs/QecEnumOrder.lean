/-
C19: `0 ≤ A_j ≤ B_j` term by term and along a list, for the model of `quantum_weight_enumerator` over ℂ (Cauchy–Schwarz).
-/
import NumqiProofs.QecEnum
import Mathlib.Data.Complex.BigOperators
import Mathlib.Algebra.Order.Chebyshev

namespace Numqi.Qec
open Complex

attribute [local instance] starConj

/-- a complex number that is a non-negative real -/
def NonnegReal (z : ℂ) : Prop := z.im = 0 ∧ 0 ≤ z.re

theorem star_mul_self_eq (z : ℂ) : star z * z = (normSq z : ℂ) := by
  rw [Complex.star_def, ← normSq_eq_conj_mul_self]

theorem normSq_sum_le (K : Nat) (f : Nat → ℂ) :
    normSq (∑ a ∈ Finset.range K, f a) ≤ K * ∑ a ∈ Finset.range K, normSq (f a) := by
  rw [normSq_apply, re_sum, im_sum]
  have h1 := sq_sum_le_card_mul_sum_sq (s := Finset.range K) (f := fun a => (f a).re)
  have h2 := sq_sum_le_card_mul_sum_sq (s := Finset.range K) (f := fun a => (f a).im)
  simp only [Finset.card_range] at h1 h2
  have : ∑ a ∈ Finset.range K, normSq (f a) = ∑ a ∈ Finset.range K, (f a).re ^ 2 + ∑ a ∈ Finset.range K, (f a).im ^ 2 := by
    rw [← Finset.sum_add_distrib]; apply Finset.sum_congr rfl; intro a _; rw [normSq_apply]; ring
  rw [this]
  nlinarith [h1, h2]

/-- one operator: `|Σ_a M_aa|²` and `Σ_ab |M_ab|²` are non-negative reals and the first is at most `K` times the second -/
theorem enumTerm_order (n K : Nat) (c : Nat → Nat → ℂ) (p : MP) :
    NonnegReal (enumTerm Complex.I n ((List.range K).map c) p).1
    ∧ NonnegReal (enumTerm Complex.I n ((List.range K).map c) p).2
    ∧ (enumTerm Complex.I n ((List.range K).map c) p).1.re ≤ K * (enumTerm Complex.I n ((List.range K).map c) p).2.re := by
  rw [enumTerm_eq]
  simp only [star_mul_self_eq]
  set M : Nat → Nat → ℂ := fun a b => ip n (c a) (pauliAct Complex.I p (c b)) with hM
  have h2 : (∑ a ∈ Finset.range K, ∑ b ∈ Finset.range K, ((normSq (M a b) : ℝ) : ℂ))
      = ((∑ a ∈ Finset.range K, ∑ b ∈ Finset.range K, normSq (M a b) : ℝ) : ℂ) := by
    push_cast; rfl
  rw [h2]
  refine ⟨⟨by simp, by simp [normSq_nonneg]⟩, ⟨by simp, ?_⟩, ?_⟩
  · rw [ofReal_re]; exact Finset.sum_nonneg (fun a _ => Finset.sum_nonneg (fun b _ => normSq_nonneg _))
  · rw [ofReal_re, ofReal_re]
    calc normSq (∑ a ∈ Finset.range K, M a a) ≤ K * ∑ a ∈ Finset.range K, normSq (M a a) := normSq_sum_le K _
      _ ≤ K * ∑ a ∈ Finset.range K, ∑ b ∈ Finset.range K, normSq (M a b) := by
        apply mul_le_mul_of_nonneg_left _ (Nat.cast_nonneg K)
        apply Finset.sum_le_sum
        intro a ha
        exact Finset.single_le_sum (f := fun b => normSq (M a b)) (fun b _ => normSq_nonneg _) ha

theorem NonnegReal.add {z w : ℂ} (hz : NonnegReal z) (hw : NonnegReal w) : NonnegReal (z + w) :=
  ⟨by rw [add_im, hz.1, hw.1, add_zero], by rw [add_re]; exact add_nonneg hz.2 hw.2⟩

theorem list_order (K : Nat) (l : List (ℂ × ℂ))
    (h : ∀ t ∈ l, NonnegReal t.1 ∧ NonnegReal t.2 ∧ t.1.re ≤ K * t.2.re) :
    NonnegReal (sumL (l.map fun t : ℂ × ℂ => t.1)) ∧ NonnegReal (sumL (l.map fun t : ℂ × ℂ => t.2))
      ∧ (sumL (l.map fun t : ℂ × ℂ => t.1)).re ≤ K * (sumL (l.map fun t : ℂ × ℂ => t.2)).re := by
  induction l with
  | nil => simp [sumL, NonnegReal]
  | cons t l ih =>
    obtain ⟨a, b, c⟩ := h t (List.mem_cons_self ..)
    obtain ⟨a', b', c'⟩ := ih (fun t' ht' => h t' (List.mem_cons_of_mem _ ht'))
    simp only [List.map_cons, sumL, List.foldr_cons] at *
    refine ⟨a.add a', b.add b', ?_⟩
    rw [add_re, add_re]; nlinarith

end Numqi.Qec
