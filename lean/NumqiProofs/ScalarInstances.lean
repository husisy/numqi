/-
The executable scalar carriers of `NumqiModel/Scalar.lean` are commutative star rings.

`GInt = ℤ[i]` and `QI = ℚ[i]` carry only operation instances (`Add Mul Neg Sub Zero One Conj`) in the model, because the
model must not import Mathlib.  Here the Mathlib structures `CommRing`, `StarRing`, `CharZero` (and `Field QI`) are built
**on those very operations** (the fields `add := …` etc. are the model's instances, the laws are proved from the structure
definitions), so every theorem stated for "any commutative (star) ring `R`" applies to the carriers the drivers execute:
the bridge lemmas below are all `rfl`.  Also: `GInt.I` is an imaginary unit, `1 ≠ -1`, and the inclusions
`GInt →+* QI →+* ℂ` are star-preserving ring homomorphisms.
-/
import Mathlib.Tactic
import Mathlib.Algebra.Star.Basic
import Mathlib.Algebra.CharZero.Defs
import Mathlib.Data.Complex.Basic
import NumqiModel.Scalar

namespace Numqi
set_option linter.unnecessarySeqFocus false

/-! ### `GInt = ℤ[i]` -/
namespace GInt

theorem ext' {a b : GInt} (h1 : a.re = b.re) (h2 : a.im = b.im) : a = b := by
  cases a; cases b; simp_all

@[simp] theorem zero_re : (0 : GInt).re = 0 := rfl
@[simp] theorem zero_im : (0 : GInt).im = 0 := rfl
@[simp] theorem one_re : (1 : GInt).re = 1 := rfl
@[simp] theorem one_im : (1 : GInt).im = 0 := rfl
@[simp] theorem add_re (a b : GInt) : (a + b).re = a.re + b.re := rfl
@[simp] theorem add_im (a b : GInt) : (a + b).im = a.im + b.im := rfl
@[simp] theorem sub_re (a b : GInt) : (a - b).re = a.re - b.re := rfl
@[simp] theorem sub_im (a b : GInt) : (a - b).im = a.im - b.im := rfl
@[simp] theorem neg_re (a : GInt) : (-a).re = -a.re := rfl
@[simp] theorem neg_im (a : GInt) : (-a).im = -a.im := rfl
@[simp] theorem mul_re (a b : GInt) : (a * b).re = a.re * b.re - a.im * b.im := rfl
@[simp] theorem mul_im (a b : GInt) : (a * b).im = a.re * b.im + a.im * b.re := rfl
@[simp] theorem conj_re (a : GInt) : (conj a).re = a.re := rfl
@[simp] theorem conj_im (a : GInt) : (conj a).im = -a.im := rfl

/-- the commutative-ring structure **on the model's own operations** -/
instance instCommRing : CommRing GInt where
  add := (· + ·)
  mul := (· * ·)
  zero := 0
  one := 1
  neg := Neg.neg
  sub := (· - ·)
  nsmul := nsmulRec
  zsmul := zsmulRec
  natCast n := ⟨n, 0⟩
  intCast n := ⟨n, 0⟩
  add_assoc a b c := by apply ext' <;> simp <;> ring
  zero_add a := by apply ext' <;> simp
  add_zero a := by apply ext' <;> simp
  add_comm a b := by apply ext' <;> simp <;> ring
  neg_add_cancel a := by apply ext' <;> simp
  sub_eq_add_neg a b := by apply ext' <;> simp <;> ring
  mul_assoc a b c := by apply ext' <;> simp <;> ring
  one_mul a := by apply ext' <;> simp
  mul_one a := by apply ext' <;> simp
  zero_mul a := by apply ext' <;> simp
  mul_zero a := by apply ext' <;> simp
  left_distrib a b c := by apply ext' <;> simp <;> ring
  right_distrib a b c := by apply ext' <;> simp <;> ring
  mul_comm a b := by apply ext' <;> simp <;> ring
  natCast_zero := by apply ext' <;> simp
  natCast_succ n := by apply ext' <;> simp
  intCast_ofNat n := rfl
  intCast_negSucc n := by
    apply ext'
    · show (Int.negSucc n : ℤ) = -((n + 1 : ℕ) : ℤ); rfl
    · show (0 : ℤ) = -0; rfl

instance instStar : Star GInt := ⟨conj⟩

instance instStarRing : StarRing GInt where
  star_involutive a := by apply ext' <;> simp [star]
  star_mul a b := by apply ext' <;> simp [star] <;> ring
  star_add a b := by apply ext' <;> simp [star] <;> ring

@[simp] theorem natCast_re (n : ℕ) : ((n : GInt)).re = n := rfl
@[simp] theorem natCast_im (n : ℕ) : ((n : GInt)).im = 0 := rfl

instance : CharZero GInt := ⟨fun a b h => by have := congrArg GInt.re h; simpa using this⟩

/-- `i² = -1`, `ī = -i`, and `1 ≠ -1`: the hypotheses the C03Gates / C07 / C08 theorems put on the imaginary unit -/
theorem I_mul_I : GInt.I * GInt.I = -1 := by apply ext' <;> simp [GInt.I]
theorem star_I : star GInt.I = -GInt.I := by apply ext' <;> simp [GInt.I, star]
theorem one_ne_neg_one : (1 : GInt) ≠ -1 := fun h => by have := congrArg GInt.re h; simp at this

end GInt

/-! ### `QI = ℚ[i]` -/
namespace QI

theorem ext' {a b : QI} (h1 : a.re = b.re) (h2 : a.im = b.im) : a = b := by
  cases a; cases b; simp_all

@[simp] theorem zero_re : (0 : QI).re = 0 := rfl
@[simp] theorem zero_im : (0 : QI).im = 0 := rfl
@[simp] theorem one_re : (1 : QI).re = 1 := rfl
@[simp] theorem one_im : (1 : QI).im = 0 := rfl
@[simp] theorem add_re (a b : QI) : (a + b).re = a.re + b.re := rfl
@[simp] theorem add_im (a b : QI) : (a + b).im = a.im + b.im := rfl
@[simp] theorem sub_re (a b : QI) : (a - b).re = a.re - b.re := rfl
@[simp] theorem sub_im (a b : QI) : (a - b).im = a.im - b.im := rfl
@[simp] theorem neg_re (a : QI) : (-a).re = -a.re := rfl
@[simp] theorem neg_im (a : QI) : (-a).im = -a.im := rfl
@[simp] theorem mul_re (a b : QI) : (a * b).re = a.re * b.re - a.im * b.im := rfl
@[simp] theorem mul_im (a b : QI) : (a * b).im = a.re * b.im + a.im * b.re := rfl
@[simp] theorem conj_re (a : QI) : (conj a).re = a.re := rfl
@[simp] theorem conj_im (a : QI) : (conj a).im = -a.im := rfl

/-- the imaginary unit of `ℚ[i]` (what `Driver/C03.lean` uses as `carQ.I`) -/
def I : QI := ⟨0, 1⟩

instance instCommRing : CommRing QI where
  add := (· + ·)
  mul := (· * ·)
  zero := 0
  one := 1
  neg := Neg.neg
  sub := (· - ·)
  nsmul := nsmulRec
  zsmul := zsmulRec
  natCast n := ⟨n, 0⟩
  intCast n := ⟨n, 0⟩
  add_assoc a b c := by apply ext' <;> simp <;> ring
  zero_add a := by apply ext' <;> simp
  add_zero a := by apply ext' <;> simp
  add_comm a b := by apply ext' <;> simp <;> ring
  neg_add_cancel a := by apply ext' <;> simp
  sub_eq_add_neg a b := by apply ext' <;> simp <;> ring
  mul_assoc a b c := by apply ext' <;> simp <;> ring
  one_mul a := by apply ext' <;> simp
  mul_one a := by apply ext' <;> simp
  zero_mul a := by apply ext' <;> simp
  mul_zero a := by apply ext' <;> simp
  left_distrib a b c := by apply ext' <;> simp <;> ring
  right_distrib a b c := by apply ext' <;> simp <;> ring
  mul_comm a b := by apply ext' <;> simp <;> ring
  natCast_zero := by apply ext' <;> simp
  natCast_succ n := by apply ext' <;> simp
  intCast_ofNat n := by
    apply ext'
    · show (((n : ℕ) : ℤ) : ℚ) = ((n : ℕ) : ℚ); simp
    · rfl
  intCast_negSucc n := by
    apply ext'
    · show ((Int.negSucc n : ℤ) : ℚ) = -(((n + 1 : ℕ) : ℚ)); simp [Int.negSucc_eq]
    · show (0 : ℚ) = -0; simp

instance instStar : Star QI := ⟨conj⟩

instance instStarRing : StarRing QI where
  star_involutive a := by apply ext' <;> simp [star]
  star_mul a b := by apply ext' <;> simp [star] <;> ring
  star_add a b := by apply ext' <;> simp [star] <;> ring

@[simp] theorem natCast_re (n : ℕ) : ((n : QI)).re = n := rfl
@[simp] theorem natCast_im (n : ℕ) : ((n : QI)).im = 0 := rfl

instance : CharZero QI := ⟨fun a b h => by have := congrArg QI.re h; simpa using this⟩

theorem I_mul_I : QI.I * QI.I = -1 := by apply ext' <;> simp [QI.I]
theorem star_I : star QI.I = -QI.I := by apply ext' <;> simp [QI.I, star]
theorem one_ne_neg_one : (1 : QI) ≠ -1 := fun h => by have := congrArg QI.re h; norm_num at this

end QI

/-! ### `ℚ[i]` is a field -/
namespace QI

theorem normSq_eq_zero {a : QI} (h : a.re * a.re + a.im * a.im = 0) : a = 0 := by
  have h1 := mul_self_nonneg a.re
  have h2 := mul_self_nonneg a.im
  apply ext'
  · exact mul_self_eq_zero.1 (by linarith)
  · exact mul_self_eq_zero.1 (by linarith)

instance instInv : Inv QI := ⟨fun a => ⟨a.re / (a.re * a.re + a.im * a.im), -a.im / (a.re * a.re + a.im * a.im)⟩⟩

@[simp] theorem inv_re (a : QI) : a⁻¹.re = a.re / (a.re * a.re + a.im * a.im) := rfl
@[simp] theorem inv_im (a : QI) : a⁻¹.im = -a.im / (a.re * a.re + a.im * a.im) := rfl

instance instField : Field QI where
  inv := Inv.inv
  exists_pair_ne := ⟨0, 1, fun h => by have := congrArg QI.re h; simp at this⟩
  mul_inv_cancel a ha := by
    have hn : a.re * a.re + a.im * a.im ≠ 0 := fun h => ha (normSq_eq_zero h)
    apply ext'
    · simp only [mul_re, inv_re, inv_im, one_re]
      have : a.re * (a.re / (a.re * a.re + a.im * a.im)) - a.im * (-a.im / (a.re * a.re + a.im * a.im))
          = (a.re * a.re + a.im * a.im) / (a.re * a.re + a.im * a.im) := by ring
      rw [this, div_self hn]
    · simp only [mul_im, inv_re, inv_im, one_im]
      ring
  inv_zero := by apply ext' <;> simp
  nnqsmul := _
  nnqsmul_def := fun _ _ => rfl
  qsmul := _
  qsmul_def := fun _ _ => rfl

end QI

/-! ### the Mathlib structures contain exactly the model's operations (all `rfl`) -/

theorem GInt.bridge_add : @Distrib.toAdd GInt inferInstance = GInt.instAdd := rfl
theorem GInt.bridge_mul : @Distrib.toMul GInt inferInstance = GInt.instMul := rfl
theorem GInt.bridge_zero : @MulZeroClass.toZero GInt inferInstance = GInt.instZero := rfl
theorem GInt.bridge_one : @AddMonoidWithOne.toOne GInt inferInstance = GInt.instOne := rfl
theorem GInt.bridge_neg : @Ring.toNeg GInt inferInstance = GInt.instNeg := rfl
theorem GInt.bridge_sub : @Ring.toSub GInt inferInstance = GInt.instSub := rfl
theorem GInt.bridge_conj : (⟨star⟩ : Conj GInt) = GInt.instConj := rfl

theorem QI.bridge_add : @Distrib.toAdd QI inferInstance = QI.instAdd := rfl
theorem QI.bridge_mul : @Distrib.toMul QI inferInstance = QI.instMul := rfl
theorem QI.bridge_zero : @MulZeroClass.toZero QI inferInstance = QI.instZero := rfl
theorem QI.bridge_one : @AddMonoidWithOne.toOne QI inferInstance = QI.instOne := rfl
theorem QI.bridge_neg : @Ring.toNeg QI inferInstance = QI.instNeg := rfl
theorem QI.bridge_sub : @Ring.toSub QI inferInstance = QI.instSub := rfl
theorem QI.bridge_conj : (⟨star⟩ : Conj QI) = QI.instConj := rfl

/-! ### `ℤ[i] → ℚ[i] → ℂ`: star-preserving injective ring homomorphisms -/

/-- the inclusion `ℤ[i] → ℚ[i]` (`QI.ofGInt` of the model) -/
def GInt.toQI : GInt →+* QI where
  toFun := QI.ofGInt
  map_one' := by apply QI.ext' <;> simp [QI.ofGInt]
  map_mul' a b := by apply QI.ext' <;> simp [QI.ofGInt]
  map_zero' := by apply QI.ext' <;> simp [QI.ofGInt]
  map_add' a b := by apply QI.ext' <;> simp [QI.ofGInt]

theorem GInt.toQI_star (a : GInt) : GInt.toQI (star a) = star (GInt.toQI a) := by
  apply QI.ext' <;> simp [GInt.toQI, QI.ofGInt, star]

theorem GInt.toQI_injective : Function.Injective GInt.toQI := fun a b h => by
  have h1 := congrArg QI.re h
  have h2 := congrArg QI.im h
  simp only [GInt.toQI, QI.ofGInt, RingHom.coe_mk, MonoidHom.coe_mk, OneHom.coe_mk] at h1 h2
  exact GInt.ext' (by exact_mod_cast h1) (by exact_mod_cast h2)

theorem GInt.toQI_I : GInt.toQI GInt.I = QI.I := by apply QI.ext' <;> simp [GInt.toQI, QI.ofGInt, GInt.I, QI.I]

/-- the inclusion `ℚ[i] → ℂ` -/
def QI.toComplex : QI →+* ℂ where
  toFun z := ⟨z.re, z.im⟩
  map_one' := by apply Complex.ext <;> simp
  map_mul' a b := by apply Complex.ext <;> simp
  map_zero' := by apply Complex.ext <;> simp
  map_add' a b := by apply Complex.ext <;> simp

theorem QI.toComplex_star (a : QI) : QI.toComplex (star a) = star (QI.toComplex a) := by
  apply Complex.ext <;> simp [QI.toComplex, star]

theorem QI.toComplex_injective : Function.Injective QI.toComplex := fun a b h => by
  have h1 := congrArg Complex.re h
  have h2 := congrArg Complex.im h
  simp only [QI.toComplex, RingHom.coe_mk, MonoidHom.coe_mk, OneHom.coe_mk] at h1 h2
  exact QI.ext' (by exact_mod_cast h1) (by exact_mod_cast h2)

theorem QI.toComplex_I : QI.toComplex QI.I = Complex.I := by apply Complex.ext <;> simp [QI.toComplex, QI.I]

end Numqi
