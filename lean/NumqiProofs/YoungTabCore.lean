/-
C14 helper (tableaux, part 3): the enumeration `_get_all_young_tableaux_hf0` without the zero padding (`tabCore`)
lists exactly the standard fillings of the shape that respect the lower bounds, each once (`tabCore_spec`).
One argument serves every branch of the code: `isTab_cons_iff` splits a filling into its first row and the filling of
the rest, `colLt_head_iff` turns the column condition between the first two rows into the lower bounds handed down,
and `spec_from_X` puts the first rows (position tuples `X`) and the fillings of the rest (`child`) together; the
general branch takes the recursive call for `child`, the two hook branches the column of the remaining numbers.
-/
import NumqiProofs.YoungTableaux

namespace Numqi.Young

/-- `tabAux` without the zero padding of the rows (same recursion, same branches) -/
def tabCore : List Nat → List Nat → List Nat → List (List (List Nat))
  | [], _, _ => []
  | [_], index, _ => [[index]]
  | r :: r2 :: rest, index, lower =>
    let shape := r :: r2 :: rest
    let youngT := transpose shape
    let N := shape.sum
    let np0 := index.drop 1
    let i0 := index.headD 0
    if r = 1 then [index.map fun v => [v]]
    else if r2 = 1 then
      if lower.all (· == 0) then
        (combPos (r - 1) 0 np0.length).map fun xy => (i0 :: pick np0 xy) :: (unpicked np0 xy).map fun v => [v]
      else
        let bound := lower.zip (pyRange (youngT.headD 0) youngT.sum)
        (boundedComb bound).map fun xy => (i0 :: pick np0 xy) :: (unpicked np0 xy).map fun v => [v]
    else
      let upper := (List.range' 1 (r - 1)).map fun c => N - (youngT.drop c).sum
      let bound := lower.zip upper
      (boundedComb bound).flatMap fun xy =>
        (tabCore (r2 :: rest) (unpicked np0 xy) ((nextLower xy).take (r2 - 1))).map fun t => (i0 :: pick np0 xy) :: t

/-! ### columns of singletons -/

theorem colChain_singletons : ∀ l : List Nat, ColChain (l.map fun v => [v]) ↔ SInc l
  | [] => by simp [ColChain]
  | [a] => by simp [ColChain]
  | a :: b :: l => by
    have ih := colChain_singletons (b :: l)
    simp only [List.map_cons] at ih ⊢
    rw [ColChain, ih]
    have hcl : colLt [a] [b] ↔ a < b := by
      constructor
      · intro h; simpa using h 0 (by simp) (by simp)
      · intro h j hj _; simp at hj; subst hj; simpa using h
    rw [hcl]
    constructor
    · rintro ⟨hab, hs⟩
      refine sinc_cons.2 ⟨?_, hs⟩
      intro u hu
      rcases List.mem_cons.1 hu with rfl | hu
      · exact hab
      · exact lt_trans hab ((sinc_cons.1 hs).1 u hu)
    · intro h
      obtain ⟨h1, hs⟩ := sinc_cons.1 h
      exact ⟨h1 b List.mem_cons_self, hs⟩

/-- a list of rows that all have length one is the column of its entries -/
theorem eq_map_singleton : ∀ (t : List (List Nat)), (∀ row ∈ t, row.length = 1) → t = t.flatten.map fun v => [v]
  | [], _ => by simp
  | row :: t, h => by
    have h1 := h row List.mem_cons_self
    obtain ⟨a, rfl⟩ := List.length_eq_one_iff.1 h1
    have ih := eq_map_singleton t (fun r hr => h r (List.mem_cons_of_mem _ hr))
    simp only [List.flatten_cons, List.singleton_append, List.map_cons]
    rw [← ih]

theorem flatten_map_singleton (l : List Nat) : (l.map fun v => [v]).flatten = l := by
  induction l with
  | nil => rfl
  | cons a l ih => simp [ih]

/-- a valid shape whose first row is `1` is `1, 1, …` -/
theorem ValidShape.ones {s : List Nat} (h : ValidShape (1 :: s)) : ∀ a ∈ 1 :: s, a = 1 := by
  intro a ha
  have := h.le_head a ha
  have := h.2.1 a ha
  omega

/-! ### the bound lists of the code -/

theorem boundedComb_zip {lower U : List Nat} {k : Nat} (hk : 0 < k) (hl : lower.length = k) (hu : U.length = k) :
    (boundedComb (lower.zip U)).Nodup ∧ ∀ xy : List Nat, xy ∈ boundedComb (lower.zip U) ↔
      xy.length = k ∧ SInc xy ∧ ∀ i (h : i < k), lower[i] ≤ xy.getD i 0 ∧ xy.getD i 0 < U[i] := by
  have hzl : (lower.zip U).length = k := by simp [hl, hu]
  obtain ⟨b0, rest, hz⟩ : ∃ b0 rest, lower.zip U = b0 :: rest := by
    cases hzz : lower.zip U with
    | nil => rw [hzz] at hzl; simp at hzl; omega
    | cons b0 rest => exact ⟨b0, rest, rfl⟩
  rw [hz]
  obtain ⟨hnd, hmem⟩ := boundedComb_spec b0 rest
  refine ⟨hnd, fun xy => ?_⟩
  rw [hmem, ← hz, List.forall₂_iff_get]
  constructor
  · rintro ⟨⟨hlen, hget⟩, hs⟩
    refine ⟨by omega, hs, fun i hi => ?_⟩
    have hi' : i < xy.length := by omega
    simpa [InB, hi'] using hget i (by omega) hi'
  · rintro ⟨hlen, hs, hb⟩
    refine ⟨⟨by omega, fun i h1 h2 => ?_⟩, hs⟩
    simpa [InB, h2] using hb i (by omega)

section bounds
variable {r r2 : Nat} {rest : List Nat}

theorem upper_general (hv : ValidShape (r :: r2 :: rest)) :
    let U := (List.range' 1 (r - 1)).map fun c => (r :: r2 :: rest).sum - ((transpose (r :: r2 :: rest)).drop c).sum
    U.length = r - 1 ∧ ∀ i (h : i < U.length), U[i] = upB (r :: r2 :: rest) i := by
  refine ⟨by simp, ?_⟩
  intro i h
  simp only [List.getElem_map, List.getElem_range']
  rw [transpose_drop_sum hv, upB]
  congr 2; omega

theorem colsFrom_ones {l : List Nat} (h : ∀ a ∈ l, a = 1) (c : Nat) : colsFrom l (c + 1) = 0 := by
  unfold colsFrom
  rw [List.sum_eq_zero]
  intro x hx
  simp only [List.mem_map] at hx
  obtain ⟨a, ha, rfl⟩ := hx
  rw [h a ha]; omega

theorem sum_ones {l : List Nat} (h : ∀ a ∈ l, a = 1) : l.sum = l.length := by
  induction l with
  | nil => rfl
  | cons a l ih =>
    rw [List.sum_cons, List.length_cons, ih (fun x hx => h x (List.mem_cons_of_mem _ hx)), h a List.mem_cons_self]; omega

theorem upB_hook (hv : ValidShape (r :: 1 :: rest)) (i : Nat) (hi : i + 1 ≤ r) :
    upB (r :: 1 :: rest) i = (r :: 1 :: rest).length + i := by
  have hones := hv.tail.ones
  rw [upB, colsFrom_cons, colsFrom_ones hones, List.sum_cons, sum_ones hones]
  simp only [List.length_cons]; omega

theorem upper_hook (hv : ValidShape (r :: 1 :: rest)) (hr : 2 ≤ r) :
    let T := transpose (r :: 1 :: rest)
    let U := pyRange (T.headD 0) T.sum
    U.length = r - 1 ∧ ∀ i (h : i < U.length), U[i] = upB (r :: 1 :: rest) i := by
  have hones := hv.tail.ones
  have hsum : (transpose (r :: 1 :: rest)).sum = (r :: 1 :: rest).sum := by
    have := transpose_drop_sum hv 0
    rwa [List.drop_zero, colsFrom_zero] at this
  have hhead : (transpose (r :: 1 :: rest)).headD 0 = (r :: 1 :: rest).length := by
    unfold transpose
    obtain ⟨k, rfl⟩ : ∃ k, r = k + 1 := ⟨r - 1, by omega⟩
    simp only [List.headD_cons, List.range_succ_eq_map, List.map_cons, List.headD_cons]
    congr 1
    rw [List.filter_eq_self]
    intro a ha
    have := hv.2.1 a ha
    simpa using this
  have hN : (r :: 1 :: rest).sum = r + (1 :: rest).length := by rw [List.sum_cons, sum_ones hones]
  simp only
  rw [hhead, hsum]
  have hlen : (pyRange (r :: 1 :: rest).length (r :: 1 :: rest).sum).length = r - 1 := by
    simp only [pyRange, List.length_range', hN, List.length_cons]; omega
  refine ⟨hlen, ?_⟩
  intro i h
  have hi : i < r - 1 := by rw [hlen] at h; exact h
  simp only [pyRange, List.getElem_range']
  rw [upB_hook hv i (by omega)]; omega

/-- the positions allowed by an upper bound are positions of `idx[1:]` -/
theorem upB_le {i : Nat} (hi : i + 1 < r) : upB (r :: rest) i ≤ (r :: rest).sum - 1 := by
  rw [upB, colsFrom_cons]
  have := colsFrom_le rest (i + 1)
  rw [List.sum_cons]
  omega

end bounds

/-! ### first rows: positions `xy` ↔ sorted sub-rows of `idx[1:]` -/

/-- the admissible first rows (without the corner entry) -/
def RowOK (shape lower np0 row : List Nat) : Prop :=
  SInc row ∧ (∀ v ∈ row, v ∈ np0) ∧ row.length = lower.length ∧
    ∀ i (h : i < lower.length), lower[i] ≤ cntLt np0 (row.getD i 0) ∧ cntLt np0 (row.getD i 0) < upB shape i

section rows
variable {shape lower U np0 : List Nat} {k : Nat}

theorem rowOK_of_xy (hnp : SInc np0) (hk : 0 < k) (hl : lower.length = k) (hu : U.length = k)
    (hU : ∀ i (h : i < U.length), U[i] = upB shape i) (hle : ∀ i, i < k → upB shape i ≤ np0.length)
    {xy : List Nat} (hxy : xy ∈ boundedComb (lower.zip U)) :
    RowOK shape lower np0 (pick np0 xy) ∧ (pick np0 xy).map (cntLt np0) = xy ∧ (∀ i ∈ xy, i < np0.length) := by
  obtain ⟨hlen, hs, hb⟩ := ((boundedComb_zip hk hl hu).2 xy).1 hxy
  have hlt : ∀ i ∈ xy, i < np0.length := by
    intro x hx
    obtain ⟨i, hi, rfl⟩ := List.getElem_of_mem hx
    have := (hb i (by omega)).2
    rw [getD_eq_getElem' _ hi, hU i (by omega)] at this
    have := hle i (by omega)
    omega
  obtain ⟨p1, p2, p3, p4⟩ := pick_spec hnp hs hlt
  refine ⟨⟨p1, p2, by omega, ?_⟩, p4, hlt⟩
  intro i hi
  have hi' : i < (pick np0 xy).length := by omega
  have e : cntLt np0 ((pick np0 xy).getD i 0) = xy.getD i 0 := by
    have : ((pick np0 xy).map (cntLt np0)).getD i 0 = xy.getD i 0 := by rw [p4]
    rw [← this, getD_eq_getElem' _ hi', getD_eq_getElem' _ (by simpa using hi')]
    simp
  rw [e]
  have := hb i (by omega)
  rw [hU i (by omega)] at this
  exact this

theorem xy_of_rowOK (hnp : SInc np0) (hk : 0 < k) (hl : lower.length = k) (hu : U.length = k)
    (hU : ∀ i (h : i < U.length), U[i] = upB shape i) {row : List Nat} (hrow : RowOK shape lower np0 row) :
    row.map (cntLt np0) ∈ boundedComb (lower.zip U) ∧ pick np0 (row.map (cntLt np0)) = row := by
  obtain ⟨h1, h2, h3, h4⟩ := hrow
  obtain ⟨q1, q2, q3⟩ := row_as_pick hnp h1 h2
  refine ⟨((boundedComb_zip hk hl hu).2 _).2 ⟨by simp; omega, q1, ?_⟩, q3⟩
  intro i hi
  have hi' : i < row.length := by omega
  have e : (row.map (cntLt np0)).getD i 0 = cntLt np0 (row.getD i 0) := by
    rw [getD_eq_getElem' _ (by simpa using hi'), getD_eq_getElem' _ hi']; simp
  rw [e, hU i (by omega)]
  exact h4 i (by omega)

end rows

/-! ### peeling off the first row -/

section peel
variable {r i0 : Nat} {s np0 : List Nat}

theorem colChain_cons (a : List Nat) (t : List (List Nat)) : ColChain (a :: t) ↔ colLt a (t.headD []) ∧ ColChain t := by
  cases t with
  | nil => simp [ColChain, colLt]
  | cons b t => rfl

theorem isTab_cons_iff (hv : ValidShape (r :: s)) (hidx : SInc (i0 :: np0)) (t : List (List Nat)) :
    IsTab (r :: s) (i0 :: np0) t ↔
      ∃ row t', t = (i0 :: row) :: t' ∧ SInc row ∧ (∀ v ∈ row, v ∈ np0) ∧ row.length = r - 1 ∧
        IsTab s (restOf np0 row) t' ∧ colLt (i0 :: row) (t'.headD []) := by
  have hnp : SInc np0 := (sinc_cons.1 hidx).2
  have hr : 0 < r := hv.2.1 r List.mem_cons_self
  constructor
  · intro ht
    obtain ⟨R0, t', rfl⟩ := ht.exists_cons
    obtain ⟨row, rfl⟩ := tab_corner hv hidx ht
    have hrow := (sinc_cons.1 (ht.rowInc _ List.mem_cons_self)).2
    have hsub := tab_row_sub ht
    have hrows := ht.rows
    simp only [List.map_cons, List.cons.injEq, List.length_cons] at hrows
    have hperm : t'.flatten.Perm (restOf np0 row) :=
      (List.perm_append_left_iff row).1 (((List.perm_cons i0).1 ht.perm).trans (perm_row_restOf hnp hrow hsub))
    obtain ⟨hcol, hchain⟩ := (colChain_cons _ _).1 ht.colInc
    exact ⟨row, t', rfl, hrow, hsub, by omega,
      ⟨hrows.2, hperm, fun x hx => ht.rowInc x (List.mem_cons_of_mem _ hx), hchain⟩, hcol⟩
  · rintro ⟨row, t', rfl, hrow, hsub, hlen, ht', hcol⟩
    have hi0 : ∀ u ∈ row, i0 < u := fun u hu => (sinc_cons.1 hidx).1 u (hsub u hu)
    refine ⟨?_, ?_, ?_, (colChain_cons _ _).2 ⟨hcol, ht'.colInc⟩⟩
    · rw [List.map_cons, ht'.rows, List.length_cons, hlen, Nat.sub_add_cancel hr]
    · exact (List.perm_cons i0).2
        (((List.perm_append_left_iff row).2 ht'.perm).trans (perm_row_restOf hnp hrow hsub).symm)
    · intro x hx
      rcases List.mem_cons.1 hx with rfl | hx
      · exact sinc_cons.2 ⟨hi0, hrow⟩
      · exact ht'.rowInc x hx

end peel

/-! ### the column condition between the first two rows = the lower bounds handed to the recursive call -/

theorem nextLower_getElem (xy : List Nat) (i : Nat) (h : i < (nextLower xy).length) :
    (nextLower xy)[i] = xy.getD i 0 - i - 1 := by
  have hi : i < xy.length := by simpa [nextLower] using h
  simp [nextLower, List.getElem_zipIdx, List.getD_eq_getElem?_getD, List.getElem?_eq_getElem hi]

theorem nextLower_length (xy : List Nat) : (nextLower xy).length = xy.length := by simp [nextLower]

section collower
variable {np0 row np1 : List Nat} {i1 : Nat}

theorem col_lower (hnp : SInc np0) (hrow : SInc row) (hsub : ∀ v ∈ row, v ∈ np0)
    (hrest : restOf np0 row = i1 :: np1) {j : Nat} (hj : j < row.length) {w : Nat} (hw : w ∈ np1) :
    row.getD j 0 < w ↔ cntLt np0 (row.getD j 0) - j - 1 ≤ cntLt np1 w := by
  set v := row.getD j 0 with hv
  have hvrow : v ∈ row := getD_mem hj
  have hsr : SInc (i1 :: np1) := hrest ▸ sinc_restOf hnp row
  have hw' : w ∈ i1 :: np1 := List.mem_cons_of_mem _ hw
  have hvn : v ∉ i1 :: np1 := by rw [← hrest, mem_restOf]; exact fun h => h.2 hvrow
  have hne : v ≠ w := fun h => hvn (h ▸ hw')
  rw [lt_iff_cntLt_le hw' hne]
  have h1 : cntLt (i1 :: np1) w = cntLt np1 w + 1 := by
    rw [cntLt_cons]; simp [(sinc_cons.1 hsr).1 w hw]
  have h2 : cntLt np0 v = cntLt row v + cntLt (i1 :: np1) v := by
    rw [cntLt_perm (perm_row_restOf hnp hrow hsub) v, cntLt_append, hrest]
  have h3 : cntLt row v = j := by
    rw [hv, getD_eq_getElem' _ hj]; exact cntLt_getElem hrow j hj
  omega

end collower

theorem colsFrom_add_length_le {s : List Nat} (hpos : ∀ a ∈ s, 0 < a) (c : Nat) :
    colsFrom s (c + 1) + s.length ≤ s.sum := by
  induction s with
  | nil => simp [colsFrom]
  | cons a s ih =>
    have := ih (fun x hx => hpos x (List.mem_cons_of_mem _ hx))
    have ha := hpos a List.mem_cons_self
    rw [colsFrom_cons, List.sum_cons, List.length_cons]; omega

/-- the upper bound of the next row is the upper bound of this row minus the cells of the first row -/
theorem upB_tail {r : Nat} {s : List Nat} (hpos : ∀ a ∈ s, 0 < a) (hne : s ≠ []) {i : Nat} (hi : i + 1 ≤ r) :
    upB (r :: s) i = upB s i + (i + 1) ∧ 0 < upB s i := by
  have h1 := colsFrom_add_length_le hpos i
  have h2 : 0 < s.length := List.length_pos_iff.2 hne
  rw [upB, upB, colsFrom_cons, List.sum_cons]
  constructor <;> omega

/-! ### unfolding `tabCore`, the one-column tableaux -/

section unfold
variable {r r2 : Nat} {rest idx lower : List Nat}

theorem tabCore_col (h : r = 1) : tabCore (r :: r2 :: rest) idx lower = [idx.map fun v => [v]] := by
  simp [tabCore, h]

theorem tabCore_hook0 (h1 : r ≠ 1) (h2 : r2 = 1) (hz : lower.all (· == 0) = true) :
    tabCore (r :: r2 :: rest) idx lower =
      (combPos (r - 1) 0 (idx.drop 1).length).map fun xy =>
        (idx.headD 0 :: pick (idx.drop 1) xy) :: (unpicked (idx.drop 1) xy).map fun v => [v] := by
  simp only [tabCore, h1, h2, hz, if_false, if_true]

theorem tabCore_hook1 (h1 : r ≠ 1) (h2 : r2 = 1) (hz : lower.all (· == 0) = false) :
    tabCore (r :: r2 :: rest) idx lower =
      (boundedComb (lower.zip (pyRange ((transpose (r :: r2 :: rest)).headD 0) (transpose (r :: r2 :: rest)).sum))).map fun xy =>
        (idx.headD 0 :: pick (idx.drop 1) xy) :: (unpicked (idx.drop 1) xy).map fun v => [v] := by
  simp only [tabCore, h1, h2, hz, if_false, if_true, Bool.false_eq_true]

theorem tabCore_gen (h1 : r ≠ 1) (h2 : r2 ≠ 1) :
    tabCore (r :: r2 :: rest) idx lower =
      (boundedComb (lower.zip ((List.range' 1 (r - 1)).map fun c =>
          (r :: r2 :: rest).sum - ((transpose (r :: r2 :: rest)).drop c).sum))).flatMap fun xy =>
        (tabCore (r2 :: rest) (unpicked (idx.drop 1) xy) ((nextLower xy).take (r2 - 1))).map fun t =>
          (idx.headD 0 :: pick (idx.drop 1) xy) :: t := by
  simp only [tabCore, h1, h2, if_false]

end unfold

/-- the tableaux of a one-column shape: the sorted column -/
theorem isTab_column {s idx : List Nat} (hones : ∀ a ∈ s, a = 1) (hidx : SInc idx) (hlen : idx.length = s.length)
    (t : List (List Nat)) : IsTab s idx t ↔ t = idx.map fun v => [v] := by
  constructor
  · intro ht
    have hrows : ∀ row ∈ t, row.length = 1 := by
      intro row hrow
      have : row.length ∈ t.map List.length := List.mem_map.2 ⟨row, hrow, rfl⟩
      rw [ht.rows] at this
      exact hones _ this
    have h1 := eq_map_singleton t hrows
    have h2 : SInc t.flatten := by
      rw [← colChain_singletons, ← h1]; exact ht.colInc
    rw [h1, sinc_eq_of_perm h2 hidx ht.perm]
  · rintro rfl
    refine ⟨?_, by rw [flatten_map_singleton], ?_, (colChain_singletons idx).2 hidx⟩
    · rw [List.map_map]
      have : s = List.replicate s.length 1 := List.eq_replicate_iff.2 ⟨rfl, hones⟩
      rw [this, ← hlen]
      apply List.ext_getElem
      · simp
      · intro i h1 h2; simp
    · intro row hrow
      simp only [List.mem_map] at hrow
      obtain ⟨v, _, rfl⟩ := hrow
      exact List.pairwise_singleton _ _

/-! ### the specification -/

/-- the lower bounds are below the upper bounds the code derives from the shape (true at the top level and preserved
by the recursion; needed because the single-row base case ignores its lower bounds) -/
def Feas (shape lower : List Nat) : Prop := ∀ i (h : i < lower.length), lower[i] < upB shape i

/-- the entries of the first row (after the corner) respect the lower bounds on their positions in `idx[1:]` -/
def RowLB (lower np0 row : List Nat) : Prop :=
  ∀ i (h : i < lower.length), i < row.length → lower[i] ≤ cntLt np0 (row.getD i 0)

/-- what `tabCore shape idx lower` has to be -/
def Spec (shape idx lower : List Nat) : Prop :=
  (tabCore shape idx lower).Nodup ∧
    ∀ t, t ∈ tabCore shape idx lower ↔ IsTab shape idx t ∧ RowLB lower idx.tail (t.headD []).tail

theorem spec_single (r : Nat) (idx lower : List Nat) (hidx : SInc idx) (hlen : idx.length = r)
    (hf : Feas [r] lower) : Spec [r] idx lower := by
  refine ⟨by simp [tabCore], fun t => ?_⟩
  simp only [tabCore, List.mem_singleton]
  constructor
  · rintro rfl
    refine ⟨⟨by simp [hlen], by simp, by simpa using hidx, trivial⟩, ?_⟩
    intro i h1 h2
    simp only [List.headD_cons] at h2 ⊢
    have hts : SInc idx.tail := hidx.sublist (List.tail_sublist idx)
    have h2' : i < idx.tail.length := h2
    rw [getD_eq_getElem' _ h2', cntLt_getElem hts i h2']
    have := hf i h1
    have hi : i + 1 ≤ r := by simp at h2'; omega
    rw [upB, colsFrom_cons] at this
    simp [colsFrom] at this
    omega
  · rintro ⟨ht, _⟩
    obtain ⟨row, rfl⟩ : ∃ row, t = [row] := by
      have := ht.rows
      cases t with
      | nil => simp at this
      | cons a b =>
        cases b with
        | nil => exact ⟨a, rfl⟩
        | cons c d => simp at this
    have hp := ht.perm
    simp only [List.flatten_cons, List.flatten_nil, List.append_nil] at hp
    rw [sinc_eq_of_perm (ht.rowInc row (by simp)) hidx hp]

theorem spec_column {r r2 : Nat} {rest : List Nat} (hv : ValidShape (r :: r2 :: rest)) (hr : r = 1)
    (idx lower : List Nat) (hidx : SInc idx) (hlen : idx.length = (r :: r2 :: rest).sum)
    (hl : lower.length = r - 1) : Spec (r :: r2 :: rest) idx lower := by
  subst hr
  have hones := hv.ones
  have hl0 : lower = [] := List.length_eq_zero_iff.1 (by simpa using hl)
  refine ⟨by simp [tabCore_col], fun t => ?_⟩
  rw [tabCore_col rfl, List.mem_singleton, ← isTab_column hones hidx (by rw [hlen, sum_ones hones])]
  constructor
  · intro h; exact ⟨h, by subst hl0; intro i h1; simp at h1⟩
  · intro h; exact h.1

/-! ### peeling off the first row in the enumeration -/

theorem restOf_length {np0 row : List Nat} (hnp : SInc np0) (hrow : SInc row) (hsub : ∀ v ∈ row, v ∈ np0) :
    (restOf np0 row).length + row.length = np0.length := by
  have := (perm_row_restOf hnp hrow hsub).length_eq
  simp at this; omega

theorem colLt_iff_rowLB {np0 row np1 row1 : List Nat} {i0 i1 : Nat} (hnp : SInc np0) (hrow : SInc row)
    (hsub : ∀ v ∈ row, v ∈ np0) (hrest : restOf np0 row = i1 :: np1) (hi01 : i0 < i1)
    (hsub1 : ∀ w ∈ row1, w ∈ np1) (hmr : row1.length ≤ row.length) :
    colLt (i0 :: row) (i1 :: row1) ↔
      RowLB ((nextLower (row.map (cntLt np0))).take row1.length) np1 row1 := by
  have hlen : ((nextLower (row.map (cntLt np0))).take row1.length).length = row1.length := by
    simp [nextLower_length]; omega
  have hget : ∀ i (h : i < ((nextLower (row.map (cntLt np0))).take row1.length).length),
      ((nextLower (row.map (cntLt np0))).take row1.length)[i] = cntLt np0 (row.getD i 0) - i - 1 := by
    intro i h
    have hi : i < row.length := by omega
    rw [List.getElem_take, nextLower_getElem, getD_eq_getElem' _ (by simpa using hi), getD_eq_getElem' _ hi]
    simp
  constructor
  · intro hc i h1 h2
    rw [hget i h1]
    have hi : i < row.length := by omega
    have := hc (i + 1) (by simpa using hi) (by simpa using h2)
    simp only [List.getD_cons_succ] at this
    exact (col_lower hnp hrow hsub hrest hi (hsub1 _ (getD_mem h2))).1 this
  · intro hlb j hj1 hj2
    cases j with
    | zero => simpa using hi01
    | succ i =>
      have hi : i < row.length := by simpa using hj1
      have hi2 : i < row1.length := by simpa using hj2
      simp only [List.getD_cons_succ]
      have := hlb i (by omega) hi2
      rw [hget i (by omega)] at this
      exact (col_lower hnp hrow hsub hrest hi (hsub1 _ (getD_mem hi2))).2 this

/-- `colLt_iff_rowLB` in the form in which `isTab_cons_iff` and `Spec` speak of the rows below the first -/
theorem colLt_head_iff {r2 i0 : Nat} {rest np0 row : List Nat} {t' : List (List Nat)} (hv' : ValidShape (r2 :: rest))
    (hidx : SInc (i0 :: np0)) (hrow : SInc row) (hsub : ∀ v ∈ row, v ∈ np0) (hlen : r2 - 1 ≤ row.length)
    (ht' : IsTab (r2 :: rest) (restOf np0 row) t') :
    colLt (i0 :: row) (t'.headD []) ↔
      RowLB ((nextLower (row.map (cntLt np0))).take (r2 - 1)) (restOf np0 row).tail (t'.headD []).tail := by
  have hnp : SInc np0 := (sinc_cons.1 hidx).2
  have hr2 : 0 < r2 := hv'.2.1 r2 List.mem_cons_self
  obtain ⟨R1, t2, rfl⟩ := ht'.exists_cons
  have hl1 := (tab_lengths hv' ht').1
  cases hrest : restOf np0 row with
  | nil =>
    have := ht'.perm.length_eq
    rw [hrest, List.flatten_cons, List.length_append, List.length_nil] at this; omega
  | cons i1 np1 =>
    rw [hrest] at ht'
    obtain ⟨row1, rfl⟩ := tab_corner hv' (hrest ▸ sinc_restOf hnp _) ht'
    have hi01 : i0 < i1 := (sinc_cons.1 hidx).1 i1 (mem_restOf.1 (hrest ▸ List.mem_cons_self)).1
    have hl1' : row1.length = r2 - 1 := by simp at hl1; omega
    simpa [hl1'] using colLt_iff_rowLB hnp hrow hsub hrest hi01 (tab_row_sub ht') (by omega)

section rows
variable {r r2 i0 : Nat} {rest np0 lower : List Nat}

theorem rowOK_of_tab {srest : List Nat} (hv : ValidShape (r :: srest))
    (hidx : SInc (i0 :: np0)) (hN : (i0 :: np0).length = (r :: srest).sum) (hl : lower.length = r - 1)
    {row : List Nat} {t' : List (List Nat)} (ht : IsTab (r :: srest) (i0 :: np0) ((i0 :: row) :: t'))
    (hrow : SInc row) (hsub : ∀ v ∈ row, v ∈ np0) (hlen : row.length = r - 1) (hlb : RowLB lower np0 row) :
    RowOK (r :: srest) lower np0 row := by
  refine ⟨hrow, hsub, by omega, ?_⟩
  intro i hi
  refine ⟨hlb i hi (by omega), ?_⟩
  have := tab_upper hv hidx hN ht (c := i + 1) (by omega) (by omega)
  simp only [List.getD_cons_succ] at this
  rw [upB]
  omega

/-- the first row and the rows below it, for every branch of the code: `X` is the list of position tuples the branch
enumerates, `child xy` the fillings of the remaining rows it produces for `xy` -/
theorem spec_from_X (hv : ValidShape (r :: r2 :: rest)) (hidx : SInc (i0 :: np0))
    {X : List (List Nat)} {child : List Nat → List (List (List Nat))} (hX1 : X.Nodup)
    (hX2 : ∀ xy ∈ X, xy.length = r - 1 ∧ SInc xy ∧ (∀ i ∈ xy, i < np0.length) ∧ RowLB lower np0 (pick np0 xy))
    (hX3 : ∀ row t', IsTab (r :: r2 :: rest) (i0 :: np0) ((i0 :: row) :: t') → SInc row → (∀ v ∈ row, v ∈ np0) →
      row.length = r - 1 → RowLB lower np0 row → row.map (cntLt np0) ∈ X)
    (hchild : ∀ xy ∈ X, (child xy).Nodup ∧ ∀ t', t' ∈ child xy ↔ IsTab (r2 :: rest) (restOf np0 (pick np0 xy)) t' ∧
      RowLB ((nextLower xy).take (r2 - 1)) (restOf np0 (pick np0 xy)).tail (t'.headD []).tail) :
    let L := X.flatMap fun xy => (child xy).map fun t => (i0 :: pick np0 xy) :: t
    L.Nodup ∧ ∀ t, t ∈ L ↔ IsTab (r :: r2 :: rest) (i0 :: np0) t ∧ RowLB lower np0 (t.headD []).tail := by
  intro L
  have hnp : SInc np0 := (sinc_cons.1 hidx).2
  have hrr2 : r2 ≤ r := hv.le_head r2 (by simp)
  have hpick := fun xy hxy => pick_spec hnp (hX2 xy hxy).2.1 (hX2 xy hxy).2.2.1
  constructor
  · refine nodup_flatMap_map hX1 (fun xy hxy => (hchild xy hxy).1) fun xy hxy xy' hxy' a _ b _ e => ?_
    obtain ⟨e1, e2⟩ := List.cons.inj e
    exact ⟨by rw [← (hpick xy hxy).2.2.2, ← (hpick xy' hxy').2.2.2, (List.cons.inj e1).2], e2⟩
  · intro t
    simp only [L, List.mem_flatMap, List.mem_map]
    constructor
    · rintro ⟨xy, hxy, t', ht', rfl⟩
      obtain ⟨hxl, _, _, hxlb⟩ := hX2 xy hxy
      obtain ⟨p1, p2, p3, p4⟩ := hpick xy hxy
      obtain ⟨htab', hlb'⟩ := ((hchild xy hxy).2 t').1 ht'
      refine ⟨(isTab_cons_iff hv hidx _).2 ⟨_, t', rfl, p1, p2, by omega, htab', ?_⟩, hxlb⟩
      rw [colLt_head_iff hv.tail hidx p1 p2 (by omega) htab', p4]
      exact hlb'
    · rintro ⟨ht, hlb⟩
      obtain ⟨row, t', rfl, hrow, hsub, hlen, ht', hcol⟩ := (isTab_cons_iff hv hidx t).1 ht
      have hxy := hX3 row t' ht hrow hsub hlen hlb
      have hp := (row_as_pick hnp hrow hsub).2.2
      have hc := (hchild _ hxy).2 t'
      rw [hp] at hc
      exact ⟨_, hxy, t', hc.2 ⟨ht', (colLt_head_iff hv.tail hidx hrow hsub (by omega) ht').1 hcol⟩, by rw [hp]⟩

end rows

/-! ### hook shapes `(r, 1, …, 1)` -/

section hook
variable {r i0 : Nat} {rest np0 lower : List Nat}

/-- the two hook branches: below the first row the remaining numbers stand in a column -/
theorem hook_from_X (hv : ValidShape (r :: 1 :: rest)) (hidx : SInc (i0 :: np0))
    (hN : (i0 :: np0).length = (r :: 1 :: rest).sum) (X : List (List Nat)) (hX1 : X.Nodup)
    (hX2 : ∀ xy ∈ X, xy.length = r - 1 ∧ SInc xy ∧ (∀ i ∈ xy, i < np0.length) ∧ RowLB lower np0 (pick np0 xy))
    (hX3 : ∀ row t', IsTab (r :: 1 :: rest) (i0 :: np0) ((i0 :: row) :: t') → SInc row → (∀ v ∈ row, v ∈ np0) →
      row.length = r - 1 → RowLB lower np0 row → row.map (cntLt np0) ∈ X) :
    let F := fun xy => (i0 :: pick np0 xy) :: (unpicked np0 xy).map fun v => [v]
    (X.map F).Nodup ∧ ∀ t, t ∈ X.map F ↔
      IsTab (r :: 1 :: rest) (i0 :: np0) t ∧ RowLB lower np0 (t.headD []).tail := by
  intro F
  have hnp : SInc np0 := (sinc_cons.1 hidx).2
  have hones := hv.tail.ones
  have hr : 0 < r := hv.2.1 r List.mem_cons_self
  have hNn : np0.length + 1 = r + (1 :: rest).length := by
    have := hN; rw [List.sum_cons, sum_ones hones] at this; simpa using this
  rw [List.map_eq_flatMap]
  refine spec_from_X hv hidx (child := fun xy => [(unpicked np0 xy).map fun v => [v]]) hX1 hX2 hX3
    fun xy hxy => ⟨List.nodup_singleton _, fun t' => ?_⟩
  obtain ⟨hxl, hxs, hxlt, _⟩ := hX2 xy hxy
  obtain ⟨p1, p2, p3, _⟩ := pick_spec hnp hxs hxlt
  have := restOf_length hnp p1 p2
  rw [List.mem_singleton, unpicked_eq_restOf hnp hxlt, isTab_column hones (sinc_restOf hnp _) (by omega)]
  exact (and_iff_left fun i hi => absurd hi (Nat.not_lt_zero i)).symm

theorem spec_hook (hv : ValidShape (r :: 1 :: rest)) (hr : 2 ≤ r) (hidx : SInc (i0 :: np0))
    (hN : (i0 :: np0).length = (r :: 1 :: rest).sum) (hl : lower.length = r - 1) :
    Spec (r :: 1 :: rest) (i0 :: np0) lower := by
  have hnp : SInc np0 := (sinc_cons.1 hidx).2
  have hk : 0 < r - 1 := by omega
  have hnpl : np0.length = (r :: 1 :: rest).sum - 1 := by
    have := hN; simp only [List.length_cons] at this; omega
  have hle : ∀ i, i < r - 1 → upB (r :: 1 :: rest) i ≤ np0.length := by
    intro i hi; rw [hnpl]; exact upB_le (by omega)
  unfold Spec
  by_cases hz : lower.all (· == 0) = true
  · rw [tabCore_hook0 (by omega) rfl hz]
    simp only [List.drop_one, List.tail_cons, List.headD_cons]
    have hzero : ∀ i (h : i < lower.length), lower[i] = 0 := by
      intro i h
      have := List.all_eq_true.1 hz lower[i] (List.getElem_mem h)
      simpa using this
    obtain ⟨c1, c2⟩ := combPos_spec (r - 1) 0 np0.length
    refine hook_from_X hv hidx hN _ c1 ?_ ?_
    · intro xy hxy
      obtain ⟨h1, h2, h3⟩ := (c2 xy).1 hxy
      refine ⟨h1, h2, fun i hi => (h3 i hi).2, ?_⟩
      intro i hi _
      rw [hzero i hi]; exact Nat.zero_le _
    · intro row t' _ hrow hsub hlen _
      obtain ⟨q1, q2, _⟩ := row_as_pick hnp hrow hsub
      exact (c2 _).2 ⟨by simpa using hlen, q1, fun x hx => ⟨Nat.zero_le _, q2 x hx⟩⟩
  · have hz' : lower.all (· == 0) = false := by simpa using hz
    rw [tabCore_hook1 (by omega) rfl hz']
    simp only [List.drop_one, List.tail_cons, List.headD_cons]
    obtain ⟨hu, hU⟩ := upper_hook hv hr
    obtain ⟨b1, b2⟩ := boundedComb_zip hk hl hu
    refine hook_from_X hv hidx hN _ b1 ?_ ?_
    · intro xy hxy
      obtain ⟨h1, h2, _⟩ := (b2 xy).1 hxy
      obtain ⟨⟨_, _, _, g4⟩, _, g6⟩ := rowOK_of_xy hnp hk hl hu hU hle hxy
      exact ⟨h1, h2, g6, fun i hi _ => (g4 i hi).1⟩
    · intro row t' ht hrow hsub hlen hlb
      exact (xy_of_rowOK hnp hk hl hu hU (rowOK_of_tab hv hidx hN hl ht hrow hsub hlen hlb)).1

end hook

/-! ### the general branch -/

section general
variable {r r2 i0 : Nat} {rest np0 lower U : List Nat}

/-- every position tuple of the general branch picks an admissible first row, and hands the recursive call arguments that
satisfy the preconditions again (`U` is the list of upper bounds the code computes, `upper_general`) -/
theorem child_ok (hv : ValidShape (r :: r2 :: rest)) (h1 : r ≠ 1) (hidx : SInc (i0 :: np0))
    (hN : (i0 :: np0).length = (r :: r2 :: rest).sum) (hl : lower.length = r - 1) (hu : U.length = r - 1)
    (hU : ∀ i (h : i < U.length), U[i] = upB (r :: r2 :: rest) i) {xy : List Nat} (hxy : xy ∈ boundedComb (lower.zip U)) :
    (xy.length = r - 1 ∧ SInc xy ∧ (∀ i ∈ xy, i < np0.length) ∧ RowLB lower np0 (pick np0 xy)) ∧
      unpicked np0 xy = restOf np0 (pick np0 xy) ∧ (restOf np0 (pick np0 xy)).length = (r2 :: rest).sum ∧
      ((nextLower xy).take (r2 - 1)).length = r2 - 1 ∧ Feas (r2 :: rest) ((nextLower xy).take (r2 - 1)) := by
  have hnp : SInc np0 := (sinc_cons.1 hidx).2
  have hr : 0 < r := hv.2.1 r List.mem_cons_self
  have hrr2 : r2 ≤ r := hv.le_head r2 (by simp)
  have hk : 0 < r - 1 := by omega
  have hNs : np0.length + 1 = r + (r2 :: rest).sum := by
    have := hN; simp only [List.length_cons, List.sum_cons] at this ⊢; omega
  have hle : ∀ i, i < r - 1 → upB (r :: r2 :: rest) i ≤ np0.length := by
    intro i hi
    have := upB_le (r := r) (rest := r2 :: rest) (i := i) (by omega)
    rw [List.sum_cons] at this; omega
  obtain ⟨⟨g1, g2, g3, g4⟩, _, hlt⟩ := rowOK_of_xy hnp hk hl hu hU hle hxy
  obtain ⟨hxl, hxs, hxb⟩ := ((boundedComb_zip hk hl hu).2 xy).1 hxy
  have hrl := restOf_length hnp g1 g2
  have hnl : ((nextLower xy).take (r2 - 1)).length = r2 - 1 := by
    rw [List.length_take, nextLower_length, hxl]; omega
  refine ⟨⟨hxl, hxs, hlt, fun i hi _ => (g4 i hi).1⟩, unpicked_eq_restOf hnp hlt, by omega, hnl, ?_⟩
  intro i hi
  rw [List.getElem_take, nextLower_getElem]
  have hi1 : i < r - 1 := by omega
  have hb := (hxb i hi1).2
  rw [hU i (hu ▸ hi1)] at hb
  obtain ⟨e1, e2⟩ := upB_tail (r := r) (s := r2 :: rest) (i := i) hv.tail.2.1 (by simp) (by omega)
  omega

theorem spec_general (hv : ValidShape (r :: r2 :: rest)) (h1 : r ≠ 1) (h2 : r2 ≠ 1) (hidx : SInc (i0 :: np0))
    (hN : (i0 :: np0).length = (r :: r2 :: rest).sum) (hl : lower.length = r - 1)
    (IH : ∀ idx' lower', SInc idx' → idx'.length = (r2 :: rest).sum → lower'.length = r2 - 1 →
      Feas (r2 :: rest) lower' → Spec (r2 :: rest) idx' lower') :
    Spec (r :: r2 :: rest) (i0 :: np0) lower := by
  have hnp : SInc np0 := (sinc_cons.1 hidx).2
  have hk : 0 < r - 1 := by have := hv.2.1 r List.mem_cons_self; omega
  obtain ⟨hu, hU⟩ := upper_general hv
  have hchild := fun xy hxy => child_ok hv h1 hidx hN hl hu hU (xy := xy) hxy
  unfold Spec
  rw [tabCore_gen h1 h2]
  simp only [List.drop_one, List.tail_cons, List.headD_cons]
  refine spec_from_X hv hidx (boundedComb_zip hk hl hu).1 (fun xy hxy => (hchild xy hxy).1)
    (fun row t' ht hrow hsub hlen hlb =>
      (xy_of_rowOK hnp hk hl hu hU (rowOK_of_tab hv hidx hN hl ht hrow hsub hlen hlb)).1) fun xy hxy => ?_
  obtain ⟨_, hun, c2, c3, c4⟩ := hchild xy hxy
  rw [hun]
  exact IH _ _ (sinc_restOf hnp _) c2 c3 c4

end general

/-- **`tabCore shape idx lower` lists exactly the standard fillings of `shape` with the numbers `idx` whose first row respects
the lower bounds, each once** — for every valid shape, every strictly increasing `idx` of the right length and every
feasible list of lower bounds (all four branches of the code). -/
theorem tabCore_spec : ∀ (shape idx lower : List Nat), ValidShape shape → SInc idx → idx.length = shape.sum →
    lower.length = shape.headD 0 - 1 → Feas shape lower → Spec shape idx lower
  | [], _, _, hv, _, _, _, _ => absurd rfl hv.1
  | [r], idx, lower, _, hidx, hlen, _, hf =>
    spec_single r idx lower hidx (by simpa using hlen) hf
  | r :: r2 :: rest, idx, lower, hv, hidx, hlen, hl, _ => by
    have hr : 0 < r := hv.2.1 r List.mem_cons_self
    obtain ⟨i0, np0, rfl⟩ : ∃ i0 np0, idx = i0 :: np0 := by
      cases idx with
      | nil => simp at hlen; omega
      | cons a b => exact ⟨a, b, rfl⟩
    by_cases h1 : r = 1
    · exact spec_column hv h1 _ _ hidx hlen (by simpa using hl)
    · by_cases h2 : r2 = 1
      · subst h2
        exact spec_hook hv (by omega) hidx hlen (by simpa using hl)
      · exact spec_general hv h1 h2 hidx hlen (by simpa using hl)
          (fun idx' lower' a b c d => tabCore_spec (r2 :: rest) idx' lower' hv.tail a b (by simpa using c) d)

end Numqi.Young
