/-
C14 helper: the partition-count recurrence (`z0`) and the Young-diagram enumeration (`young`)
of `NumqiModel/Young.lean` are exact for every `N` (`mem_young`, `nodup_young`, `length_young`); link to Mathlib's
`Nat.Partition` through the zero-padded rows (`isPartRow_pad`, `numIrrep_eq_card_partition`).
-/
import Mathlib.Tactic
import Mathlib.Data.List.Sort
import Mathlib.Data.Multiset.Sort
import Mathlib.Combinatorics.Enumerative.Partition.Basic
import NumqiProofs.NodupFlatMap
import NumqiModel.Young

namespace Numqi.Young

/-- a row of the Young-diagram array: length `m`, sum `n`, non-increasing -/
def IsPartRow (m n : Nat) (row : List Nat) : Prop :=
  row.length = m ∧ row.sum = n ∧ row.Pairwise (· ≥ ·)

/-! ### arithmetic helpers on lists -/

theorem sum_map_add (l : List Nat) (r : Nat) : (l.map (· + r)).sum = l.sum + l.length * r := by
  induction l with
  | nil => simp
  | cons a t ih => simp [ih, Nat.succ_mul]; omega

theorem young_succ (m n : Nat) : young (m + 1) n =
    (List.range (n / (m + 1) + 1)).flatMap fun r =>
      (young m (n - r * (m + 1))).map fun row => (row ++ [0]).map (· + r) := rfl

theorem row_image (row : List Nat) (r : Nat) : (row ++ [0]).map (· + r) = row.map (· + r) ++ [r] := by simp

/-! ### membership: the rows are exactly the non-increasing length-`m` lists of sum `n` -/

theorem isPartRow_snoc (m n r : Nat) (l : List Nat) :
    IsPartRow (m + 1) n (l.map (· + r) ++ [r]) ↔ IsPartRow m (n - r * (m + 1)) l ∧ r * (m + 1) ≤ n := by
  have hpw : (l.map (· + r) ++ [r]).Pairwise (· ≥ ·) ↔ l.Pairwise (· ≥ ·) := by
    rw [List.pairwise_append, List.pairwise_map]
    simp
  simp only [IsPartRow, hpw, List.length_append, List.length_map, List.length_singleton, List.sum_append,
    sum_map_add, List.sum_singleton, Nat.add_right_cancel_iff]
  constructor
  · rintro ⟨h1, h2, h3⟩
    subst h1 h2
    rw [Nat.mul_succ, Nat.mul_comm r]
    exact ⟨⟨rfl, by omega, h3⟩, by omega⟩
  · rintro ⟨⟨h1, h2, h3⟩, hle⟩
    subst h1
    rw [Nat.mul_succ, Nat.mul_comm r] at h2 hle
    exact ⟨rfl, by omega, h3⟩

theorem mem_young (m : Nat) : ∀ (n : Nat) (row : List Nat), row ∈ young m n ↔ IsPartRow m n row := by
  induction m with
  | zero =>
    intro n row
    by_cases hn : n = 0
    · subst hn; simp (config := {contextual := true}) [young, IsPartRow, List.length_eq_zero_iff]
    · simp (config := {contextual := true}) [young, IsPartRow, List.length_eq_zero_iff, hn, Ne.symm hn]
  | succ m ih =>
    intro n row
    rw [young_succ]
    simp only [List.mem_flatMap, List.mem_map, List.mem_range, row_image, Nat.lt_succ_iff,
      Nat.le_div_iff_mul_le (Nat.succ_pos m)]
    constructor
    · rintro ⟨r, hr, row', hrow', rfl⟩
      exact (isPartRow_snoc m n r row').2 ⟨(ih _ _).1 hrow', hr⟩
    · intro h
      have hne : row ≠ [] := by intro e; rw [e] at h; simp [IsPartRow] at h
      obtain ⟨init, r, rfl⟩ : ∃ init r, row = init ++ [r] :=
        ⟨row.dropLast, row.getLast hne, (List.dropLast_append_getLast hne).symm⟩
      have hge : ∀ x ∈ init, r ≤ x := fun x hx => (List.pairwise_append.1 h.2.2).2.2 x hx r (by simp)
      have hinit : (init.map (· - r)).map (· + r) = init := by
        rw [List.map_map]
        exact (List.map_congr_left fun x hx => Nat.sub_add_cancel (hge x hx)).trans (List.map_id _)
      rw [← hinit, isPartRow_snoc] at h
      exact ⟨r, h.2, _, (ih _ _).2 h.1, by rw [hinit]⟩
/-! ### no row is listed twice -/

theorem nodup_young (m : Nat) : ∀ n : Nat, (young m n).Nodup := by
  induction m with
  | zero => intro n; unfold young; split <;> simp
  | succ m ih =>
    intro n
    rw [young_succ]
    refine nodup_flatMap_map List.nodup_range (fun _ _ => ih _) fun r _ r' _ a _ b _ e => ?_
    simp only [row_image] at e
    obtain ⟨e1, e2⟩ := List.append_inj' e rfl
    obtain rfl : r = r' := by simpa using e2
    exact ⟨rfl, List.map_injective_iff.2 (fun x y h => by simpa using h) e1⟩

/-! ### the count: `z0 m n = #(young m n)` for `m ≥ 1` -/

theorem length_young_succ (m n : Nat) : (young (m + 1) n).length =
    ((List.range (n / (m + 1) + 1)).map fun r => (young m (n - r * (m + 1))).length).sum := by
  rw [young_succ, List.length_flatMap]
  simp

/-- for `n ≤ m` only `r = 0` contributes: extra columns are zero padding -/
theorem length_young_of_lt (m n : Nat) (h : n < m + 1) : (young (m + 1) n).length = (young m n).length := by
  rw [length_young_succ, Nat.div_eq_of_lt h]
  simp

theorem length_young_of_le (n : Nat) : ∀ m, n ≤ m → (young m n).length = (young n n).length := by
  intro m hm
  induction m, hm using Nat.le_induction with
  | base => rfl
  | succ m hm ih => rw [length_young_of_lt m n (by omega), ih]

theorem length_young_one (n : Nat) : (young 1 n).length = 1 := by
  rw [length_young_succ]
  simp only [Nat.div_one, Nat.mul_one, zero_add]
  rw [List.range_succ, List.map_append, List.sum_append]
  have : ((List.range n).map fun r => (young 0 (n - r)).length) = (List.range n).map fun _ => 0 := by
    apply List.map_congr_left
    intro r hr
    have : n - r ≠ 0 := by have := List.mem_range.1 hr; omega
    simp [young, this]
  rw [this]
  simp [young]

theorem z0_one (n : Nat) : z0 1 n = 1 := by rw [z0]; simp

/-- **the recurrence of `_get_sym_group_num_irrep_hf0` counts the rows of the Young-diagram array** -/
theorem length_young (m : Nat) : ∀ n : Nat, 1 ≤ m → (young m n).length = z0 m n := by
  induction m using Nat.strong_induction_on with
  | _ m ih =>
    intro n hm
    by_cases h1 : m = 1
    · subst h1; rw [length_young_one, z0_one]
    have hm2 : ¬ m < 2 := by omega
    rw [z0]
    simp only [hm2, if_false]
    by_cases hn2 : n < 2
    · simp only [hn2, if_true]
      rw [length_young_of_le n m (by omega)]
      have : n = 0 ∨ n = 1 := by omega
      rcases this with rfl | rfl <;> decide
    simp only [hn2, if_false]
    by_cases hn2' : n = 2
    · subst hn2'
      simp only [if_true]
      rw [length_young_of_le 2 m (by omega)]; decide
    simp only [hn2', if_false]
    by_cases hnm : n < m
    · simp only [hnm, if_true]
      rw [length_young_of_le n m (by omega), ih n hnm n (by omega)]
    · simp only [hnm, if_false]
      obtain ⟨k, rfl⟩ : ∃ k, m = k + 1 := ⟨m - 1, by omega⟩
      rw [length_young_succ]
      congr 1
      apply List.map_congr_left
      intro r _
      simp only [Nat.add_sub_cancel]
      exact ih k (by omega) _ (by omega)

theorem youngDiagram_eq (N : Nat) (hN : 1 ≤ N) : youngDiagram N = young N N := by
  unfold youngDiagram
  by_cases h1 : N = 1
  · subst h1; decide
  by_cases h2 : N = 2
  · subst h2; decide
  by_cases h3 : N = 3
  · subst h3; decide
  simp [h1, h2, h3]

theorem length_youngDiagram (N : Nat) (hN : 1 ≤ N) : (youngDiagram N).length = numIrrep N := by
  rw [youngDiagram_eq N hN, length_young N N hN]
  unfold numIrrep
  by_cases h : N ≤ 3
  · simp only [h, if_true]
    have : N = 1 ∨ N = 2 ∨ N = 3 := by omega
    rcases this with rfl | rfl | rfl <;> (rw [← length_young _ _ (by omega)]; decide)
  · simp [h]

theorem youngDiagram_exact (N : Nat) (hN : 1 ≤ N) :
    (youngDiagram N).Nodup ∧ ∀ row, row ∈ youngDiagram N ↔ IsPartRow N N row := by
  rw [youngDiagram_eq N hN]
  exact ⟨nodup_young N N, mem_young N N⟩

/-! ### link to Mathlib's `Nat.Partition` -/

/-- a non-increasing list is its positive entries followed by zeros -/
theorem eq_filter_append_zeros : ∀ row : List Nat, row.Pairwise (· ≥ ·) →
    row = row.filter (· ≠ 0) ++ List.replicate (row.length - (row.filter (· ≠ 0)).length) 0
  | [], _ => by simp
  | a :: t, h => by
    rw [List.pairwise_cons] at h
    by_cases ha : a = 0
    · subst ha
      have ht : ∀ b ∈ t, b = 0 := fun b hb => by have := h.1 b hb; omega
      have hf : (0 :: t).filter (· ≠ 0) = [] := by
        rw [List.filter_eq_nil_iff]; intro b hb
        rcases List.mem_cons.1 hb with rfl | hb
        · simp
        · simp [ht b hb]
      rw [hf]
      simp only [List.nil_append, List.length_nil, Nat.sub_zero]
      rw [List.eq_replicate_iff]
      exact ⟨rfl, fun b hb => by
        rcases List.mem_cons.1 hb with rfl | hb
        · rfl
        · exact ht b hb⟩
    · have ih := eq_filter_append_zeros t h.2
      have hf : (a :: t).filter (· ≠ 0) = a :: t.filter (· ≠ 0) := by simp [ha]
      rw [hf]
      simp only [List.length_cons, Nat.succ_sub_succ, List.cons_append]
      exact congrArg (a :: ·) ih

theorem sum_filter_pos : ∀ l : List Nat, (l.filter (0 < ·)).sum = l.sum
  | [] => rfl
  | a :: l => by
    rcases Nat.eq_zero_or_pos a with rfl | h
    · simpa using sum_filter_pos l
    · simp [h, sum_filter_pos l]

/-- a non-increasing list of positive numbers of sum `N`, zero padded to length `N`, is a row of the array for `N`,
and dropping the zeros gives the list back -/
theorem isPartRow_pad {N : Nat} {s : List Nat} (hs : s.Pairwise (· ≥ ·)) (hpos : ∀ x ∈ s, 0 < x) (hsum : s.sum = N) :
    IsPartRow N N (s ++ List.replicate (N - s.length) 0) ∧
      (s ++ List.replicate (N - s.length) 0).filter (· ≠ 0) = s := by
  have hlen : s.length ≤ N := hsum ▸ List.length_le_sum_of_one_le s hpos
  refine ⟨⟨by simp; omega, by simp [hsum], ?_⟩, ?_⟩
  · rw [List.pairwise_append]
    refine ⟨hs, by simp [List.pairwise_replicate], ?_⟩
    intro a _ b hb
    rw [List.mem_replicate] at hb
    simp [hb.2]
  · rw [List.filter_append, List.filter_eq_self.2 fun x hx => by simpa [Nat.pos_iff_ne_zero] using hpos x hx,
      List.filter_eq_nil_iff.2 fun x hx => by simp [(List.mem_replicate.1 hx).2], List.append_nil]

theorem isPartRow_sum {m n : Nat} {row : List Nat} (h : IsPartRow m n row) : (row : Multiset ℕ).sum = n := by
  simpa using h.2.1

/-- the partition of `N` described by a row of the array -/
def rowPartition (N : Nat) (row : List Nat) (h : IsPartRow N N row) : Nat.Partition N :=
  Nat.Partition.ofSums N (row : Multiset ℕ) (isPartRow_sum h)

theorem rowPartition_injective (N : Nat) (r1 r2 : List Nat) (h1 : IsPartRow N N r1) (h2 : IsPartRow N N r2)
    (h : rowPartition N r1 h1 = rowPartition N r2 h2) : r1 = r2 := by
  have hp := congrArg Nat.Partition.parts h
  simp only [rowPartition, Nat.Partition.ofSums, Multiset.filter_coe, Multiset.coe_eq_coe] at hp
  have hf : r1.filter (· ≠ 0) = r2.filter (· ≠ 0) :=
    List.Perm.eq_of_pairwise' (r := (· ≥ ·)) (h1.2.2.filter _) (h2.2.2.filter _) hp
  rw [eq_filter_append_zeros r1 h1.2.2, eq_filter_append_zeros r2 h2.2.2, hf, h1.1, h2.1]

theorem rowPartition_surjective (N : Nat) (P : Nat.Partition N) :
    ∃ row, ∃ h : IsPartRow N N row, rowPartition N row h = P := by
  let s := P.parts.sort (· ≥ ·)
  have hs : (s : Multiset ℕ) = P.parts := Multiset.sort_eq _ _
  have hpos : ∀ x ∈ s, 0 < x := fun x hx => P.parts_pos ((Multiset.mem_sort (r := (· ≥ ·))).1 hx)
  have hsum : s.sum = N := by
    have := congrArg Multiset.sum hs; simpa [P.parts_sum] using this
  obtain ⟨hrow, hf⟩ := isPartRow_pad (Multiset.pairwise_sort _ _) hpos hsum
  refine ⟨_, hrow, Nat.Partition.ext ?_⟩
  simp only [rowPartition, Nat.Partition.ofSums, Multiset.filter_coe, hf]
  exact hs

/-- **the number of rows of the Young-diagram array is the number of partitions of `N`** -/
theorem length_young_eq_card_partition (N : Nat) : (young N N).length = Fintype.card (Nat.Partition N) := by
  rw [← List.toFinset_card_of_nodup (nodup_young N N), ← Finset.card_univ]
  refine Finset.card_bij (fun row h => rowPartition N row ((mem_young N N row).1 (List.mem_toFinset.1 h)))
    (fun _ _ => Finset.mem_univ _) ?_ ?_
  · intro a ha b hb h
    exact rowPartition_injective N a b _ _ h
  · intro P _
    obtain ⟨row, h, hP⟩ := rowPartition_surjective N P
    exact ⟨row, List.mem_toFinset.2 ((mem_young N N row).2 h), hP⟩

theorem numIrrep_eq_card_partition (N : Nat) (hN : 1 ≤ N) : numIrrep N = Fintype.card (Nat.Partition N) := by
  rw [← length_youngDiagram N hN, youngDiagram_eq N hN, length_young_eq_card_partition]

end Numqi.Young
