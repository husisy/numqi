/-
C19: Gaussian rationals and sums of non-negative terms, for `knill_laflamme_loss_zero_iff` (`NumqiProps/C19.lean`).
-/
import Mathlib.Tactic
import NumqiModel.Qec

namespace Numqi.Qec

theorem sum_eq_zero_iff_of_nonneg (l : List ℚ) (h : ∀ x ∈ l, 0 ≤ x) : l.foldr (· + ·) 0 = 0 ↔ ∀ x ∈ l, x = 0 := by
  induction l with
  | nil => simp
  | cons a l ih =>
    have ha := h a (List.mem_cons_self ..)
    have hl := fun x hx => h x (List.mem_cons_of_mem _ hx)
    have hs : 0 ≤ l.foldr (· + ·) 0 := by
      clear ih
      induction l with
      | nil => simp
      | cons b l ih' =>
        simp only [List.foldr_cons]
        exact add_nonneg (hl b (List.mem_cons_self ..)) (ih' (fun x hx => h x (by simp [List.mem_cons] at hx ⊢; tauto))
          (fun x hx => hl x (List.mem_cons_of_mem _ hx)))
    simp only [List.foldr_cons, List.mem_cons, forall_eq_or_imp]
    constructor
    · intro e
      have : a = 0 := by linarith
      exact ⟨this, (ih hl).1 (by linarith)⟩
    · rintro ⟨rfl, h0⟩
      rw [(ih hl).2 h0]; simp

theorem QI.normSq_nonneg (a : QI) : 0 ≤ QI.normSq a := by
  unfold QI.normSq; nlinarith [mul_self_nonneg a.re, mul_self_nonneg a.im]

theorem QI.normSq_eq_zero (a : QI) : QI.normSq a = 0 ↔ a = 0 := by
  unfold QI.normSq
  constructor
  · intro h
    have h1 : a.re = 0 := by nlinarith [mul_self_nonneg a.re, mul_self_nonneg a.im]
    have h2 : a.im = 0 := by nlinarith [mul_self_nonneg a.re, mul_self_nonneg a.im]
    cases a; simp_all; rfl
  · intro h; rw [h]; show (0 : ℚ) * 0 + 0 * 0 = 0; norm_num

theorem QI.sub_eq_zero (a b : QI) : a - b = 0 ↔ a = b := by
  constructor
  · intro h
    have h1 : a.re - b.re = 0 := congrArg QI.re h
    have h2 : a.im - b.im = 0 := congrArg QI.im h
    cases a; cases b; simp only [QI.mk.injEq] at *; constructor <;> linarith
  · intro h; rw [h]
    show (⟨b.re - b.re, b.im - b.im⟩ : QI) = ⟨0, 0⟩
    simp

end Numqi.Qec
